/-
  Property C09 — what `TimeDomainSolution` / `FrequencyDomainSolution` (Circuit/solution.py) store and return.  Their
  `__post_init__` / `get_*` are transcribed line by line out of the model functions (`transform`, `cxNet`, `cxGet`,
  `Net.quantity`, `series`, `timeValue`) with the solver as a parameter; the k-th stored value is then, for both classes,
  the peak phasor `ComplexSolution(w_k, peak_values=True).get_q(id)` of C02.  For one periodic source the analysed
  frequencies are `k·w0` and its own line there is `amplitude(k)·e^{j·phase(k)}` of CC/Gen/Fourier.lean in every solution
  of the code's matrix equation, so its time function is the truncated Fourier series of C08.  Physical currents superpose
  over the sources; reported currents only on branches that are a lossy source in none of the networks.
-/
import CC.Proofs.MultiFreqLine
import CC.Properties.C09
import CC.Properties.C02
import CC.Properties.C08
import CC.Proofs.Solvable
import CC.Properties.C01Det

namespace CC
open Gen

/-- `ComplexSolution.__post_init__` (solution.py:66-68): `network = transform(self.circuit, w=[self.w])[0]`,
`self._solution = self.solver(network)` — the network is `cxNet` of C02 (`transform_one` below) -/
def cxSolution (trig : Trig) (harm : Harm) (solve : Net String GQ → List GQ) (C : Circuit) (w : Rat) :
    Except Err (Net String GQ × List GQ) := do
  let N ← cxNet trig harm C w
  pure (N, solve N)

/-- `FrequencyDomainSolution.__post_init__` (solution.py:131):
`[ComplexSolution(circuit=self.circuit, solver=self.solver, w=w, peak_values=True) for w in self.w]` -/
def fdSolutions (trig : Trig) (harm : Harm) (solve : Net String GQ → List GQ) (C : Circuit) (ws : List Rat) :
    Except Err (List (Net String GQ × List GQ)) :=
  ws.mapM (cxSolution trig harm solve C)

/-- `TimeDomainSolution.__post_init__` (solution.py:98-99): `networks = transform(self.circuit, w=self.w)`,
`self._solutions = [self.solver(network) for network in networks]` -/
def tdSolutions (trig : Trig) (harm : Harm) (solve : Net String GQ → List GQ) (C : Circuit) (ws : List Rat) :
    Except Err (List (Net String GQ × List GQ)) := do
  let nets ← transform Gen.tables trig harm C ws Gen.defaultWResTransform
  pure (nets.map fun N => (N, solve N))

/-- `[solution.get_q(id) for solution in self._solutions]` of `FrequencyDomainSolution.get_*`
(the solutions are `ComplexSolution(…, peak_values=True)` objects: `cxGet true`) -/
def fdLines (r2 : Rat) (sols : List (Net String GQ × List GQ)) (q : Quantity) (id : String) : Except Err (List GQ) :=
  sols.mapM fun s => cxGet true r2 s.1 s.2 q id

/-- `[solution.get_q(id) for solution in self._solutions]` of `TimeDomainSolution.get_*`
(the solutions are the raw network solutions: `Net.quantity`) -/
def tdLines (sols : List (Net String GQ × List GQ)) (q : Quantity) (id : String) : Except Err (List GQ) :=
  sols.mapM fun s => s.1.quantity s.2 q id

/-- `FrequencyDomainSolution.get_q(id)` after the identifier check: `self._series(np.array([…]))` -/
def fdGet (oneSided : Bool) (r2 : Rat) (ws : List Rat) (sols : List (Net String GQ × List GQ)) (q : Quantity)
    (id : String) : Except Err (List Rat × List GQ) := do
  let X ← fdLines r2 sols q id
  pure (series oneSided ws X)

/-- `TimeDomainSolution.get_q(id)(t)` after the identifier check, at the instant whose units are
`cs[k] = (cos(w_k t), sin(w_k t))`: `np.sum([np.abs(V)*np.cos(w*t+np.angle(V)) for V, w in zip(values, self.w)])` -/
def tdValue (sols : List (Net String GQ × List GQ)) (q : Quantity) (id : String) (cs : List (Rat × Rat)) :
    Except Err Rat := do
  let X ← tdLines sols q id
  pure (timeValue (X.zip cs))

theorem cxGet_true (r2 : Rat) (N : Net String GQ) (x : List GQ) (q : Quantity) (id : String) :
    cxGet true r2 N x q id = N.quantity x q id := by
  unfold cxGet
  cases N.quantity x q id <;> rfl

theorem cxSolution_ok {trig : Trig} {harm : Harm} {solve : Net String GQ → List GQ} {C : Circuit} {w : Rat}
    {s : Net String GQ × List GQ} (h : cxSolution trig harm solve C w = .ok s) :
    cxNet trig harm C w = .ok s.1 ∧ s.2 = solve s.1 := by
  obtain ⟨N, hN, e⟩ := bind_eq_ok.mp h
  cases e
  exact ⟨hN, rfl⟩

theorem fdGet_ok {oneSided : Bool} {r2 : Rat} {ws : List Rat} {sols : List (Net String GQ × List GQ)} {q : Quantity}
    {id : String} {out : List Rat × List GQ} (h : fdGet oneSided r2 ws sols q id = .ok out) :
    ∃ X, fdLines r2 sols q id = .ok X ∧ out = series oneSided ws X :=
  (bind_eq_ok.mp h).imp fun _ hX => ⟨hX.1, (Except.ok.inj hX.2).symm⟩

theorem tdValue_ok {sols : List (Net String GQ × List GQ)} {q : Quantity} {id : String} {cs : List (Rat × Rat)}
    {v : Rat} (h : tdValue sols q id cs = .ok v) : ∃ X, tdLines sols q id = .ok X ∧ v = timeValue (X.zip cs) :=
  (bind_eq_ok.mp h).imp fun _ hX => ⟨hX.1, (Except.ok.inj hX.2).symm⟩

theorem transform_one (trig : Trig) (harm : Harm) (C : Circuit) (w : Rat) :
    transform Gen.tables trig harm C [w] Gen.defaultWResTransform = (cxNet trig harm C w).map fun N => [N] := by
  unfold transform cxNet
  rw [List.mapM_cons, List.mapM_nil]
  cases transformCircuit Gen.tables trig harm C w Gen.defaultWResTransform <;> rfl

/-- **C09 (line, the two classes agree).**  The batch `transform(circuit, w=self.w)` + solver of
`TimeDomainSolution` and the list of `ComplexSolution(w=w, peak_values=True)` objects of
`FrequencyDomainSolution` hold the same (network, solution vector) pairs — for every circuit, every list
of frequencies, every solver, failures included (same first error) — and on them the raw accessors
`solution.get_q(id)` of the one are the peak accessors of the other. -/
theorem C09_line_td_eq_fd (trig : Trig) (harm : Harm) (solve : Net String GQ → List GQ) (C : Circuit) (ws : List Rat) :
    tdSolutions trig harm solve C ws = fdSolutions trig harm solve C ws ∧
    ∀ (r2 : Rat) (sols : List (Net String GQ × List GQ)) (q : Quantity) (id : String),
      tdLines sols q id = fdLines r2 sols q id := by
  constructor
  · -- pairing every network with the solver's vector after the traversal, or each one as it is built
    exact (mapM_map_left (transformCircuit Gen.tables trig harm C · Gen.defaultWResTransform)
      (fun N => (N, solve N)) ws).symm
  · intro r2 sols q id
    unfold tdLines fdLines
    simp only [cxGet_true]

/-- **C09 (line) — the spectral line at `w_k` IS the peak phasor of C02 at `w_k`.**
For every circuit `C`, every list `ws` of analysed frequencies, every solver, every quantity `q`
(potential / voltage / current) and identifier: when the per-frequency solutions are built
(`fdSolutions`, equivalently `tdSolutions`: `C09_line_td_eq_fd`) and the getter's list comprehension
succeeds with the values `X`, then there are exactly as many values as frequencies, and for every
position `k` the network `N` that `ComplexSolution(circuit, w=ws[k])` solves exists
(`cxNet … ws[k] = ok N`, the `transformCircuit` of C02/C07 at the default resolution) and
`X[k]` is what `ComplexSolution(circuit, w=ws[k], peak_values=True).get_q(id)` returns for the
solver's vector: `cxGet true r2 N (solve N) q id = ok X[k]`.
Not stated: that the solver's vector solves the matrix equation (C01; `C09_line_circuit_eqs`
assumes it), nor anything about rounding. -/
theorem C09_line_phasor (trig : Trig) (harm : Harm) (solve : Net String GQ → List GQ) (C : Circuit) (ws : List Rat)
    (r2 : Rat) (q : Quantity) (id : String) (sols : List (Net String GQ × List GQ)) (X : List GQ)
    (hs : fdSolutions trig harm solve C ws = .ok sols) (hX : fdLines r2 sols q id = .ok X) :
    X.length = ws.length ∧
    ∀ k (hk : k < ws.length) (hk' : k < X.length),
      ∃ N, cxNet trig harm C ws[k] = .ok N ∧ cxGet true r2 N (solve N) q id = .ok X[k] := by
  obtain ⟨l1, h1⟩ := List.forall₂_iff_get.mp (mapM_eq_ok.mp hs)
  obtain ⟨l2, h2⟩ := List.forall₂_iff_get.mp (mapM_eq_ok.mp hX)
  refine ⟨(l1.trans l2).symm, fun k hk hk' => ?_⟩
  obtain ⟨hN, e⟩ := cxSolution_ok (h1 k hk (l1 ▸ hk))
  exact ⟨_, hN, e ▸ h2 k (l1 ▸ hk) hk'⟩

/-- the same statement for `TimeDomainSolution`: its stored values are those peak phasors, and its
time function is `timeValue` (the sum `Σ_k |X_k|·cos(w_k t + arg X_k)`, `C09_time_value`) of them -/
theorem C09_line_phasor_td (trig : Trig) (harm : Harm) (solve : Net String GQ → List GQ) (C : Circuit) (ws : List Rat)
    (r2 : Rat) (q : Quantity) (id : String) (sols : List (Net String GQ × List GQ)) (cs : List (Rat × Rat)) (v : Rat)
    (hs : tdSolutions trig harm solve C ws = .ok sols) (hv : tdValue sols q id cs = .ok v) :
    ∃ X, tdLines sols q id = .ok X ∧ v = timeValue (X.zip cs) ∧ X.length = ws.length ∧
      ∀ k (hk : k < ws.length) (hk' : k < X.length),
        ∃ N, cxNet trig harm C ws[k] = .ok N ∧ cxGet true r2 N (solve N) q id = .ok X[k] := by
  obtain ⟨X, hX, hv⟩ := tdValue_ok hv
  obtain ⟨hfd, hlines⟩ := C09_line_td_eq_fd trig harm solve C ws
  exact ⟨X, hX, hv, C09_line_phasor trig harm solve C ws r2 q id sols X (hfd ▸ hs) (hlines r2 sols q id ▸ hX)⟩

set_option linter.unusedVariables false in -- `hw` only names where `ws` comes from; the proof holds for any `ws`
/-- **C09 (line), composed with the frequency list.**  `FrequencyDomainSolution(circuit, w_max)`:
the frequencies are `frequencyComponents` (C09_freqs_*; `hw` is at the hand model's default resolution `1/1000`, see
`C09_periodic_frequencies`), the one-sided getter returns them as axis, and the value at position `k` is the C02 peak
phasor at the `k`-th of them. -/
theorem C09_line_frequencies (fc : List FComp) (wmax : Rat) (trig : Trig) (harm : Harm)
    (solve : Net String GQ → List GQ) (C : Circuit) (ws : List Rat) (r2 : Rat) (q : Quantity) (id : String)
    (sols : List (Net String GQ × List GQ)) (out : List Rat × List GQ)
    (hw : frequencyComponents fc wmax = .ok ws)
    (hs : fdSolutions trig harm solve C ws = .ok sols) (hg : fdGet true r2 ws sols q id = .ok out) :
    out.1 = ws ∧ out.2.length = ws.length ∧
    ∀ k (hk : k < ws.length) (hk' : k < out.2.length),
      ∃ N, cxNet trig harm C ws[k] = .ok N ∧ cxGet true r2 N (solve N) q id = .ok out.2[k] := by
  obtain ⟨X, hX, rfl⟩ := fdGet_ok hg
  exact ⟨rfl, C09_line_phasor trig harm solve C ws r2 q id sols X hs hX⟩

/-- **C09 (line), two-sided.**  `FrequencyDomainSolution(…, one_sided=False).get_q(id)`: for every AC position
`k` (every position when no DC line is listed, every position but the first otherwise) the returned series
contains `(w_k, X_k/2)` and `(−w_k, conj X_k / 2)` where `X_k` is the C02 peak phasor at `w_k`. -/
theorem C09_line_two_sided (trig : Trig) (harm : Harm) (solve : Net String GQ → List GQ) (C : Circuit) (ws : List Rat)
    (r2 : Rat) (q : Quantity) (id : String) (sols : List (Net String GQ × List GQ)) (out : List Rat × List GQ)
    (hs : fdSolutions trig harm solve C ws = .ok sols) (hg : fdGet false r2 ws sols q id = .ok out)
    (k : Nat) (hk : k < ws.length) (hd : dcCount ws ≤ k) :
    ∃ N x, cxNet trig harm C ws[k] = .ok N ∧ cxGet true r2 N (solve N) q id = .ok x ∧
      (ws[k], halfOf x) ∈ out.1.zip out.2 ∧ (-ws[k], halfOf (GQ.conj x)) ∈ out.1.zip out.2 := by
  obtain ⟨X, hX, rfl⟩ := fdGet_ok hg
  obtain ⟨hl, h⟩ := C09_line_phasor trig harm solve C ws r2 q id sols X hs hX
  have hk' : k < X.length := hl ▸ hk
  obtain ⟨N, hN, hx⟩ := h k hk hk'
  refine ⟨N, X[k], hN, hx, C09_two_sided_lines ws X hl.symm _ _ ?_⟩
  -- the line `k` is among the AC lines, those from position `dcCount ws` on
  have hkz : k < (ws.zip X).length := by rw [List.length_zip, hl, min_self]; exact hk
  have hmem : (ws.zip X)[k] ∈ (ws.zip X).drop (dcCount ws) :=
    List.mem_drop_iff_getElem.mpr ⟨k - dcCount ws, by omega, by simp only [Nat.add_sub_cancel' hd]⟩
  rwa [List.getElem_zip] at hmem

/-- **C09 (line), composed with C02_exact.**  For an accepted circuit over the kinds of C02 whose intended phasor
network `S` at the analysed frequency `w` exists, is a valid network and has no self-loop branch: the network
`ComplexSolution(w)` solves exists, and whenever the solver's vector solves the matrix equation the code builds for
it, the values that `C09_line_phasor` identifies as the stored spectral lines at `w` — the peak accessors
`cxGet true` for potentials, voltages and currents — are the potentials, voltages and currents of a solution of
Kirchhoff's laws and all element laws **of `S`** (inductor `jwL`, capacitor `jwC`, sources at `w` as phasors, the
others short / open).  Existence / uniqueness of such a vector is C01 (`C01_solvable`, `C01_unique`), not restated. -/
theorem C09_line_circuit_eqs (trig : Trig) (harm : Harm) (h0 : TrigZero trig) (cs : List Component) (C : Circuit)
    (w : Rat) (hne : cs ≠ []) (hC : Circuit.mk? cs = .ok C) (hex : ExactList cs)
    (S : Net String GQ) (hS : Spec.phasorNet trig harm cs w Gen.defaultWResTransform = some S)
    (hcheck : S.check = .ok ()) (hloop : ∀ b ∈ S.branches, b.n1 ≠ b.n2)
    (solve : Net String GQ → List GQ) (r2 : Rat)
    (hsolve : ∀ N, cxNet trig harm C w = .ok N →
      (solve N).length = N.nodes.length + N.vsIds.length ∧ matVec N.mnaA (solve N) = N.mnaB) :
    ∃ N, cxNet trig harm C w = .ok N ∧ CircuitEqs S (N.reportOf (solve N)) ∧
      (∀ n ∈ N.allLabels, cxGet true r2 N (solve N) .potential n = .ok ((N.reportOf (solve N)).pot n)) ∧
      (∀ b ∈ N.branches, cxGet true r2 N (solve N) .voltage b.id = .ok ((N.reportOf (solve N)).v b.id) ∧
                          cxGet true r2 N (solve N) .current b.id = .ok ((N.reportOf (solve N)).i b.id)) := by
  obtain ⟨N, hN, h⟩ := C02_exact trig harm h0 cs C w Gen.defaultWResTransform hne hC hex S hS hcheck hloop
  obtain ⟨hx, hsol⟩ := hsolve N hN
  simp only [cxGet_true]
  exact ⟨N, hN, h _ hx hsol⟩

theorem lineValue_phasor (trig : Trig) (A φ c s : ℚ) :
    lineValue (Spec.phasor trig A φ) c s = A * (trig φ).1 * c + -(A * (trig φ).2) * s := by
  simp only [lineValue, Spec.phasor]
  ring

theorem gate_harmonic (w0 wres : ℚ) (h0 : 0 < w0) (hres : 0 ≤ wres) (k : ℕ) : ¬ periodicOff (w0 * (k : ℚ)) w0 wres :=
  C07_harmonic_complete _ w0 wres h0 k (by rwa [dist_eq_abs, Int.cast_natCast, mul_comm, sub_self, abs_zero])

theorem defaultWRes_nonneg : (0 : ℚ) ≤ Gen.defaultWResTransform := by
  unfold Gen.defaultWResTransform; norm_num

/-- **C09 (one periodic source: the analysed frequencies).**  In a circuit whose only component with a frequency
is one periodic source with fundamental `w0 > 1/1000` (any passive components before and after it), the analysed
frequencies are exactly the retained harmonics `k·w0`, `k = 0, 1, …, ⌊w_max/w0⌋`, in this order:
`N + 1 = ⌊w_max/w0⌋ + 1` lines (none when `w_max < 0`).
`1/1000` is the default argument `wres` of the hand model `frequencyComponents` (CC/Model/MultiFreq.lean).  The default
of the Python function is its binary64 neighbour (`C09_gen_default_resolution`), which the generated files spell three
times, `Gen.Freq.default_w_resolution`, `Gen.defaultWRes`, `Gen.defaultWResTransform`: one number, equal by `rfl`.
`frequencyComponents_single_periodic` gives the same list at every resolution `wres < w0`. -/
theorem C09_periodic_frequencies (pre post : List FComp) (src : FComp) (w0 wmax : ℚ)
    (hpre : ∀ c ∈ pre, c.w = none) (hpost : ∀ c ∈ post, c.w = none)
    (hp : src.isPeriodic = true) (hw : src.w = some w0) (hres : (1 / 1000 : ℚ) < w0) :
    frequencyComponents (pre ++ src :: post) wmax = .ok (harmonicList w0 wmax) ∧
    (harmonicList w0 wmax).length = ((wmax / w0).floor + 1).toNat ∧
    ∀ k (hk : k < (harmonicList w0 wmax).length), (harmonicList w0 wmax)[k] = w0 * (k : ℚ) :=
  ⟨frequencyComponents_single_periodic pre post src w0 wmax (1 / 1000) hpre hpost hp hw
      (lt_trans (by norm_num) hres) hres,
    harmonicList_length w0 wmax, harmonicList_getElem w0 wmax⟩

theorem own_branch {T : Tables} {trig : Trig} {harm : Harm} {C : Circuit} {w wres : ℚ} {N : Net String GQ}
    (hN : transformCircuit T trig harm C w wres = .ok N) (hsl : ∀ b ∈ N.branches, b.n1 ≠ b.n2)
    {x : List GQ} (hx : x.length = N.nodes.length + N.vsIds.length) (hsol : matVec N.mnaA x = N.mnaB)
    {c : Component} (hc : c ∈ translated T C.components) {br : Branch String GQ}
    (hbr : transformComponent T trig harm c w wres = some (.ok br)) :
    br.e.lawResidual ((N.reportOf x).v br.id) ((N.reportOf x).i br.id) = 0 ∧
    N.quantity x .voltage br.id = .ok ((N.reportOf x).v br.id) ∧
    N.quantity x .current br.id = .ok ((N.reportOf x).i br.id) := by
  obtain ⟨hzero, hids⟩ := (Net.check_ok_iff N).mp (transformCircuit_check hN)
  obtain ⟨_, hvi, heq⟩ := C01_sound N x ⟨hids, hzero, hsl⟩ hx hsol
  obtain ⟨b', hb', hcb⟩ := forall₂_exists_mem (C07_position_independent T trig harm C w wres N hN).1 _ hc
  rw [hbr] at hcb
  cases hcb
  exact ⟨heq.law br hb', hvi br hb'⟩

section OwnLine
variable (trig : Trig) (harm : Harm) (h0 : TrigZero trig) (C : Circuit) (c : Component) (a b wt : String)
  (V w0 phi : ℚ)
  (hc : c ∈ translated Gen.tables C.components)
  (hk : c.kind = "periodic_voltage_source") (hn : c.nodes = [a, b])
  (hwt : c.value.lookup "wavetype" = some (.str wt)) (hwave : wt ∈ Gen.waveTypes)
  (hV : c.value.lookup "V" = some (.num V)) (hw0 : c.value.lookup "w" = some (.num w0))
  (hphi : c.value.lookup "phi" = some (.num phi)) (hR : c.value.lookup "R" = some (.num 0))
  (hpos : 0 < w0)
include h0 hc hk hn hwt hwave hV hw0 hphi hR hpos

/-- **C09 (an ideal periodic voltage source's own line at `k·w0`).**  Any circuit that contains an ideal
(`R = 0`) periodic voltage source `c` of a known waveform with fundamental `w0 > 0`, analysed at the harmonic
frequency `k·w0` with a resolution `0 ≤ w_res < w0/2`: in the network `transform_circuit` produces (no self-loop
branch), **every** vector that solves the matrix equation the code builds reports, as the voltage of `c`,
the phasor `amplitude(k)·(cos phase(k) + j·sin phase(k))` of the `k`-th harmonic of the C07 translator
(`harm wt V phi k` = `(fourier_series.amplitude(k), fourier_series.phase(k))`, `trig` = numpy's `(cos, sin)`) —
also through the accessor `ComplexSolution(w = k·w0, peak_values=True).get_voltage(c.id)`. -/
theorem C09_periodic_own_line (k : ℕ) (wres : ℚ) (hres0 : 0 ≤ wres) (hres : 2 * wres < w0)
    (N : Net String GQ) (hN : transformCircuit Gen.tables trig harm C (w0 * (k : ℚ)) wres = .ok N)
    (hsl : ∀ b ∈ N.branches, b.n1 ≠ b.n2) (x : List GQ)
    (hx : x.length = N.nodes.length + N.vsIds.length) (hsol : matVec N.mnaA x = N.mnaB) (r2 : ℚ) :
    (N.reportOf x).v c.id = Spec.phasor trig (harm wt V phi (k : ℤ)).1 (harm wt V phi (k : ℤ)).2 ∧
    N.quantity x .voltage c.id = .ok (Spec.phasor trig (harm wt V phi (k : ℤ)).1 (harm wt V phi (k : ℤ)).2) ∧
    cxGet true r2 N x .voltage c.id
      = .ok (Spec.phasor trig (harm wt V phi (k : ℤ)).1 (harm wt V phi (k : ℤ)).2) := by
  have hbr := (C07_harmonic_voltage trig harm c (w0 * (k : ℚ)) wres a b h0 wt V w0 phi 0 hk hn hwt hwave hV hw0
    hphi hR (le_refl 0) hpos (mul_nonneg hpos.le k.cast_nonneg) hres0 hres).1
  -- at `k·w0` the translator selects the harmonic `k`, and the source is active
  simp only [if_neg (gate_harmonic w0 wres hpos hres0 k), roundHalfEven_harmonic w0 hpos.ne' k] at hbr
  obtain ⟨hlaw, hq, _⟩ := own_branch hN hsl hx hsol hc hbr
  have hv := sub_eq_zero.mp ((law_norton_ideal _ _ _).symm.trans hlaw)
  rw [cxGet_true]
  exact ⟨hv, hv ▸ hq, hv ▸ hq⟩

/-- **C09 (an ideal periodic voltage source's own time function, model level).**  For
`TimeDomainSolution(circuit, w_max)` of a circuit containing such a source, analysed at the harmonics
`harmonicList w0 w_max` (`C09_periodic_frequencies`), whenever the solver's vectors solve the matrix equations:
the values the getter collects for the source's own voltage are the harmonics `X_k = A_k·(cos φ_k + j sin φ_k)`,
`k = 0 … N`, and the time value at the instant with units `(c_k, s_k) = (cos(k w0 t), sin(k w0 t))` is the
truncated Fourier sum `Σ_{k ≤ N} (a_k·c_k + b_k·s_k)` with `a_k = A_k cos φ_k`, `b_k = −A_k sin φ_k`
(the `a`, `b` of periodic_functions.py, `C08_abc`).  `A_k, φ_k` are `harm wt V phi k`, `cos/sin` are `trig`. -/
theorem C09_periodic_time_value (solve : Net String GQ → List GQ) (wmax : ℚ)
    (hres : 2 * Gen.defaultWResTransform < w0)
    (sols : List (Net String GQ × List GQ))
    (hs : tdSolutions trig harm solve C (harmonicList w0 wmax) = .ok sols)
    (hsolve : ∀ s ∈ sols, (∀ b ∈ s.1.branches, b.n1 ≠ b.n2) ∧ s.2.length = s.1.nodes.length + s.1.vsIds.length ∧
      matVec s.1.mnaA s.2 = s.1.mnaB) (cs : List (ℚ × ℚ)) :
    tdLines sols .voltage c.id = .ok ((List.range (harmonicList w0 wmax).length).map fun k : ℕ =>
        Spec.phasor trig (harm wt V phi (k : ℤ)).1 (harm wt V phi (k : ℤ)).2) ∧
    tdValue sols .voltage c.id cs = .ok (((List.range (harmonicList w0 wmax).length).zip cs).map fun p =>
        ((harm wt V phi (p.1 : ℤ)).1 * (trig (harm wt V phi (p.1 : ℤ)).2).1) * p.2.1
          + (-((harm wt V phi (p.1 : ℤ)).1 * (trig (harm wt V phi (p.1 : ℤ)).2).2)) * p.2.2).sum := by
  rw [(C09_line_td_eq_fd trig harm solve C _).1] at hs
  have h1 := mapM_eq_ok.mp hs
  -- the time value is computed from the stored lines: prove the first conjunct, then use it for the second
  refine (fun hlines => ⟨hlines, ?_⟩) ?_
  · -- `harmonicList` is `(range n).map (w0 * ·)`: the solution at position `k` is that of the network at `k·w0`
    rw [harmonicList_length]
    unfold harmonicList at h1
    rw [List.forall₂_map_left_iff] at h1
    refine mapM_eq_ok.mpr (List.forall₂_map_right_iff.mpr ?_)
    refine ((List.forall₂_and_left _ _).mpr ⟨hsolve, h1.flip⟩).imp fun s k ⟨⟨hsl, hx, hsol⟩, hsk⟩ => ?_
    exact (C09_periodic_own_line trig harm h0 C c a b wt V w0 phi hc hk hn hwt hwave hV hw0 hphi hR hpos k
      Gen.defaultWResTransform defaultWRes_nonneg hres s.1 (cxSolution_ok hsk).1 hsl s.2 hx hsol 1).2.1
  unfold tdValue
  rw [hlines]
  show Except.ok (timeValue _) = _
  simp only [timeValue, List.zip_map_left, List.map_map, Function.comp_def, Prod.map, id, lineValue_phasor]

end OwnLine

section OwnLineCurrent
variable (trig : Trig) (harm : Harm) (h0 : TrigZero trig) (C : Circuit) (c : Component) (a b wt : String)
  (I w0 phi : ℚ)
  (hc : c ∈ translated Gen.tables C.components)
  (hk : c.kind = "periodic_current_source") (hn : c.nodes = [a, b])
  (hwt : c.value.lookup "wavetype" = some (.str wt)) (hwave : wt ∈ Gen.waveTypes)
  (hI : c.value.lookup "I" = some (.num I)) (hw0 : c.value.lookup "w" = some (.num w0))
  (hphi : c.value.lookup "phi" = some (.num phi)) (hG : c.value.lookup "G" = some (.num 0))
  (hpos : 0 < w0)
include h0 hc hk hn hwt hwave hI hw0 hphi hG hpos

/-- **C09 (an ideal periodic current source's own line at `k·w0`)** — the dual of `C09_periodic_own_line`: every
solution of the code's matrix equation reports, as the current of the ideal (`G = 0`) periodic current source `c`,
the phasor `amplitude(k)·(cos phase(k) + j·sin phase(k))` of its `k`-th harmonic. -/
theorem C09_periodic_own_line_current (k : ℕ) (wres : ℚ) (hres0 : 0 ≤ wres) (hres : 2 * wres < w0)
    (N : Net String GQ) (hN : transformCircuit Gen.tables trig harm C (w0 * (k : ℚ)) wres = .ok N)
    (hsl : ∀ b ∈ N.branches, b.n1 ≠ b.n2) (x : List GQ)
    (hx : x.length = N.nodes.length + N.vsIds.length) (hsol : matVec N.mnaA x = N.mnaB) (r2 : ℚ) :
    (N.reportOf x).i c.id = Spec.phasor trig (harm wt I phi (k : ℤ)).1 (harm wt I phi (k : ℤ)).2 ∧
    N.quantity x .current c.id = .ok (Spec.phasor trig (harm wt I phi (k : ℤ)).1 (harm wt I phi (k : ℤ)).2) ∧
    cxGet true r2 N x .current c.id
      = .ok (Spec.phasor trig (harm wt I phi (k : ℤ)).1 (harm wt I phi (k : ℤ)).2) := by
  have hbr := (C07_harmonic_current trig harm c (w0 * (k : ℚ)) wres a b h0 wt I w0 phi 0 hk hn hwt hwave hI hw0
    hphi hG (le_refl 0) hpos (mul_nonneg hpos.le k.cast_nonneg) hres0 hres).1
  simp only [if_neg (gate_harmonic w0 wres hpos hres0 k), roundHalfEven_harmonic w0 hpos.ne' k] at hbr
  obtain ⟨hlaw, _, hq⟩ := own_branch hN hsl hx hsol hc hbr
  have hi := sub_eq_zero.mp ((law_thevenin_ideal _ _ _).symm.trans hlaw)
  rw [cxGet_true]
  exact ⟨hi, hi ▸ hq, hi ▸ hq⟩

end OwnLineCurrent

section Real
open CC.Gen.Fourier CC.Fourier Complex

/-- the phasor of harmonic `k` the C07 translator hands to the single-frequency source, over the reals:
`amplitude(k)·e^{j·phase(k)}` with `amplitude`, `phase` the generated functions of CC/Gen/Fourier.lean
(`Spec.phasor trig A φ = ⟨A cos φ, A sin φ⟩` with the true `cos`, `sin`) -/
noncomputable def harmLineR (h : HarmObj ℝ) (k : ℕ) : ℂ :=
  ((h.amplitude Real.pi (k : ℤ) : ℝ) : ℂ) * exp (((h.phase Real.pi (k : ℤ) : ℝ) : ℂ) * I)

/-- the time function `TimeDomainSolution` assigns to the source's own voltage when the lines are the
harmonics `0 … N` at the frequencies `k·w0`: `Σ_{k ≤ N} Re(X_k·e^{j k w0 t})`
(`= Σ |X_k| cos(k w0 t + arg X_k)`, `C09_time_function`) -/
noncomputable def ownVoltageR (h : HarmObj ℝ) (w0 : ℝ) (N : ℕ) (t : ℝ) : ℝ :=
  ∑ k ∈ Finset.range (N + 1), (harmLineR h k * exp ((((k : ℝ) * w0 * t : ℝ) : ℂ) * I)).re

theorem harm_phase_zero (h : HarmObj ℝ) : h.phase Real.pi 0 = 0 := by
  simp [HarmObj.phase, phaseCoefficient_zero]

/-- **C09 (reproduction of a periodic source = truncated Fourier series).**  For every harmonic object `h`
(every waveform, amplitude, phase, offset), every fundamental `w0`, every number `N` of retained harmonics and
every instant `t`:
`Σ_{k ≤ N} Re(X_k e^{j k w0 t})`, `X_k = amplitude(k)·e^{j phase(k)}`, equals
(1) the truncated Fourier series `Σ_{k ≤ N} (a_k cos(k w0 t) + b_k sin(k w0 t))` with the code's own `a`, `b`
    (`a_k = A_k cos φ_k`, `b_k = −A_k sin φ_k`, `C08_abc`), and
(2) for `w0 = 2π/T`: the reconstruction `amplitude(0) + Σ_{1 ≤ n ≤ N} amplitude(n)·cos(2πn·t/T + phase(n))`
    whose coefficients C08 proves to be the true Fourier coefficients of the waveform (`C08_all`) and which C08
    proves to converge to the waveform in the mean square (`C08_mean_square`).
With `N = ⌊w_max/w0⌋` these are the lines `TimeDomainSolution` sums (`C09_periodic_frequencies`,
`C09_periodic_time_value`).  Finite sums over ℝ/ℂ: nothing about binary64 rounding. -/
theorem C09_truncated_fourier (h : HarmObj ℝ) (w0 : ℝ) (N : ℕ) (t : ℝ) :
    ownVoltageR h w0 N t
      = ∑ k ∈ Finset.range (N + 1),
          (h.a Real.pi Real.cos Real.sin (k : ℤ) * Real.cos ((k : ℝ) * w0 * t)
            + h.b Real.pi Real.cos Real.sin (k : ℤ) * Real.sin ((k : ℝ) * w0 * t)) ∧
    ∀ T : ℝ, T ≠ 0 → w0 = 2 * Real.pi / T →
      ownVoltageR h w0 N t
        = h.amplitude Real.pi 0 + ∑ n ∈ Finset.Icc 1 N,
            h.amplitude Real.pi (n : ℤ) * Real.cos (2 * Real.pi * n / T * t + h.phase Real.pi (n : ℤ)) := by
  constructor
  · exact Finset.sum_congr rfl fun k _ => re_harmonic_term _ _ _
  · intro T hT hw
    unfold ownVoltageR harmLineR
    rw [sum_range_succ_eq_zero_add_Icc]
    congr 1
    · rw [C09_source_reconstruction]
      simp only [Nat.cast_zero, harm_phase_zero, zero_mul, add_zero, Real.cos_zero, mul_one]
    · apply Finset.sum_congr rfl
      intro n _
      rw [C09_source_reconstruction, hw]
      congr 2
      ring

/-- **C09 (reproduction up to the truncation).**  For each of the six built-in waveforms, any amplitude, phase,
offset and period `T > 0` (fundamental `w0 = 2π/T`): the time function assigned to the source's own voltage with
the harmonics `0 … N` retained converges to the waveform's own `time_function` in the mean square over one period as
`N → ∞` — the deviation of the reproduced waveform is the truncation of the retained harmonics and nothing else
(by Parseval, `C08_parseval`, its mean square is the tail `Σ_{n > N} amplitude(n)²/2`). -/
theorem C09_reconstruction_mean_square (w : WaveObj ℝ) (h : HarmObj ℝ) (hT : 0 < w.period)
    (hh : fourierSeries w = .ok h) :
    Filter.Tendsto
      (fun N : ℕ => ∫ t in (0:ℝ)..w.period, (timeR w t - ownVoltageR h (2 * Real.pi / w.period) N t) ^ 2)
      Filter.atTop (nhds 0) := by
  simp only [fun (N : ℕ) (t : ℝ) => (C09_truncated_fourier h _ N t).2 w.period hT.ne' rfl]
  exact C08_mean_square w h hT hh

end Real

theorem harmonicList_length_floor (w0 wmax : ℚ) (h0 : 0 < w0) (hmax : 0 ≤ wmax) :
    (harmonicList w0 wmax).length = (wmax / w0).floor.toNat + 1 := by
  rw [harmonicList_length]
  have : 0 ≤ (wmax / w0).floor := Rat.le_floor_iff.mpr (by rw [Int.cast_zero]; exact div_nonneg hmax h0.le)
  rw [Int.toNat_add this zero_le_one]
  rfl

section Currents
variable {L : Type} [DecidableEq L] [LabelOrd L]

def physOfL (N : Net L GQ) (x : List GQ) (id : String) : GQ :=
  match N.get? id with
  | some b => b.e.physCurrent ((N.reportOf x).i id)
  | none => 0

/-- `physOf` (C09.lean, the current of `C09_kcl_instant_circuit`) is `physOfL` at the label type `String` -/
theorem physOf_eq_physOfL (N : Net String GQ) (x : List GQ) (id : String) : physOf N x id = physOfL N x id := by
  unfold physOf physOfL
  cases N.get? id <;> rfl

theorem physOfL_of_mem (N : Net L GQ) (x : List GQ) (wf : N.WF) {b : Branch L GQ} (hb : b ∈ N.branches) :
    physOfL N x b.id = b.e.physCurrent ((N.reportOf x).i b.id) := by
  unfold physOfL
  rw [get?_of_mem N wf.ids_nodup hb]

/-- **C09 (superposition of sources), currents — composed with C01 and C04.**  Under the hypotheses of
`C09_superpose_sources_reported` (per-frequency networks in skeleton form `withSrc bs s`, the three matrix
equations solved, the full network well-posed):
1. the time function of the **physical** (first→second) current of *every* branch — lossy sources included — is
   the sum of the physical-current time functions of the two parts;
2. the time function of the **reported** current of a branch is the sum of the reported-current time functions of
   the parts provided the branch is not a linear (lossy) source in any of the three networks at any analysed
   frequency.  The exclusion is genuine (C04_superpose): a lossy source reports its current in generator direction
   when active and in passive direction when deactivated, so its reported current does not superpose.
Assumed, not proved: that the code's per-frequency networks for "each source alone" have the skeleton form. -/
theorem C09_superpose_sources_currents (lines : List (SuperLine L))
    (hl : ∀ l ∈ lines, l.N1.WF ∧ l.N2.WF ∧ l.N.WF ∧ WellPosed l.N ∧
      l.x1.length = l.N1.nodes.length + l.N1.vsIds.length ∧
      l.x2.length = l.N2.nodes.length + l.N2.vsIds.length ∧
      l.x.length = l.N.nodes.length + l.N.vsIds.length ∧
      matVec l.N1.mnaA l.x1 = l.N1.mnaB ∧ matVec l.N2.mnaA l.x2 = l.N2.mnaB ∧
      matVec l.N.mnaA l.x = l.N.mnaB) :
    (∀ id, (∀ l ∈ lines, ∃ b ∈ l.bs, b.id = id) →
      timeValue (lines.map fun l => (physOfL l.N l.x id, l.c, l.s))
        = timeValue (lines.map fun l => (physOfL l.N1 l.x1 id, l.c, l.s))
          + timeValue (lines.map fun l => (physOfL l.N2 l.x2 id, l.c, l.s))) ∧
    (∀ id, (∀ l ∈ lines, ∃ b ∈ l.bs, b.id = id ∧ (b.e.setSrc (l.s1 id + l.s2 id)).isLossy = false ∧
          (b.e.setSrc (l.s1 id)).isLossy = false ∧ (b.e.setSrc (l.s2 id)).isLossy = false) →
      timeValue (lines.map fun l => ((l.N.reportOf l.x).i id, l.c, l.s))
        = timeValue (lines.map fun l => ((l.N1.reportOf l.x1).i id, l.c, l.s))
          + timeValue (lines.map fun l => ((l.N2.reportOf l.x2).i id, l.c, l.s))) := by
  -- one frequency: the three vectors report solutions of the circuit equations (C01_sound), and the sum network is
  -- well-posed, so its physical currents are the sums of those of the parts (`superpose_unique`)
  have key : ∀ l ∈ lines, ∀ b ∈ l.bs,
      (b.e.setSrc (l.s1 b.id + l.s2 b.id)).physCurrent ((l.N.reportOf l.x).i b.id)
        = (b.e.setSrc (l.s1 b.id)).physCurrent ((l.N1.reportOf l.x1).i b.id)
          + (b.e.setSrc (l.s2 b.id)).physCurrent ((l.N2.reportOf l.x2).i b.id) := by
    intro l hlm b hb
    obtain ⟨wf1, wf2, wf, hw, hx1, hx2, hx, h1, h2, h⟩ := hl l hlm
    exact ((superpose_unique l.bs l.z l.s1 l.s2 wf.ids_nodup hw _ _ _ (C01_sound _ l.x1 wf1 hx1 h1).2.2
      (C01_sound _ l.x2 wf2 hx2 h2).2.2 (C01_sound _ l.x wf hx h).2.2).2 b hb).2
  constructor
  · intro id hid
    refine timeValue_add fun l hlm => ?_
    obtain ⟨b, hb, rfl⟩ := hid l hlm
    obtain ⟨w1, w2, w, _⟩ := hl l hlm
    -- `b` with its source value set is a branch of each of the three networks
    rw [physOfL_of_mem l.N l.x w (List.mem_map.mpr ⟨b, hb, rfl⟩),
      physOfL_of_mem l.N1 l.x1 w1 (List.mem_map.mpr ⟨b, hb, rfl⟩),
      physOfL_of_mem l.N2 l.x2 w2 (List.mem_map.mpr ⟨b, hb, rfl⟩)]
    exact key l hlm b hb
  · intro id hid
    refine timeValue_add fun l hlm => ?_
    obtain ⟨b, hb, rfl, l3, l1, l2⟩ := hid l hlm
    have := key l hlm b hb
    simp only [Elem.physCurrent, l1, l2, l3] at this
    exact this

end Currents

theorem pack_solves {N : Net String GQ} {R : Report String GQ} (wf : N.WF) (hR : CircuitEqs N R) :
    (∀ b ∈ N.branches, b.n1 ≠ b.n2) ∧ (N.pack R.toSol).length = N.nodes.length + N.vsIds.length ∧
      matVec N.mnaA (N.pack R.toSol) = N.mnaB :=
  ⟨wf.no_self_loop, pack_length _ wf.ids_nodup _, C01_complete _ _ wf hR⟩

section Examples

def exPer : List Component :=
  [⟨"ground", "gnd", ["0"], []⟩,
   ⟨"periodic_voltage_source", "Vp", ["1", "0"],
     [("wavetype", .str "rect"), ("V", .num 1), ("w", .num 2), ("phi", .num 0), ("R", .num 0)]⟩,
   ⟨"resistor", "R", ["1", "0"], [("R", .num 2)]⟩]

def exTrig : Trig := fun _ => (1, 0)
/-- stand-in harmonics `A/(2n+1)` with phase 0 -/
def exHarm : Harm := fun _ A _ n => (A / (2 * n + 1), 0)

def exR : Component := exPer[2]

def exVp : Component := exPer[1]

abbrev exRb : Branch String GQ := ⟨"1", "0", "R", "resistor", .norton ⟨2, 0⟩ 0⟩

theorem exSource_transform {cs : List Component} {c : Component} {w : ℚ} {b : Branch String GQ}
    (hsel : cs.filter Gen.tables.selects = [c, exR])
    (hsrc : transformComponent Gen.tables exTrig exHarm c w Gen.defaultWResTransform = some (.ok b))
    (wf : (⟨[b, exRb], "0"⟩ : Net String GQ).WF) :
    transformCircuit Gen.tables exTrig exHarm ⟨cs, "0"⟩ w Gen.defaultWResTransform = .ok ⟨[b, exRb], "0"⟩ := by
  have hrb := (C07_faithful_resistor exTrig exHarm exR w Gen.defaultWResTransform "1" "0" 2 rfl rfl
    (by decide +kernel)).1
  have hb : transformBranches Gen.tables exTrig exHarm cs w Gen.defaultWResTransform = .ok [b, exRb] := by
    unfold transformBranches
    rw [hsel, List.mapM_cons, List.mapM_cons, List.mapM_nil, hsrc, hrb]
    rfl
  simp only [transformCircuit, hb, (Net.check_ok_iff _).mpr ⟨wf.zero_mem, wf.ids_nodup⟩, bind, Except.bind, pure,
    Except.pure]

/-- what `C09_periodic_own_line` and `C09_periodic_time_value` assume of the circuit and its source,
for `exPer` and `exVp` at the default resolution -/
theorem exVp_spec : exVp ∈ translated Gen.tables exPer ∧ "rect" ∈ Gen.waveTypes ∧
    exVp.value.lookup "wavetype" = some (.str "rect") ∧ exVp.value.lookup "V" = some (.num 1) ∧
    exVp.value.lookup "w" = some (.num 2) ∧ exVp.value.lookup "phi" = some (.num 0) ∧
    exVp.value.lookup "R" = some (.num 0) ∧ 2 * Gen.defaultWResTransform < 2 := by decide +kernel

abbrev exNetV (V : GQ) : Net String GQ := ⟨[⟨"1", "0", "Vp", "voltage_source", .norton ⟨0, 0⟩ V⟩, exRb], "0"⟩

theorem exNet_wf (V : GQ) : (exNetV V).WF :=
  ⟨(by decide : (["Vp", "R"] : List String).Nodup),
    (mem_nodeLabels _ _).mpr (Or.inr ⟨_, List.mem_cons_self .., Or.inr rfl⟩),
    List.forall_mem_cons.mpr ⟨(by decide : ("1" : String) ≠ "0"), List.forall_mem_singleton.mpr (by decide)⟩⟩

/-- both branches lie between the same two nodes and neither reports in generator direction, so one incidence
multiplies `i_Vp + i_R` -/
theorem exNet_kcl (V : GQ) (R : Report String GQ) (n : String) :
    kclResidual (exNetV V) R n
      = ((if "1" = n then 1 else 0) - (if "0" = n then 1 else 0)) * (R.i "Vp" + R.i "R") := by
  have z0 : (⟨0, 0⟩ : GQ) = 0 := rfl
  have nz2 : (⟨2, 0⟩ : GQ) ≠ 0 := by decide +kernel
  simp only [kclResidual, incidence, Elem.physCurrent, Elem.isLossy, Elem.kind, z0, nz2, List.map_cons, List.map_nil,
    List.sum_cons, List.sum_nil, if_true, if_false, Bool.false_eq_true, add_zero]
  rw [← mul_add]

theorem exPer_transform (k : ℕ) (V : GQ)
    (hV : Spec.phasor exTrig (exHarm "rect" 1 0 (k : ℤ)).1 (exHarm "rect" 1 0 (k : ℤ)).2 = V) :
    transformCircuit Gen.tables exTrig exHarm ⟨exPer, "0"⟩ (2 * (k : ℚ)) Gen.defaultWResTransform
      = .ok (exNetV V) := by
  have ⟨_, hwave, hwt, hV1, hw, hphi, hR, hres⟩ := exVp_spec
  have hsrc := (C07_harmonic_voltage exTrig exHarm exVp (2 * (k : ℚ)) Gen.defaultWResTransform "1" "0" rfl "rect"
    1 2 0 0 rfl rfl hwt hwave hV1 hw hphi hR (le_refl 0) (by norm_num) (mul_nonneg (by norm_num) k.cast_nonneg)
    defaultWRes_nonneg hres).1
  simp only [if_neg (gate_harmonic 2 _ (by norm_num) defaultWRes_nonneg k), roundHalfEven_harmonic 2 (by norm_num) k,
    hV] at hsrc
  exact exSource_transform (by decide +kernel) hsrc (exNet_wf V)

theorem exRep_solves {s h hn : GQ} (hs : (⟨2, 0⟩ : GQ) * h = s) (hh : hn + h = 0) :
    CircuitEqs (exNetV s)
      { pot := fun n => if n = "1" then s else 0
        v := fun _ => s
        i := fun id => if id = "Vp" then hn else h } := by
  have z0 : (⟨0, 0⟩ : GQ) = 0 := rfl
  have nz2 : (⟨2, 0⟩ : GQ) ≠ 0 := by decide +kernel
  refine ⟨?_, List.forall_mem_cons.mpr ⟨?_, List.forall_mem_singleton.mpr ?_⟩,
    List.forall_mem_cons.mpr ⟨?_, List.forall_mem_singleton.mpr ?_⟩, fun n _ => ?_⟩
  · show (if ("0" : String) = "1" then s else 0) = 0
    exact if_neg (by decide)
  · simp only [voltResidual, if_true, String.reduceEq, if_false, sub_zero, sub_self]
  · simp only [voltResidual, if_true, String.reduceEq, if_false, sub_zero, sub_self]
  · simp only [Elem.lawResidual, z0, if_true, sub_self]
  · simp only [Elem.lawResidual, nz2, if_false, if_true, String.reduceEq, hs, sub_self]
  · rw [exNet_kcl]
    exact mul_eq_zero_of_right _ hh

def exNet3 : Net String GQ :=
  ⟨[⟨"1", "0", "Vp", "voltage_source", .norton ⟨0, 0⟩ ⟨1 / 7, 0⟩⟩,
    ⟨"1", "0", "R", "resistor", .norton ⟨2, 0⟩ 0⟩], "0"⟩

theorem exNet3_wf : exNet3.WF := exNet_wf _

theorem exPer_transform3 : transformCircuit Gen.tables exTrig exHarm ⟨exPer, "0"⟩ (2 * ((3 : ℕ) : ℚ))
    Gen.defaultWResTransform = .ok exNet3 :=
  exPer_transform 3 _ (by decide +kernel)

def exRep3 : Report String GQ :=
  { pot := fun n => if n = "1" then ⟨1 / 7, 0⟩ else 0
    v := fun _ => ⟨1 / 7, 0⟩
    i := fun id => if id = "Vp" then ⟨-1 / 14, 0⟩ else ⟨1 / 14, 0⟩ }

theorem exRep3_solves : CircuitEqs exNet3 exRep3 :=
  exRep_solves (by decide +kernel) (by decide +kernel)

def exNet0 : Net String GQ :=
  ⟨[⟨"1", "0", "Vp", "voltage_source", .norton ⟨0, 0⟩ ⟨1, 0⟩⟩,
    ⟨"1", "0", "R", "resistor", .norton ⟨2, 0⟩ 0⟩], "0"⟩

def exRep0 : Report String GQ :=
  { pot := fun n => if n = "1" then ⟨1, 0⟩ else 0
    v := fun _ => ⟨1, 0⟩
    i := fun id => if id = "Vp" then ⟨-1 / 2, 0⟩ else ⟨1 / 2, 0⟩ }

theorem exNet0_wf : exNet0.WF := exNet_wf _

theorem exRep0_solves : CircuitEqs exNet0 exRep0 :=
  exRep_solves (by decide +kernel) (by decide +kernel)

def exNet1 : Net String GQ :=
  ⟨[⟨"1", "0", "Vp", "voltage_source", .norton ⟨0, 0⟩ ⟨1 / 3, 0⟩⟩,
    ⟨"1", "0", "R", "resistor", .norton ⟨2, 0⟩ 0⟩], "0"⟩

def exRep1 : Report String GQ :=
  { pot := fun n => if n = "1" then ⟨1 / 3, 0⟩ else 0
    v := fun _ => ⟨1 / 3, 0⟩
    i := fun id => if id = "Vp" then ⟨-1 / 6, 0⟩ else ⟨1 / 6, 0⟩ }

theorem exNet1_wf : exNet1.WF := exNet_wf _

theorem exRep1_solves : CircuitEqs exNet1 exRep1 :=
  exRep_solves (by decide +kernel) (by decide +kernel)

def exSolve : Net String GQ → List GQ := fun N => N.pack exRep3.toSol

theorem exSolve_solves : (exSolve exNet3).length = exNet3.nodes.length + exNet3.vsIds.length ∧
    matVec exNet3.mnaA (exSolve exNet3) = exNet3.mnaB :=
  (pack_solves exNet3_wf exRep3_solves).2

/-- every hypothesis of `C09_periodic_own_line` is met by `exPer` at the third harmonic (`k = 3`, `w = 6`) -/
example :=
  have ⟨hc, hwave, hwt, hV, hw, hphi, hR, hres⟩ := exVp_spec
  C09_periodic_own_line exTrig exHarm rfl ⟨exPer, "0"⟩ exVp "1" "0" "rect" 1 2 0 hc rfl rfl hwt hwave hV hw hphi hR
    (by norm_num) 3 Gen.defaultWResTransform defaultWRes_nonneg hres exNet3 exPer_transform3
    exNet3_wf.no_self_loop (exSolve exNet3) exSolve_solves.1 exSolve_solves.2 1

theorem exFd : fdSolutions exTrig exHarm exSolve ⟨exPer, "0"⟩ [2 * ((3 : ℕ) : ℚ)] = .ok [(exNet3, exSolve exNet3)] :=
  mapM_eq_ok.mpr (.cons (by unfold cxSolution cxNet; rw [exPer_transform3]; rfl) .nil)

/-- the second hypothesis of `C09_line_phasor`, that the getter succeeds, is met on the solutions of `exFd` (which is the first,
that the solutions are built) -/
example : ∃ X, fdLines 1 [(exNet3, exSolve exNet3)] .voltage "Vp" = .ok X := by
  unfold fdLines
  rw [List.mapM_cons, List.mapM_nil, cxGet_true, show exNet3.quantity _ .voltage "Vp" = _ from
    ((C01_sound exNet3 _ exNet3_wf exSolve_solves.1 exSolve_solves.2).2.1 _ (List.mem_cons_self ..)).1]
  exact ⟨_, rfl⟩

theorem exSpecRes : Spec.phasorNet (fun _ => (1, 0)) (fun _ _ _ _ => (0, 0)) exCs 2 Gen.defaultWResTransform
    = some ⟨[⟨"1", "0", "V", "", .norton ⟨1, 0⟩ ⟨3, 0⟩⟩, ⟨"1", "0", "C", "", .thevenin ⟨0, 8⟩ 0⟩], "0"⟩ := by
  -- the branches by evaluation; `rfl` finds the ground and reads the branch list off the right-hand side
  unfold Spec.phasorNet
  exact Option.bind_eq_some_iff.mpr ⟨_, by decide +kernel, rfl⟩

/-- the hypotheses of `C09_line_circuit_eqs` on the circuit (those of `C02_exact`) are met by `exCs` at `w = 2` -/
example := C09_line_circuit_eqs (fun _ => (1, 0)) (fun _ _ _ _ => (0, 0)) rfl exCs _ 2 (by decide) exCircuit exExact _
  exSpecRes (by simp [Net.check, Net.nodeLabels, sortL, dedupL, Net.ids]) (by decide)

/-- a solver for the two networks of `exPer` at `w_max = 3` (lines at 0 and 2) -/
def exSolve2 : Net String GQ → List GQ := fun N =>
  if N.branches = exNet0.branches then exNet0.pack exRep0.toSol else exNet1.pack exRep1.toSol

theorem exHarmonicList : harmonicList 2 3 = [2 * ((0 : ℕ) : ℚ), 2 * ((1 : ℕ) : ℚ)] := by decide +kernel

theorem exTd : tdSolutions exTrig exHarm exSolve2 ⟨exPer, "0"⟩ (harmonicList 2 3)
    = .ok [(exNet0, exNet0.pack exRep0.toSol), (exNet1, exNet1.pack exRep1.toSol)] := by
  rw [(C09_line_td_eq_fd _ _ _ _ _).1, exHarmonicList]
  unfold fdSolutions
  rw [List.mapM_cons, List.mapM_cons, List.mapM_nil]
  unfold cxSolution cxNet
  rw [exPer_transform 0 ⟨1, 0⟩ (by decide +kernel), exPer_transform 1 ⟨1 / 3, 0⟩ (by decide +kernel)]
  have e0 : exSolve2 exNet0 = exNet0.pack exRep0.toSol := if_pos rfl
  have e1 : exSolve2 exNet1 = exNet1.pack exRep1.toSol := if_neg (by decide +kernel)
  show Except.ok [(exNet0, exSolve2 exNet0), (exNet1, exSolve2 exNet1)] = _
  rw [e0, e1]

/-- every hypothesis of `C09_periodic_time_value` is met by `exPer` with `w_max = 3` (two lines: DC and fundamental) -/
example (cs : List (ℚ × ℚ)) :=
  have ⟨hc, hwave, hwt, hV, hw, hphi, hR, hres⟩ := exVp_spec
  C09_periodic_time_value exTrig exHarm rfl ⟨exPer, "0"⟩ exVp "1" "0" "rect" 1 2 0 hc rfl rfl hwt hwave hV hw hphi hR
    (by norm_num) exSolve2 3 hres _ exTd
    (List.forall_mem_cons.mpr ⟨pack_solves exNet0_wf exRep0_solves,
      List.forall_mem_singleton.mpr (pack_solves exNet1_wf exRep1_solves)⟩)
    cs

/-- the same network with the source value 4/3 = 1 + 1/3 -/
def exNet4 : Net String GQ :=
  ⟨[⟨"1", "0", "Vp", "voltage_source", .norton ⟨0, 0⟩ ⟨4 / 3, 0⟩⟩,
    ⟨"1", "0", "R", "resistor", .norton ⟨2, 0⟩ 0⟩], "0"⟩

def exRep4 : Report String GQ :=
  { pot := fun n => if n = "1" then ⟨4 / 3, 0⟩ else 0
    v := fun _ => ⟨4 / 3, 0⟩
    i := fun id => if id = "Vp" then ⟨-2 / 3, 0⟩ else ⟨2 / 3, 0⟩ }

theorem exNet4_wf : exNet4.WF := exNet_wf _

theorem exRep4_solves : CircuitEqs exNet4 exRep4 :=
  exRep_solves (by decide +kernel) (by decide +kernel)

/-- its matrix `[[1/2, 1], [1, 0]]` has determinant `-1` -/
theorem exNet4_wellPosed : WellPosed exNet4 :=
  wellPosed_of_matrix exNet4_wf (A := [[⟨1 / 2, 0⟩, 1], [1, 0]])
    (by simp only [Net.mnaA, Net.nodes, Net.nodeLabels, sortL_string]; decide +kernel) (by decide +kernel)

/-- one analysed frequency of a two-part decomposition: the source value 4/3 split as 1 + 1/3 -/
def exSuper : SuperLine String :=
  { c := 3 / 5, s := 4 / 5, bs := exNet0.branches, z := "0",
    s1 := fun id => if id = "Vp" then ⟨1, 0⟩ else 0, s2 := fun id => if id = "Vp" then ⟨1 / 3, 0⟩ else 0,
    x1 := exNet0.pack exRep0.toSol, x2 := exNet1.pack exRep1.toSol, x := exNet4.pack exRep4.toSol }

theorem exSuper_N1 : exSuper.N1 = exNet0 :=
  congrArg (Net.mk · "0") (by decide +kernel : withSrc exNet0.branches exSuper.s1 = exNet0.branches)
theorem exSuper_N2 : exSuper.N2 = exNet1 :=
  congrArg (Net.mk · "0") (by decide +kernel : withSrc exNet0.branches exSuper.s2 = exNet1.branches)
theorem exSuper_N : exSuper.N = exNet4 :=
  congrArg (Net.mk · "0")
    (by decide +kernel : withSrc exNet0.branches (fun id => exSuper.s1 id + exSuper.s2 id) = exNet4.branches)

/-- every hypothesis of `C09_superpose_sources_currents` (and of `C09_superpose_sources_reported`) is met by `[exSuper]`;
both branches are non-lossy in all three networks -/
example := C09_superpose_sources_currents [exSuper] (by
  intro l hl
  simp only [List.mem_cons, List.mem_nil_iff, or_false] at hl
  subst hl
  rw [exSuper_N1, exSuper_N2, exSuper_N]
  have ⟨_, l0, m0⟩ := pack_solves exNet0_wf exRep0_solves
  have ⟨_, l1, m1⟩ := pack_solves exNet1_wf exRep1_solves
  have ⟨_, l4, m4⟩ := pack_solves exNet4_wf exRep4_solves
  exact ⟨exNet0_wf, exNet1_wf, exNet4_wf, exNet4_wellPosed, l0, l1, l4, m0, m1, m4⟩)

example : ∃ b ∈ exSuper.bs, b.id = "R" ∧ (b.e.setSrc (exSuper.s1 "R" + exSuper.s2 "R")).isLossy = false ∧
    (b.e.setSrc (exSuper.s1 "R")).isLossy = false ∧ (b.e.setSrc (exSuper.s2 "R")).isLossy = false :=
  by decide +kernel

def exPerI : List Component :=
  [⟨"ground", "gnd", ["0"], []⟩,
   ⟨"periodic_current_source", "Ip", ["0", "1"],
     [("wavetype", .str "rect"), ("I", .num 1), ("w", .num 2), ("phi", .num 0), ("G", .num 0)]⟩,
   ⟨"resistor", "R", ["1", "0"], [("R", .num 2)]⟩]

def exNetI : Net String GQ :=
  ⟨[⟨"0", "1", "Ip", "current_source", .thevenin ⟨0, 0⟩ ⟨1 / 3, 0⟩⟩,
    ⟨"1", "0", "R", "resistor", .norton ⟨2, 0⟩ 0⟩], "0"⟩

def exIp : Component := exPerI[1]

theorem exIp_spec : exIp ∈ translated Gen.tables exPerI ∧ "rect" ∈ Gen.waveTypes ∧
    exIp.value.lookup "wavetype" = some (.str "rect") ∧ exIp.value.lookup "I" = some (.num 1) ∧
    exIp.value.lookup "w" = some (.num 2) ∧ exIp.value.lookup "phi" = some (.num 0) ∧
    exIp.value.lookup "G" = some (.num 0) ∧ 2 * Gen.defaultWResTransform < 2 := by decide +kernel


def exRepI : Report String GQ :=
  { pot := fun n => if n = "1" then ⟨2 / 3, 0⟩ else 0
    v := fun id => if id = "Ip" then ⟨-2 / 3, 0⟩ else ⟨2 / 3, 0⟩
    i := fun _ => ⟨1 / 3, 0⟩ }

theorem exNetI_wf : exNetI.WF :=
  ⟨by decide, (mem_nodeLabels _ _).mpr (Or.inr ⟨_, List.mem_cons_self .., Or.inl rfl⟩), by decide⟩

theorem exPerI_transform : transformCircuit Gen.tables exTrig exHarm ⟨exPerI, "0"⟩ (2 * ((1 : ℕ) : ℚ))
    Gen.defaultWResTransform = .ok exNetI := by
  have ⟨_, hwave, hwt, hI, hw, hphi, hG, hres⟩ := exIp_spec
  have hsrc := (C07_harmonic_current exTrig exHarm exIp (2 * ((1 : ℕ) : ℚ)) Gen.defaultWResTransform "0" "1" rfl "rect"
    1 2 0 0 rfl rfl hwt hwave hI hw hphi hG (le_refl 0) (by norm_num) (by norm_num) defaultWRes_nonneg hres).1
  have hI1 : Spec.phasor exTrig (exHarm "rect" 1 0 ((1 : ℕ) : ℤ)).1 (exHarm "rect" 1 0 ((1 : ℕ) : ℤ)).2 = ⟨1 / 3, 0⟩ := by
    decide +kernel
  simp only [if_neg (gate_harmonic 2 _ (by norm_num) defaultWRes_nonneg 1), roundHalfEven_harmonic 2 (by norm_num) 1,
    hI1] at hsrc
  exact exSource_transform (by decide +kernel) hsrc exNetI_wf

theorem exRepI_solves : CircuitEqs exNetI exRepI :=
  by decide +kernel

/-- every hypothesis of `C09_periodic_own_line_current` is met by `exPerI` at the fundamental (`k = 1`, `w = 2`) -/
example :=
  have ⟨hc, hwave, hwt, hI, hw, hphi, hG, hres⟩ := exIp_spec
  have ⟨hsl, hx, hsol⟩ := pack_solves exNetI_wf exRepI_solves
  C09_periodic_own_line_current exTrig exHarm rfl ⟨exPerI, "0"⟩ exIp "0" "1" "rect" 1 2 0 hc rfl rfl hwt hwave hI hw
    hphi hG (by norm_num) 1 Gen.defaultWResTransform defaultWRes_nonneg hres exNetI exPerI_transform hsl _ hx hsol 1

/-- `C09_periodic_frequencies`: `exPer` as `frequency_components` sees it, `w_max = 7`: lines at 0, 2, 4, 6 -/
example := C09_periodic_frequencies [⟨"ground", none⟩] [⟨"resistor", none⟩] ⟨"periodic_voltage_source", some 2⟩ 2 7
  (by decide) (by decide) (by decide +kernel) rfl (by norm_num)

/-- `C09_reconstruction_mean_square`: a sawtooth of period 1/50 -/
example := C09_reconstruction_mean_square ⟨.SawFunction, 1 / 50, 3 / 2, -40, -2⟩ _ (by norm_num) rfl

end Examples

end CC
