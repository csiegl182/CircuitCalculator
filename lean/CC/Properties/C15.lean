/-
  C15 — saving, reloading and declarative descriptions preserve the circuit.

  Model: CC/Model/DrawIO.lean (symbol constructors, dictify / undictify, declarative
  handlers) over the generated tables CC/Gen/DrawTables.lean.
-/
import CC.Proofs.DrawRT
import CC.Proofs.DrawLift
import CC.Proofs.DrawDeclarative2
namespace CC
open CC.Draw

/-- binary64 `numpy.pi` -/
def C15_pi64 : Rat := (884279719003555 : Rat) / 281474976710656
def C15_listOrder : SetOrd Pt := ⟨id, id⟩

/-- Every persistable symbol kind has a loader entry that rebuilds *its own* class: class →
`type` string → loader class is the identity on the persistable classes. -/
theorem C15_persistable_total :
    ∀ n ∈ persistableClasses, ∃ c, classInfo n = some c ∧
      ∃ lt ∈ Gen.loaderTypes, lt.typ = c.typ ∧ lt.cls = n := by decide +kernel

/-- The plumbing certificate (`roundTripShape`: which attribute feeds which constructor argument,
under which keyword the value comes back, where the signs sit, that left-over value keys do not
collide with constructor parameters) holds for every persistable class; `undictify_element` merges its
keyword sources in the order the model assumes; `dictify_element` stores what the model assumes; every
declarative handler builds the class whose own `type` string is the handler's key. -/
theorem C15_tables :
    (∀ n ∈ persistableClasses, (classInfo n).map roundTripShape = some true) ∧
    Gen.undictifySteps = ["userparams", "name", "reverse", "circuit", "clear_flags_if_phi", "construct", "restore:segments",
      "restore:params", "restore:anchors", "restore:absanchors", "restore:transform", "restore:absdrop", "return"] ∧
    Gen.dictifySaved = ["_userparams", "segments", "params", "anchors", "absanchors", "transform", "absdrop"] ∧
    Gen.declDirections = [("right", "right"), ("left", "left"), ("up", "up"), ("down", "down")] ∧
    Gen.declOneTerminalPlain = true ∧
    (∀ h ∈ Gen.declHandlers, h.typ = "lamp" ∨ (classInfo h.cls).map (·.typ) = some h.typ) ∧
    (∀ h ∈ Gen.declHandlers, h.cls ∈ declFrameClasses ∧ ∀ c, h.clsIfName = some c → c ∈ declFrameClasses) := by
  decide +kernel

/-- About `savedVal` of CC/Proofs/DrawIO.lean, which restates the two sign flips, not about the
interpretive model (the model-level statement is `C15_roundtrip_element`): one cycle returns the
user's amplitude for either reversal flag. -/
theorem C15_value_roundtrip (rev : Bool) (v : GQ) : savedVal rev v = v :=
  savedVal_eq neg_neg rev v

/-- About `savedPhase` of CC/Proofs/DrawIO.lean (the design of the repair 5d18a69; the model-level
statement is `C15_roundtrip_element`, where the saved phase is `acPhase`): the saved phase fed back
with the `deg` / `sin` flags cleared is saved again unchanged. -/
theorem C15_phase_roundtrip {K : Type} [Sub K] (halfPi ninety : K) (toRad : K → K) (sin deg : Bool) (phi : K) :
    savedPhase halfPi ninety toRad false false (savedPhase halfPi ninety toRad sin deg phi) =
      savedPhase halfPi ninety toRad sin deg phi :=
  savedPhase_reload halfPi ninety toRad sin deg phi

/-- the drawing elements of the persistable kinds, as the constructor calls that make them
(valid values: real and non-negative — positive for the frequency of a periodic source — where the
component constructor checks it; every reversal flag; AC sources with any `deg` / `sin` flags, rectangular sources with any `deg`).  A
layout that passes the flags and the layout that omits them are separate constructors: the keyword
lists differ, and so do the lists the loader produces. -/
inductive C15_Canonical : DElem → Prop where
  | vsrc (z : GQ) (rev : Bool) (name : String) (a b : Pt) :
      C15_Canonical ⟨"VoltageSource", [("V", .num z), ("name", .str name), ("reverse", .bool rev)], a, b⟩
  | isrc (z : GQ) (rev : Bool) (name : String) (a b : Pt) :
      C15_Canonical ⟨"CurrentSource", [("I", .num z), ("name", .str name), ("reverse", .bool rev)], a, b⟩
  | cvsrc (z : GQ) (rev : Bool) (name : String) (a b : Pt) :
      C15_Canonical ⟨"ComplexVoltageSource", [("V", .num z), ("name", .str name), ("reverse", .bool rev)], a, b⟩
  | cisrc (z : GQ) (rev : Bool) (name : String) (a b : Pt) :
      C15_Canonical ⟨"ComplexCurrentSource", [("I", .num z), ("name", .str name), ("reverse", .bool rev)], a, b⟩
  | acv (v w phi : GQ) (hv : v.im = 0) (hw : w.im = 0) (hw0 : ¬ w.re < 0) (hp : phi.im = 0) (rev : Bool)
      (name : String) (a b : Pt) :
      C15_Canonical ⟨"ACVoltageSource", [("V", .num v), ("w", .num w), ("phi", .num phi), ("name", .str name), ("reverse", .bool rev)], a, b⟩
  | aci (v w phi : GQ) (hv : v.im = 0) (hw : w.im = 0) (hw0 : ¬ w.re < 0) (hp : phi.im = 0) (rev : Bool)
      (name : String) (a b : Pt) :
      C15_Canonical ⟨"ACCurrentSource", [("I", .num v), ("w", .num w), ("phi", .num phi), ("name", .str name), ("reverse", .bool rev)], a, b⟩
  | acvFlags (v w phi : GQ) (hv : v.im = 0) (hw : w.im = 0) (hw0 : ¬ w.re < 0) (hp : phi.im = 0) (deg sin rev : Bool)
      (name : String) (a b : Pt) :
      C15_Canonical ⟨"ACVoltageSource", [("V", .num v), ("w", .num w), ("phi", .num phi), ("deg", .bool deg), ("sin", .bool sin), ("name", .str name), ("reverse", .bool rev)], a, b⟩
  | aciFlags (v w phi : GQ) (hv : v.im = 0) (hw : w.im = 0) (hw0 : ¬ w.re < 0) (hp : phi.im = 0) (deg sin rev : Bool)
      (name : String) (a b : Pt) :
      C15_Canonical ⟨"ACCurrentSource", [("I", .num v), ("w", .num w), ("phi", .num phi), ("deg", .bool deg), ("sin", .bool sin), ("name", .str name), ("reverse", .bool rev)], a, b⟩
  | rectv (v w phi : GQ) (hv : v.im = 0) (hw : w.im = 0) (hw0 : ¬ w.re ≤ 0) (hp : phi.im = 0) (rev : Bool)
      (name : String) (a b : Pt) :
      C15_Canonical ⟨"RectVoltageSource", [("V", .num v), ("w", .num w), ("phi", .num phi), ("name", .str name), ("reverse", .bool rev)], a, b⟩
  | recti (v w phi : GQ) (hv : v.im = 0) (hw : w.im = 0) (hw0 : ¬ w.re ≤ 0) (hp : phi.im = 0) (rev : Bool)
      (name : String) (a b : Pt) :
      C15_Canonical ⟨"RectCurrentSource", [("I", .num v), ("w", .num w), ("phi", .num phi), ("name", .str name), ("reverse", .bool rev)], a, b⟩
  | rectvDeg (v w phi : GQ) (hv : v.im = 0) (hw : w.im = 0) (hw0 : ¬ w.re ≤ 0) (hp : phi.im = 0) (deg rev : Bool)
      (name : String) (a b : Pt) :
      C15_Canonical ⟨"RectVoltageSource", [("V", .num v), ("w", .num w), ("phi", .num phi), ("deg", .bool deg), ("name", .str name), ("reverse", .bool rev)], a, b⟩
  | rectiDeg (v w phi : GQ) (hv : v.im = 0) (hw : w.im = 0) (hw0 : ¬ w.re ≤ 0) (hp : phi.im = 0) (deg rev : Bool)
      (name : String) (a b : Pt) :
      C15_Canonical ⟨"RectCurrentSource", [("I", .num v), ("w", .num w), ("phi", .num phi), ("deg", .bool deg), ("name", .str name), ("reverse", .bool rev)], a, b⟩
  | res (z : GQ) (him : z.im = 0) (hpos : ¬ z.re < 0) (rev : Bool) (name : String) (a b : Pt) :
      C15_Canonical ⟨"Resistor", [("R", .num z), ("name", .str name), ("reverse", .bool rev)], a, b⟩
  | cond (z : GQ) (him : z.im = 0) (hpos : ¬ z.re < 0) (rev : Bool) (name : String) (a b : Pt) :
      C15_Canonical ⟨"Conductance", [("G", .num z), ("name", .str name), ("reverse", .bool rev)], a, b⟩
  | cap (z : GQ) (him : z.im = 0) (hpos : ¬ z.re < 0) (rev : Bool) (name : String) (a b : Pt) :
      C15_Canonical ⟨"Capacitor", [("C", .num z), ("name", .str name), ("reverse", .bool rev)], a, b⟩
  | ind (z : GQ) (him : z.im = 0) (hpos : ¬ z.re < 0) (rev : Bool) (name : String) (a b : Pt) :
      C15_Canonical ⟨"Inductance", [("L", .num z), ("name", .str name), ("reverse", .bool rev)], a, b⟩
  | imp (r i : Rat) (rev : Bool) (name : String) (a b : Pt) :
      C15_Canonical ⟨"Impedance", [("Z", .num ⟨r, i⟩), ("name", .str name), ("reverse", .bool rev)], a, b⟩
  | gnd (name : String) (a b : Pt) : C15_Canonical ⟨"Ground", [("name", .str name)], a, b⟩
  | line (rev : Bool) (a b : Pt) : C15_Canonical ⟨"Line", [("reverse", .bool rev)], a, b⟩

/-- **Round trip of one element, for all values**: for every persistable kind, every value,
reversal flag, `deg` / `sin` flag, name and position, saving the element (with its translated
component as circuit section) and loading it back gives an element that (B) translates to the
same component for any terminal names, (F) is a fixed point of further save/load cycles,
(S) keeps class, anchors, name, reversal flag and node id — evaluated on the interpretive model
over the generated tables. -/
theorem C15_roundtrip_element (π : Rat) (d : DElem) (h : C15_Canonical d) : ElemStable π d := by
  -- every case is the theorem of the class's shape (CC/Proofs/DrawRT.lean, any keyword list) at the class's row of the
  -- shape's table and at the literal layout: look-ups by `rfl`
  cases h with
  | vsrc z rev name a b =>
    exact stable_dc π (kind := "dc_voltage_source") (p := "V") (q := "R") (req := ["name", "V"]) (by simp [dcClasses])
      rfl rfl rfl (by simp) (by simp [valKept]) a b
  | isrc z rev name a b =>
    exact stable_dc π (kind := "dc_current_source") (p := "I") (q := "G") (req := ["I", "name"]) (by simp [dcClasses])
      rfl rfl rfl (by simp) (by simp [valKept]) a b
  | cvsrc z rev name a b =>
    exact stable_complex π (kind := "complex_voltage_source") (p := "V") (zp := "Z") (reK := "V_real") (imK := "V_imag")
      (q₁ := "R") (q₂ := "X") (req := ["name", "V"]) (by simp [complexClasses]) rfl rfl rfl (by simp) (by simp [valKept]) a b
  | cisrc z rev name a b =>
    exact stable_complex π (kind := "complex_current_source") (p := "I") (zp := "Y") (reK := "I_real") (imK := "I_imag")
      (q₁ := "G") (q₂ := "B") (req := ["I", "name"]) (by simp [complexClasses]) rfl rfl rfl (by simp) (by simp [valKept]) a b
  | acv v w phi hv hw hw0 hp rev name a b =>
    exact stable_ac π (kind := "ac_voltage_source") (p := "V") (q := "R") (by simp [acClasses]) (sin := false)
      (deg := false) rfl rfl rfl rfl rfl rfl rfl hv ⟨hw, not_lt.mp hw0⟩ hp (by simp) (by simp [valKept, hv, hw, hp]) a b
  | aci v w phi hv hw hw0 hp rev name a b =>
    exact stable_ac π (kind := "ac_current_source") (p := "I") (q := "G") (by simp [acClasses]) (sin := false)
      (deg := false) rfl rfl rfl rfl rfl rfl rfl hv ⟨hw, not_lt.mp hw0⟩ hp (by simp) (by simp [valKept, hv, hw, hp]) a b
  | acvFlags v w phi hv hw hw0 hp deg sin rev name a b =>
    exact stable_ac π (kind := "ac_voltage_source") (p := "V") (q := "R") (by simp [acClasses]) rfl rfl rfl rfl rfl rfl
      rfl hv ⟨hw, not_lt.mp hw0⟩ hp (by simp) (by simp [valKept, hv, hw, hp]) a b
  | aciFlags v w phi hv hw hw0 hp deg sin rev name a b =>
    exact stable_ac π (kind := "ac_current_source") (p := "I") (q := "G") (by simp [acClasses]) rfl rfl rfl rfl rfl rfl
      rfl hv ⟨hw, not_lt.mp hw0⟩ hp (by simp) (by simp [valKept, hv, hw, hp]) a b
  | rectv v w phi hv hw hw0 hp rev name a b =>
    exact stable_rect π (kind := "periodic_voltage_source") (p := "V") (q := "R") (phiDefault := some 0)
      (by simp [periodicClasses]) (deg := false) rfl rfl rfl rfl rfl rfl hv ⟨hw, not_le.mp hw0⟩ hp (by simp)
      (by simp [valKept, hv, hw, hp]) a b
  | recti v w phi hv hw hw0 hp rev name a b =>
    exact stable_rect π (kind := "periodic_current_source") (p := "I") (q := "G") (phiDefault := none)
      (by simp [periodicClasses]) (deg := false) rfl rfl rfl rfl rfl rfl hv ⟨hw, not_le.mp hw0⟩ hp (by simp)
      (by simp [valKept, hv, hw, hp]) a b
  | rectvDeg v w phi hv hw hw0 hp deg rev name a b =>
    exact stable_rect π (kind := "periodic_voltage_source") (p := "V") (q := "R") (phiDefault := some 0)
      (by simp [periodicClasses]) rfl rfl rfl rfl rfl rfl hv ⟨hw, not_le.mp hw0⟩ hp (by simp)
      (by simp [valKept, hv, hw, hp]) a b
  | rectiDeg v w phi hv hw hw0 hp deg rev name a b =>
    exact stable_rect π (kind := "periodic_current_source") (p := "I") (q := "G") (phiDefault := none)
      (by simp [periodicClasses]) rfl rfl rfl rfl rfl rfl hv ⟨hw, not_le.mp hw0⟩ hp (by simp)
      (by simp [valKept, hv, hw, hp]) a b
  | res z him hpos rev name a b =>
    exact stable_plain π (kind := "resistor") (p := "R") (by simp [plainClasses]) rfl rfl rfl ⟨him, not_lt.mp hpos⟩
      (by simp) (by simp [valKept, him]) a b
  | cond z him hpos rev name a b =>
    exact stable_plain π (kind := "conductance") (p := "G") (by simp [plainClasses]) rfl rfl rfl ⟨him, not_lt.mp hpos⟩
      (by simp) (by simp [valKept, him]) a b
  | cap z him hpos rev name a b =>
    exact stable_plain π (kind := "capacitor") (p := "C") (by simp [plainClasses]) rfl rfl rfl ⟨him, not_lt.mp hpos⟩
      (by simp) (by simp [valKept, him]) a b
  | ind z him hpos rev name a b =>
    exact stable_plain π (kind := "inductance") (p := "L") (by simp [plainClasses]) rfl rfl rfl ⟨him, not_lt.mp hpos⟩
      (by simp) (by simp [valKept, him]) a b
  | imp r i rev name a b => exact stable_Impedance π (Z := ⟨r, i⟩) rfl rfl rfl (by simp) (by simp [valKept]) a b
  | gnd name a b => exact stable_Ground π (name := name) (rev := false) rfl rfl (by simp) (by simp [valKept]) a b
  | line rev a b => exact stable_Line π rfl (by simp) (by simp [valKept]) a b

/-- non-vacuity: the reversed 5 V source really is translated, on both sides of the equation -/
example :
    elemComp C15_pi64 ⟨"VoltageSource", [("V", .num 5), ("name", .str "V1"), ("reverse", .bool true)], ⟨0, 0⟩, ⟨0, 5⟩⟩ ["a", "b"]
      = .ok (some { type := "dc_voltage_source", id := "V1", nodes := ["b", "a"],
                    value := [("V", .num ⟨5, 0⟩), ("R", .num ⟨0, 0⟩), ("w", .num ⟨0, 0⟩), ("phi", .num ⟨0, 0⟩)] }) := by
  decide +kernel

/-- **Any number of cycles, one element**: after `n ≥ 1` save/load cycles the element still
translates to the component of the original element. -/
theorem C15_stable_element (π : Rat) (d : DElem) (h : C15_Canonical d) (n : Nat) (la lb : String) :
    (do elemComp π (← reloadN π [la, lb] (n + 1) d) [la, lb]) = elemComp π d [la, lb] :=
  elem_cycles_stable (C15_roundtrip_element π d h) n la lb

/-- **Round trip of a drawing**: for every drawing over the persistable kinds (any values, reversal
and `deg` / `sin` flags) whose element names are unique (wires are anonymous), for every set
iteration order: one save/load cycle yields a drawing that translates to the *same* circuit
(ids, kinds, values, terminal order, node names, reference node). -/
theorem C15_roundtrip (π : Rat) (ord : SetOrd Pt) (d d' : List DElem)
    (hcan : ∀ e ∈ d, C15_Canonical e) (hnames : NamesWF π d) (h : saveLoad π ord d = .ok d') :
    circuitOf π ord d' = circuitOf π ord d :=
  saveLoad_roundtrip π ord d d' (fun e he => C15_roundtrip_element π e (hcan e he)) hnames h

/-- **Any number of cycles**: the same after `n` save/load cycles. -/
theorem C15_stable (π : Rat) (ord : SetOrd Pt) (n : Nat) (d d' : List DElem)
    (hcan : ∀ e ∈ d, C15_Canonical e) (hnames : NamesWF π d) (h : cycles π ord n d = .ok d') :
    circuitOf π ord d' = circuitOf π ord d :=
  (cycles_roundtrip π ord n d d' ⟨fun e he => C15_roundtrip_element π e (hcan e he), hnames⟩ h).2

/-- **Induction over cycles** (generic form): if one save/load cycle keeps the translated circuit
on a domain that it maps into itself, then so does any number of cycles. -/
theorem C15_cycles (π : Rat) (ord : SetOrd Pt) (Dom : List DElem → Prop)
    (hstep : ∀ d, Dom d → ∃ d', saveLoad π ord d = .ok d' ∧ Dom d' ∧ circuitOf π ord d' = circuitOf π ord d) :
    ∀ (n : Nat) (d : List DElem), Dom d →
      ∃ d', cycles π ord n d = .ok d' ∧ Dom d' ∧ circuitOf π ord d' = circuitOf π ord d :=
  cycles_preserve π ord Dom hstep

/-- the drawing whose phase drifted from cycle to cycle before the package's repair 5d18a69: an AC voltage
source of 30°, `deg=True`, `sin=True`, a resistor, two wires and a ground -/
def C15_driftDrawing : List DElem :=
  [⟨"ACVoltageSource", [("V", .num 3), ("w", .num 100), ("phi", .num 30), ("deg", .bool true), ("sin", .bool true),
      ("name", .str "X"), ("reverse", .bool false)], ⟨0, 0⟩, ⟨0, 5⟩⟩,
   ⟨"Resistor", [("R", .num 10), ("name", .str "R1"), ("reverse", .bool false)], ⟨0, 5⟩, ⟨5, 5⟩⟩,
   ⟨"Line", [("reverse", .bool false)], ⟨5, 5⟩, ⟨5, 0⟩⟩, ⟨"Line", [("reverse", .bool false)], ⟨5, 0⟩, ⟨0, 0⟩⟩,
   ⟨"Ground", [("name", .str "0")], ⟨0, 0⟩, ⟨0, 0⟩⟩]

/-- regression and non-vacuity: that drawing is saved, reloaded three times and still translates
to its (successfully translated) original circuit -/
example :
    (do circuitOf C15_pi64 C15_listOrder (← cycles C15_pi64 C15_listOrder 3 C15_driftDrawing))
      = circuitOf C15_pi64 C15_listOrder C15_driftDrawing ∧
    (circuitOf C15_pi64 C15_listOrder C15_driftDrawing).toOption.isSome = true := by
  decide +kernel

/-- **Placement keys do not reach the constructor**: for every handler class and all values,
`construct cls (type :: values ++ [direction, length, place_after])` = `construct cls values` —
the four keys of a declarative description that `element_factory` hands on with the rest reach
no circuit-relevant attribute of the symbol (one fixed key order per class; for any keys, order and
values: `CC.Draw.declSame_of_mem`, `CC.Draw.declarative_frame`).  The model function `declarative`
as a whole is characterised in CC/Properties/C15Declarative.lean (`C15_declarative_list`,
`C15_declarative_symbols`, `C15_declarative_circuit`); that it is `schematic.py` rests on the
generated tables (`C15_tables`) and the correspondence. -/
theorem C15_declarative (π : Rat) (r s t : Val) (name : String) (rev : Bool) (tv dv lv pv : Val) :
    DeclSame π "Resistor" [("R", r), ("name", .str name), ("reverse", .bool rev)] tv dv lv pv ∧
    DeclSame π "Conductance" [("G", r), ("name", .str name), ("reverse", .bool rev)] tv dv lv pv ∧
    DeclSame π "Impedance" [("Z", r), ("name", .str name), ("reverse", .bool rev)] tv dv lv pv ∧
    DeclSame π "Admittance" [("Y", r), ("name", .str name), ("reverse", .bool rev)] tv dv lv pv ∧
    DeclSame π "Capacitor" [("C", r), ("name", .str name), ("reverse", .bool rev)] tv dv lv pv ∧
    DeclSame π "Inductance" [("L", r), ("name", .str name), ("reverse", .bool rev)] tv dv lv pv ∧
    DeclSame π "Lamp" [("V_ref", r), ("P_ref", s), ("name", .str name), ("reverse", .bool rev)] tv dv lv pv ∧
    DeclSame π "VoltageSource" [("V", r), ("name", .str name), ("reverse", .bool rev)] tv dv lv pv ∧
    DeclSame π "CurrentSource" [("I", r), ("name", .str name), ("reverse", .bool rev)] tv dv lv pv ∧
    DeclSame π "ComplexVoltageSource" [("V", r), ("name", .str name), ("reverse", .bool rev)] tv dv lv pv ∧
    DeclSame π "ComplexCurrentSource" [("I", r), ("name", .str name), ("reverse", .bool rev)] tv dv lv pv ∧
    DeclSame π "ACVoltageSource" [("V", r), ("w", s), ("phi", t), ("name", .str name), ("reverse", .bool rev)] tv dv lv pv ∧
    DeclSame π "ACCurrentSource" [("I", r), ("w", s), ("phi", t), ("name", .str name), ("reverse", .bool rev)] tv dv lv pv ∧
    DeclSame π "LabeledLine" [("name", .str name), ("reverse", .bool rev)] tv dv lv pv ∧
    DeclSame π "Line" [("name", .str name), ("reverse", .bool rev)] tv dv lv pv ∧
    DeclSame π "Node" [("name", .str name), ("reverse", .bool rev)] tv dv lv pv ∧
    DeclSame π "Ground" [("name", .str name), ("reverse", .bool rev)] tv dv lv pv := by
  repeat' apply And.intro
  all_goals exact declSame_of_mem π (by decide) _ tv dv lv pv

/-- non-vacuity: a declarative resistor description builds the resistor symbol -/
example :
    declarative C15_pi64 4 [[("type", .str "resistor"), ("R", .num 5), ("name", .str "R1"), ("direction", .str "up"), ("length", .num 2)]]
      = .ok [{ cls := "Resistor",
               kwargs := [("type", .str "resistor"), ("R", .num 5), ("name", .str "R1"), ("direction", .str "up"),
                          ("length", .num 2), ("reverse", .bool false)],
               method := "up", length := 8, after := none }] := by
  decide +kernel

end CC
