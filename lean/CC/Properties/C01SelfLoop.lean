/-
  Property C01 — the theorems without the hypothesis "no self-loop branch".

  `admittance_connected_to` skips branches whose two terminals are the same node,
  `voltage_source_direction` is +1 at the first terminal minus 1 at the second, and
  `source_incidence_matrix` accumulates its ±1 entries: a self-loop branch is electrically inert in the matrix
  equation as it is in the circuit equations, and the theorems of C01 hold for every network
  `Network.__post_init__` accepts (`N.check = ok`: reference label present, distinct ids).  `C01_sound`,
  `C01_complete`, … (CC/Properties/C01.lean) are stated with `Net.WF`; here are the same with
  `N.check = ok`.  The one self-loop that is not inert is an ideal voltage source
  (`C01_selfloop_voltage_source`): the circuit equations, and the matrix equation, have a solution only if its
  voltage is 0.  (No theorem here says what happens then: its current occurs in no equation other than Kirchhoff's
  law at its node, where it cancels, so such a network cannot be well-posed.)
  Self-loop admittances, impedances, open circuits and (ideal or linear) current sources are ordinary
  members of the domain: they report voltage 0 and the current their own law gives at voltage 0.
-/
import CC.Properties.C01Det
import CC.Properties.C01More

namespace CC
variable {L K : Type} [DecidableEq L] [LabelOrd L] [Field K] [DecidableEq K]

/-- **C01 (soundness, self-loops admitted).**  For every network the library accepts — branches
from a node to itself included — whatever vector satisfies the matrix equation the code builds, the
accessors never fail on the network's own labels and ids, and what they report solves the circuit
equations of the Spec (reference at zero, voltages are potential differences, every element law,
Kirchhoff's current law at every node). -/
theorem C01_sound_selfloops (N : Net L K) (x : List K) (hc : N.check = .ok ())
    (hx : x.length = N.nodes.length + N.vsIds.length)
    (h : matVec N.mnaA x = N.mnaB) :
    (∀ n ∈ N.allLabels, N.potential x n = .ok ((N.reportOf x).pot n)) ∧
    (∀ b ∈ N.branches, N.voltage x b.id = .ok ((N.reportOf x).v b.id) ∧
                        N.current x b.id = .ok ((N.reportOf x).i b.id)) ∧
    CircuitEqs N (N.reportOf x) :=
  have hh := (Net.check_ok_iff N).mp hc
  sound_all N x hh.2 hh.1 hx h

theorem C01_kcl_reference_selfloops (N : Net L K) (x : List K) (hc : N.check = .ok ())
    (hx : x.length = N.nodes.length + N.vsIds.length)
    (h : matVec N.mnaA x = N.mnaB) :
    kclResidual N (N.reportOf x) N.zero = 0 :=
  (C01_sound_selfloops N x hc hx h).2.2.kcl N.zero (zero_mem_allLabels N)

/-- **C01 (completeness, self-loops admitted).**  `C01_complete` with `N.check = ok` in place of `Net.WF`. -/
theorem C01_complete_selfloops (N : Net L K) (R : Report L K) (hc : N.check = .ok ())
    (hR : CircuitEqs N R) :
    matVec N.mnaA (N.pack R.toSol) = N.mnaB :=
  have hh := (Net.check_ok_iff N).mp hc
  complete_rows_all N R hh.2 hh.1 hR

/-- **C01 (the matrix equation of a well-posed network has at most one solution, self-loops admitted).** -/
theorem C01_matrix_unique_selfloops (N : Net L K) (hc : N.check = .ok ()) (hw : WellPosed N) (x y : List K)
    (hx : x.length = N.nodes.length + N.vsIds.length)
    (hy : y.length = N.nodes.length + N.vsIds.length)
    (h1 : matVec N.mnaA x = N.mnaB) (h2 : matVec N.mnaA y = N.mnaB) : x = y :=
  have hh := (Net.check_ok_iff N).mp hc
  matrix_unique_all N hh.2 hh.1 hw x y hx hy h1 h2

/-- **C01 (the reported quantities are *the* solution, self-loops admitted).** -/
theorem C01_reported_is_the_solution_selfloops (N : Net L K) (hc : N.check = .ok ()) (hw : WellPosed N)
    (x : List K) (hx : x.length = N.nodes.length + N.vsIds.length) (h : matVec N.mnaA x = N.mnaB)
    (R : Report L K) (hR : CircuitEqs N R) : (N.reportOf x).AgreeOn N R :=
  C01_unique N ((Net.check_ok_iff N).mp hc).2 hw _ _ (C01_sound_selfloops N x hc hx h).2.2 hR

/-- **C01 (non-singularity, kernel form, self-loops admitted).**  `C01_solvable` with `N.check = ok` in place of
`Net.WF`. -/
theorem C01_solvable_selfloops (N : Net L K) (hc : N.check = .ok ()) (hw : WellPosed N) (x : List K)
    (hx : x.length = N.nodes.length + N.vsIds.length)
    (h : matVec N.mnaA x = N.mnaB.map fun _ => (0 : K)) :
    x = List.replicate x.length (0 : K) :=
  have hh := (Net.check_ok_iff N).mp hc
  solvable_all N hh.2 hh.1 hw x hx h

/-- **C01 (existence, self-loops admitted).**  The matrix equation of an accepted, well-posed network
has a solution of the right length, and the report read from it solves the circuit equations. -/
theorem C01_exists_selfloops (N : Net L K) (hc : N.check = .ok ()) (hw : WellPosed N) :
    ∃ x : List K, x.length = N.nodes.length + N.vsIds.length ∧ matVec N.mnaA x = N.mnaB ∧
      CircuitEqs N (N.reportOf x) :=
  have hh := (Net.check_ok_iff N).mp hc
  exists_all N hh.2 hh.1 hw

/-- **C01 (a self-loop ideal voltage source).**  The one kind of self-loop that is not inert: the
circuit equations of a network with an ideal voltage source from a node to itself have a solution only
if its voltage is 0, and so has the matrix equation the code builds for an accepted network (its row
reads `0 = V`). -/
theorem C01_selfloop_voltage_source (N : Net L K) (b : Branch L K) (hb : b ∈ N.branches)
    (hv : b.e.isIdealVS = true) (hsl : b.n1 = b.n2) :
    (∀ R : Report L K, CircuitEqs N R → b.e.Vval = 0) ∧
    (∀ x : List K, N.check = .ok () → x.length = N.nodes.length + N.vsIds.length →
      matVec N.mnaA x = N.mnaB → b.e.Vval = 0) := by
  have key : ∀ R : Report L K, CircuitEqs N R → b.e.Vval = 0 := by
    intro R hR
    have h1 := hR.volt b hb
    have h2 := hR.law b hb
    unfold voltResidual at h1
    rw [hsl, sub_self, sub_zero] at h1
    have h3 := (physLaw_zero_iff _ _ _).mpr h2
    rw [Elem.physLaw_of_idealVS hv, h1, zero_sub, neg_eq_zero] at h3
    exact h3
  exact ⟨key, fun x hc hx h => key _ (C01_sound_selfloops N x hc hx h).2.2⟩

/-! ### non-vacuity: the corpus network with a self-loop resistor meets the hypotheses -/

example : exampleSelfLoop.check = .ok () ∧ (¬ ∀ b ∈ exampleSelfLoop.branches, b.n1 ≠ b.n2) ∧
    ∃ x : List ℚ, x.length = exampleSelfLoop.nodes.length + exampleSelfLoop.vsIds.length ∧
      matVec exampleSelfLoop.mnaA x = exampleSelfLoop.mnaB := by
  obtain ⟨hc, hsol, _, _, hm⟩ := C01_self_loop_witness
  refine ⟨hc, ?_, exampleSelfLoop.pack exampleSelfLoopReport.toSol,
    pack_length _ ((Net.check_ok_iff _).mp hc).2 _, hm⟩
  intro h
  exact h { n1 := "1", n2 := "1", id := "S", e := .norton 2 0 } (by decide +kernel) rfl

end CC
