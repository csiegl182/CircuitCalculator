/-
  C15 — save ∘ load of drawings whose elements carry extra, opaque keywords
  (schemdraw placement / styling parameters such as `d`, `l`, `at`, `label`, `color`: keys the
  symbol class does not read and the loader does not write).

  Model: `CC.Draw.saveLoad` / `cycles` (CC/Model/DrawIO.lean; mirrors SimpleCircuit/dump_load.py
  `dictify_element`, `serialize_schemdraw_element`, `undictify_element`, `dictify_all`,
  `undictify_schematic`) over the generated class / loader / constructor tables.
-/
import CC.Proofs.DrawExtras
import CC.Properties.C15
namespace CC
open CC.Draw

/-- **Keys** (decidable): the element's class is one of the persistable classes, and no extra
has a key that the class or its ancestors read (`usedKeys`) or that `undictify_element` writes
itself (`reservedKeys`: `name`, `reverse`, `deg`, `sin`, the value keys of the component
constructors — they come back from the circuit section —, the keys of `combine_to_complex`). -/
def C15_extrasOK (cls : String) (ex : List (String × Val)) : Bool :=
  decide (cls ∈ persistableClasses) &&
    match classInfo cls with
    | some c => keysOK c ex
    | none => false

/-- **Values** (decidable; needed only for "the extras come back verbatim", not for the
circuit): no extra is `None` or a number with an imaginary part — i.e. every value is a real
number, a boolean, a string, `inf` or a point.  Exactly the values `v` with
`v ≠ None ∧ serializeVal v = v` (`CC.Draw.valKept_iff`). -/
def C15_valuesKept (ex : List (String × Val)) : Bool := ex.all fun kv => valKept kv.2

/-- the drawing `d0` with the extras `exs` (one list per element) appended to the keywords -/
def C15_withExtras (d0 : List DElem) (exs : List (List (String × Val))) : List DElem :=
  List.zipWith (fun y ex => ⟨y.cls, y.kwargs ++ ex, y.start, y.stop⟩) d0 exs

theorem C15_canonical_persistable (e : DElem) (h : C15_Canonical e) : e.cls ∈ persistableClasses := by
  cases h <;> simp [persistableClasses]

theorem C15_withExtras_ext (d0 : List DElem) (exs : List (List (String × Val)))
    (hex : List.Forall₂ (fun y ex => C15_extrasOK y.cls ex = true) d0 exs) :
    All₃ ExtOf exs (C15_withExtras d0 exs) d0 := by
  induction hex with
  | nil => exact All₃.nil
  | @cons y ex ys exs hy _ ih =>
    refine All₃.cons ?_ ih
    unfold C15_extrasOK at hy
    obtain ⟨hp, hk⟩ := Bool.and_eq_true_iff.mp hy
    refine ⟨rfl, rfl, rfl, Merge.append _ _, of_decide_eq_true hp, ?_⟩
    intro c hc
    rw [hc] at hk
    exact (keysOK_iff c ex).mp hk

/-- **Save ∘ load with extras behaves like save ∘ load without** (any base drawing over the
persistable classes, any keyword layout of the base, any values of the extras): `saveLoad` of
the drawing with extras fails with the same error as `saveLoad` of the drawing without, or
both succeed; then each reloaded element has the class and anchors of the reloaded base element
and its keyword list is an interleaving (`Merge`) of the reloaded base keywords with the extras
after one cycle (`nextEx`: `None` entries dropped, complex values replaced by `None`, everything
else verbatim, in order).  The reloaded keyword lists are in general *not* `base ++ extras`
again (the loader appends the circuit values behind the extras), which is why the statement is
about interleavings. -/
theorem C15_saveLoad_extras (π : Rat) (ord : SetOrd Pt) (d0 : List DElem) (exs : List (List (String × Val)))
    (hex : List.Forall₂ (fun y ex => C15_extrasOK y.cls ex = true) d0 exs) :
    XRel (All₃ ExtOf (exs.map nextEx)) (saveLoad π ord (C15_withExtras d0 exs)) (saveLoad π ord d0) :=
  saveLoad_ext π ord (C15_withExtras_ext d0 exs hex)

/-- **Round trip of a drawing with extra keywords** (`C15_Canonical` layouts plus extras whose
keys satisfy `C15_extrasOK`; *any* values): if one save → load cycle of the drawing with extras
succeeds with `d'`, then the cycle of the drawing without extras succeeds with some `d0'`, and
(1) `d'` is `d0'` with the extras `nextEx ex` merged in (`ExtOf`), (2) the symbols of `d'` are
the symbols of `d0'` (`instantiate`: kinds, names, reversal flags, node ids, attribute values,
anchors), (3) `d'` translates to the circuit of the original drawing with extras, which is
(4) the circuit of the original drawing without.  Does not say the symbols of `d'` equal those of the
*original* drawing (`C15_roundtrip` does not either: e.g. a `deg` flag is cleared on load); names must be
unique in the base drawing (`NamesWF`). -/
theorem C15_roundtrip_extras (π : Rat) (ord : SetOrd Pt) (d0 : List DElem) (exs : List (List (String × Val)))
    (d' : List DElem) (hcan : ∀ e ∈ d0, C15_Canonical e) (hnames : NamesWF π d0)
    (hex : List.Forall₂ (fun y ex => C15_extrasOK y.cls ex = true) d0 exs)
    (h : saveLoad π ord (C15_withExtras d0 exs) = .ok d') :
    ∃ d0', saveLoad π ord d0 = .ok d0' ∧ All₃ ExtOf (exs.map nextEx) d' d0' ∧
      instantiate π d' = instantiate π d0' ∧
      circuitOf π ord d' = circuitOf π ord (C15_withExtras d0 exs) ∧
      circuitOf π ord d' = circuitOf π ord d0 := by
  have hext := C15_withExtras_ext d0 exs hex
  obtain ⟨d0', h0, hrel⟩ := (saveLoad_ext π ord hext).ok_left h
  have hc0 := C15_roundtrip π ord d0 d0' hcan hnames h0
  have hc : circuitOf π ord d' = circuitOf π ord d0 := (circuitOf_ext π ord hrel).trans hc0
  exact ⟨d0', h0, hrel, instantiate_ext π hrel, hc.trans (circuitOf_ext π ord hext).symm, hc⟩

/-- **The cycle with extras succeeds whenever the cycle without does** (converse direction of
the success claim in `C15_roundtrip_extras`). -/
theorem C15_saveLoad_extras_succeeds (π : Rat) (ord : SetOrd Pt) (d0 : List DElem) (exs : List (List (String × Val)))
    (d0' : List DElem) (hex : List.Forall₂ (fun y ex => C15_extrasOK y.cls ex = true) d0 exs)
    (h0 : saveLoad π ord d0 = .ok d0') :
    ∃ d', saveLoad π ord (C15_withExtras d0 exs) = .ok d' ∧ All₃ ExtOf (exs.map nextEx) d' d0' :=
  (C15_saveLoad_extras π ord d0 exs hex).ok_right h0

/-- **Extras with kept values come back verbatim**: if in addition no extra is `None` or complex
(`C15_valuesKept`), the reloaded drawing is the reloaded base with *the same* extras merged in
(same keys, same values, same relative order). -/
theorem C15_roundtrip_extras_verbatim (π : Rat) (ord : SetOrd Pt) (d0 : List DElem) (exs : List (List (String × Val)))
    (d' : List DElem) (hex : List.Forall₂ (fun y ex => C15_extrasOK y.cls ex = true) d0 exs)
    (hval : ∀ ex ∈ exs, C15_valuesKept ex = true)
    (h : saveLoad π ord (C15_withExtras d0 exs) = .ok d') :
    ∃ d0', saveLoad π ord d0 = .ok d0' ∧ All₃ ExtOf exs d' d0' := by
  obtain ⟨d0', h0, hrel⟩ := (C15_saveLoad_extras π ord d0 exs hex).ok_left h
  rw [map_eq_self fun ex hm => nextEx_self (List.all_eq_true.mp (hval ex hm))] at hrel
  exact ⟨d0', h0, hrel⟩

theorem C15_merge_mem {a ex l : List (String × Val)} (h : Merge a ex l) : ∀ kv ∈ ex, kv ∈ l := by
  induction h with
  | nil => intro kv hkv; cases hkv
  | left x _ ih => intro kv hkv; exact List.mem_cons_of_mem _ (ih kv hkv)
  | right x _ ih =>
    intro kv hkv
    rcases List.mem_cons.mp hkv with rfl | hkv
    · exact List.mem_cons_self
    · exact List.mem_cons_of_mem _ (ih kv hkv)

/-- **Any number of cycles, with extras**: if `n` save → load cycles of the drawing with extras
(`C15_Canonical` layouts plus extras with admissible keys, any values) succeed with `d'`, then
`n` cycles of the drawing without succeed with some `d0'`, `d'` is `d0'` with the extras after
`n` cycles merged in, the symbols of `d'` are those of `d0'`, and `d'` translates to the circuit
of the original drawing (with or without extras). -/
theorem C15_stable_extras (π : Rat) (ord : SetOrd Pt) (n : Nat) (d0 : List DElem) (exs : List (List (String × Val)))
    (d' : List DElem) (hcan : ∀ e ∈ d0, C15_Canonical e) (hnames : NamesWF π d0)
    (hex : List.Forall₂ (fun y ex => C15_extrasOK y.cls ex = true) d0 exs)
    (h : cycles π ord n (C15_withExtras d0 exs) = .ok d') :
    ∃ d0', cycles π ord n d0 = .ok d0' ∧ All₃ ExtOf (exs.map (nextExN n)) d' d0' ∧
      instantiate π d' = instantiate π d0' ∧
      circuitOf π ord d' = circuitOf π ord (C15_withExtras d0 exs) ∧
      circuitOf π ord d' = circuitOf π ord d0 := by
  have hext := C15_withExtras_ext d0 exs hex
  obtain ⟨d0', h0, hrel⟩ := (cycles_ext π ord n hext).ok_left h
  have hc0 := C15_stable π ord n d0 d0' hcan hnames h0
  have hc : circuitOf π ord d' = circuitOf π ord d0 := (circuitOf_ext π ord hrel).trans hc0
  exact ⟨d0', h0, hrel, instantiate_ext π hrel, hc.trans (circuitOf_ext π ord hext).symm, hc⟩

/-- **`n` cycles with extras succeed whenever `n` cycles without do**, and extras with kept
values are still there, verbatim, after `n` cycles. -/
theorem C15_stable_extras_verbatim (π : Rat) (ord : SetOrd Pt) (n : Nat) (d0 : List DElem) (exs : List (List (String × Val)))
    (d0' : List DElem) (hex : List.Forall₂ (fun y ex => C15_extrasOK y.cls ex = true) d0 exs)
    (hval : ∀ ex ∈ exs, C15_valuesKept ex = true) (h0 : cycles π ord n d0 = .ok d0') :
    ∃ d', cycles π ord n (C15_withExtras d0 exs) = .ok d' ∧ All₃ ExtOf exs d' d0' := by
  obtain ⟨d', h, hrel⟩ := (cycles_ext π ord n (C15_withExtras_ext d0 exs hex)).ok_right h0
  rw [map_eq_self fun ex hm => nextExN_self (List.all_eq_true.mp (hval ex hm)) n] at hrel
  exact ⟨d', h, hrel⟩

/-- a decidable check that implies `NamesWF` -/
def C15_namesCheck (π : Rat) (d : List DElem) : Bool :=
  d.all fun e₁ => d.all fun e₂ =>
    match e₁.toSym π, e₂.toSym π with
    | .ok s₁, .ok s₂ => decide (s₁.name ≠ s₂.name) || decide (e₁ = e₂) || (decide (e₁.cls = "Line") && decide (e₂.cls = "Line"))
    | _, _ => true

theorem C15_namesWF_of_check (π : Rat) (d : List DElem) (h : C15_namesCheck π d = true) : NamesWF π d := by
  intro e₁ h₁ e₂ h₂ s₁ s₂ hs₁ hs₂ hn
  unfold C15_namesCheck at h
  have := List.all_eq_true.mp (List.all_eq_true.mp h e₁ h₁) e₂ h₂
  simp only [hs₁, hs₂, hn, ne_eq, not_true_eq_false, decide_false, Bool.false_or, Bool.or_eq_true, Bool.and_eq_true,
    decide_eq_true_eq] at this
  exact this

/-- a 5 V source, a resistor, a ground — with the layouts of `C15_Canonical` -/
def C15_smallDrawing : List DElem :=
  [⟨"VoltageSource", [("V", .num 5), ("name", .str "V1"), ("reverse", .bool true)], ⟨0, 0⟩, ⟨0, 5⟩⟩,
   ⟨"Resistor", [("R", .num 10), ("name", .str "R1"), ("reverse", .bool false)], ⟨0, 5⟩, ⟨0, 0⟩⟩,
   ⟨"Ground", [("name", .str "0")], ⟨0, 0⟩, ⟨0, 0⟩⟩]

/-- placement / styling keywords as schemdraw users write them -/
def C15_smallExtras : List (List (String × Val)) :=
  [[("d", .str "up"), ("l", .num 5), ("label", .str "$U_q$")],
   [("d", .str "down"), ("at", .pt ⟨0, 5⟩), ("color", .str "red"), ("lw", .num 2), ("fill", .bool true)],
   []]

/-- non-vacuity of `C15_roundtrip_extras` / `C15_stable_extras` / the `_verbatim` theorems: the
small drawing meets every hypothesis, and one and three cycles of the drawing with extras succeed
and translate to the (successfully translated) original circuit -/
example :
    (∀ e ∈ C15_smallDrawing, C15_Canonical e) ∧ NamesWF C15_pi64 C15_smallDrawing ∧
    List.Forall₂ (fun y ex => C15_extrasOK y.cls ex = true) C15_smallDrawing C15_smallExtras ∧
    (∀ ex ∈ C15_smallExtras, C15_valuesKept ex = true) ∧
    (saveLoad C15_pi64 C15_listOrder (C15_withExtras C15_smallDrawing C15_smallExtras)).toOption.isSome = true ∧
    (do circuitOf C15_pi64 C15_listOrder (← cycles C15_pi64 C15_listOrder 3 (C15_withExtras C15_smallDrawing C15_smallExtras)))
      = circuitOf C15_pi64 C15_listOrder C15_smallDrawing ∧
    (circuitOf C15_pi64 C15_listOrder C15_smallDrawing).toOption.isSome = true := by
  refine ⟨?_, C15_namesWF_of_check _ _ (by decide +kernel), ?_, by decide +kernel, by decide +kernel, by decide +kernel,
    by decide +kernel⟩
  · intro e he
    simp only [C15_smallDrawing, List.mem_cons, List.not_mem_nil, or_false] at he
    rcases he with rfl | rfl | rfl
    · exact .vsrc 5 true "V1" _ _
    · exact .res 10 (by decide +kernel) (by decide +kernel) false "R1" _ _
    · exact .gnd "0" _ _
  · refine .cons (by decide +kernel) (.cons (by decide +kernel) (.cons (by decide +kernel) .nil))

/-- what the reloaded resistor looks like: the loader appends nothing here, the extras sit
between the base keywords — an interleaving, not `base ++ extras` in general (see the source,
whose circuit values `R`, `w`, `phi` and the cleared flags `deg`, `sin` land *behind* the extras) -/
example :
    (saveLoad C15_pi64 C15_listOrder (C15_withExtras C15_smallDrawing C15_smallExtras)).toOption.map
        (fun d => d.map (fun e => e.kwargs.map (·.1)))
      = some [["V", "name", "reverse", "d", "l", "label", "R", "w", "phi", "deg", "sin"],
              ["R", "name", "reverse", "d", "at", "color", "lw", "fill"], ["name", "reverse"]] := by
  decide +kernel

/-- **The value restriction of the `_verbatim` theorems cannot be dropped** (it is not needed
for the circuit): an extra with value `None` is gone after one cycle, a complex-valued extra is
`None` after one cycle and gone after two. -/
example :
    nextEx [("color", .none)] = [] ∧ nextEx [("z", .num ⟨0, 1⟩)] = [("z", .none)] ∧
    nextExN 2 [("z", .num ⟨0, 1⟩)] = [] ∧
    (saveLoad C15_pi64 C15_listOrder (C15_withExtras C15_smallDrawing [[("z", .num ⟨0, 1⟩)], [("color", .none)], []])).toOption.map
        (fun d => d.map (fun e => (e.kwargs.lookup "z", e.kwargs.lookup "color")))
      = some [(some .none, none), (none, none), (none, none)] ∧
    (cycles C15_pi64 C15_listOrder 2 (C15_withExtras C15_smallDrawing [[("z", .num ⟨0, 1⟩)], [("color", .none)], []])).toOption.map
        (fun d => d.map (fun e => (e.kwargs.lookup "z", e.kwargs.lookup "color")))
      = some [(none, none), (none, none), (none, none)] := by
  decide +kernel

/-- **`FixedAfter` fails for a complex-valued extra**: the reloaded element (extra stored as
`None`) is not a fixed point of the next cycle (the `None` is dropped) — so `ElemStable`, hence
`C15_roundtrip_element`, does not transfer to elements with arbitrary extras, although their
circuit is kept (`C15_roundtrip_extras`). -/
theorem C15_extras_not_fixed :
    ¬ FixedAfter C15_pi64
      ⟨"Resistor", [("R", .num 10), ("name", .str "R1"), ("reverse", .bool false), ("z", .num ⟨0, 1⟩)], ⟨0, 0⟩, ⟨0, 5⟩⟩ := by
  intro h
  have := h "a" "b" "a" "b"
  revert this
  decide +kernel

end CC
