/-
  C13 (tie to the source) — the parser of CC/Model/Draw.lean **is** SimpleCircuit/DiagramParser.py:
  every method of `SchematicDiagramParser`, translated statement by statement into
  CC/Gen/DrawParser.lean (combinators of CC/Model/PyLib.lean), equals the hand-written model
  function the C13 theorems are about — for all symbol lists and every set order `ord`.
  A change of a parser line changes the generated term and breaks one of these equalities.
  The theorem about method `m` is `C13_gen_m`, unless its docstring names the method.

  `ord.Valid` (the iteration orders are permutations) is needed only where a dictionary built by
  `update` in a loop is compared with the model's association list.
-/
import CC.Gen.DrawParser
import CC.Proofs.DrawTables
import CC.Proofs.DrawParser
namespace CC
open CC.Draw

namespace Draw.Py

/-- the `while str(node_index) in values: node_index += 1` loop is the model's `nextFree` -/
theorem whileFuel_nextFree (vals : List String) (fuel i : Nat) :
    whileFuel fuel (fun i => decide (toString i ∈ vals)) (fun i => i + 1) i = nextFree vals fuel i := by
  induction fuel generalizing i with
  | zero => rfl
  | succ n ih =>
    unfold whileFuel nextFree
    by_cases h : toString i ∈ vals
    · simp only [h, decide_true, if_true]; exact ih (i + 1)
    · have h' : ¬ i.repr ∈ vals := h
      simp [h']

/-- the `while len(S) > old_length` loop of the generated code, on the state `(S, old_length)` with
`old_length < |S|` at entry (so the first sweep is always made), is the model's `closureFuel` -/
theorem whileFuel_closure {P : Type} [DecidableEq P] (ws : List (P × P)) (n : Nat) (S : List P) (old : Nat)
    (h : old < S.length) :
    (whileFuel (n + 1) (fun st : List P × Nat => decide (st.1.length > st.2))
        (fun st => (sweep ws st.1, st.1.length)) (S, old)).1 = closureFuel (n + 1) ws S := by
  induction n generalizing S old with
  | zero =>
    unfold whileFuel
    simp only [h, gt_iff_lt, decide_true, if_true]
    unfold whileFuel closureFuel
    simp only
    split <;> rfl
  | succ n ih =>
    unfold whileFuel
    simp only [h, gt_iff_lt, decide_true, if_true]
    conv => rhs; unfold closureFuel
    simp only
    by_cases hlt : S.length < (sweep ws S).length
    · rw [if_pos hlt]; exact ih (sweep ws S) S.length hlt
    · rw [if_neg hlt]
      unfold whileFuel
      simp [hlt]

theorem foldl_remove {α : Type} [DecidableEq α] (I l : List α) :
    I.foldl (fun acc n => remove n acc) l = l.filter (· ∉ I) := by
  induction I generalizing l with
  | nil => simp
  | cons a I ih =>
    rw [List.foldl_cons, ih]
    unfold remove
    rw [List.filter_filter]
    apply List.filter_congr
    intro x _
    simp [List.mem_cons, Bool.and_comm]

theorem foldl_dictSet_map {α β : Type} [DecidableEq α] (f : α → β) (l : List α) (hnd : l.Nodup)
    (acc : List (α × β)) (hacc : ∀ a ∈ l, a ∉ acc.map Prod.fst) :
    l.foldl (fun d n => dictSet n (f n) d) acc = acc ++ l.map (fun n => (n, f n)) := by
  induction l generalizing acc with
  | nil => simp
  | cons a l ih =>
    have hset : ∀ (d : List (α × β)), a ∉ d.map Prod.fst → dictSet a (f a) d = d ++ [(a, f a)] := by
      intro d hd
      induction d with
      | nil => rfl
      | cons kv d ihd =>
        obtain ⟨k, v⟩ := kv
        have hk : k ≠ a := fun e => hd (by simp [e])
        unfold dictSet
        simp only [hk, if_false, List.cons_append]
        rw [ihd (fun h => hd (by simp [List.mem_map] at h ⊢; right; exact h))]
    rw [List.foldl_cons, hset acc (hacc a List.mem_cons_self)]
    have hnd' := List.nodup_cons.mp hnd
    rw [ih hnd'.2]
    · simp
    · intro b hb
      simp only [List.map_append, List.map_cons, List.map_nil, List.mem_append, List.mem_singleton, not_or]
      exact ⟨hacc b (List.mem_cons_of_mem _ hb), fun e => hnd'.1 (e ▸ hb)⟩

/-- the inner loop of `unique_nodes` -/
theorem forIn_remove_inter {α : Type} [DecidableEq α] (cls nodes : List α) :
    forIn (inter cls nodes) nodes (fun nodes n => remove n nodes) = nodes.filter (· ∉ cls) := by
  unfold forIn
  rw [foldl_remove]
  apply List.filter_congr
  intro x hx
  simp [inter, List.mem_filter, hx]

/-- the dictionary comprehension of `node_label_mapping` is the model's `namedLabels` -/
theorem dictCompM_getItem {ε : Type} (umap : List (Pt × Pt)) (xs : List ε) (k : ε → Pt) (v : ε → String) :
    dictCompM xs (fun e => do pure (← getItem umap (k e))) v = namedLabels umap (xs.map fun e => (k e, v e)) := by
  unfold dictCompM namedLabels
  rw [List.foldlM_map]
  congr 1
  funext d e
  unfold getItem
  cases h : umap.lookup (k e) <;>
    simp [h, bind, Except.bind, pure, Except.pure, throw, throwThe, MonadExceptOf.throw]

/-- the numbering loop of `node_label_mapping` is a fold of the model's `numberStep` -/
theorem forIn_numberStep (unl : List Pt) (st : List (Pt × String) × Nat) :
    forIn unl st (fun st p =>
      let node_index := whileFuel ((st.1.map Prod.snd).length + 1)
        (fun i => decide (toString i ∈ st.1.map Prod.snd)) (fun i => i + 1) st.2
      (dictSet p (toString node_index) st.1, node_index)) = unl.foldl numberStep st := by
  unfold forIn
  congr 1
  funext st p
  simp only [whileFuel_nextFree]
  rfl

end Draw.Py

open Draw.Py

/-- `all_elements`, `circuit_elements`, `line_elements`, `node_elements` -/
theorem C13_gen_elements (syms : List Sym) :
    GenParser.allElements syms = syms ∧
    GenParser.circuitElements syms = syms.filter (·.hasName) ∧
    GenParser.lineElements syms = syms.filter (·.isLine) ∧
    GenParser.nodeElements syms = syms.filter (·.isNode) := by
  refine ⟨rfl, ?_, ?_, ?_⟩
  · unfold GenParser.circuitElements; congr 1; funext e; simp
  · unfold GenParser.lineElements; congr 1
  · unfold GenParser.nodeElements; congr 1; funext e; simp [Sym.isNode]

theorem C13_gen_all_nodes (syms : List Sym) : GenParser.allNodes syms = allNodes syms := by
  obtain ⟨_, hc, hl, _⟩ := C13_gen_elements syms
  unfold GenParser.allNodes allNodes
  simp only [hc, hl, Py.setOf, Py.unionList, toSet, List.foldl_append]
  rfl

/-- the `for line in self.line_elements` body of `_get_equal_electrical_potential_nodes` is one
`sweep` of the model -/
theorem C13_gen_sweep (syms : List Sym) (S : List Pt) :
    Py.forIn (GenParser.lineElements syms) S (fun S line =>
        let n1 := Py.node0 line
        let n2 := Py.node1 line
        if n1 ∈ S then Py.add n2 S else if n2 ∈ S then Py.add n1 S else S)
      = sweep (wiresOf syms) S := by
  rw [(C13_gen_elements syms).2.2.1]
  unfold Py.forIn sweep wiresOf
  rw [List.foldl_map]
  rfl

/-- `_get_equal_electrical_potential_nodes(node)` -/
theorem C13_gen_equal_potential (syms : List Sym) (node : Pt) :
    GenParser.equalPotential syms node = eqp (wiresOf syms) node := by
  unfold GenParser.equalPotential eqp closureBound
  simp only [C13_gen_sweep]
  exact whileFuel_closure (wiresOf syms) (2 * (wiresOf syms).length) [node] 0 (by simp)

theorem C13_gen_unique_nodes (ord : SetOrd Pt) (syms : List Sym) :
    GenParser.uniqueNodes ord syms = uniqueNodes (wiresOf syms) ord (allNodes syms) := by
  unfold GenParser.uniqueNodes uniqueNodes
  simp only [C13_gen_all_nodes, C13_gen_equal_potential, forIn_remove_inter]
  rfl

theorem C13_gen_unique_node_mapping (ord : SetOrd Pt) (hord : ord.Valid) (syms : List Sym) :
    GenParser.uniqueNodeMapping ord syms = uniqueNodeMapping (wiresOf syms) ord (allNodes syms) := by
  unfold GenParser.uniqueNodeMapping uniqueNodeMapping Py.forIn
  simp only [C13_gen_all_nodes, C13_gen_unique_nodes, C13_gen_equal_potential]
  have hnd : (ord.all (allNodes syms)).Nodup := ((hord (allNodes syms)).1.nodup_iff).mpr (nodup_allNodes syms)
  have hbody : (fun (d : List (Pt × Pt)) (n : Pt) =>
      if (Py.inter (uniqueNodes (wiresOf syms) ord (allNodes syms)) (Py.remove n (eqp (wiresOf syms) n))).length > 0 then
        dictSet n (Py.popD (Py.inter (uniqueNodes (wiresOf syms) ord (allNodes syms)) (Py.remove n (eqp (wiresOf syms) n)))) d
      else dictSet n n d)
      = fun d n => dictSet n (urep (wiresOf syms) (uniqueNodes (wiresOf syms) ord (allNodes syms)) n) d := by
    funext d n
    unfold urep Py.inter Py.remove Py.popD
    simp only
    cases hc : List.filter (fun x => decide (x ∈ List.filter (fun x => decide (x ≠ n)) (eqp (wiresOf syms) n)))
        (uniqueNodes (wiresOf syms) ord (allNodes syms)) with
    | nil => simp
    | cons u rest => simp
  rw [hbody, foldl_dictSet_map _ _ hnd [] (by simp)]
  simp

theorem C13_gen_node_label_mapping (ord : SetOrd Pt) (hord : ord.Valid) (syms : List Sym) :
    GenParser.nodeLabelMapping ord syms =
      nodeLabelMapping (wiresOf syms) ord (allNodes syms) (nodeSymsOf syms) := by
  unfold GenParser.nodeLabelMapping nodeLabelMapping
  rw [C13_gen_unique_node_mapping ord hord, C13_gen_unique_nodes, (C13_gen_elements syms).2.2.2,
    dictCompM_getItem _ (syms.filter (·.isNode)) Py.node0 (·.nodeId)]
  show (namedLabels _ (nodeSymsOf syms) >>= _) = (namedLabels _ (nodeSymsOf syms) >>= _)
  congr 1
  funext named
  have hfilter : ∀ l : List Pt, l.filter (fun p => decide (p ∉ named.map Prod.fst)) =
      l.filter fun p => (named.lookup p).isNone := fun l =>
    List.filter_congr fun p _ => by rw [Bool.eq_iff_iff, decide_eq_true_iff, mem_keys_iff_lookup_isSome, Option.not_isSome_iff_eq_none,
        Option.isNone_iff_eq_none]
  show (Except.ok _ : Except Err (List (Pt × String))) = Except.ok _
  rw [hfilter]
  exact congrArg (fun x => Except.ok x.1) (forIn_numberStep _ _)

theorem C13_gen_get_node_index (ord : SetOrd Pt) (hord : ord.Valid) (syms : List Sym) (node : Pt) :
    GenParser.getNodeIndex ord syms node = labelOf ord syms node := by
  unfold GenParser.getNodeIndex labelOf getNodeIndex lookupLabel
  rw [C13_gen_node_label_mapping ord hord, C13_gen_unique_node_mapping ord hord]
  cases nodeLabelMapping (wiresOf syms) ord (allNodes syms) (nodeSymsOf syms) with
  | error e => rfl
  | ok labels =>
    simp only [bind, Except.bind, Py.getItem]
    cases (uniqueNodeMapping (wiresOf syms) ord (allNodes syms)).lookup node with
    | none => rfl
    | some r =>
      simp only [pure, Except.pure]
      cases labels.lookup r <;> rfl

theorem C13_gen_ground (ord : SetOrd Pt) (syms : List Sym) :
    GenParser.ground ord syms = groundPoint (wiresOf syms) ord (allNodes syms) (groundSymsOf syms) := by
  unfold GenParser.ground groundPoint groundSymsOf
  simp only [C13_gen_unique_nodes, (C13_gen_elements syms).2.2.2]
  have hg : (syms.filter (·.isNode)).filter (fun n => decide (isA n.cls "Ground" = true))
      = (syms.filter (·.isNode)).filter (·.isGround) := by
    congr 1; funext e; simp [Sym.isGround]
  rw [hg]
  cases hgs : (syms.filter (·.isNode)).filter (·.isGround) with
  | nil =>
    simp only [List.length_nil, List.map_nil]
    cases ord.uniq (uniqueNodes (wiresOf syms) ord (allNodes syms)) <;> rfl
  | cons g rest =>
    cases rest with
    | nil => rfl
    | cons g' rest' => simp [List.length_cons]

theorem C13_gen_ground_label (ord : SetOrd Pt) (hord : ord.Valid) (syms : List Sym) :
    GenParser.groundLabel ord syms = groundLabel ord syms := by
  unfold GenParser.groundLabel groundLabel
  rw [C13_gen_ground]
  cases groundPoint (wiresOf syms) ord (allNodes syms) (groundSymsOf syms) with
  | error e => rfl
  | ok g => simp only [bind, Except.bind]; rw [C13_gen_get_node_index ord hord]

theorem C13_gen_get_element (syms : List Sym) (name : String) :
    GenParser.getElement syms name = getElement syms name := by
  unfold GenParser.getElement getElement
  rw [(C13_gen_elements syms).2.1]
  cases (syms.filter (·.hasName)).filter (fun e => decide (e.name = name)) with
  | nil => rfl
  | cons e rest => simp [Py.index0]

end CC
