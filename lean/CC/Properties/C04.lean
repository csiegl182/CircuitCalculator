/-
  Property C04 — linearity and superposition of sources.

  Stated at the level of the Spec (CC/Spec/Circuit.lean): a *skeleton* `bs` fixes topology,
  identifiers and immittances; `withSrc bs s` gives every branch `b` the source value
  `s b.id`.  The library's own source-zeroing operations return networks with the solutions
  of such a skeleton (same identifiers, terminals, order and immittance, source value 0,
  exempted elements untouched: `C16_zero_voltage_spec`, `C16_zero_current_spec`; the record
  class of a zeroed source may change, which CC/Properties/C04Zeroing.lean shows to be
  invisible).  All theorems: any skeleton, any field, any number of sources.
-/
import CC.Proofs.Linear
import CC.Properties.C01
set_option linter.unusedSectionVars false

namespace CC
variable {L K : Type} [DecidableEq L] [Field K] [DecidableEq K]

/-- **C04 (linearity).**  If `R1` solves the skeleton with sources `s1` and `R2` with
sources `s2`, then the skeleton with sources `a·s1 + c·s2` has a solution whose potentials
and voltages are `a·R1 + c·R2` and whose *physical* (first→second) branch currents are the
same combination of the physical currents. -/
theorem C04_linear (bs : List (Branch L K)) (z : L) (hids : (bs.map (·.id)).Nodup) (a c : K)
    (s1 s2 : String → K) (R1 R2 : Report L K)
    (h1 : CircuitEqsAll (withSrc bs s1) z R1) (h2 : CircuitEqsAll (withSrc bs s2) z R2) :
    ∃ R : Report L K,
      CircuitEqsAll (withSrc bs fun id => a * s1 id + c * s2 id) z R ∧
      (∀ n, R.pot n = a * R1.pot n + c * R2.pot n) ∧
      (∀ id, R.v id = a * R1.v id + c * R2.v id) ∧
      (∀ b ∈ bs, (b.e.setSrc (a * s1 b.id + c * s2 b.id)).physCurrent (R.i b.id)
          = a * (b.e.setSrc (s1 b.id)).physCurrent (R1.i b.id)
            + c * (b.e.setSrc (s2 b.id)).physCurrent (R2.i b.id)) := by
  -- the reported current of `id` is read back from the combined physical current of its branch
  let R : Report L K := ⟨fun n => a * R1.pot n + c * R2.pot n, fun id => a * R1.v id + c * R2.v id,
    fun id => match findId bs id with
      | some b => (b.e.setSrc (a * s1 id + c * s2 id)).physCurrent
          (a * (b.e.setSrc (s1 id)).physCurrent (R1.i id) + c * (b.e.setSrc (s2 id)).physCurrent (R2.i id))
      | none => 0⟩
  have hi : ∀ b ∈ bs, (b.e.setSrc (a * s1 b.id + c * s2 b.id)).physCurrent (R.i b.id)
      = a * (b.e.setSrc (s1 b.id)).physCurrent (R1.i b.id) + c * (b.e.setSrc (s2 b.id)).physCurrent (R2.i b.id) :=
    fun b hb => by simp only [R, findId_of_mem hids hb, physCurrent_invol]
  exact ⟨R, CircuitEqsAll.comb h1 h2 (fun e1 e2 => by simp only [R, e1, e2, mul_zero, add_zero]) fun b hb =>
    .of_lin ⟨rfl, rfl⟩ ⟨rfl, rfl⟩ (fun _ => rfl) rfl (hi b hb) (physLaw_setSrc_lin b.e a c _ _),
    fun _ => rfl, fun _ => rfl, hi⟩

/-- **C04 (superposition).**  The response to the sum of two source assignments is the sum
of the responses: potentials and voltages always; the *reported* current of every branch
that is not a linear (lossy) source in any of the three networks.  (For a lossy source the
reported current changes its reference direction when the source is zeroed — generator
direction when active, passive direction when deactivated — so only its physical current
superposes; see `C04_linear`.) -/
theorem C04_superpose (bs : List (Branch L K)) (z : L) (hids : (bs.map (·.id)).Nodup)
    (s1 s2 : String → K) (R1 R2 : Report L K)
    (h1 : CircuitEqsAll (withSrc bs s1) z R1) (h2 : CircuitEqsAll (withSrc bs s2) z R2) :
    ∃ R : Report L K,
      CircuitEqsAll (withSrc bs fun id => s1 id + s2 id) z R ∧
      (∀ n, R.pot n = R1.pot n + R2.pot n) ∧
      (∀ id, R.v id = R1.v id + R2.v id) ∧
      (∀ b ∈ bs, (b.e.setSrc (s1 b.id + s2 b.id)).isLossy = false →
          (b.e.setSrc (s1 b.id)).isLossy = false → (b.e.setSrc (s2 b.id)).isLossy = false →
          R.i b.id = R1.i b.id + R2.i b.id) := by
  obtain ⟨R, hR, hp, hv, hi⟩ := C04_linear bs z hids 1 1 s1 s2 R1 R2 h1 h2
  simp only [one_mul] at hR hp hv hi
  refine ⟨R, hR, hp, hv, ?_⟩
  intro b hb l3 l1 l2
  have := hi b hb
  rwa [physCurrent_notLossy l3, physCurrent_notLossy l1, physCurrent_notLossy l2] at this

theorem setSrc_mul_isLossy (e : Elem K) (a s : K) (ha : a ≠ 0) :
    (e.setSrc (a * s)).isLossy = (e.setSrc s).isLossy := by
  rw [isLossy_setSrc, isLossy_setSrc, decide_eq_decide.mpr (not_congr (mul_eq_zero_iff_left ha))]

/-- **C04 (scaling).**  Scaling every source by `a ≠ 0` scales every potential, voltage and
reported current by `a`. -/
theorem C04_scale (bs : List (Branch L K)) (z : L) (hids : (bs.map (·.id)).Nodup) (a : K) (ha : a ≠ 0)
    (s : String → K) (R1 : Report L K) (h1 : CircuitEqsAll (withSrc bs s) z R1) :
    ∃ R : Report L K,
      CircuitEqsAll (withSrc bs fun id => a * s id) z R ∧
      (∀ n, R.pot n = a * R1.pot n) ∧ (∀ id, R.v id = a * R1.v id) ∧
      (∀ b ∈ bs, R.i b.id = a * R1.i b.id) := by
  obtain ⟨R, hR, hp, hv, hi⟩ := C04_linear bs z hids a 0 s s R1 R1 h1 h1
  simp only [zero_mul, add_zero] at hR hp hv hi
  refine ⟨R, hR, hp, hv, fun b hb => ?_⟩
  have := hi b hb
  unfold Elem.physCurrent at this
  rw [setSrc_mul_isLossy _ _ _ ha] at this
  split at this
  · linear_combination -this
  · exact this

theorem C04_scale_power (conj : K →+* K) (a v i : K) :
    (a * v) * conj (a * i) = (a * conj a) * (v * conj i) := by
  rw [map_mul]; ring

/-- **C04 (all sources deactivated).**  A network whose sources are all zero has the zero solution. -/
theorem C04_zero_all (bs : List (Branch L K)) (z : L) :
    CircuitEqsAll (withSrc bs fun _ => 0) z (Report.zeroRep : Report L K) := by
  simpa only [withSrc, ← zeroSources_eq_setSrc] using circuitEqsAll_zero bs z

end CC

namespace CC
variable {L K : Type} [DecidableEq L] [LabelOrd L] [Field K] [DecidableEq K]

/-- **C04 (linearity, any number of source assignments).**  Over a skeleton `bs` with distinct identifiers: if
for every `p` of a finite list the report `rep p` solves the skeleton with the source assignment `s p`, then
the skeleton with the SUM of the assignments has a solution whose potentials and voltages are the sums of
those of the parts and whose physical (first→second) branch currents are the sums of the physical currents.
(`C04_linear` is the induction step; the empty list gives the zero solution.) -/
theorem C04_linear_list {α : Type} (bs : List (Branch L K)) (z : L) (hids : (bs.map (·.id)).Nodup)
    (ps : List α) (s : α → String → K) (rep : α → Report L K)
    (h : ∀ p ∈ ps, CircuitEqsAll (withSrc bs (s p)) z (rep p)) :
    ∃ R : Report L K,
      CircuitEqsAll (withSrc bs fun id => (ps.map fun p => s p id).sum) z R ∧
      (∀ n, R.pot n = (ps.map fun p => (rep p).pot n).sum) ∧
      (∀ id, R.v id = (ps.map fun p => (rep p).v id).sum) ∧
      (∀ b ∈ bs, (b.e.setSrc ((ps.map fun p => s p b.id).sum)).physCurrent (R.i b.id)
          = (ps.map fun p => (b.e.setSrc (s p b.id)).physCurrent ((rep p).i b.id)).sum) := by
  induction ps with
  | nil =>
    refine ⟨Report.zeroRep, C04_zero_all bs z, fun n => rfl, fun id => rfl, fun b _ => ?_⟩
    exact physCurrent_zero _
  | cons p ps ih =>
    obtain ⟨R', hR', hp', hv', hi'⟩ := ih (fun q hq => h q (List.mem_cons_of_mem _ hq))
    obtain ⟨R, hR, hp, hv, hi⟩ := C04_linear bs z hids 1 1 (s p) _ (rep p) R' (h p List.mem_cons_self) hR'
    simp only [one_mul] at hR hp hv hi
    refine ⟨R, ?_, fun n => ?_, fun id => ?_, fun b hb => ?_⟩
    · simpa only [List.map_cons, List.sum_cons] using hR
    · rw [hp, hp', List.map_cons, List.sum_cons]
    · rw [hv, hv', List.map_cons, List.sum_cons]
    · have := hi b hb
      rw [hi' b hb] at this
      simpa only [List.map_cons, List.sum_cons] using this

/-- `C04_linear` gives one solution of the sum network that is the sum of the parts, `C01_unique` says it is the
only one -/
theorem superpose_unique (bs : List (Branch L K)) (z : L) (s1 s2 : String → K)
    (hids : (⟨withSrc bs fun id => s1 id + s2 id, z⟩ : Net L K).ids.Nodup)
    (hw : WellPosed (⟨withSrc bs fun id => s1 id + s2 id, z⟩ : Net L K)) (R1 R2 R : Report L K)
    (h1 : CircuitEqs (⟨withSrc bs s1, z⟩ : Net L K) R1) (h2 : CircuitEqs (⟨withSrc bs s2, z⟩ : Net L K) R2)
    (h : CircuitEqs (⟨withSrc bs fun id => s1 id + s2 id, z⟩ : Net L K) R) :
    (∀ n ∈ (⟨withSrc bs fun id => s1 id + s2 id, z⟩ : Net L K).allLabels, R.pot n = R1.pot n + R2.pot n) ∧
    ∀ b ∈ bs, R.v b.id = R1.v b.id + R2.v b.id ∧
      (b.e.setSrc (s1 b.id + s2 b.id)).physCurrent (R.i b.id)
        = (b.e.setSrc (s1 b.id)).physCurrent (R1.i b.id) + (b.e.setSrc (s2 b.id)).physCurrent (R2.i b.id) := by
  obtain ⟨S, hS, hp, hv, hi⟩ := C04_linear bs z (withSrc_ids bs (fun id => s1 id + s2 id) ▸ hids) 1 1 s1 s2 R1 R2
    ((circuitEqsAll_iff _ _).mpr h1) ((circuitEqsAll_iff _ _).mpr h2)
  simp only [one_mul] at hS hp hv hi
  obtain ⟨ap, ab⟩ := C01_unique _ hids hw R S h ((circuitEqsAll_iff _ S).mp hS)
  refine ⟨fun n hn => by rw [ap n hn, hp], fun b hb => ?_⟩
  obtain ⟨ev, ei⟩ := ab _ (mem_withSrc (fun id => s1 id + s2 id) hb)
  exact ⟨ev.trans (hv _), by rw [← hi b hb]; exact congrArg _ ei⟩

/-- **C04 (reported values).**  For a skeleton `bs` with reference `z`: whatever vectors
satisfy the three matrix equations the code builds for the source assignments `s1`, `s2`
and `s1 + s2` (the last network well-posed), the potentials and voltages the accessors
report for the sum are the sums of those reported for the parts — on every node label and
every branch. -/
theorem C04_reported_superpose (bs : List (Branch L K)) (z : L) (s1 s2 : String → K)
    (wf1 : (⟨withSrc bs s1, z⟩ : Net L K).WF) (wf2 : (⟨withSrc bs s2, z⟩ : Net L K).WF)
    (wf : (⟨withSrc bs fun id => s1 id + s2 id, z⟩ : Net L K).WF)
    (hw : WellPosed (⟨withSrc bs fun id => s1 id + s2 id, z⟩ : Net L K))
    (x1 x2 x : List K)
    (hx1 : x1.length = (⟨withSrc bs s1, z⟩ : Net L K).nodes.length + (⟨withSrc bs s1, z⟩ : Net L K).vsIds.length)
    (hx2 : x2.length = (⟨withSrc bs s2, z⟩ : Net L K).nodes.length + (⟨withSrc bs s2, z⟩ : Net L K).vsIds.length)
    (hx : x.length = (⟨withSrc bs fun id => s1 id + s2 id, z⟩ : Net L K).nodes.length
        + (⟨withSrc bs fun id => s1 id + s2 id, z⟩ : Net L K).vsIds.length)
    (h1 : matVec (⟨withSrc bs s1, z⟩ : Net L K).mnaA x1 = (⟨withSrc bs s1, z⟩ : Net L K).mnaB)
    (h2 : matVec (⟨withSrc bs s2, z⟩ : Net L K).mnaA x2 = (⟨withSrc bs s2, z⟩ : Net L K).mnaB)
    (h : matVec (⟨withSrc bs fun id => s1 id + s2 id, z⟩ : Net L K).mnaA x
        = (⟨withSrc bs fun id => s1 id + s2 id, z⟩ : Net L K).mnaB) :
    let N : Net L K := ⟨withSrc bs fun id => s1 id + s2 id, z⟩
    let R := N.reportOf x
    let R1 := (⟨withSrc bs s1, z⟩ : Net L K).reportOf x1
    let R2 := (⟨withSrc bs s2, z⟩ : Net L K).reportOf x2
    (∀ n ∈ N.allLabels, R.pot n = R1.pot n + R2.pot n) ∧
    (∀ b ∈ N.branches, R.v b.id = R1.v b.id + R2.v b.id) := by
  intro N R R1 R2
  obtain ⟨hp, hb⟩ := superpose_unique bs z s1 s2 wf.ids_nodup hw R1 R2 R (C01_sound _ x1 wf1 hx1 h1).2.2
    (C01_sound _ x2 wf2 hx2 h2).2.2 (C01_sound _ x wf hx h).2.2
  refine ⟨hp, fun b hb' => ?_⟩
  obtain ⟨b0, hb0, rfl⟩ := List.mem_map.mp hb'
  exact (hb b0 hb0).1

end CC
