/-
  Property C04 — superposition over the library's own zeroing operations.

  `CC/Properties/C04.lean` / `C04More.lean` speak about a skeleton `withSrc bs s` (topology, identifiers and
  immittances fixed, the source value of branch `b` is `s b.id`).  The library deactivates sources with
  `short_circuitify_voltage_sources` / `open_circuitify_current_sources` (model: `shortCircuitifyVS`,
  `openCircuitifyCS` of CC/Model/Transform.lean), which CHANGE THE RECORD CLASS: a zeroed voltage source becomes
  `impedance(name, Z)` = `.norton Zfin 0` — also when the source was a Thevenin record (`is_voltage_source` is
  `|V| > 0`, true of a linear current source with `V = I/Y`) — and a zeroed current source becomes
  `admittance(name, Y)` = `.thevenin Yfin 0`.  The change of record class is electrically invisible
  (`Branch.ElecEq`: same terminals, identifier, zero set of the law, reference direction of the current), so the
  returned network has exactly the solutions of the skeleton with the selected source values set to 0, and
  superposition over the returned networks follows from linearity over the skeleton.  A zeroed source is never a
  linear (lossy) source: its current is reported first→second, that of the active lossy source in generator
  direction — the direction flip behind the open finding C04, stated exactly in `C04_zeroing_superpose`.
-/
import CC.Properties.C04More
import CC.Properties.C16Compose
import CC.Proofs.ExceptLemmas
set_option linter.unusedSectionVars false

namespace CC
variable {L K : Type} [DecidableEq L] [LabelOrd L] [Field K] [DecidableEq K]

/-- `c` is electrically the same branch as `b`: same terminals (same orientation), same identifier, the same
set of (voltage, reported current) pairs allowed by the element law, the same reference direction of the
reported current.  The type string and the record class may differ. -/
structure Branch.ElecEq (b c : Branch L K) : Prop where
  n1 : c.n1 = b.n1
  n2 : c.n2 = b.n2
  id : c.id = b.id
  lossy : c.e.isLossy = b.e.isLossy
  law : ∀ v i : K, c.e.lawResidual v i = 0 ↔ b.e.lawResidual v i = 0

theorem Branch.ElecEq.rfl' (b : Branch L K) : Branch.ElecEq b b := ⟨rfl, rfl, rfl, rfl, fun _ _ => Iff.rfl⟩

theorem Branch.ElecEq.symm {b c : Branch L K} (h : Branch.ElecEq b c) : Branch.ElecEq c b :=
  ⟨h.n1.symm, h.n2.symm, h.id.symm, h.lossy.symm, fun v i => (h.law v i).symm⟩

theorem Branch.ElecEq.trans {a b c : Branch L K} (h1 : Branch.ElecEq a b) (h2 : Branch.ElecEq b c) :
    Branch.ElecEq a c :=
  ⟨h2.n1.trans h1.n1, h2.n2.trans h1.n2, h2.id.trans h1.id, h2.lossy.trans h1.lossy,
    fun v i => (h2.law v i).trans (h1.law v i)⟩

theorem Branch.ElecEq.carries {b c : Branch L K} (e : Branch.ElecEq b c) (R : Report L K) :
    Branch.Combines 1 0 R R R b b c :=
  .of_carries (fun h => by simpa only [voltResidual, e.n1, e.n2, e.id] using h)
    (fun h => by rw [e.id]; exact (e.law _ _).mpr h)
    fun n => by simp only [incidence, Elem.physCurrent, e.n1, e.n2, e.id, e.lossy]

theorem circuitEqsAll_map_elecEq_mp {α : Type} (bs : List α) (f g : α → Branch L K)
    (hf : ∀ b ∈ bs, Branch.ElecEq (g b) (f b)) (z : L) (R : Report L K)
    (h : CircuitEqsAll (bs.map g) z R) : CircuitEqsAll (bs.map f) z R :=
  h.map id fun b hb => (hf b hb).carries R

theorem circuitEqsAll_map_elecEq {α : Type} (bs : List α) (f g : α → Branch L K)
    (hf : ∀ b ∈ bs, Branch.ElecEq (g b) (f b)) (z : L) (R : Report L K) :
    CircuitEqsAll (bs.map f) z R ↔ CircuitEqsAll (bs.map g) z R :=
  ⟨circuitEqsAll_map_elecEq_mp bs g f (fun b hb => (hf b hb).symm) z R,
   circuitEqsAll_map_elecEq_mp bs f g hf z R⟩

def Elem.src : Elem K → K
  | .norton _ V => V
  | .thevenin _ I => I

theorem Elem.setSrc_src (e : Elem K) : e.setSrc e.src = e := by cases e <;> rfl

/-- zeroing in skeleton form (the vocabulary of `C04_superpose`): only the source value changes -/
def zeroWhere (p : Branch L K → Bool) (b : Branch L K) : Branch L K :=
  if p b then { b with e := b.e.setSrc 0 } else b

def srcWhere (bs : List (Branch L K)) (p : Branch L K → Bool) (id : String) : K :=
  match findId bs id with
  | some b => if p b then 0 else b.e.src
  | none => 0

/-- which branches `short_circuitify_voltage_sources(·, keep)` deactivates -/
def selVS (keep : List (ElemKey K)) (b : Branch L K) : Bool := !(keep.contains b.key) && b.e.isVSrc
/-- which branches `open_circuitify_current_sources(·, keep)` deactivates -/
def selCS (keep : List (ElemKey K)) (b : Branch L K) : Bool := !(keep.contains b.key) && b.e.isCS
/-- which branches the two operations together deactivate: every active source that is not exempted -/
def selSrc (keep : List (ElemKey K)) (b : Branch L K) : Bool := !(keep.contains b.key) && b.e.isActive

theorem srcWhere_of_mem {bs : List (Branch L K)} (hids : (bs.map (·.id)).Nodup) (p : Branch L K → Bool)
    {b : Branch L K} (hb : b ∈ bs) : srcWhere bs p b.id = if p b then 0 else b.e.src := by
  rw [srcWhere, findId_of_mem hids hb]

/-- **C04 (the zeroed skeleton is a `withSrc`).**  For distinct identifiers the branch list with the selected
source values set to zero is the skeleton `withSrc bs (srcWhere bs p)` of `C04_linear` / `C04_superpose`. -/
theorem C04_zeroing_is_withSrc (bs : List (Branch L K)) (hids : (bs.map (·.id)).Nodup) (p : Branch L K → Bool) :
    bs.map (zeroWhere p) = withSrc bs (srcWhere bs p) := by
  unfold withSrc
  apply List.map_congr_left
  intro b hb
  rw [srcWhere_of_mem hids p hb, zeroWhere]
  by_cases hp : p b = true
  · rw [if_pos hp, if_pos hp]
  · rw [if_neg hp, if_neg hp, Elem.setSrc_src]

theorem Elem.law_norton_iff_thevenin {Z : K} (hZ : Z ≠ 0) (v i : K) :
    (Elem.norton Z 0).lawResidual v i = 0 ↔ (Elem.thevenin (1 / Z) 0).lawResidual v i = 0 := by
  rw [law_norton_zero, law_thevenin_zero]
  constructor
  · intro hh; rw [hh, ← mul_assoc, one_div_mul_cancel hZ, one_mul]
  · intro hh; rw [hh, ← mul_assoc, mul_one_div_cancel hZ, one_mul]

/-- `impedance(name, element.Z)` of a voltage source has the element law of the same record with `V = 0`
(for a Thevenin record `Y, I` with `Y ≠ 0`: `v = (1/Y)·i ↔ i = Y·v`) -/
theorem Elem.zeroInVoltage_law (e : Elem K) (h : e.isVSrc = true) (v i : K) :
    (Elem.norton e.Zfin 0).lawResidual v i = 0 ↔ (e.setSrc 0).lawResidual v i = 0 := by
  rw [law_norton_zero, ← zeroSources_eq_setSrc, law_zs_Zfin e]
  cases e with
  | norton Z V => rfl
  | thevenin Y I => exact decide_eq_false fun hY => by simp [Elem.isVSrc, Elem.Vval, hY] at h

/-- `admittance(name, element.Y)` of a current source has the element law of the same record with `I = 0`
(for a Norton record `Z, V` with `Z ≠ 0`: `i = (1/Z)·v ↔ v = Z·i`) -/
theorem Elem.zeroInCurrent_law (e : Elem K) (h : e.isCS = true) (v i : K) :
    (Elem.thevenin e.Yfin 0).lawResidual v i = 0 ↔ (e.setSrc 0).lawResidual v i = 0 := by
  cases e with
  | thevenin Y I => exact Iff.rfl
  | norton Z V =>
    have hZ : Z ≠ 0 := by
      intro hZ; simp [Elem.isCS, Elem.Ival, hZ] at h
    simp only [Elem.Yfin, Elem.setSrc, hZ, if_false]
    exact (Elem.law_norton_iff_thevenin hZ v i).symm

theorem Elem.src_of_inactive (e : Elem K) (h : e.isActive = false) : e.src = 0 := by
  cases e with
  | norton Z V =>
    simp only [Elem.isActive, Bool.or_eq_false_iff, Elem.isVSrc, Elem.Vval] at h
    exact not_not.mp (of_decide_eq_false h.1)
  | thevenin Y I =>
    simp only [Elem.isActive, Bool.or_eq_false_iff, Elem.isCS, Elem.Ival] at h
    exact not_not.mp (of_decide_eq_false h.2)

theorem Elem.active_of_lossy (e : Elem K) (h : e.isLossy = true) : e.isActive = true := by
  cases e with
  | norton Z V =>
    by_cases hZ : Z = 0
    · simp [Elem.isLossy, Elem.kind, hZ] at h
    · by_cases hV : V = 0
      · simp [Elem.isLossy, Elem.kind, hZ, hV] at h
      · simp [Elem.isActive, Elem.isVSrc, Elem.Vval, hV]
  | thevenin Y I =>
    by_cases hY : Y = 0
    · simp [Elem.isLossy, Elem.kind, hY] at h
    · by_cases hI : I = 0
      · simp [Elem.isLossy, Elem.kind, hY, hI] at h
      · simp [Elem.isActive, Elem.isCS, Elem.Ival, hI]

/-- the impedance left by `zeroInVoltage` is not a current source, the admittance left by `zeroInCurrent` is
not a voltage source: the second operation never touches what the first one zeroed -/
theorem Elem.norton_zero_not_cs (Z : K) : (Elem.norton Z (0 : K)).isCS = false := by
  by_cases hZ : Z = 0 <;> simp [Elem.isCS, Elem.Ival, hZ]
theorem Elem.thevenin_zero_not_vs (Y : K) : (Elem.thevenin Y (0 : K)).isVSrc = false := by
  by_cases hY : Y = 0 <;> simp [Elem.isVSrc, Elem.Vval, hY]

theorem elecEq_zeroInVoltage (b : Branch L K) (hv : b.e.isVSrc = true) :
    Branch.ElecEq ({ b with e := b.e.setSrc 0 } : Branch L K) (zeroInVoltage b) := by
  refine ⟨rfl, rfl, rfl, ?_, fun v i => ?_⟩
  · simp only [zeroInVoltage]
    rw [Elem.norton_zero_not_lossy, Elem.setSrc_zero_not_lossy]
  · simp only [zeroInVoltage]
    exact Elem.zeroInVoltage_law b.e hv v i

theorem elecEq_zeroInCurrent (b : Branch L K) (hv : b.e.isCS = true) :
    Branch.ElecEq ({ b with e := b.e.setSrc 0 } : Branch L K) (zeroInCurrent b) := by
  refine ⟨rfl, rfl, rfl, ?_, fun v i => ?_⟩
  · simp only [zeroInCurrent]
    rw [Elem.thevenin_zero_not_lossy, Elem.setSrc_zero_not_lossy]
  · simp only [zeroInCurrent]
    exact Elem.zeroInCurrent_law b.e hv v i

/-- **C04 (record-class change, voltage side).**  What `short_circuitify_voltage_sources` makes of a branch is
electrically the branch with its voltage-source value set to 0 in skeleton form. -/
theorem C04_zeroed_branch_voltage (keep : List (ElemKey K)) (b : Branch L K) :
    Branch.ElecEq (zeroWhere (selVS keep) b) (zeroVS keep b) := by
  unfold zeroWhere zeroVS selVS
  by_cases hp : (!(keep.contains b.key) && b.e.isVSrc) = true
  · have hv : b.e.isVSrc = true := by simp only [Bool.and_eq_true] at hp; exact hp.2
    rw [if_pos hp, if_pos hp]
    exact elecEq_zeroInVoltage b hv
  · rw [if_neg hp, if_neg hp]; exact Branch.ElecEq.rfl' b

/-- **C04 (record-class change, current side).**  The same for `open_circuitify_current_sources` and the
current-source value. -/
theorem C04_zeroed_branch_current (keep : List (ElemKey K)) (b : Branch L K) :
    Branch.ElecEq (zeroWhere (selCS keep) b) (zeroCS keep b) := by
  unfold zeroWhere zeroCS selCS
  by_cases hp : (!(keep.contains b.key) && b.e.isCS) = true
  · have hv : b.e.isCS = true := by simp only [Bool.and_eq_true] at hp; exact hp.2
    rw [if_pos hp, if_pos hp]
    exact elecEq_zeroInCurrent b hv
  · rw [if_neg hp, if_neg hp]; exact Branch.ElecEq.rfl' b

theorem zeroVS_of_kept (keep : List (ElemKey K)) (b : Branch L K) (h : keep.contains b.key = true) :
    zeroVS keep b = b := by unfold zeroVS; rw [h]; simp
theorem zeroCS_of_kept (keep : List (ElemKey K)) (b : Branch L K) (h : keep.contains b.key = true) :
    zeroCS keep b = b := by unfold zeroCS; rw [h]; simp
theorem zeroVS_of_not (keep : List (ElemKey K)) (b : Branch L K) (h : b.e.isVSrc = false) :
    zeroVS keep b = b := by unfold zeroVS; rw [h]; simp
theorem zeroCS_of_not (keep : List (ElemKey K)) (b : Branch L K) (h : b.e.isCS = false) :
    zeroCS keep b = b := by unfold zeroCS; rw [h]; simp
theorem zeroVS_of_sel (keep : List (ElemKey K)) (b : Branch L K) (h : keep.contains b.key = false)
    (hv : b.e.isVSrc = true) : zeroVS keep b = zeroInVoltage b := by unfold zeroVS; rw [h, hv]; simp
theorem zeroCS_of_sel (keep : List (ElemKey K)) (b : Branch L K) (h : keep.contains b.key = false)
    (hv : b.e.isCS = true) : zeroCS keep b = zeroInCurrent b := by unfold zeroCS; rw [h, hv]; simp

/-- both operations, voltage sources first (the order of the C04 oracle): a non-exempt active source is zeroed
exactly once, whatever the exemption list says about the zeroed record -/
theorem zeroCS_zeroVS (keep : List (ElemKey K)) (b : Branch L K) :
    zeroCS keep (zeroVS keep b) =
      if keep.contains b.key = true then b
      else if b.e.isVSrc = true then zeroInVoltage b
      else if b.e.isCS = true then zeroInCurrent b else b := by
  split_ifs with hk hv hc
  · rw [zeroVS_of_kept keep b hk, zeroCS_of_kept keep b hk]
  · rw [zeroVS_of_sel keep b (Bool.eq_false_iff.mpr hk) hv]
    exact zeroCS_of_not keep _ (Elem.norton_zero_not_cs _)
  · rw [zeroVS_of_not keep b (Bool.eq_false_iff.mpr hv), zeroCS_of_sel keep b (Bool.eq_false_iff.mpr hk) hc]
  · rw [zeroVS_of_not keep b (Bool.eq_false_iff.mpr hv), zeroCS_of_not keep b (Bool.eq_false_iff.mpr hc)]

/-- both operations, current sources first (the order of `passive_network`) -/
theorem zeroVS_zeroCS (keep : List (ElemKey K)) (b : Branch L K) :
    zeroVS keep (zeroCS keep b) =
      if keep.contains b.key = true then b
      else if b.e.isCS = true then zeroInCurrent b
      else if b.e.isVSrc = true then zeroInVoltage b else b := by
  split_ifs with hk hc hv
  · rw [zeroCS_of_kept keep b hk, zeroVS_of_kept keep b hk]
  · rw [zeroCS_of_sel keep b (Bool.eq_false_iff.mpr hk) hc]
    exact zeroVS_of_not keep _ (Elem.thevenin_zero_not_vs _)
  · rw [zeroCS_of_not keep b (Bool.eq_false_iff.mpr hc), zeroVS_of_sel keep b (Bool.eq_false_iff.mpr hk) hv]
  · rw [zeroCS_of_not keep b (Bool.eq_false_iff.mpr hc), zeroVS_of_not keep b (Bool.eq_false_iff.mpr hv)]

/-- **C04 (record-class change, both operations, either order).**  The branch the two zeroing operations
return is electrically the branch with its source value set to 0 if it is a non-exempt active source, and
the branch itself otherwise. -/
theorem C04_zeroed_branch_both (keep : List (ElemKey K)) (b : Branch L K) :
    Branch.ElecEq (zeroWhere (selSrc keep) b) (zeroCS keep (zeroVS keep b)) ∧
    Branch.ElecEq (zeroWhere (selSrc keep) b) (zeroVS keep (zeroCS keep b)) := by
  rw [zeroCS_zeroVS, zeroVS_zeroCS]
  unfold zeroWhere selSrc Elem.isActive
  by_cases hk : keep.contains b.key = true
  · simp only [hk, Bool.not_true, Bool.false_and, Bool.false_eq_true, if_false, if_true]
    exact ⟨Branch.ElecEq.rfl' b, Branch.ElecEq.rfl' b⟩
  · have hk' : keep.contains b.key = false := by simpa using hk
    by_cases hv : b.e.isVSrc = true <;> by_cases hc : b.e.isCS = true
    · simp only [hk', hv, hc, Bool.not_false, Bool.true_and, Bool.or_true, Bool.false_eq_true, if_false, if_true]
      exact ⟨elecEq_zeroInVoltage b hv, elecEq_zeroInCurrent b hc⟩
    · have hc' : b.e.isCS = false := by simpa using hc
      simp only [hk', hv, hc', Bool.not_false, Bool.true_and, Bool.or_false, Bool.false_eq_true, if_false, if_true]
      exact ⟨elecEq_zeroInVoltage b hv, elecEq_zeroInVoltage b hv⟩
    · have hv' : b.e.isVSrc = false := by simpa using hv
      simp only [hk', hv', hc, Bool.not_false, Bool.true_and, Bool.false_or, Bool.false_eq_true, if_false, if_true]
      exact ⟨elecEq_zeroInCurrent b hc, elecEq_zeroInCurrent b hc⟩
    · have hv' : b.e.isVSrc = false := by simpa using hv
      have hc' : b.e.isCS = false := by simpa using hc
      simp only [hk', hv', hc', Bool.not_false, Bool.true_and, Bool.or_false, Bool.false_eq_true, if_false]
      exact ⟨Branch.ElecEq.rfl' b, Branch.ElecEq.rfl' b⟩

/-- **C04 (direction of the reported current of a zeroed source).**  Whatever record a zeroing operation
writes (`impedance` / `admittance`) is not a linear source: the solver reports its current in the passive
direction first→second (`physCurrent i = i`), whereas for the active linear (lossy) source it replaced the
reported current is the NEGATIVE of the first→second current (`physCurrent i = −i`).  This is the exact
direction relation behind the open finding C04; `C04_zeroing_superpose` states its consequence. -/
theorem C04_zeroed_not_lossy (keep : List (ElemKey K)) (b : Branch L K) :
    (selVS keep b = true → (zeroVS keep b).e.isLossy = false ∧ ∀ i : K, (zeroVS keep b).e.physCurrent i = i) ∧
    (selCS keep b = true → (zeroCS keep b).e.isLossy = false ∧ ∀ i : K, (zeroCS keep b).e.physCurrent i = i) ∧
    (b.e.isLossy = true → ∀ i : K, b.e.physCurrent i = -i) := by
  refine ⟨fun h => ?_, fun h => ?_, physCurrent_lossy⟩
  · have hl : (zeroVS keep b).e.isLossy = false := by
      unfold selVS at h
      unfold zeroVS; rw [if_pos h]; exact Elem.norton_zero_not_lossy _
    exact ⟨hl, physCurrent_notLossy hl⟩
  · have hl : (zeroCS keep b).e.isLossy = false := by
      unfold selCS at h
      unfold zeroCS; rw [if_pos h]; exact Elem.thevenin_zero_not_lossy _
    exact ⟨hl, physCurrent_notLossy hl⟩

/-- **C04 / C16 (`short_circuitify_voltage_sources` against the skeleton).**  For every network and exemption
list: a report (potentials, branch voltages, reported branch currents) solves the circuit equations of the
returned network iff it solves those of the input's skeleton with the value of every non-exempt voltage
source set to 0 (`zeroWhere (selVS keep)`: record class, immittance, identifier, terminals, order kept).  One
and the same report: potentials, voltages AND reported currents coincide, because neither record of a zeroed
source is a linear source (`C04_zeroed_not_lossy`).  Not covered: that the Python function is the model
(`C16_gen_shortCircuitifyVS` + structural correspondence). -/
theorem C04_zero_voltage_solutions (N N' : Net L K) (keep : List (ElemKey K))
    (hr : shortCircuitifyVS N keep = .ok N') (R : Report L K) :
    CircuitEqs N' R ↔ CircuitEqs ⟨N.branches.map (zeroWhere (selVS keep)), N.zero⟩ R := by
  obtain ⟨hz, hb⟩ := C16_zero_voltage_branches N N' keep hr
  rw [← circuitEqsAll_iff, ← circuitEqsAll_iff, hz, hb]
  simp only
  exact circuitEqsAll_map_elecEq N.branches _ _ (fun b _ => C04_zeroed_branch_voltage keep b) N.zero R

/-- **C04 / C16 (`open_circuitify_current_sources` against the skeleton).**  As `C04_zero_voltage_solutions`,
for the non-exempt current sources (`is_current_source`: `|I| > 0`, which includes a linear voltage source
with `I = V/Z`, whose record becomes a Thevenin admittance `1/Z`). -/
theorem C04_zero_current_solutions (N N' : Net L K) (keep : List (ElemKey K))
    (hr : openCircuitifyCS N keep = .ok N') (R : Report L K) :
    CircuitEqs N' R ↔ CircuitEqs ⟨N.branches.map (zeroWhere (selCS keep)), N.zero⟩ R := by
  obtain ⟨hz, hb⟩ := C16_zero_current_branches N N' keep hr
  rw [← circuitEqsAll_iff, ← circuitEqsAll_iff, hz, hb]
  simp only
  exact circuitEqsAll_map_elecEq N.branches _ _ (fun b _ => C04_zeroed_branch_current keep b) N.zero R

/-- how the C04 oracle (and a user doing superposition by hand) deactivates every source except the ones in
`keep`: `open_circuitify_current_sources(short_circuitify_voltage_sources(N, keep), keep)` -/
def deactivateOthers (N : Net L K) (keep : List (ElemKey K)) : Except Err (Net L K) := do
  openCircuitifyCS (← shortCircuitifyVS N keep) keep

theorem deactivateOthers_branches (N N' : Net L K) (keep : List (ElemKey K))
    (hr : deactivateOthers N keep = .ok N') :
    N'.zero = N.zero ∧ N'.branches = N.branches.map fun b => zeroCS keep (zeroVS keep b) := by
  obtain ⟨N1, h1, h2⟩ := bind_eq_ok.1 (show (shortCircuitifyVS N keep >>= fun M => openCircuitifyCS M keep) = .ok N' from hr)
  obtain ⟨z1, b1⟩ := C16_zero_voltage_branches N N1 keep h1
  obtain ⟨z2, b2⟩ := C16_zero_current_branches N1 N' keep h2
  refine ⟨by rw [z2, z1], ?_⟩
  rw [b2, b1, List.map_map]; rfl

/-- **C04 (the library's zeroing against the skeleton — the composed link).**  For every network and
exemption list: the network returned by the two zeroing operations applied in sequence has exactly the
solutions (potentials, voltages and reported currents — the same report) of the input's skeleton with the
value of every non-exempt active source set to 0.  With `C04_zeroing_is_withSrc` that skeleton is
`withSrc N.branches (srcWhere N.branches (selSrc keep))`, the vocabulary of `C04_linear` / `C04_superpose`. -/
theorem C04_deactivate_solutions (N N' : Net L K) (keep : List (ElemKey K))
    (hr : deactivateOthers N keep = .ok N') (R : Report L K) :
    CircuitEqs N' R ↔ CircuitEqs ⟨N.branches.map (zeroWhere (selSrc keep)), N.zero⟩ R := by
  obtain ⟨hz, hb⟩ := deactivateOthers_branches N N' keep hr
  rw [← circuitEqsAll_iff, ← circuitEqsAll_iff, hz, hb]
  simp only
  exact circuitEqsAll_map_elecEq N.branches _ _ (fun b _ => (C04_zeroed_branch_both keep b).1) N.zero R

/-- the same in `withSrc` form, for distinct identifiers -/
theorem C04_deactivate_solutions_withSrc (N N' : Net L K) (keep : List (ElemKey K)) (hids : N.ids.Nodup)
    (hr : deactivateOthers N keep = .ok N') (R : Report L K) :
    CircuitEqs N' R ↔ CircuitEqsAll (withSrc N.branches (srcWhere N.branches (selSrc keep))) N.zero R := by
  rw [C04_deactivate_solutions N N' keep hr R, ← circuitEqsAll_iff]
  simp only
  rw [C04_zeroing_is_withSrc N.branches hids]

theorem withSrc_self (bs : List (Branch L K)) (s : String → K) (h : ∀ b ∈ bs, s b.id = b.e.src) :
    withSrc bs s = bs := by
  unfold withSrc
  conv_rhs => rw [← List.map_id bs]
  apply List.map_congr_left
  intro b hb
  rw [h b hb, Elem.setSrc_src]; rfl

theorem superpose_of_sum {α : Type} (N : Net L K) (hids : N.ids.Nodup) (hw : WellPosed N) (ps : List α)
    (s : α → String → K) (rep : α → Report L K)
    (h : ∀ p ∈ ps, CircuitEqsAll (withSrc N.branches (s p)) N.zero (rep p))
    (hsum : ∀ b ∈ N.branches, (ps.map fun p => s p b.id).sum = b.e.src)
    (R : Report L K) (hR : CircuitEqs N R) :
    (∀ n ∈ N.allLabels, R.pot n = (ps.map fun p => (rep p).pot n).sum) ∧
    (∀ b ∈ N.branches, R.v b.id = (ps.map fun p => (rep p).v b.id).sum ∧
      b.e.physCurrent (R.i b.id)
        = (ps.map fun p => (b.e.setSrc (s p b.id)).physCurrent ((rep p).i b.id)).sum) := by
  obtain ⟨S, hS, hp, hv, hi⟩ := C04_linear_list N.branches N.zero hids ps s rep h
  rw [withSrc_self _ _ hsum] at hS
  obtain ⟨ap, ab⟩ := C01_unique N hids hw R S hR ((circuitEqsAll_iff N S).mp hS)
  refine ⟨fun n hn => by rw [ap n hn, hp], fun b hb => ⟨by rw [(ab b hb).1, hv], ?_⟩⟩
  have := hi b hb
  rw [hsum b hb, Elem.setSrc_src] at this
  rw [(ab b hb).2, this]

theorem signed_sum_split {α : Type} (l₁ l₂ : List α) (p : α) (q : α → Bool) (f : α → K)
    (hq : q p = true) (h1 : ((l₁ ++ p :: l₂).filter q).length = 1) :
    ((l₁ ++ p :: l₂).map fun r => if q r = true then f r else - f r).sum = f p - ((l₁ ++ l₂).map f).sum := by
  have hperm : (l₁ ++ p :: l₂).Perm (p :: (l₁ ++ l₂)) := List.perm_middle
  rw [(hperm.filter q).length_eq, List.filter_cons_of_pos hq, List.length_cons, Nat.succ_inj,
    List.length_eq_zero_iff, List.filter_eq_nil_iff] at h1
  rw [sum_map_perm hperm, List.map_cons, List.sum_cons, if_pos hq,
    List.map_congr_left fun r hr => if_neg (h1 r hr), ← neg_sum_map, sub_eq_add_neg]

theorem zeroing_superpose_groups_core {α : Type} (N : Net L K) (parts : List α)
    (keep : α → List (ElemKey K)) (net : α → Net L K) (rep : α → Report L K)
    (hids : N.ids.Nodup) (hw : WellPosed N)
    (hdeact : ∀ p ∈ parts, deactivateOthers N (keep p) = .ok (net p))
    (hsol : ∀ p ∈ parts, CircuitEqs (net p) (rep p))
    (hpart : ∀ b ∈ N.branches, b.e.isActive = true →
      (parts.filter fun p => (keep p).contains b.key).length = 1)
    (R : Report L K) (hR : CircuitEqs N R) :
    (∀ n ∈ N.allLabels, R.pot n = (parts.map fun p => (rep p).pot n).sum) ∧
    (∀ b ∈ N.branches, R.v b.id = (parts.map fun p => (rep p).v b.id).sum) ∧
    (∀ b ∈ N.branches, b.e.isLossy = false → R.i b.id = (parts.map fun p => (rep p).i b.id).sum) ∧
    (∀ b ∈ N.branches, b.e.isLossy = true →
      R.i b.id = (parts.map fun p =>
        if (keep p).contains b.key = true then (rep p).i b.id else - (rep p).i b.id).sum) ∧
    (∀ b ∈ N.branches, b.e.isLossy = true → ∀ l₁ p l₂, parts = l₁ ++ p :: l₂ →
      (keep p).contains b.key = true →
      R.i b.id = (rep p).i b.id - ((l₁ ++ l₂).map fun q => (rep q).i b.id).sum) := by
  have hids' : (N.branches.map (·.id)).Nodup := hids
  have hall : ∀ p ∈ parts, CircuitEqsAll (withSrc N.branches (srcWhere N.branches (selSrc (keep p)))) N.zero (rep p) :=
    fun p hp => (C04_deactivate_solutions_withSrc N (net p) (keep p) hids (hdeact p hp) (rep p)).mp (hsol p hp)
  -- part `p` keeps the source value of a branch it exempts and sets every other one to 0 (a passive branch has 0)
  have hsrc : ∀ b ∈ N.branches, ∀ p, srcWhere N.branches (selSrc (keep p)) b.id
      = if (keep p).contains b.key = true then b.e.src else 0 := by
    intro b hb p
    rw [srcWhere_of_mem hids' _ hb, selSrc]
    by_cases ha : b.e.isActive = true
    · simp [ha]
    · simp [ha, Elem.src_of_inactive b.e (by simpa using ha)]
  have hsum : ∀ b ∈ N.branches,
      (parts.map fun p => srcWhere N.branches (selSrc (keep p)) b.id).sum = b.e.src := by
    intro b hb
    simp only [hsrc b hb]
    rw [sum_map_ite_const parts (fun p => (keep p).contains b.key)]
    by_cases ha : b.e.isActive = true
    · rw [hpart b hb ha, Nat.cast_one, one_mul]
    · rw [Elem.src_of_inactive b.e (by simpa using ha), mul_zero]
  -- hence its record is the branch's own where exempted, and not a lossy source elsewhere
  have hphys : ∀ b ∈ N.branches, ∀ p x,
      (b.e.setSrc (srcWhere N.branches (selSrc (keep p)) b.id)).physCurrent x
        = if (keep p).contains b.key = true then b.e.physCurrent x else x := by
    intro b hb p x
    rw [hsrc b hb]
    split
    · rw [Elem.setSrc_src]
    · rw [physCurrent_notLossy (Elem.setSrc_zero_not_lossy _)]
  -- physical currents superpose; a lossy source reports its own with the sign changed
  obtain ⟨hp, hvi⟩ := superpose_of_sum N hids hw parts _ rep hall hsum R hR
  have hi : ∀ b ∈ N.branches, b.e.physCurrent (R.i b.id) = (parts.map fun p =>
      if (keep p).contains b.key = true then b.e.physCurrent ((rep p).i b.id) else (rep p).i b.id).sum :=
    fun b hb => by rw [(hvi b hb).2]; simp only [hphys b hb]
  have h4 : ∀ b ∈ N.branches, b.e.isLossy = true → R.i b.id = (parts.map fun p =>
      if (keep p).contains b.key = true then (rep p).i b.id else - (rep p).i b.id).sum := by
    intro b hb hl
    have h := hi b hb
    simp only [physCurrent_lossy hl] at h
    rw [← neg_neg (R.i b.id), h, neg_sum_map]
    exact congrArg List.sum (List.map_congr_left fun p _ => by rw [apply_ite Neg.neg, neg_neg])
  refine ⟨hp, fun b hb => (hvi b hb).1, ?_, h4, ?_⟩
  · intro b hb hl
    have h := hi b hb
    simpa only [physCurrent_notLossy hl, ite_self] using h
  · intro b hb hl l₁ p l₂ hsplit hk
    rw [h4 b hb hl]
    subst hsplit
    exact signed_sum_split l₁ l₂ p (fun q => (keep q).contains b.key) (fun q => (rep q).i b.id) hk
      (hpart b hb (Elem.active_of_lossy b.e hl))

/-- **C04 (superposition over the library's own zeroing operations).**  Let `N` have distinct identifiers and
be well-posed, and let two exemption lists split its active sources: every active source is exempted by
exactly one of `keepA`, `keepB` (passive elements may be listed or not).  `NA` / `NB` are what the library
returns when it deactivates everything but `keepA` / `keepB` (`short_circuitify_voltage_sources` then
`open_circuitify_current_sources`, record classes changed as the code changes them).  Then for ANY solutions
`R`, `RA`, `RB` of the three circuits:
* the potential of every node label and the voltage of every branch of `N` are the sums of those of the parts;
* the reported current of every branch of `N` that is not a linear (lossy) source is the sum;
* for a linear (lossy) source the reported current is the DIFFERENCE: `i = i_A − i_B` if the source belongs to
  group `A`, `i = i_B − i_A` if it belongs to `B` — the zeroed record reports its current first→second,
  the active one in generator direction (`C04_zeroed_not_lossy`).  This is the open finding C04 as an exact
  relation; the plain sum holds for such a branch iff the current through the zeroed source vanishes.
More than two groups: `C04_zeroing_superpose_groups` (CC/Properties/C04Groups.lean).
Not covered: floating point, ill-posed networks, the link model ↔ Python (`C16_gen_*` + structural
correspondence). -/
theorem C04_zeroing_superpose (N NA NB : Net L K) (keepA keepB : List (ElemKey K))
    (hids : N.ids.Nodup) (hw : WellPosed N)
    (hA : deactivateOthers N keepA = .ok NA) (hB : deactivateOthers N keepB = .ok NB)
    (hpart : ∀ b ∈ N.branches, b.e.isActive = true → keepA.contains b.key = !(keepB.contains b.key))
    (R RA RB : Report L K) (hR : CircuitEqs N R) (hRA : CircuitEqs NA RA) (hRB : CircuitEqs NB RB) :
    (∀ n ∈ N.allLabels, R.pot n = RA.pot n + RB.pot n) ∧
    (∀ b ∈ N.branches, R.v b.id = RA.v b.id + RB.v b.id) ∧
    (∀ b ∈ N.branches, b.e.isLossy = false → R.i b.id = RA.i b.id + RB.i b.id) ∧
    (∀ b ∈ N.branches, b.e.isLossy = true → keepA.contains b.key = true → R.i b.id = RA.i b.id - RB.i b.id) ∧
    (∀ b ∈ N.branches, b.e.isLossy = true → keepB.contains b.key = true → R.i b.id = RB.i b.id - RA.i b.id) := by
  -- two parts, indexed by `Bool`: `true` is group `A`
  obtain ⟨h1, h2, h3, h4, _⟩ := zeroing_superpose_groups_core N [true, false]
    (fun p => cond p keepA keepB) (fun p => cond p NA NB) (fun p => cond p RA RB) hids hw
    (by intro p _; cases p; exacts [hB, hA]) (by intro p _; cases p; exacts [hRB, hRA])
    (by
      intro b hb ha
      have hkA := hpart b hb ha
      rcases Bool.eq_false_or_eq_true (keepB.contains b.key) with hk | hk <;>
        rw [hk] at hkA <;>
        simp only [List.filter_cons, List.filter_nil, cond_true, cond_false, hkA, hk, Bool.not_true,
          Bool.not_false, if_true, Bool.false_eq_true, if_false, List.length_cons, List.length_nil])
    R hR
  simp only [List.map_cons, List.map_nil, List.sum_cons, List.sum_nil, cond_true, cond_false, add_zero]
    at h1 h2 h3 h4
  refine ⟨h1, h2, h3, fun b hb hl hk => ?_, fun b hb hl hk => ?_⟩
  · have hkB : keepB.contains b.key = false := by
      have := hpart b hb (Elem.active_of_lossy b.e hl); rw [hk] at this; simpa using this.symm
    rw [h4 b hb hl, hk, hkB, if_pos rfl, if_neg Bool.false_ne_true, sub_eq_add_neg]
  · have hkA : keepA.contains b.key = false := by
      have := hpart b hb (Elem.active_of_lossy b.e hl); rw [hk] at this; simpa using this
    rw [h4 b hb hl, hk, hkA, if_pos rfl, if_neg Bool.false_ne_true, neg_add_eq_sub]

/-- the two-group theorem: `C04_zeroing_superpose` is the instance of `zeroing_superpose_groups_core` with two parts -/
theorem C04_groups_two (N NA NB : Net L K) (keepA keepB : List (ElemKey K))
    (hids : N.ids.Nodup) (hw : WellPosed N)
    (hA : deactivateOthers N keepA = .ok NA) (hB : deactivateOthers N keepB = .ok NB)
    (hpart : ∀ b ∈ N.branches, b.e.isActive = true → keepA.contains b.key = !(keepB.contains b.key))
    (R RA RB : Report L K) (hR : CircuitEqs N R) (hRA : CircuitEqs NA RA) (hRB : CircuitEqs NB RB) :
    (∀ n ∈ N.allLabels, R.pot n = RA.pot n + RB.pot n) ∧
    (∀ b ∈ N.branches, R.v b.id = RA.v b.id + RB.v b.id) ∧
    (∀ b ∈ N.branches, b.e.isLossy = false → R.i b.id = RA.i b.id + RB.i b.id) ∧
    (∀ b ∈ N.branches, b.e.isLossy = true → keepA.contains b.key = true → R.i b.id = RA.i b.id - RB.i b.id) ∧
    (∀ b ∈ N.branches, b.e.isLossy = true → keepB.contains b.key = true → R.i b.id = RB.i b.id - RA.i b.id) :=
  C04_zeroing_superpose N NA NB keepA keepB hids hw hA hB hpart R RA RB hR hRA hRB

/-- validity (distinct identifiers, reference label present, no self-loop) is inherited by the deactivated
network: terminals and identifiers are untouched -/
theorem deactivateOthers_wf (N N' : Net L K) (keep : List (ElemKey K))
    (hr : deactivateOthers N keep = .ok N') (wf : N.WF) : N'.WF := by
  obtain ⟨hz, hb⟩ := deactivateOthers_branches N N' keep hr
  have e : N' = ⟨N.branches.map fun b => zeroCS keep (zeroVS keep b), N.zero⟩ := by
    cases N'; simp only at hz hb; rw [hz, hb]
  rw [e]
  exact wf.of_map _ fun b _ =>
    ⟨(zeroCS_nodes keep _).1.trans (zeroVS_nodes keep b).1,
      (zeroCS_nodes keep _).2.1.trans (zeroVS_nodes keep b).2.1,
      (zeroCS_nodes keep _).2.2.trans (zeroVS_nodes keep b).2.2⟩

/-- **C04 (superposition over the library's zeroing, reported values).**  `N` valid and well-posed, the
active sources split by `keepA` / `keepB`, `NA` / `NB` returned by the library's zeroing operations.  Whatever
vectors `x`, `xA`, `xB` satisfy the three matrix equations the code builds: the potentials and voltages the
accessors report for `N` are the sums of those reported for `NA` and `NB`; so are the reported currents of
all branches that are not linear (lossy) sources; the reported current of a linear source of group `A` is
`i_A − i_B` (group `B`: `i_B − i_A`).  Exact arithmetic; nothing is assumed about `NA`, `NB` beyond the matrix
equations (their validity follows, `deactivateOthers_wf`). -/
theorem C04_reported_zeroing_superpose (N NA NB : Net L K) (keepA keepB : List (ElemKey K))
    (wf : N.WF) (hw : WellPosed N)
    (hA : deactivateOthers N keepA = .ok NA) (hB : deactivateOthers N keepB = .ok NB)
    (hpart : ∀ b ∈ N.branches, b.e.isActive = true → keepA.contains b.key = !(keepB.contains b.key))
    (x xA xB : List K)
    (hx : x.length = N.nodes.length + N.vsIds.length)
    (hxA : xA.length = NA.nodes.length + NA.vsIds.length)
    (hxB : xB.length = NB.nodes.length + NB.vsIds.length)
    (h : matVec N.mnaA x = N.mnaB) (hmA : matVec NA.mnaA xA = NA.mnaB) (hmB : matVec NB.mnaA xB = NB.mnaB) :
    let R := N.reportOf x
    let RA := NA.reportOf xA
    let RB := NB.reportOf xB
    (∀ n ∈ N.allLabels, R.pot n = RA.pot n + RB.pot n) ∧
    (∀ b ∈ N.branches, R.v b.id = RA.v b.id + RB.v b.id) ∧
    (∀ b ∈ N.branches, b.e.isLossy = false → R.i b.id = RA.i b.id + RB.i b.id) ∧
    (∀ b ∈ N.branches, b.e.isLossy = true → keepA.contains b.key = true → R.i b.id = RA.i b.id - RB.i b.id) ∧
    (∀ b ∈ N.branches, b.e.isLossy = true → keepB.contains b.key = true → R.i b.id = RB.i b.id - RA.i b.id) :=
  C04_zeroing_superpose N NA NB keepA keepB wf.ids_nodup hw hA hB hpart _ _ _
    (C01_sound N x wf hx h).2.2
    (C01_sound NA xA (deactivateOthers_wf N NA keepA hA wf) hxA hmA).2.2
    (C01_sound NB xB (deactivateOthers_wf N NB keepB hB wf) hxB hmB).2.2

theorem mk?_map_ok (N : Net L K) (f : Branch L K → Branch L K)
    (hf : ∀ b, (f b).n1 = b.n1 ∧ (f b).n2 = b.n2 ∧ (f b).id = b.id)
    (hzm : N.zero ∈ N.nodeLabels) (hids : N.ids.Nodup) :
    Net.mk? (N.branches.map f) N.zero = .ok ⟨N.branches.map f, N.zero⟩ := by
  rw [mk?_eq_ok_iff]
  refine ⟨rfl, ?_, ?_⟩
  · rw [nodeLabels_map N f (fun b _ => (hf b).1) (fun b _ => (hf b).2.1)]; exact hzm
  · show (⟨N.branches.map f, N.zero⟩ : Net L K).ids.Nodup
    rw [ids_map N f fun b _ => (hf b).2.2]; exact hids

/-- on a network with distinct identifiers whose reference label is a terminal of some branch, deactivating
never raises, and returns every branch in place -/
theorem deactivateOthers_ok (N : Net L K) (keep : List (ElemKey K))
    (hz : ∃ b ∈ N.branches, b.n1 = N.zero ∨ b.n2 = N.zero) (hids : N.ids.Nodup) :
    deactivateOthers N keep = .ok ⟨N.branches.map fun b => zeroCS keep (zeroVS keep b), N.zero⟩ := by
  have hzm : N.zero ∈ N.nodeLabels := (mem_nodeLabels N _).mpr (Or.inr hz)
  have h1 : shortCircuitifyVS N keep = .ok ⟨N.branches.map (zeroVS keep), N.zero⟩ :=
    mk?_map_ok N (zeroVS keep) (zeroVS_nodes keep) hzm hids
  have h2 : openCircuitifyCS (⟨N.branches.map (zeroVS keep), N.zero⟩ : Net L K) keep
      = .ok ⟨(N.branches.map (zeroVS keep)).map (zeroCS keep), N.zero⟩ :=
    mk?_map_ok ⟨N.branches.map (zeroVS keep), N.zero⟩ (zeroCS keep) (zeroCS_nodes keep)
      (by rw [nodeLabels_map N _ (fun b _ => (zeroVS_nodes keep b).1) (fun b _ => (zeroVS_nodes keep b).2.1)]
          exact hzm)
      (by rw [ids_map N _ fun b _ => (zeroVS_nodes keep b).2.2]; exact hids)
  unfold deactivateOthers
  rw [h1]
  show openCircuitifyCS _ keep = _
  rw [h2, List.map_map]; rfl

/-- the finding's input: `Vq = 8 V` with 2 Ω in parallel with `Iq = 1 A` with 1/2 S -/
def lossyN : Net String ℚ :=
  ⟨[⟨"1", "0", "Vq", "", .norton 2 8⟩, ⟨"1", "0", "Iq", "", .thevenin (1/2) 1⟩], "0"⟩
def lossyKeepA : List (ElemKey ℚ) := [⟨"Vq", "", .norton 2 8⟩]
def lossyKeepB : List (ElemKey ℚ) := [⟨"Iq", "", .thevenin (1/2) 1⟩]
/-- `Iq` deactivated: it is a voltage source for `is_voltage_source` (`V = I/Y = 2`), so it becomes
`impedance("Iq", 2)`, a Norton record -/
def lossyNA : Net String ℚ :=
  ⟨[⟨"1", "0", "Vq", "", .norton 2 8⟩, ⟨"1", "0", "Iq", "impedance", .norton 2 0⟩], "0"⟩
/-- `Vq` deactivated into `impedance("Vq", 2)` -/
def lossyNB : Net String ℚ :=
  ⟨[⟨"1", "0", "Vq", "impedance", .norton 2 0⟩, ⟨"1", "0", "Iq", "", .thevenin (1/2) 1⟩], "0"⟩

theorem lossyN_deact (keep : List (ElemKey ℚ)) :
    deactivateOthers lossyN keep = .ok ⟨lossyN.branches.map fun b => zeroCS keep (zeroVS keep b), "0"⟩ :=
  deactivateOthers_ok lossyN keep ⟨⟨"1", "0", "Vq", "", .norton 2 8⟩, by decide +kernel, Or.inr rfl⟩
    (by decide +kernel)

theorem lossyN_A : deactivateOthers lossyN lossyKeepA = .ok lossyNA :=
  (lossyN_deact lossyKeepA).trans (congrArg (fun l => Except.ok (Net.mk l "0")) (by decide +kernel))

theorem lossyN_B : deactivateOthers lossyN lossyKeepB = .ok lossyNB :=
  (lossyN_deact lossyKeepB).trans (congrArg (fun l => Except.ok (Net.mk l "0")) (by decide +kernel))

theorem lossyN_eq : lossyN = ⟨withSrc lossySkeleton fun id => lossyS1 id + lossyS2 id, "0"⟩ := by
  rw [lossy_net]; rfl

theorem lossyN_wf : lossyN.WF := lossyN_eq ▸ lossy_wf _

theorem lossyN_solves : CircuitEqs lossyN lossyR ∧ CircuitEqs lossyNA lossyR1 ∧ CircuitEqs lossyNB lossyR2 := by
  decide +kernel

theorem lossyN_partition : ∀ b ∈ lossyN.branches, b.e.isActive = true →
    lossyKeepA.contains b.key = !(lossyKeepB.contains b.key) := by
  decide +kernel

/-- **C04 (the finding, over the library's own zeroing).**  The input of the open finding meets every
hypothesis of `C04_zeroing_superpose` (distinct identifiers, well-posed, the two exemption lists split the
sources, the library returns `lossyNA` / `lossyNB`, all three circuits are solved) — so the theorem is not
vacuous — and on it the reported current of the lossy source `Vq` is NOT the sum of the parts
(−3/2 ≠ −2 + −1/2); it is the difference `i_A − i_B = −2 − (−1/2)`, as `C04_zeroing_superpose` says. -/
theorem C04_zeroing_lossy_sum_fails :
    lossyN.ids.Nodup ∧ WellPosed lossyN ∧
    deactivateOthers lossyN lossyKeepA = .ok lossyNA ∧ deactivateOthers lossyN lossyKeepB = .ok lossyNB ∧
    (∀ b ∈ lossyN.branches, b.e.isActive = true → lossyKeepA.contains b.key = !(lossyKeepB.contains b.key)) ∧
    CircuitEqs lossyN lossyR ∧ CircuitEqs lossyNA lossyR1 ∧ CircuitEqs lossyNB lossyR2 ∧
    lossyR.i "Vq" ≠ lossyR1.i "Vq" + lossyR2.i "Vq" ∧
    lossyR.i "Vq" = lossyR1.i "Vq" - lossyR2.i "Vq" := by
  refine ⟨by decide +kernel, ?_, lossyN_A, lossyN_B, lossyN_partition, lossyN_solves.1,
    lossyN_solves.2.1, lossyN_solves.2.2, by decide +kernel, by decide +kernel⟩
  rw [lossyN_eq]; exact lossy_wellPosed _

/-- the conclusion of `C04_zeroing_superpose` on the finding's input, obtained FROM the theorem -/
example : lossyR.i "Vq" = lossyR1.i "Vq" - lossyR2.i "Vq" :=
  (C04_zeroing_superpose lossyN lossyNA lossyNB lossyKeepA lossyKeepB C04_zeroing_lossy_sum_fails.1
    C04_zeroing_lossy_sum_fails.2.1 lossyN_A lossyN_B lossyN_partition lossyR lossyR1 lossyR2
    lossyN_solves.1 lossyN_solves.2.1 lossyN_solves.2.2).2.2.2.1
    ⟨"1", "0", "Vq", "", .norton 2 8⟩ (by decide +kernel) (by decide +kernel) (by decide +kernel)

/-- non-vacuity of `C04_zero_voltage_solutions` / `C04_zero_current_solutions`: the operations succeed -/
example : ∃ N', shortCircuitifyVS lossyN lossyKeepA = .ok N' :=
  ⟨_, mk?_map_ok lossyN (zeroVS lossyKeepA) (zeroVS_nodes lossyKeepA) lossyN_wf.zero_mem lossyN_wf.ids_nodup⟩
example : ∃ N', openCircuitifyCS lossyN lossyKeepA = .ok N' :=
  ⟨_, mk?_map_ok lossyN (zeroCS lossyKeepA) (zeroCS_nodes lossyKeepA) lossyN_wf.zero_mem lossyN_wf.ids_nodup⟩

/-- the validity hypothesis of `C04_reported_zeroing_superpose` on the finding's input -/
example : lossyN.WF := lossyN_wf

end CC
