/-
  C13 — metamorphic part as theorems about the *translated circuit* of the drawing model
  (CC/Model/Draw.lean `circuitTranslator`), not only about the Spec relation `Joined`
  (`C13_geometry`, `C13_wire_split`, `C13_order` of CC/Properties/C13.lean).

  "Same circuit up to renaming" is carried on to "same solution" through C03 (CC/Properties/C03.lean:
  `Net.rename`, `Report.comap`, `C03_perm`).

  Throughout, the two drawings may be read with two *different* iteration orders `ord`, `ord'` of
  the Python sets (any two permutations): the node names of the two translations then differ
  even for the identity transformation — unlabelled nodes are numbered in set order — which is
  why every statement is "up to a renaming `ρ` of node names".  `emap f` maps the result and keeps the
  error (CC/Proofs/DrawInvariance.lean): an error of the first translation is the same error of the second
  (coordinate map, wire split).

  What stays assumed (explicit hypotheses, shown satisfiable on the example drawing `C13_exDrawing`:
  `C13_exDrawing_wf` and the examples after it):
    * `C13_DrawingWF`: no node name sits on two different electrical nodes;
    * `InjOnTerms g syms`: the map of rounded coordinates is injective on the terminals of the
      drawing; and `MappedBy g syms syms'` / `RoundCommutes t g syms`: the rounded terminals of
      the transformed drawing *are* the images of the rounded terminals (that rounding commutes
      with the float transformation schemdraw applies is a fact about float geometry, not proved);
    * split point unused (`c ∉ termPts`).
-/
import CC.Proofs.DrawInvariance
import CC.Properties.C13
import CC.Properties.C03
set_option linter.unusedSectionVars false
namespace CC
open CC.Draw

theorem C13_drawingWF_iff (syms : List Sym) : C13_DrawingWF syms ↔ NamesOK syms := Iff.rfl

/-- **Translation, rotation, rescaling — any coordinate map injective on the terminals.**
`syms'` is the drawing `syms` symbol by symbol (same classes, names, reversal flags, attribute
values, same order) with every rounded terminal moved by `g` (`MappedBy`), `g` injective on the
rounded terminals of `syms` (`InjOnTerms`).  Then, for any two set orders, there are a renaming
`ρ` of node names and the naming `lab` of the first drawing such that
  * `lab` is what the parser answers on every parser node of `syms`;
  * `ρ` is injective on the names used by `syms`, and onto the names used by `syms'`
    (third conjunct: every parser node of `syms'` is `g p` and is named `ρ (lab p)`): the node
    partition of `syms'` is the image of that of `syms`;
  * on every terminal, `_get_node_index` of `syms'` at `g p` is `ρ` of that of `syms` at `p`
    (same `KeyError` off the parser nodes);
  * `circuit_translator syms'` is `circuit_translator syms` with node names sent through `ρ`:
    same error, or the same components in the same order — ids, kinds, values, terminal ORDER
    kept — and the reference node is `ρ` of the reference node.
Not claimed: that schemdraw's float transformation followed by `round_node` realises `MappedBy`
(see `C13_moved_raw`); that `ρ` fixes the names given by node symbols (true, not proved here). -/
theorem C13_moved (π : Rat) (ord ord' : SetOrd Pt) (hord : ord.Valid) (hord' : ord'.Valid)
    (g : Pt → Pt) (syms syms' : List Sym) (hm : MappedBy g syms syms') (hinj : InjOnTerms g syms)
    (hwf : C13_DrawingWF syms) :
    ∃ (ρ : String → String) (lab : Pt → String),
      (∀ p ∈ allNodes syms, labelOf ord syms p = .ok (lab p)) ∧
      (∀ a ∈ (allNodes syms).map lab, ∀ b ∈ (allNodes syms).map lab, ρ a = ρ b → a = b) ∧
      (∀ q ∈ allNodes syms', ∃ p ∈ allNodes syms, q = g p ∧ labelOf ord' syms' q = .ok (ρ (lab p))) ∧
      (∀ p ∈ termPts syms, labelOf ord' syms' (g p) = emap ρ (labelOf ord syms p)) ∧
      circuitTranslator π ord' syms' = emap (renameCircuit ρ) (circuitTranslator π ord syms) ∧
      C13_DrawingWF syms' := by
  obtain ⟨ρ, lab, h1, h2, h3, h4⟩ := circuitTranslator_rewired π hord hord' g (hm.rewired hinj) hwf
  refine ⟨ρ, lab, h1, h2, ?_, h3, h4, (hm.rewired hinj).namesOK hwf⟩
  intro q hq
  obtain ⟨p, hp, rfl⟩ := hm.mem_allNodes.mp hq
  refine ⟨p, hp, rfl, ?_⟩
  rw [h3 p (allNodes_sub_termPts hp), h1 p hp]
  rfl

/-- The three families of the property text are injective on *all* points (rational
coordinates, in particular grid points), hence on the terminals of every drawing: translation
by any vector (integer vectors included), any number of quarter turns, change of unit by a
non-zero factor (non-zero integers included); compositions of injective maps are injective. -/
theorem C13_rigid_maps_injective :
    (∀ a b : Rat, Function.Injective (Pt.shift a b)) ∧
    (∀ a b : Int, Function.Injective (Pt.shift (a : Rat) (b : Rat))) ∧
    (∀ n : Nat, Function.Injective (Pt.quarter^[n])) ∧
    (∀ k : Rat, k ≠ 0 → Function.Injective (Pt.scale k)) ∧
    (∀ k : Int, k ≠ 0 → Function.Injective (Pt.scale (k : Rat))) ∧
    (∀ (g : Pt → Pt), Function.Injective g → ∀ syms, InjOnTerms g syms) :=
  ⟨Pt.shift_injective, fun _ _ => Pt.shift_injective _ _, fun n => Pt.quarter_injective.iterate n,
    fun _ hk => Pt.scale_injective hk, fun _ hk => Pt.scale_injective (by exact_mod_cast hk),
    fun _ h syms => injOnTerms_of_injective h syms⟩

/-- The same for a transformation `t` of the *raw* anchors (`moveRaw`): IF rounding after `t` is
`g` after rounding on the anchors of the drawing (`RoundCommutes` — the float-geometry
assumption, stated, not proved) and `g` is injective, THEN the translated circuits agree up to
the renaming. -/
theorem C13_moved_raw (π : Rat) (ord ord' : SetOrd Pt) (hord : ord.Valid) (hord' : ord'.Valid)
    (t g : Pt → Pt) (syms : List Sym) (hc : RoundCommutes t g syms) (hg : Function.Injective g)
    (hwf : C13_DrawingWF syms) :
    ∃ ρ : String → String,
      circuitTranslator π ord' (syms.map (moveRaw t)) = emap (renameCircuit ρ) (circuitTranslator π ord syms) := by
  obtain ⟨ρ, _, _, _, _, _, h, _⟩ := C13_moved π ord ord' hord hord' g syms _ (mappedBy_moveRaw hc)
    (injOnTerms_of_injective hg syms) hwf
  exact ⟨ρ, h⟩

/-- V1 from (0,0) to (0,1), R1 to (1,1), R2 to (1,0), a wire back to (0,0), ground at (0,0) -/
def C13_exDrawing : List Sym :=
  [ { cls := "VoltageSource", name := "V1", rev := false, attrs := [("V", .num ⟨5, 0⟩)], start := ⟨0, 0⟩, stop := ⟨0, 1⟩ },
    { cls := "Resistor", name := "R1", attrs := [("R", .num ⟨2, 0⟩)], start := ⟨0, 1⟩, stop := ⟨1, 1⟩ },
    { cls := "Resistor", name := "R2", attrs := [("R", .num ⟨3, 0⟩)], start := ⟨1, 1⟩, stop := ⟨1, 0⟩ },
    { cls := "Line", start := ⟨1, 0⟩, stop := ⟨0, 0⟩ },
    { cls := "Ground", name := "gnd", nodeId := "0", start := ⟨0, 0⟩, stop := ⟨0, 0⟩ } ]

def C13_exMap : Pt → Pt := Pt.quarter ∘ Pt.shift 3 2 ∘ Pt.scale 2

theorem C13_exDrawing_wf : C13_DrawingWF C13_exDrawing := by
  intro ps hps qs hqs _
  have : nodeSymsOf C13_exDrawing = [(⟨0, 0⟩, "0")] := by decide +kernel
  rw [this] at hps hqs
  simp only [List.mem_cons, List.not_mem_nil, or_false] at hps hqs
  subst hps; subst hqs
  exact Joined.refl _

example : RoundCommutes C13_exMap C13_exMap C13_exDrawing := by unfold RoundCommutes; decide +kernel

example : Function.Injective C13_exMap :=
  Pt.quarter_injective.comp ((Pt.shift_injective 3 2).comp (Pt.scale_injective (by decide)))

/-- the example drawing translates to the divider it depicts, grounded at the source's start terminal -/
theorem C13_exDrawing_circuit : circuitTranslator 3 ⟨id, id⟩ C13_exDrawing = .ok
    { components := [
        { type := "dc_voltage_source", id := "V1", nodes := ["0", "2"],
          value := [("V", .num ⟨5, 0⟩), ("R", .num ⟨0, 0⟩), ("w", .num ⟨0, 0⟩), ("phi", .num ⟨0, 0⟩)] },
        { type := "resistor", id := "R1", nodes := ["2", "3"], value := [("R", .num ⟨2, 0⟩)] },
        { type := "resistor", id := "R2", nodes := ["3", "0"], value := [("R", .num ⟨3, 0⟩)] },
        { type := "ground", id := "gnd", nodes := ["0"], value := [] }],
      groundNode := "0" } := by decide +kernel

/-- the two translations, read with different set orders: the unlabelled nodes swap their numbers -/
example :
    (circuitTranslator 3 ⟨id, id⟩ C13_exDrawing).toOption.map (fun c => (c.components.map (·.nodes), c.groundNode)) =
      some ([["0", "2"], ["2", "3"], ["3", "0"], ["0"]], "0") ∧
    (circuitTranslator 3 ⟨id, List.reverse⟩ (C13_exDrawing.map (moveRaw C13_exMap))).toOption.map
        (fun c => (c.components.map (·.nodes), c.groundNode)) =
      some ([["0", "3"], ["3", "2"], ["2", "0"], ["0"]], "0") :=
  ⟨by rw [C13_exDrawing_circuit]; rfl, by decide +kernel⟩

/-- **Wire split.**  `l` is a wire of the drawing `pre ++ l :: post`; it is replaced by the two
wires `l₁ : l.start — c` and `l₂ : c — l.end` (`SplitAt`; nothing is assumed about collinearity,
the parser does not look at it), where the rounded point `c` is no terminal of any symbol of the
original drawing (`hfresh`).  Then, for any two set orders, with a renaming `ρ` injective on the
names used: every terminal of the original drawing is named `ρ` of its old name, and
`circuit_translator` of the split drawing is that of the original with node names sent through
`ρ` — same error, or the same component list (wires contribute no component) in the same order
with ids, kinds, values and terminal order kept, reference node `ρ` of the reference node.
A chain of several intermediate points is this theorem applied repeatedly. -/
theorem C13_split (π : Rat) (ord ord' : SetOrd Pt) (hord : ord.Valid) (hord' : ord'.Valid)
    (c : Pt) (pre post : List Sym) (l l₁ l₂ : Sym) (hs : SplitAt c pre post l l₁ l₂)
    (hfresh : c ∉ termPts (pre ++ l :: post)) (hwf : C13_DrawingWF (pre ++ l :: post)) :
    ∃ (ρ : String → String) (lab : Pt → String),
      (∀ p ∈ allNodes (pre ++ l :: post), labelOf ord (pre ++ l :: post) p = .ok (lab p)) ∧
      (∀ a ∈ (allNodes (pre ++ l :: post)).map lab, ∀ b ∈ (allNodes (pre ++ l :: post)).map lab, ρ a = ρ b → a = b) ∧
      (∀ p ∈ termPts (pre ++ l :: post),
        labelOf ord' (pre ++ l₁ :: l₂ :: post) p = emap ρ (labelOf ord (pre ++ l :: post) p)) ∧
      circuitTranslator π ord' (pre ++ l₁ :: l₂ :: post) =
        emap (renameCircuit ρ) (circuitTranslator π ord (pre ++ l :: post)) :=
  circuitTranslator_rewired π hord hord' id (hs.rewired hfresh) hwf

/-- non-vacuity: the wire (1,0)—(0,0) of the example drawing split at (1/2, 0) -/
example :
    let pre := C13_exDrawing.take 3
    let post := C13_exDrawing.drop 4
    let l : Sym := { cls := "Line", start := ⟨1, 0⟩, stop := ⟨0, 0⟩ }
    let l₁ : Sym := { cls := "Line", start := ⟨1, 0⟩, stop := ⟨1/2, 0⟩ }
    let l₂ : Sym := { cls := "Line", start := ⟨1/2, 0⟩, stop := ⟨0, 0⟩ }
    SplitAt (roundPt ⟨1/2, 0⟩) pre post l l₁ l₂ ∧ roundPt ⟨1/2, 0⟩ ∉ termPts (pre ++ l :: post) ∧
      pre ++ l :: post = C13_exDrawing := by
  refine ⟨⟨rfl, rfl, rfl, rfl, rfl, rfl, rfl⟩, by decide +kernel, rfl⟩

/-- **Symbol order.**  `syms'` is any permutation of the list `syms`.  Then, for any two set
orders, with a renaming `ρ` injective on the names used: every terminal is named `ρ` of its old
name (node *names* do depend on the order in which symbols were added — unlabelled nodes are
numbered in set order, several labels on one node: the last wins — so equality is up to `ρ`),
and IF the original drawing translates to a circuit `C`, the permuted one translates to a
circuit `C'` whose component list is a *permutation* of the renamed components of `C` (each with
id, kind, values and terminal order kept), and whose reference node is `ρ` of that of `C`
**provided `C` has a ground component**.  What does NOT hold in general: without a ground symbol
`Circuit.__post_init__` takes the first terminal of the *first* component as reference node,
which depends on the order (all potentials then shift by a constant, `C03_reref`); and when the
original translation raises, the permuted one raises too but possibly *another* error (the
first failing symbol in list order decides) — apply the theorem to `syms'` to get "raises ⇔ raises". -/
theorem C13_perm (π : Rat) (ord ord' : SetOrd Pt) (hord : ord.Valid) (hord' : ord'.Valid)
    (syms syms' : List Sym) (hp : syms.Perm syms') (hwf : C13_DrawingWF syms) :
    ∃ (ρ : String → String) (lab : Pt → String),
      (∀ p ∈ allNodes syms, labelOf ord syms p = .ok (lab p)) ∧
      (∀ a ∈ (allNodes syms).map lab, ∀ b ∈ (allNodes syms).map lab, ρ a = ρ b → a = b) ∧
      (∀ p ∈ termPts syms, labelOf ord' syms' p = emap ρ (labelOf ord syms p)) ∧
      (∀ C, circuitTranslator π ord syms = .ok C →
        ∃ C', circuitTranslator π ord' syms' = .ok C' ∧
          C'.components.Perm (C.components.map (renameComp ρ)) ∧
          ((∃ k ∈ C.components, k.type = "ground") → C'.groundNode = ρ C.groundNode)) :=
  circuitTranslator_perm π hord hord' hp hwf

/-- "translates successfully ⇔ translates successfully" under a permutation -/
theorem C13_perm_ok_iff (π : Rat) (ord ord' : SetOrd Pt) (hord : ord.Valid) (hord' : ord'.Valid)
    (syms syms' : List Sym) (hp : syms.Perm syms') (hwf : C13_DrawingWF syms) :
    (∃ C, circuitTranslator π ord syms = .ok C) ↔ (∃ C', circuitTranslator π ord' syms' = .ok C') := by
  have hwf' : C13_DrawingWF syms' := namesOK_perm hp hwf
  constructor
  · rintro ⟨C, hC⟩
    obtain ⟨_, _, _, _, _, h⟩ := C13_perm π ord ord' hord hord' syms syms' hp hwf
    obtain ⟨C', hC', _⟩ := h C hC
    exact ⟨C', hC'⟩
  · rintro ⟨C, hC⟩
    obtain ⟨_, _, _, _, _, h⟩ := C13_perm π ord' ord hord' hord syms' syms hp.symm hwf'
    obtain ⟨C', hC', _⟩ := h C hC
    exact ⟨C', hC'⟩

def C13_exR1 : Sym := { cls := "Resistor", name := "R1", attrs := [("R", .num ⟨2, 0⟩)], start := ⟨0, 1⟩, stop := ⟨1, 1⟩ }
def C13_exR2 : Sym := { cls := "Resistor", name := "R2", attrs := [("R", .num ⟨3, 0⟩)], start := ⟨1, 1⟩, stop := ⟨1, 0⟩ }
/-- the reference node does depend on the order when there is no ground symbol (why the last
conjunct of `C13_perm` carries its hypothesis): listed R1, R2 the reference node is R1's first terminal (0,1);
listed R2, R1 it is R2's first terminal (1,1) — the common node of the two resistors, another electrical node -/
example :
    (circuitTranslator 3 ⟨id, id⟩ [C13_exR1, C13_exR2]).toOption.map
        (fun c => (c.components.map (fun k => (k.id, k.nodes)), c.groundNode)) =
      some ([("R1", ["1", "2"]), ("R2", ["2", "3"])], "1") ∧
    (circuitTranslator 3 ⟨id, id⟩ [C13_exR2, C13_exR1]).toOption.map
        (fun c => (c.components.map (fun k => (k.id, k.nodes)), c.groundNode)) =
      some ([("R2", ["1", "3"]), ("R1", ["2", "1"])], "1") := by
  constructor <;> decide +kernel

section Solution
variable {K : Type} [Field K] [DecidableEq K]

/-- `CircuitEqs.rename_iff_of_injOn` of CC/Properties/C03.lean under the name the C13 check audits: `C03_rename` with
injectivity demanded only where it matters, on the labels that occur in the network (the renamings of `C13_moved` /
`C13_split` / `C13_perm` are injective on the names used, not on all strings). -/
theorem C13_circuitEqs_rename_on {L L' : Type} [DecidableEq L] [DecidableEq L'] (σ : L → L')
    (τ : String → String) (N : Net L K) (hσ : ∀ a ∈ N.allLabels, ∀ b ∈ N.allLabels, σ a = σ b → a = b)
    (R' : Report L' K) :
    CircuitEqs (N.rename σ τ) R' ↔ CircuitEqs N (R'.comap σ τ) :=
  CircuitEqs.rename_iff_of_injOn σ τ N hσ R'

/-- `hC`: a circuit without components keeps the placeholder reference node `""` (`renameCircuit`), which `ρ` need
not fix -/
theorem C13_netOf_rename (elem : Component → Option (String × Elem K)) (ρ : String → String) (C : Circuit)
    (hC : C.components ≠ []) : netOf elem (renameCircuit ρ C) = (netOf elem C).rename ρ id := by
  unfold netOf Net.rename renameCircuit
  simp only [hC, if_false, Net.mk.injEq, and_true]
  rw [List.filterMap_map, List.map_filterMap]
  apply List.filterMap_congr
  intro c _
  simp only [Function.comp_apply, renameComp]
  rcases c.nodes with _ | ⟨a, _ | ⟨b, _ | ⟨d, t⟩⟩⟩ <;> cases elem { c with nodes := [] } <;> rfl

theorem netOf_branch_nodes {elem : Component → Option (String × Elem K)} {C : Circuit} {b : Branch String K}
    (hb : b ∈ (netOf elem C).branches) : ∃ c ∈ C.components, c.nodes = [b.n1, b.n2] := by
  obtain ⟨c, hc, h⟩ := List.mem_filterMap.mp hb
  refine ⟨c, hc, ?_⟩
  split at h
  · next a b' te hn _ => cases h; exact hn
  · cases h

theorem C13_netOf_labels (elem : Component → Option (String × Elem K)) (C : Circuit) :
    ∀ n ∈ (netOf elem C).allLabels, n = C.groundNode ∨ ∃ c ∈ C.components, n ∈ c.nodes := by
  intro n hn
  unfold Net.allLabels at hn
  simp only [List.mem_cons, List.mem_append, List.mem_map] at hn
  rcases hn with rfl | ⟨b, hb, rfl⟩ | ⟨b, hb, rfl⟩
  · exact Or.inl rfl
  · obtain ⟨c, hc, h⟩ := netOf_branch_nodes hb
    exact Or.inr ⟨c, hc, h ▸ List.mem_cons_self⟩
  · obtain ⟨c, hc, h⟩ := netOf_branch_nodes hb
    exact Or.inr ⟨c, hc, h ▸ List.mem_cons_of_mem _ List.mem_cons_self⟩

/-- every label of the network is the name of a parser node (`circuit_names_sub`), and `ρ` is injective on those -/
theorem circuitEqs_renameCircuit (π : Rat) {ord : SetOrd Pt} (hord : ord.Valid) (syms : List Sym)
    (hwf : C13_DrawingWF syms) (lab : Pt → String) (h1 : ∀ p ∈ allNodes syms, labelOf ord syms p = .ok (lab p))
    (ρ : String → String) (h2 : ∀ a ∈ (allNodes syms).map lab, ∀ b ∈ (allNodes syms).map lab, ρ a = ρ b → a = b)
    {C : Circuit} (hC : circuitTranslator π ord syms = .ok C) (hne : C.components ≠ [])
    (elem : Component → Option (String × Elem K)) (R' : Report String K) :
    CircuitEqs (netOf elem (renameCircuit ρ C)) R' ↔ CircuitEqs (netOf elem C) (R'.comap ρ id) := by
  rw [C13_netOf_rename elem ρ C hne]
  obtain ⟨hn, hg⟩ := circuit_names_sub π hord syms hwf lab h1 hC
  have hsub : ∀ n ∈ (netOf elem C).allLabels, n ∈ (allNodes syms).map lab := by
    intro n hn'
    rcases C13_netOf_labels elem C n hn' with rfl | ⟨c, hc, hcn⟩
    · exact hg hne
    · exact hn c hc n hcn
  exact C13_circuitEqs_rename_on ρ id _ (fun a ha b hb => h2 a (hsub a ha) b (hsub b hb)) R'

theorem circuitTranslator_rewired_same_solution (π : Rat) {ord ord' : SetOrd Pt} (hord : ord.Valid) (hord' : ord'.Valid)
    (g : Pt → Pt) {syms syms' : List Sym} (h : Rewired g syms syms') (hwf : C13_DrawingWF syms) {C : Circuit}
    (hC : circuitTranslator π ord syms = .ok C) (hne : C.components ≠ []) :
    ∃ ρ : String → String, circuitTranslator π ord' syms' = .ok (renameCircuit ρ C) ∧
      ∀ (elem : Component → Option (String × Elem K)) (R' : Report String K),
        CircuitEqs (netOf elem (renameCircuit ρ C)) R' ↔ CircuitEqs (netOf elem C) (R'.comap ρ id) := by
  obtain ⟨ρ, lab, h1, h2, _, h5⟩ := circuitTranslator_rewired π hord hord' g h hwf
  exact ⟨ρ, by rw [h5, hC]; rfl, circuitEqs_renameCircuit π hord syms hwf lab h1 ρ h2 hC hne⟩

/-- **Coordinate map ⇒ same solution.**  Under the hypotheses of `C13_moved`, if the original
drawing translates to a circuit `C` with at least one component, the moved drawing translates to
`renameCircuit ρ C`, and for every node-blind reading `elem` of components as electrical branch
records, over every field: a report solves the circuit equations (`CircuitEqs`: reference node
at 0, branch voltages, element laws, Kirchhoff's current law) of the moved drawing's network iff,
read through `ρ` (`Report.comap`), it solves those of the original's.  With `C01_unique` (a
well-posed network has exactly one solution) both drawings therefore have the same potentials at
corresponding nodes and the same voltage and current in every element. -/
theorem C13_moved_same_solution (π : Rat) (ord ord' : SetOrd Pt) (hord : ord.Valid) (hord' : ord'.Valid)
    (g : Pt → Pt) (syms syms' : List Sym) (hm : MappedBy g syms syms') (hinj : InjOnTerms g syms)
    (hwf : C13_DrawingWF syms) (C : Circuit) (hC : circuitTranslator π ord syms = .ok C)
    (hne : C.components ≠ []) :
    ∃ ρ : String → String, circuitTranslator π ord' syms' = .ok (renameCircuit ρ C) ∧
      ∀ (elem : Component → Option (String × Elem K)) (R' : Report String K),
        CircuitEqs (netOf elem (renameCircuit ρ C)) R' ↔ CircuitEqs (netOf elem C) (R'.comap ρ id) :=
  circuitTranslator_rewired_same_solution π hord hord' g (hm.rewired hinj) hwf hC hne

/-- **Wire split ⇒ same solution** (as `C13_moved_same_solution`). -/
theorem C13_split_same_solution (π : Rat) (ord ord' : SetOrd Pt) (hord : ord.Valid) (hord' : ord'.Valid)
    (c : Pt) (pre post : List Sym) (l l₁ l₂ : Sym) (hs : SplitAt c pre post l l₁ l₂)
    (hfresh : c ∉ termPts (pre ++ l :: post)) (hwf : C13_DrawingWF (pre ++ l :: post))
    (C : Circuit) (hC : circuitTranslator π ord (pre ++ l :: post) = .ok C) (hne : C.components ≠ []) :
    ∃ ρ : String → String, circuitTranslator π ord' (pre ++ l₁ :: l₂ :: post) = .ok (renameCircuit ρ C) ∧
      ∀ (elem : Component → Option (String × Elem K)) (R' : Report String K),
        CircuitEqs (netOf elem (renameCircuit ρ C)) R' ↔ CircuitEqs (netOf elem C) (R'.comap ρ id) :=
  circuitTranslator_rewired_same_solution π hord hord' id (hs.rewired hfresh) hwf hC hne

/-- **Symbol order ⇒ same solution**, for drawings with a ground symbol: the permuted drawing
translates to some `C'`, and a report solves the network of `C'` iff, read through `ρ`, it
solves the network of `C` (`C03_perm` for the listing order, then the renaming). -/
theorem C13_perm_same_solution (π : Rat) (ord ord' : SetOrd Pt) (hord : ord.Valid) (hord' : ord'.Valid)
    (syms syms' : List Sym) (hp : syms.Perm syms') (hwf : C13_DrawingWF syms)
    (C : Circuit) (hC : circuitTranslator π ord syms = .ok C) (hgnd : ∃ k ∈ C.components, k.type = "ground") :
    ∃ (ρ : String → String) (C' : Circuit), circuitTranslator π ord' syms' = .ok C' ∧
      ∀ (elem : Component → Option (String × Elem K)) (R' : Report String K),
        CircuitEqs (netOf elem C') R' ↔ CircuitEqs (netOf elem C) (R'.comap ρ id) := by
  obtain ⟨ρ, lab, h1, h2, _, h⟩ := C13_perm π ord ord' hord hord' syms syms' hp hwf
  obtain ⟨C', hC', hperm, hg'⟩ := h C hC
  have hne : C.components ≠ [] := by
    obtain ⟨k, hk, _⟩ := hgnd
    intro h; rw [h] at hk; cases hk
  refine ⟨ρ, C', hC', ?_⟩
  intro elem R'
  have hz : (netOf elem C').zero = (netOf elem (renameCircuit ρ C)).zero := by
    show C'.groundNode = (renameCircuit ρ C).groundNode
    rw [hg' hgnd, renameCircuit_groundNode ρ hne]
  have hb : (netOf elem C').branches.Perm (netOf elem (renameCircuit ρ C)).branches := by
    unfold netOf
    exact hperm.filterMap _
  rw [C03_perm _ _ hz hb R']
  exact circuitEqs_renameCircuit π hord syms hwf lab h1 ρ h2 hC hne elem R'

end Solution

/-- non-vacuity of the "same solution" theorems: the example drawing translates to a circuit
with components and a ground component -/
example : ∃ C, circuitTranslator 3 ⟨id, id⟩ C13_exDrawing = .ok C ∧ C.components ≠ [] ∧
    ∃ k ∈ C.components, k.type = "ground" :=
  ⟨_, C13_exDrawing_circuit, by simp, _,
    List.mem_cons_of_mem _ (List.mem_cons_of_mem _ (List.mem_cons_of_mem _ List.mem_cons_self)), rfl⟩

end CC
