/-
  C06 (translator tie, second part) — `open_circuit_voltage` and `short_circuit_current`
  (Network/NodalAnalysis/bias_point_analysis.py) as harness/extract_port.py regenerates them from the Python AST on
  every run (CC/Gen/Port.lean) equal the hand-written model CC/Model/Port.lean the C06 theorems are about.

  The statements hold for every network that IS a `Network` object (`N.check = .ok ()`: the constructor's checks
  passed — the Python functions receive a constructed object and do not run the constructor again, the hand model's
  `assemble` does), all labels, every field and EVERY solver, exception paths included (`KeyError` of `get_potential`,
  every exception of `open_circuit_impedance`, `ZeroDivisionError`, the `inf`/`nan` quotient reported as `NonFinite`,
  `V / inf = 0`).
  Hypothesis `hnan`: `np.any(np.isnan(x))` — a parameter of the generated `__post_init__` — is constantly false (the
  hand model computes in an exact field, which has no `nan`).
  Value bridge: the generated `open_circuit_voltage` returns the number WITH its run-time class (`Py.Scalar`: the
  Python integer of `return 0`, or a numpy scalar); the hand model returns the number; `Scalar.val` forgets the class
  (`C06_gen_open_circuit_voltage_value`).  `short_circuit_current` needs no bridge.

  NOT proved here: that `Py.Scalar` / `Py.divScalar` (CC/Model/PortBase2.lean) read Python's `int`/numpy division
  correctly (trusted base); anything about `np.linalg.solve`; the Thevenin/Norton records (equivalent_sources.py) and
  the sweep wrappers (Circuit/impedance.py) stay hand-modelled.
-/
import CC.Properties.C06Gen
import CC.Properties.C01SelfLoop

namespace CC.PortGen
open CC CC.Gen.Core CC.Gen.Transformers CC.Py
variable {L K : Type} [DecidableEq L] [LabelOrd L] [Field K] [DecidableEq K]

def scalarValue : Except Err (Py.Scalar K) → Except Err K
  | .ok s => .ok s.val
  | .error e => .error e

end CC.PortGen

namespace CC
open CC.Gen.Core CC.Py CC.PortGen
variable {L K : Type} [DecidableEq L] [LabelOrd L] [Field K] [DecidableEq K]

/-- **`open_circuit_voltage`, generated = hand model** for every constructed network, all labels and
every solver on arrays: the solution is built BEFORE the `node1 == node2` test (its exceptions come
first), then the integer `0`, else the two `get_potential` look-ups in order and their difference.
The right-hand side tags the hand model's number with the class the Python value has. -/
theorem C06_gen_open_circuit_voltage [LawfulLabelOrd L] (solve : Py.Mat K → List K → Option (List K))
    (anyNan : List K → Bool) (hnan : ∀ x, anyNan x = false) (N : Net L K) (hN : N.check = .ok ()) (n1 n2 : L) :
    Gen.Port.open_circuit_voltage solve anyNan N n1 n2
      = (N.openCircuitVoltage (rowsSolver solve) n1 n2).map
          (fun v => if n1 = n2 then Py.Scalar.pyInt v else Py.Scalar.npy v) := by
  have hids := ((Net.check_ok_iff N).mp hN).2
  have hlen : N.mnaA.length = N.nodes.length + N.vsIds.length := by
    rw [mnaA_length, vsSorted_length N hids]
  unfold Gen.Port.open_circuit_voltage Net.openCircuitVoltage Net.solutionVector Net.assemble rowsSolver
  simp only []
  rw [gen_solution_vector solve anyNan N hids, hN]
  simp only [hnan, C01_gen_potential, bind, Except.bind, pure, Except.pure, Except.map, Bool.false_eq_true, if_false, hlen]
  cases hs : solve _ N.mnaB with
  | none =>
    simp only [List.map_const']
    by_cases h : n1 = n2
    · simp [h]
    · simp only [h, if_false]
      cases N.potential _ n1 with
      | error e => rfl
      | ok p1 => cases N.potential _ n2 <;> rfl
  | some x =>
    by_cases h : n1 = n2
    · simp [h]
    · simp only [h, if_false]
      cases N.potential _ n1 with
      | error e => rfl
      | ok p1 => cases N.potential _ n2 <;> rfl

/-- the same read as numbers, for every solver of the hand model (a function of the rows) -/
theorem C06_gen_open_circuit_voltage_value [LawfulLabelOrd L] (solve : List (List K) → List K → Option (List K))
    (anyNan : List K → Bool) (hnan : ∀ x, anyNan x = false) (N : Net L K) (hN : N.check = .ok ()) (n1 n2 : L) :
    scalarValue (Gen.Port.open_circuit_voltage (fun M b => solve M.rows b) anyNan N n1 n2)
      = N.openCircuitVoltage solve n1 n2 := by
  rw [C06_gen_open_circuit_voltage _ anyNan hnan N hN]
  show scalarValue (Except.map _ (N.openCircuitVoltage solve n1 n2)) = _
  cases N.openCircuitVoltage solve n1 n2 with
  | error e => rfl
  | ok v => by_cases h : n1 = n2 <;> simp [Except.map, scalarValue, h, Py.Scalar.val]

/-- **`short_circuit_current`, generated = hand model**: `open_circuit_impedance` first, then
`open_circuit_voltage`, then `V / Z` — `ZeroDivisionError` for `node1 == node2`, `NonFinite` for a
computed zero impedance, `0` for an infinite one. -/
theorem C06_gen_short_circuit_current [LawfulLabelOrd L] (solve : Py.Mat K → List K → Option (List K))
    (anyNan : List K → Bool) (hnan : ∀ x, anyNan x = false) (N : Net L K) (hN : N.check = .ok ()) (n1 n2 : L) :
    Gen.Port.short_circuit_current solve anyNan N n1 n2 = N.shortCircuitCurrent (rowsSolver solve) n1 n2 := by
  unfold Gen.Port.short_circuit_current Net.shortCircuitCurrent
  rw [C06_gen_open_circuit_impedance, C06_gen_open_circuit_voltage solve anyNan hnan N hN]
  cases hZ : N.openCircuitImpedance (rowsSolver solve) n1 n2 with
  | error e =>
    by_cases he : e = .other "Infinite"
    · subst he
      simp only [portValue, bind, Except.bind, pure, Except.pure]
      cases N.openCircuitVoltage (rowsSolver solve) n1 n2 <;> rfl
    · rw [portValue_error he]
      show Except.error e = _
      split
      · rename_i heq; cases heq; exact absurd rfl he
      · rename_i heq; cases heq; rfl
      · rename_i heq; cases heq
  | ok Z =>
    simp only [portValue, bind, Except.bind, pure, Except.pure]
    cases N.openCircuitVoltage (rowsSolver solve) n1 n2 with
    | error e => rfl
    | ok V =>
      simp only [Except.map, Py.divScalar]
      by_cases h : n1 = n2
      · have hz : Z = 0 := by
          have : N.openCircuitImpedance (rowsSolver solve) n1 n2 = .ok 0 := by
            unfold Net.openCircuitImpedance Net.portPre; simp [h]
          rw [this] at hZ; cases hZ; rfl
        simp [h, hz]
      · by_cases hz : Z = 0 <;> simp [h, hz, Py.Scalar.val]

theorem C06_gen_short_circuit_current_rows [LawfulLabelOrd L] (solve : List (List K) → List K → Option (List K))
    (anyNan : List K → Bool) (hnan : ∀ x, anyNan x = false) (N : Net L K) (hN : N.check = .ok ()) (n1 n2 : L) :
    Gen.Port.short_circuit_current (fun M b => solve M.rows b) anyNan N n1 n2 = N.shortCircuitCurrent solve n1 n2 :=
  C06_gen_short_circuit_current (fun M b => solve M.rows b) anyNan hnan N hN n1 n2

/-- non-vacuity of `hN` and `hnan`: a corpus network (with a self-loop resistor) is a constructed `Network`; the
constant function answers `false` -/
example : exampleSelfLoop.check = .ok () := C01_self_loop_witness.1
example : ∀ x : List ℚ, (fun _ => false) x = false := fun _ => rfl

end CC
