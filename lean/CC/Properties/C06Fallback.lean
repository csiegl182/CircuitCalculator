/-
  Property C06 — the `LinAlgError` fallback of `open_circuit_voltage`.

  `NodalAnalysisBiasPointSolution.__post_init__` (bias_point_analysis.py:11-25) catches `numpy.linalg.LinAlgError` and
  continues with the ZERO vector; the model has it in `Net.solutionVector` (CC/Model/Port.lean).  The theorems of
  CC/Properties/C06Equiv.lean exclude the path by the hypothesis `solve N.mnaA N.mnaB ≠ none`; this file treats it:
  on that path `open_circuit_voltage` reports `0` whatever the network, and a solver that answers whenever an answer
  exists never takes it on a valid well-posed network.
-/
import CC.Properties.C06Replace
set_option linter.unusedSectionVars false

namespace CC
variable {L K : Type} [DecidableEq L] [LabelOrd L] [Field K] [DecidableEq K]

/-- a solver that answers whenever an answer exists (numpy raises `LinAlgError` only for a singular matrix; a
consistent singular system is not covered by this assumption's converse — see `C06_solver_none_iff`) -/
def SolveComplete (solve : List (List K) → List K → Option (List K)) : Prop :=
  ∀ A b, (∃ x : List K, x.length = b.length ∧ matVec A x = b) → solve A b ≠ none

/-- **C06 (`__post_init__`: exactly when the zero-vector fallback is taken).**  `solutionVector` raises iff the
`Network` constructor checks fail; otherwise it returns the solver's vector when there is one, and the zero vector of
the length of the right-hand side when — and only when — the solver returns `none` (`LinAlgError`). -/
theorem C06_solutionVector_cases (solve : List (List K) → List K → Option (List K)) (N : Net L K) (x : List K) :
    N.solutionVector solve = .ok x ↔
      N.check = .ok () ∧ (solve N.mnaA N.mnaB = some x ∨
        (solve N.mnaA N.mnaB = none ∧ x = N.mnaB.map fun _ => (0 : K))) := by
  unfold Net.solutionVector Net.assemble
  cases hc : N.check with
  | error e => simp [bind, Except.bind]
  | ok u =>
    cases hs : solve N.mnaA N.mnaB with
    | none =>
      simp only [bind, Except.bind, pure, Except.pure, hs, Except.ok.injEq, true_and, reduceCtorEq, false_or]
      constructor
      · intro h; exact h.symm
      · intro h; exact h.symm
    | some y =>
      simp only [bind, Except.bind, pure, Except.pure, hs, Except.ok.injEq, true_and, Option.some.injEq,
        reduceCtorEq, false_and, or_false]

theorem potential_zeros {N : Net L K} {l : List K} {n : L} {p : K}
    (h : N.potential (l.map fun _ => (0 : K)) n = .ok p) : p = 0 := by
  unfold Net.potential at h
  split at h
  · exact (Except.ok.inj h).symm
  · split at h
    · next k _ =>
      rw [← Except.ok.inj h, List.getD_eq_getElem?_getD, List.getElem?_map]
      cases l[k]? <;> rfl
    · cases h

/-- **C06 (what the fallback reports).**  When the solver returns `none` for the network's own system,
`open_circuit_voltage` — if it returns a number at all — returns `0`, for every network and every port: the zero
vector is read as "all potentials zero".  (For a network with sources that is not a solution of the circuit
equations; `C06_oc_voltage_no_fallback` shows that a complete solver never gets here on a well-posed network.) -/
theorem C06_oc_voltage_fallback_value (solve : List (List K) → List K → Option (List K)) (N : Net L K)
    (n1 n2 : L) (V : K) (hnone : solve N.mnaA N.mnaB = none)
    (h : N.openCircuitVoltage solve n1 n2 = .ok V) : V = 0 := by
  obtain ⟨x, hx, h⟩ := openCircuitVoltage_ok.mp h
  obtain ⟨_, hs | ⟨_, rfl⟩⟩ := (C06_solutionVector_cases solve N x).mp hx
  · rw [hnone] at hs; cases hs
  · split at h
    · exact h
    · obtain ⟨p1, h1, p2, h2, rfl⟩ := h
      rw [potential_zeros h1, potential_zeros h2, sub_zero]

theorem C06_solver_none_iff (solve : List (List K) → List K → Option (List K)) (hok : SolveOK solve)
    (hc : SolveComplete solve) (A : List (List K)) (b : List K) :
    solve A b = none ↔ ¬ ∃ x : List K, x.length = b.length ∧ matVec A x = b := by
  constructor
  · intro h hex; exact hc A b hex h
  · intro h
    cases hs : solve A b with
    | none => rfl
    | some x => exact absurd ⟨x, hok A b x hs⟩ h

/-- **C06 (the system of a valid well-posed network is solvable).**  By `exists_all` (CC/Proofs/Exists.lean): the
matrix is square with trivial kernel, hence onto (Mathlib: injective ⇔ unit ⇔ surjective). -/
theorem C06_mna_solution_exists (N : Net L K) (wf : N.WF) (hw : WellPosed N) :
    ∃ x : List K, x.length = N.mnaB.length ∧ matVec N.mnaA x = N.mnaB := by
  obtain ⟨x, hx, hsol, _⟩ := exists_all N wf.ids_nodup wf.zero_mem hw
  exact ⟨x, by rw [hx, (mnaA_dims N wf.ids_nodup).2.2], hsol⟩

/-- **C06 (`open_circuit_voltage` never takes the `LinAlgError` fallback on a well-posed network).**  For a valid
(`WF`) well-posed network and a solver that answers whenever the system has a solution (`SolveComplete`), the
solver does answer for the network's own system — the hypothesis `hsome` of `C06_openCircuitVoltage_sound`,
`C06_shortCircuitCurrent_spec`, `C06_thevenin_record_terminal`, `C06_norton_record_terminal`, `C06_thevenin_replace`,
`C06_norton_replace` is met —, and with `SolveOK` the vector `solutionVector` returns solves the system (it is not
the zero-vector stand-in).  About the model; exact arithmetic: numpy may still raise on an ill-conditioned matrix that
is exactly regular. -/
theorem C06_oc_voltage_no_fallback (N : Net L K) (solve : List (List K) → List K → Option (List K))
    (wf : N.WF) (hw : WellPosed N) (hc : SolveComplete solve) :
    solve N.mnaA N.mnaB ≠ none ∧
      (SolveOK solve → ∃ x, N.solutionVector solve = .ok x ∧ solve N.mnaA N.mnaB = some x ∧
        matVec N.mnaA x = N.mnaB) := by
  have hne := hc _ _ (C06_mna_solution_exists N wf hw)
  refine ⟨hne, fun hok => ?_⟩
  cases hs : solve N.mnaA N.mnaB with
  | none => exact absurd hs hne
  | some x =>
    have hcheck : N.check = .ok () := (Net.check_ok_iff N).mpr ⟨wf.zero_mem, wf.ids_nodup⟩
    exact ⟨x, solutionVector_some solve N x hcheck hs, rfl, (hok _ _ x hs).2⟩

/-- **C06 (`open_circuit_voltage` of a well-posed network is THE open-circuit port voltage).**  Valid well-posed
network, sound and complete solver, two labels of the network: whatever number the function returns is
`φ(n1) − φ(n2)` in EVERY solution of the circuit equations of `N` — no hypothesis on the solver's answer. -/
theorem C06_oc_voltage_wellposed (N : Net L K) (solve : List (List K) → List K → Option (List K))
    (n1 n2 : L) (V : K) (wf : N.WF) (hw : WellPosed N) (hsolve : SolveOK solve) (hc : SolveComplete solve)
    (h1 : n1 ∈ N.allLabels) (h2 : n2 ∈ N.allLabels) (h : N.openCircuitVoltage solve n1 n2 = .ok V)
    (R : Report L K) (hR : CircuitEqs N R) : V = R.pot n1 - R.pot n2 := by
  obtain ⟨S, hS, hV⟩ := C06_openCircuitVoltage_sound N solve n1 n2 V wf hsolve
    (C06_oc_voltage_no_fallback N solve wf hw hc).1 h1 h2 h
  obtain ⟨hpot, _⟩ := C01_unique N wf.ids_nodup hw S R hS hR
  rw [hV, hpot n1 h1, hpot n2 h2]

/-- `C06_thevenin_record_terminal` without the hypothesis "the solver answers": `WellPosed N` and a complete solver -/
theorem C06_thevenin_record_terminal_wp (N : Net L K) (solve : List (List K) → List K → Option (List K))
    (pid : String) (n1 n2 : L) (z' : K) (T : TheveninEq K) (wf : N.WF) (hwN : WellPosed N) (hsolve : SolveOK solve)
    (hc : SolveComplete solve) (hp : pid ∉ N.ids) (h1 : n1 ∈ N.allLabels) (h2 : n2 ∈ N.allLabels)
    (hw : WellPosed (probeNet N pid n1 n2 1)) (hdef : PortZ N pid n1 n2 z')
    (h : N.theveninEquivalent solve n1 n2 = .ok T)
    (x : Branch L K) (hx1 : x.n1 = n1) (hx2 : x.n2 = n2) (Rl : Report L K) (hl : CircuitEqs (N.attach x) Rl) :
    Rl.pot n1 - Rl.pot n2 = T.U - T.Z * x.e.physCurrent (Rl.i x.id) :=
  C06_thevenin_record_terminal N solve pid n1 n2 z' T wf hsolve hp (C06_oc_voltage_no_fallback N solve wf hwN hc).1
    h1 h2 hw hdef h x hx1 hx2 Rl hl

/-- `C06_norton_record_terminal` without the hypothesis "the solver answers" -/
theorem C06_norton_record_terminal_wp (N : Net L K) (solve : List (List K) → List K → Option (List K))
    (pid : String) (n1 n2 : L) (z' : K) (T : TheveninEq K) (Q : NortonEq K) (wf : N.WF) (hwN : WellPosed N)
    (hsolve : SolveOK solve) (hc : SolveComplete solve)
    (hp : pid ∉ N.ids) (h1 : n1 ∈ N.allLabels) (h2 : n2 ∈ N.allLabels)
    (hw : WellPosed (probeNet N pid n1 n2 1)) (hdef : PortZ N pid n1 n2 z')
    (hT : N.theveninEquivalent solve n1 n2 = .ok T) (hQ : N.nortonEquivalent solve n1 n2 = .ok Q)
    (x : Branch L K) (hx1 : x.n1 = n1) (hx2 : x.n2 = n2) (Rl : Report L K) (hl : CircuitEqs (N.attach x) Rl) :
    (T.Z ≠ 0 ∧ Q.I = T.U / T.Z ∧ Q.Y = 1 / T.Z ∧ T.U = T.Z * Q.I) ∧
      x.e.physCurrent (Rl.i x.id) = Q.I - Q.Y * (Rl.pot n1 - Rl.pot n2) :=
  C06_norton_record_terminal N solve pid n1 n2 z' T Q wf hsolve hp (C06_oc_voltage_no_fallback N solve wf hwN hc).1
    h1 h2 hw hdef hT hQ x hx1 hx2 Rl hl

/-- `C06_thevenin_replace` without the hypothesis "the solver answers" -/
theorem C06_thevenin_replace_wp (N : Net L K) (solve : List (List K) → List K → Option (List K))
    (pid : String) (n1 n2 : L) (z' : K) (T : TheveninEq K) (wf : N.WF) (hwN : WellPosed N) (hsolve : SolveOK solve)
    (hc : SolveComplete solve) (hp : pid ∉ N.ids) (h1 : n1 ∈ N.allLabels) (h2 : n2 ∈ N.allLabels)
    (hw : WellPosed (probeNet N pid n1 n2 1)) (hdef : PortZ N pid n1 n2 z')
    (h : N.theveninEquivalent solve n1 n2 = .ok T)
    (x : Branch L K) (hx1 : x.n1 = n1) (hx2 : x.n2 = n2) (hn : n1 ≠ n2) (m : L) (hm1 : m ≠ n1) (hm2 : m ≠ n2)
    (sid zid : String) (hsz : sid ≠ zid) (hxs : x.id ≠ sid) (hxz : x.id ≠ zid)
    (hdet : x.e.seriesDet T.Z ≠ 0)
    (Rl : Report L K) (hl : CircuitEqs (N.attach x) Rl)
    (Re : Report L K) (he : CircuitEqs ((thevNet n1 n2 m sid zid T.U T.Z).attach x) Re) :
    Rl.v x.id = Re.v x.id ∧ Rl.i x.id = Re.i x.id ∧ Rl.pot n1 - Rl.pot n2 = Re.pot n1 - Re.pot n2 :=
  C06_thevenin_replace N solve pid n1 n2 z' T wf hsolve hp (C06_oc_voltage_no_fallback N solve wf hwN hc).1
    h1 h2 hw hdef h x hx1 hx2 hn m hm1 hm2 sid zid hsz hxs hxz hdet Rl hl Re he

namespace C06ex

noncomputable def solveC : List (List ℚ) → List ℚ → Option (List ℚ) := fun A b =>
  open Classical in
  if h : ∃ x : List ℚ, x.length = b.length ∧ matVec A x = b then some (Classical.choose h) else none

theorem solveC_ok : SolveOK solveC := by
  intro A b x h
  unfold solveC at h
  split at h
  · rename_i hex
    cases h
    exact Classical.choose_spec hex
  · cases h

theorem solveC_complete : SolveComplete solveC := by
  intro A b hex
  unfold solveC
  simp [hex]

theorem exN_wellPosed_self : WellPosed exN := exN_wellPosed

end C06ex

/-- non-vacuity of `C06_oc_voltage_no_fallback`, `C06_oc_voltage_wellposed`, `C06_solver_none_iff` and the `_wp` theorems:
`exN` is valid and well-posed, a sound and complete solver exists; hence that solver answers for `exN`'s system. -/
example : C06ex.exN.WF ∧ WellPosed C06ex.exN ∧ SolveOK C06ex.solveC ∧ SolveComplete C06ex.solveC ∧
    C06ex.solveC C06ex.exN.mnaA C06ex.exN.mnaB ≠ none :=
  ⟨C06ex.exN_wf, C06ex.exN_wellPosed_self, C06ex.solveC_ok, C06ex.solveC_complete,
    (C06_oc_voltage_no_fallback C06ex.exN C06ex.solveC C06ex.exN_wf C06ex.exN_wellPosed_self
      C06ex.solveC_complete).1⟩

/-- non-vacuity of `C06_oc_voltage_fallback_value` and the fallback case of `C06_solutionVector_cases`: the solver that
never answers sends `exN` (open-circuit voltage `5 V` at the port `(2, 0)`) down the fallback path: `0 V` reported. -/
example : C06ex.exN.solutionVector (fun _ _ => none) = .ok [0, 0, 0] ∧
    C06ex.exN.openCircuitVoltage (fun _ _ => none) 2 0 = .ok 0 := by
  have hs : C06ex.exN.solutionVector (fun _ _ => none) = .ok [(0 : ℚ), 0, 0] := by
    rw [C06_solutionVector_cases]
    exact ⟨C06ex.exN_check, Or.inr ⟨rfl, by rw [C06ex.exN_mnaB]; rfl⟩⟩
  refine ⟨hs, ?_⟩
  unfold Net.openCircuitVoltage
  rw [hs]
  simp only [Net.potential, C06ex.exN_nodes]
  decide +kernel

end CC
