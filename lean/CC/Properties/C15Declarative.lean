/-
  C15 — the declarative front end `create_schematic` as a whole, and keyword layouts with extra
  keys: the symbol and the circuit do not see them (their save ∘ load: CC/Properties/C15Extras.lean).

  Model: `CC.Draw.declarative` (CC/Model/DrawIO.lean; mirrors SimpleSimulation/schematic.py
  `transform_to_schematic_element`, `element_factory`, `apply_direction_and_length`,
  `apply_position`) over the generated handler / class tables.
-/
import CC.Proofs.DrawDeclarative2
import CC.Proofs.DrawLift
import CC.Properties.C15
namespace CC
open CC.Draw

/-- **`declarative` characterised, for every description list.**  `declarative π unit elems`
succeeds with the placement list `ps` **iff** `elems` and `ps` correspond entry by entry, in
order (`DeclRel`, threaded with the names of the symbols built so far): for each entry `e` and
its placement `p` (`EntrySpec`) the `type` of `e` is a key `t` of the generated handler table
with handler `h`; `p.cls` is the handler's class (`LabeledLine` instead of `Line` exactly when
the entry has a `name`); `p.kwargs` is the entry plus `element_factory`'s defaults; that
constructor call succeeds; `p.method` is the entry's `direction` looked up in the generated
direction table (`""` = no call); `p.length = length × unit` (`length` defaults to 1);
`p.plain` says whether the class is one-terminal (method called without length); `p.after` is
`none` without `place_after`, else the index of the *first* earlier symbol with that name (it
exists).  Says nothing about schemdraw's geometry (a parameter of the model) and nothing about
`schematic.py` beyond the model (correspondence `draw_declarative`). -/
theorem C15_declarative_list (π unit : Rat) (elems : List (List (String × Val))) (ps : List Placement) :
    declarative π unit elems = .ok ps ↔ ∃ out, DeclRel π unit [] elems ps out := by
  rw [declarative_eq_declFrom]
  exact ⟨declFrom_ok π unit elems [] ps, fun ⟨_, h⟩ => declFrom_of_rel h⟩

/-- one placement per entry (order is part of `C15_declarative_list` / `C15_declarative_symbols`) -/
theorem C15_declarative_length (π unit : Rat) (elems : List (List (String × Val))) (ps : List Placement)
    (h : declarative π unit elems = .ok ps) : ps.length = elems.length := by
  obtain ⟨_, hr⟩ := (C15_declarative_list π unit elems ps).mp h
  exact hr.length

/-- what entry `e` and its placement `p` have to do with each other, besides `place_after`; the fourth
conjunct says that the constructor call of the placement (whole description as keywords) equals the
programmatic call with the constructor keywords only (`declarative_frame`) -/
def C15_EntryBuilt (π unit : Rat) (e : List (String × Val)) (p : Placement) : Prop :=
  ∃ t h, e.lookup "type" = some (.str t) ∧ Gen.declHandlers.find? (·.typ = t) = some h ∧
    p.cls = handlerClass h e ∧
    construct π p.cls p.kwargs = construct π (handlerClass h e) (ctorKw e) ∧
    (∃ o, construct π (handlerClass h e) (ctorKw e) = .ok o) ∧
    p.method = entryMethod e ∧ p.length = entryLen e * unit ∧ p.plain = oneTerminal (handlerClass h e)

theorem C15_entryBuilt_of_spec {π unit : Rat} {names : List String} {e : List (String × Val)} {p : Placement} {n : String}
    (h : EntrySpec π unit names e p n) : C15_EntryBuilt π unit e p := by
  obtain ⟨t, hd, o, a, h1, h2, h3, h4, hp, hn⟩ := h
  subst hp
  have hf := declarative_frame π hd (List.mem_of_find?_eq_some h2) e
  exact ⟨t, hd, h1, h2, rfl, hf, ⟨o, hf ▸ h3⟩, rfl, rfl, rfl⟩

theorem C15_rel_built {π unit : Rat} {names out : List String} {elems : List (List (String × Val))} {ps : List Placement}
    (hr : DeclRel π unit names elems ps out) : List.Forall₂ (C15_EntryBuilt π unit) elems ps := by
  induction hr with
  | nil names => exact List.Forall₂.nil
  | cons n hs _ ih => exact List.Forall₂.cons (C15_entryBuilt_of_spec hs) ih

/-- **The symbols are the ones the constructors build** (same kind, name, reversal flag, node
id, values — `construct` returns all of them), in the order of the entries: for every
description list that builds, entries and placements correspond one to one in order, and for
each the constructor call made by the declarative path (`p.cls(**p.kwargs)`, whole description)
equals — as a value of `Except Err SymObj` — the programmatic call `Class(**ctorKw e)` with the
constructor keywords only (the description without `type`, `direction`, `length`,
`place_after`; `name=''`, `reverse=False` when absent), for **any** keys, key order and values;
both succeed; the direction method, `length × unit` and the one-terminal flag are what the
entry says.  The generic frame fact behind it is `CC.Draw.construct_congr`: the constructor
reads its keywords by `lookup` at the class's own keys only. -/
theorem C15_declarative_symbols (π unit : Rat) (elems : List (List (String × Val))) (ps : List Placement)
    (h : declarative π unit elems = .ok ps) : List.Forall₂ (C15_EntryBuilt π unit) elems ps := by
  obtain ⟨out, hr⟩ := (C15_declarative_list π unit elems ps).mp h
  exact C15_rel_built hr

/-- **Unknown type ⇒ `UnknownCircuitElement`**: if the entries before `e` build and the `type`
of `e` is a string that is no key of the handler table, the whole call fails with
`Err.unknownKind` (whatever follows). -/
theorem C15_declarative_unknown (π unit : Rat) (pre post : List (List (String × Val))) (e : List (String × Val))
    (ps : List Placement) (t : String) (hpre : declarative π unit pre = .ok ps)
    (h1 : e.lookup "type" = some (.str t)) (h2 : Gen.declHandlers.find? (·.typ = t) = none) :
    declarative π unit (pre ++ e :: post) = .error Err.unknownKind := by
  obtain ⟨out, hr⟩ := (C15_declarative_list π unit pre ps).mp hpre
  rw [declarative_eq_declFrom, declFrom_append hr]
  simp only [declFrom, declStep_unknown h1 h2]
  rfl

/-- **No `type` key ⇒ `MissingArgument`** (same shape). -/
theorem C15_declarative_untyped (π unit : Rat) (pre post : List (List (String × Val))) (e : List (String × Val))
    (ps : List Placement) (hpre : declarative π unit pre = .ok ps) (h1 : e.lookup "type" = none) :
    declarative π unit (pre ++ e :: post) = .error (Err.other "MissingArgument") := by
  obtain ⟨out, hr⟩ := (C15_declarative_list π unit pre ps).mp hpre
  rw [declarative_eq_declFrom, declFrom_append hr]
  simp only [declFrom, declStep_untyped h1]
  rfl

/-- non-vacuity of the hypotheses of `C15_declarative_unknown`: a resistor followed by a `transistor` -/
example :
    declarative C15_pi64 3 [[("type", .str "resistor"), ("R", .num 1), ("name", .str "R1")]] ≠ .error Err.unknownKind ∧
    Gen.declHandlers.find? (·.typ = "transistor") = none := by
  constructor
  · decide +kernel
  · decide

/-- the drawing of a placement list once schemdraw has put the elements at `anch` -/
def C15_drawingOf (ps : List Placement) (anch : List (Pt × Pt)) : List DElem :=
  List.zipWith (fun p a => ⟨p.cls, p.kwargs, a.1, a.2⟩) ps anch

/-- the programmatic counterpart: same classes, methods, lengths, anchors — constructor keywords only -/
def C15_programmatic (elems : List (List (String × Val))) (ps : List Placement) : List Placement :=
  List.zipWith (fun e p => { p with kwargs := ctorKw e }) elems ps

theorem C15_instantiate_same (π unit : Rat) (elems : List (List (String × Val))) (ps : List Placement)
    (h : List.Forall₂ (C15_EntryBuilt π unit) elems ps) :
    ∀ anch, instantiate π (C15_drawingOf ps anch) = instantiate π (C15_drawingOf (C15_programmatic elems ps) anch) := by
  induction h with
  | nil => intro anch; rfl
  | @cons e p es ps' hep _ ih =>
    intro anch
    cases anch with
    | nil => rfl
    | cons a as =>
      obtain ⟨t, hd, h1, h2, hc, hf, _, _, _, _⟩ := hep
      have ih' := ih as
      unfold instantiate at ih' ⊢
      simp only [C15_drawingOf, C15_programmatic, List.zipWith_cons_cons, List.mapM_cons] at ih' ⊢
      rw [ih']
      have hf' : construct π p.cls p.kwargs = construct π p.cls (ctorKw e) := by rw [hf, hc]
      simp only [DElem.toSym, hf']

/-- **The declarative drawing translates to the circuit of the programmatic drawing**: for every
description list that builds, every placement of the elements by schemdraw (`anch`: start / end
anchors, the same for both drawings — they are functions of class, method, length and
`place_after`, which `C15_declarative_list` shows to be the entry's) and every set iteration
order, the symbol list of the declarative drawing *is* the symbol list built by the
constructor calls, hence both give the same circuit or the same error. -/
theorem C15_declarative_circuit (π unit : Rat) (ord : SetOrd Pt) (elems : List (List (String × Val))) (ps : List Placement)
    (anch : List (Pt × Pt)) (h : declarative π unit elems = .ok ps) :
    instantiate π (C15_drawingOf ps anch) = instantiate π (C15_drawingOf (C15_programmatic elems ps) anch) ∧
    circuitOf π ord (C15_drawingOf ps anch) = circuitOf π ord (C15_drawingOf (C15_programmatic elems ps) anch) := by
  have hi := C15_instantiate_same π unit elems ps (C15_declarative_symbols π unit elems ps h) anch
  refine ⟨hi, ?_⟩
  unfold circuitOf
  rw [hi]

/-- non-vacuity of `C15_declarative_symbols` / `C15_declarative_circuit`: a three-entry description
(keys in a non-canonical order, a `place_after`, a one-terminal ground) builds, and the circuit of
its drawing is translated -/
example :
    (declarative C15_pi64 4
      [[("direction", .str "up"), ("type", .str "voltage_source"), ("name", .str "V1"), ("V", .num 5)],
       [("type", .str "resistor"), ("length", .num 2), ("R", .num 10), ("name", .str "R1"), ("direction", .str "down"),
        ("place_after", .str "V1")],
       [("type", .str "ground")]]).toOption.map (fun ps => ps.map (fun p => (p.cls, p.method, p.length, p.after)))
      = some [("VoltageSource", "up", 4, none), ("Resistor", "down", 8, some 0), ("Ground", "", 4, none)] ∧
    ((do let ps ← declarative C15_pi64 4
            [[("direction", .str "up"), ("type", .str "voltage_source"), ("name", .str "V1"), ("V", .num 5)],
             [("type", .str "resistor"), ("length", .num 2), ("R", .num 10), ("name", .str "R1"), ("direction", .str "down"),
              ("place_after", .str "V1")],
             [("type", .str "ground")]]
         circuitOf C15_pi64 C15_listOrder (C15_drawingOf ps [(⟨0, 0⟩, ⟨0, 4⟩), (⟨0, 4⟩, ⟨0, 0⟩), (⟨0, 0⟩, ⟨0, 0⟩)])).toOption.isSome = true) := by
  decide +kernel

/-- **Extra keywords do not reach the circuit**: a drawing element whose keyword list is a
layout `kw` followed by extra keywords `ex` (placement parameters `d`, `l`, `at`, … — any keys
the class and its ancestors do not read) is the same symbol as the element with `kw` alone, so a
drawing with such extras translates to the circuit of the drawing without them.  This is about
`construct` / translation only; what save ∘ load does to such a layout (the extras are carried
along, interleaved with the reloaded keywords) is `C15_saveLoad_extras` / `C15_roundtrip_extras`
in CC/Properties/C15Extras.lean. -/
theorem C15_extra_keys_symbol (π : Rat) (cls : String) (c : ElemClass) (hc : classInfo cls = some c)
    (kw ex : List (String × Val)) (hex : ∀ k ∈ usedKeys c, ex.lookup k = none) (a b : Pt) :
    (⟨cls, kw ++ ex, a, b⟩ : DElem).toSym π = (⟨cls, kw, a, b⟩ : DElem).toSym π := by
  have : construct π cls (kw ++ ex) = construct π cls kw := by
    apply construct_congr π cls c hc
    intro k hk
    rw [List.lookup_append, hex k hk, Option.or_none]
  simp only [DElem.toSym, this]

/-- `x` is the element `y` with extra keywords (keys the class of `y` does not read) appended -/
def C15_ExtraOf (x y : DElem) : Prop :=
  ∃ c ex, classInfo y.cls = some c ∧ x = ⟨y.cls, y.kwargs ++ ex, y.start, y.stop⟩ ∧ ∀ k ∈ usedKeys c, ex.lookup k = none

/-- **A drawing with extra keywords translates to the circuit of the drawing without them**
(any layout for the base keywords — in particular the layouts of `C15_Canonical`, for which
`C15_roundtrip` / `C15_stable` then speak about that circuit).  That `saveLoad` of the drawing
*with* extras succeeds exactly when it does without is `C15_saveLoad_extras` /
`C15_saveLoad_extras_succeeds` (CC/Properties/C15Extras.lean). -/
theorem C15_extra_keys_circuit (π : Rat) (ord : SetOrd Pt) (d d0 : List DElem) (h : List.Forall₂ C15_ExtraOf d d0) :
    instantiate π d = instantiate π d0 ∧ circuitOf π ord d = circuitOf π ord d0 := by
  have hi : instantiate π d = instantiate π d0 := by
    unfold instantiate
    induction h with
    | nil => rfl
    | @cons x y xs ys hxy _ ih =>
      obtain ⟨c, ex, hc, hx, hex⟩ := hxy
      have : x.toSym π = y.toSym π := by
        rw [hx]; exact C15_extra_keys_symbol π y.cls c hc y.kwargs ex hex y.start y.stop
      simp only [List.mapM_cons, this, ih]
  refine ⟨hi, ?_⟩
  unfold circuitOf
  rw [hi]

/-- non-vacuity: a resistor drawn `right` with length 7 at a point -/
example :
    ∃ c, classInfo "Resistor" = some c ∧
      ∀ k ∈ usedKeys c, ([("d", .str "right"), ("l", .num 7), ("at", .pt ⟨0, 0⟩)] : List (String × Val)).lookup k = none := by
  refine ⟨_, rfl, ?_⟩
  decide +kernel

end CC

