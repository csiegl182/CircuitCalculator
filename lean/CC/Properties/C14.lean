/-
  C14 — numbers written on a schematic are the true circuit quantities.

  Theorems about the model `CC.Model.Annot` over the *generated* `CC.Gen.Annot` (adapters,
  label factories, constructors, the `solutions` table of the declarative front end),
  against `CC.Spec.Annot` and, for the text, `CC.Spec.Fmt` (C18).
-/
import CC.Model.Annot
import CC.Spec.Annot
import CC.Properties.C18

namespace CC
open CC.Fmt CC.Annot CC.Gen.Annot

/-- the translator accepted `DiagramSolution.py` / `schematic.py` (and `Utils.py` / `Display.py`) -/
theorem C14_translator_accepts :
    CC.Gen.FmtGuard.annot_tables_refusal = none ∧ CC.Gen.FmtGuard.fmt_tables_refusal = none := by decide

/-- for every kind of solution and every annotated quantity there is an
adapter method; it reads the solution's accessor of the same quantity, multiplies by the
sign exactly for directed quantities, carries the specified unit and calls the specified
display helper. -/
theorem C14_adapters (k : Kind) (qt : Quantity) :
    ∃ a, findAdapter k qt = some a ∧ a.accessor = methodOf qt ∧ a.signed = specDirected qt
      ∧ a.printer = specPrinter k qt
      ∧ (a.unit = some (specUnit qt)
          ∨ (a.printer = "print_active_power" ∧ a.unit = none
              ∧ CC.Gen.Fmt.print_active_power_call0.unit = some (specUnit qt))) := by
  cases k <;> cases qt <;> exact ⟨_, rfl, by decide, by decide, by decide, by decide⟩

/-- (restates the generated definition) the sign line of every adapter: `-1 if reverse else 1` -/
theorem C14_sign (reverse : Bool) : adapter_sign reverse = if reverse then -1 else 1 := by
  cases reverse <;> rfl

theorem GQ.ofInt_neg_one_mul (q : GQ) : GQ.ofInt (-1) * q = -q := by
  rw [GQ.mul_def, GQ.neg_def]; simp [GQ.ofInt]

theorem GQ.ofInt_one_mul (q : GQ) : GQ.ofInt 1 * q = q := by
  rw [GQ.mul_def]; simp [GQ.ofInt]

/-- **C14_denotes** (value) — the number handed to the display helper is the solution's
value in the element's reference direction, negated exactly when the annotation is
requested in reverse; for every kind, quantity and value. -/
theorem C14_denotes_value (k : Kind) (qt : Quantity) (reverse : Bool) (q : GQ) :
    ∃ a, findAdapter k qt = some a ∧ signedValue a reverse q = specValue qt reverse q := by
  obtain ⟨a, ha, _, hs, _⟩ := C14_adapters k qt
  refine ⟨a, ha, ?_⟩
  unfold signedValue specValue
  rw [hs, C14_sign]
  cases hd : specDirected qt <;> cases reverse <;> simp [GQ.ofInt_neg_one_mul, GQ.ofInt_one_mul]

/-- the text requested in reverse is the text of the negated quantity
(the runtime parameters `abs`, `angle`, `phase` being those of the signed value in both
cases); potentials ignore the flag. -/
theorem C14_reverse_neg (k : Kind) (qt : Quantity) (q : GQ) (d : Derived) (o : Opts) :
    annotText k qt true q d o =
      if specDirected qt then annotText k qt false (-q) d o else annotText k qt false q d o := by
  obtain ⟨a, ha, _, hs, _⟩ := C14_adapters k qt
  unfold annotText
  rw [ha]
  simp only [signedValue, hs, C14_sign]
  cases hd : specDirected qt <;> simp [GQ.ofInt_neg_one_mul, GQ.ofInt_one_mul]

/-- the arrow of a voltage / current label is drawn reversed iff exactly one
of "requested in reverse" and "element drawn in reverse" holds; power and potential labels
carry no direction. -/
theorem C14_arrow (reverse elementReversed : Bool) :
    arrowReversed .voltage reverse elementReversed = some (specArrowReversed reverse elementReversed)
    ∧ arrowReversed .current reverse elementReversed = some (specArrowReversed reverse elementReversed)
    ∧ arrowReversed .power reverse elementReversed = none
    ∧ arrowReversed .potential reverse elementReversed = none := by
  cases reverse <;> cases elementReversed <;> decide

/-- each `draw_<quantity>` asks the adapter for the same quantity and
puts the text on the label symbol of that quantity; the declarative front end draws the four
annotation lists with the matching factory. -/
theorem C14_factories :
    (factories.map fun f => (f.method, f.solutionMethod, f.labelClass, f.textKw)) =
      [("draw_voltage", "get_voltage", "VoltageLabel", "vlabel"), ("draw_current", "get_current", "CurrentLabel", "ilabel"),
       ("draw_power", "get_power", "PowerLabel", "plabel"), ("draw_potential", "get_potential", "LabelNode", "name")]
    ∧ annotation_loops = [("voltages", "draw_voltage"), ("currents", "draw_current"), ("potentials", "draw_potential"),
                          ("powers", "draw_power")] := by
  decide +kernel

/-- each solution constructor builds the adapter of its kind on the circuit
translated from the schematic, with the `Circuit.solution` class of that kind, forwarding its
display options unchanged. -/
theorem C14_ctors :
    (ctors.map fun c => (c.name, c.adapterCls, c.solutionCls, c.solutionArgs)) =
      [("empty_solution", "EmptyDiagramSolution", "", []),
       ("single_frequency_time_domain_steady_state_solution", "TimeDomainSteadyStateDiagramSolution", "ComplexSolution", ["w"]),
       ("single_frequency_complex_solution", "ComplexNetworkDiagramSolution", "ComplexSolution", ["w"]),
       ("complex_solution", "ComplexNetworkDiagramSolution", "ComplexSolution", []),
       ("real_solution", "RealNetworkDiagramSolution", "DCSolution", [])]
    ∧ (ctors.map fun c => c.solutionLits) = [[], [("peak_values", true)], [], [], []]
    ∧ solution_type_key = "type" ∧ solution_fallback = "empty_solution"
    ∧ solutions.map (·.1) = ["dc", "real", "complex", "single_frequency_time_domain"] := by
  decide +kernel

/-- every declared solution type selects the adapter kind the specification
names, with peak values exactly for the time function; an undeclared type falls back to empty
labels.  (Before /repo 7e88190, 2346ca0 `'single_frequency_time_domain'` selected the complex adapter and
the time function carried the RMS amplitude.) -/
theorem C14_lookup :
    (∀ ty k, specKind ty = some k → declaredKind ty = some k ∧ declaredPeak ty = specPeak k)
    ∧ (∀ ty, ty ∉ solutions.map (·.1) → ctorNameOfType ty = "empty_solution") := by
  constructor
  · intro ty k h
    unfold specKind at h
    split at h
    · cases h; decide +kernel
    · cases h; decide +kernel
    · cases h; decide +kernel
    · cases h; decide +kernel
    · exact absurd h (by simp)
  · intro ty hty
    unfold ctorNameOfType
    have : solutions.lookup ty = none := by
      rw [List.lookup_eq_none_iff]
      intro p hp
      simp only [bne_iff_ne, ne_eq]
      intro heq
      apply hty
      rw [List.mem_map]
      exact ⟨p, hp, heq.symm⟩
    rw [this]; rfl

/-- the parameters of the description that reach the time-domain constructor -/
theorem C14_lookup_params :
    filterParams "single_frequency_time_domain" ["w", "sin", "deg", "hertz", "precision", "polar"]
      = ["w", "sin", "deg", "hertz"] := by
  decide +kernel

theorem annotText_eq {k : Kind} {qt : Quantity} {a : Adapter} (ha : findAdapter k qt = some a) (reverse : Bool)
    (q : GQ) (d : Derived) (o : Opts) : annotText k qt reverse q d o = textOf a (signedValue a reverse q) d o := by
  unfold annotText; rw [ha]

/-- **the annotation text, for every kind and quantity**: the display helper the specification names, applied to the
specified value with the specified unit (by `C14_adapters`, `C14_denotes_value`) -/
theorem annotText_spec (k : Kind) (qt : Quantity) (reverse : Bool) (q : GQ) (d : Derived) (o : Opts) :
    annotText k qt reverse q d o = some (
      match k, qt with
      | .real, .power => printActivePower (specValue qt reverse q).re o.precision
      | .real, _ => printReal (specValue qt reverse q).re (specUnit qt) o.precision
      | .complex, _ => printComplex (specValue qt reverse q).re (specValue qt reverse q).im d.absV d.angle (specUnit qt)
          o.precision o.polar o.deg
      | .timeDomain, _ => printSinusoidal (specValue qt reverse q).re d.absV d.phase d.phaseDeg d.w d.wHz (specUnit qt)
          o.precision o.sin o.deg o.hertz) := by
  obtain ⟨a, ha, _, _, hpr, hu⟩ := C14_adapters k qt
  obtain ⟨a', ha', hv⟩ := C14_denotes_value k qt reverse q
  obtain rfl : a' = a := by rw [ha] at ha'; exact (Option.some.inj ha').symm
  rw [annotText_eq ha, hv]
  unfold textOf
  rw [hpr]
  rcases hu with hu | ⟨hp, hu, _⟩
  · rw [hu]; cases k <;> cases qt <;> simp [specPrinter]
  · -- only the DC power adapter leaves the unit to its display helper
    rw [hpr] at hp; rw [hu]; cases k <;> cases qt <;> simp [specPrinter] at hp ⊢

theorem specUnit_ok (qt : Quantity) : UnitOK (specUnit qt) ∧ '∠' ∉ specUnit qt := by
  cases qt <;> exact ⟨by decide, by decide⟩

theorem annotText_real (qt : Quantity) (hqt : qt ≠ .power) (reverse : Bool) (q : GQ) (d : Derived) (o : Opts) :
    annotText .real qt reverse q d o = some (printReal (specValue qt reverse q).re (specUnit qt) o.precision) := by
  rw [annotText_spec]; cases qt <;> first | rfl | exact absurd rfl hqt

theorem annotText_complex (qt : Quantity) (reverse : Bool) (q : GQ) (d : Derived) (o : Opts) :
    annotText .complex qt reverse q d o
      = some ((scOfCall CC.Gen.Fmt.print_complex_call0 (specUnit qt) o.precision o.polar o.deg).str
          (specValue qt reverse q).re (specValue qt reverse q).im d.absV d.angle) :=
  annotText_spec .complex qt reverse q d o

theorem annotText_time (qt : Quantity) (reverse : Bool) (q : GQ) (d : Derived) (o : Opts) :
    annotText .timeDomain qt reverse q d o
      = some (printSinusoidal (specValue qt reverse q).re d.absV d.phase d.phaseDeg d.w d.wHz (specUnit qt)
          o.precision o.sin o.deg o.hertz) :=
  annotText_spec .timeDomain qt reverse q d o

/-- **C14_denotes** (real annotations, unconditional) — the text of a DC voltage, current or
potential annotation (**not power**: `|P|` plus an arrow is a different text, `C14_denotes_power`; **not the value 0**:
`C14_denotes_real_zero`) reads back (`parseBack`) to a number within half a unit of the `p`-th
digit of the solution's value in the element's reference direction, negated exactly when the
annotation is requested in reverse, in engineering form and with the unit of the quantity;
every non-zero value below `1e16` outside the rounds-up-to-one region (`C18_real_counterexample`). -/
theorem C14_denotes_real (qt : Quantity) (hqt : qt ≠ .power) (reverse : Bool)
    (q : GQ) (d : Derived) (o : Opts) (hp : 1 ≤ o.precision) (h0 : (specValue qt reverse q).re ≠ 0)
    (hn : ¬ RoundsUpToOne (specValue qt reverse q).re o.precision)
    (h16 : |(specValue qt reverse q).re| < 10000000000000000) :
    ∃ s, annotText .real qt reverse q d o = some s
      ∧ RealOK (specValue qt reverse q).re o.precision 3 (specUnit qt) s := by
  have hcfg : CfgOK (cfgOfCall CC.Gen.Fmt.print_real_call0 (specUnit qt) o.precision) :=
    cfgOK_of_call hp (specUnit_ok qt).1 (by decide)
  exact ⟨_, annotText_real qt hqt reverse q d o, C18_real_domain _ (specValue qt reverse q).re h0 hcfg hn h16⟩

/-- (complex Cartesian annotations) for a solution value *both of whose parts are
non-zero and in the domain*: which parts of the compact Cartesian text appear is decided by `is_zero` of `|im|`, `|re|`
(each branch with its condition), the signs are those of the real and imaginary part of the solution's value with the
sign rule, and the part texts read back (`parseBack`) to the magnitude of their parts within half a unit of the `p`-th
digit, in engineering form, with the unit of the quantity.

Not claimed: that the *right* parts appear (`C18_complex_suppression_counterexample`: parts the prefixes can express are dropped — then the text
does not denote the quantity), nor anything about purely real / purely imaginary values (`InDomain` excludes a zero
part); a part text that is not shown in the branch taken is still covered by its `RealOK` conjunct. -/
theorem C14_denotes_complex_shown_parts (qt : Quantity) (reverse : Bool) (q : GQ) (d : Derived) (o : Opts)
    (hpol : o.polar = false) (hp : 1 ≤ o.precision)
    (hre : InDomain (specValue qt reverse q).re o.precision) (him : InDomain (specValue qt reverse q).im o.precision) :
    ∃ Tre Tim : List Char, ∃ Zre Zim : Bool,
      (let sr : List Char := if 0 ≤ (specValue qt reverse q).re then [] else ['-']
       let si : List Char := if 0 ≤ (specValue qt reverse q).im then ['+'] else ['-']
       (Zim = true → annotText .complex qt reverse q d o = some (sr ++ Tre))
        ∧ (Zim = false → Zre = true → (specValue qt reverse q).im < 0 → annotText .complex qt reverse q d o = some (si ++ ['j'] ++ Tim))
        ∧ (Zim = false → Zre = true → ¬ (specValue qt reverse q).im < 0 → annotText .complex qt reverse q d o = some (['j'] ++ Tim))
        ∧ (Zim = false → Zre = false → annotText .complex qt reverse q d o = some (sr ++ Tre ++ si ++ ['j'] ++ Tim)))
      ∧ Zre = ((scOfCall CC.Gen.Fmt.print_complex_call0 (specUnit qt) o.precision o.polar o.deg).toSFCfg.value3
                (qabs (specValue qt reverse q).re)).isZero
      ∧ Zim = ((scOfCall CC.Gen.Fmt.print_complex_call0 (specUnit qt) o.precision o.polar o.deg).toSFCfg.value3
                (qabs (specValue qt reverse q).im)).isZero
      ∧ RealOK (qabs (specValue qt reverse q).re) o.precision 3 (specUnit qt) Tre
      ∧ RealOK (qabs (specValue qt reverse q).im) o.precision 3 (specUnit qt) Tim := by
  have hcfg := cfgOK_print_complex (specUnit qt) o.precision o.polar o.deg hp (specUnit_ok qt).1
  have htext := annotText_complex qt reverse q d o
  have key := C18_complex_shown_parts (scOfCall CC.Gen.Fmt.print_complex_call0 (specUnit qt) o.precision o.polar o.deg)
    (specValue qt reverse q).re (specValue qt reverse q).im d.absV d.angle hpol hcfg hre him
  obtain ⟨k1, k2, k3, k4, k5, k6⟩ := key
  refine ⟨_, _, _, _, ⟨?_, ?_, ?_, ?_⟩, rfl, rfl, k5, k6⟩
  · intro h; rw [htext]; exact congrArg some (k1 h)
  · intro h1 h2 h3; rw [htext]; exact congrArg some (k2 h1 h2 h3)
  · intro h1 h2 h3; rw [htext]; exact congrArg some (k3 h1 h2 h3)
  · intro h1 h2; rw [htext]; exact congrArg some (k4 h1 h2)

/-- **C14_agree** (real ↔ Cartesian) — the Cartesian complex annotation of a **non-negative**
real quantity is literally the real annotation (negative real quantities — `'-'` prepended to the text of the
magnitude versus the signed real text — are not covered). -/
theorem C14_agree_real_cartesian (re absV angle : ℚ) (unit : List Char) (p : ℕ) (deg : Bool) (h : 0 ≤ re) :
    printComplex re 0 absV angle unit p false deg = printReal re unit p := by
  unfold printComplex printReal
  rw [C18_complex _ _ _ _ _ rfl]
  have hq : qabs re = re := by rw [qabs_eq_abs, abs_of_nonneg h]
  simp only [isZero_zero, ↓reduceIte, h, hq, List.nil_append]
  rfl

/-- **C14_agree** (polar ↔ time function ↔ magnitude) — the polar annotation and, for `w ≠ 0`,
the sinusoidal annotation of one quantity both start with the text of its magnitude
(`print_abs`) **of the `absV` handed to them** — for annotations that is the RMS magnitude in the polar text and the
peak magnitude in the time-function text, two different arguments, so this is a statement about the shape of the two
texts, not about their agreeing on a number; at `w = 0` the time-function annotation is literally the
real annotation of `Re X` (with its sign, since /repo 7cf4bc4). -/
theorem C14_agree_magnitude (re im absV angle phase phaseDeg w wHz : ℚ) (unit : List Char) (p : ℕ)
    (deg sin hertz : Bool) :
    (∃ t, printComplex re im absV angle unit p true deg = printAbs absV unit p ++ t)
    ∧ (w ≠ 0 → ∃ t, printSinusoidal re absV phase phaseDeg w wHz unit p sin deg hertz = printAbs absV unit p ++ t)
    ∧ (w = 0 → printSinusoidal re absV phase phaseDeg w wHz unit p sin deg hertz = printReal re unit p) := by
  constructor
  · unfold printComplex
    rw [C18_complex_polar _ _ _ _ _ rfl]
    have e : (scOfCall CC.Gen.Fmt.print_complex_call0 unit p true deg).toSFCfg.str absV = printAbs absV unit p := rfl
    rw [e]
    split_ifs
    · exact ⟨[], by simp⟩
    · exact ⟨_, by simp only [List.append_assoc]; rfl⟩
    · exact ⟨[], by simp⟩
    · exact ⟨_, by simp only [List.append_assoc]; rfl⟩
  · constructor
    · intro hw
      unfold printSinusoidal
      have e : (cfgOfCall CC.Gen.Fmt.print_sinosoidal_call0 unit p).str absV = printAbs absV unit p := rfl
      simp only [e, hw, ↓reduceIte, List.append_assoc]
      exact ⟨_, rfl⟩
    · intro hw
      unfold printSinusoidal
      simp only [hw, ↓reduceIte]
      rfl

example : annotText .real .voltage true ⟨10, 0⟩ {} {} = some ['-', '1', '0', '.', '0', 'V'] := by decide +kernel
example : ∃ a, findAdapter .complex .current = some a ∧ signedValue a true ⟨1, 2⟩ = ⟨-1, -2⟩ := by
  obtain ⟨a, ha, hv⟩ := C14_denotes_value .complex .current true ⟨1, 2⟩
  exact ⟨a, ha, by rw [hv]; decide⟩

end CC
