/-
  Property C09 (and C03 through `TimeDomainSolution` / `FrequencyDomainSolution`), translator tie —
  `frequency_components` of `Circuit/circuit.py`, the function that decides which angular
  frequencies a multi-frequency analysis examines, is regenerated from the source on every run
  (harness/extract_freq.py → CC/Gen/Freq.lean: expressions translated node by node, the statement
  skeleton matched structurally, everything else refused) and proved equal to the hand-written
  model `CC.frequencyComponents` (CC/Model/MultiFreq.lean) that the theorems `C09_freqs_*` and
  `C09_once_*` are about.  What an edit of the function does to these theorems, and what is trusted, is said
  at `C09_gen_frequency_components`.
  `transform` / `transform_circuit` of the same source file are tied by harness/extract_circuit.py
  (verbatim templates, CC/Gen/CircuitTables.lean).
-/
import CC.Gen.Freq
import CC.Properties.C09
import Mathlib.Tactic.NormNum
namespace CC
open CC.FreqBase CC.Gen

theorem C09_gen_arange_floor (x : Rat) :
    npArange (npFloor x + (1 : Rat)) = (List.range (x.floor + 1).toNat).map fun (n : Nat) => (n : Rat) := by
  have h : (npFloor x + (1 : Rat)) = ((x.floor + 1 : Int) : Rat) := by
    simp [npFloor]
  rw [npArange, h, Rat.ceil_intCast]

theorem C09_gen_frequencies (wmax wres : Rat) (c : FComp) :
    Freq.frequencies wmax wres c = c.frequencies wmax := by
  unfold Freq.frequencies FComp.frequencies FComp.isPeriodic
  cases c.w with
  | none => rfl
  | some w =>
    by_cases hp : ((c.ty == "periodic_voltage_source") || (c.ty == "periodic_current_source")) = true
    · by_cases hw : w = 0
      · simp [hp, hw]
      · simp [hp, hw, harmonicList, C09_gen_arange_floor, List.map_map, Function.comp_def]
    · simp [hp]

theorem C09_gen_flatten (wmax wres : Rat) (cs : List FComp) :
    pyFlatMapM (fun c => Freq.frequencies wmax wres c) cs = allFrequencies wmax cs := by
  have hf : (fun c => Freq.frequencies wmax wres c) = fun c => c.frequencies wmax :=
    funext (C09_gen_frequencies wmax wres)
  rw [hf]
  induction cs with
  | nil => rfl
  | cons c cs ih =>
    simp only [pyFlatMapM, allFrequencies, ih]
    cases FComp.frequencies wmax c with
    | error e => rfl
    | ok l => cases allFrequencies wmax cs <;> rfl

/-- the translated loop, entered with a non-empty list of kept frequencies ending in `last`, never
raises (the `IndexError` guard of `distinct_frequencies[-1]` is dead code behind the short-circuit
`or`) and appends exactly what the hand model's `mergeFrom` keeps -/
theorem C09_gen_loop_from (wmax wres : Rat) (l : List Rat) (acc : List Rat) (last : Rat) :
    pyForM (Freq.loop_step wmax wres) (acc ++ [last]) l = .ok (acc ++ [last] ++ mergeFrom wres last l) := by
  induction l generalizing acc last with
  | nil => simp [pyForM, mergeFrom]
  | cons w l ih =>
    have hlast : pyLast (acc ++ [last]) = last := by simp [pyLast]
    by_cases hk : w - last > wres
    · have hs : Freq.loop_step wmax wres (acc ++ [last]) w = .ok ((acc ++ [last]) ++ [w]) := by
        simp [Freq.loop_step, hlast, hk]
      simp only [pyForM, hs, mergeFrom, hk, if_true]
      rw [ih (acc ++ [last]) w]
      simp
    · have hs : Freq.loop_step wmax wres (acc ++ [last]) w = .ok (acc ++ [last]) := by
        simp [Freq.loop_step, hlast, hk]
      simp only [pyForM, hs, mergeFrom, hk, if_false]
      exact ih acc last

theorem C09_gen_loop (wmax wres : Rat) (l : List Rat) :
    pyForM (Freq.loop_step wmax wres) [] l = .ok (mergeRes wres l) := by
  cases l with
  | nil => rfl
  | cons w l =>
    have hs : Freq.loop_step wmax wres [] w = .ok ([] ++ [w]) := by simp [Freq.loop_step]
    simp only [pyForM, hs, mergeRes]
    rw [C09_gen_loop_from]
    simp

/-- **translator tie of `frequency_components`.**  The Lean function generated from the current
source text of `Circuit/circuit.py: frequency_components` (CC/Gen/Freq.lean, regenerated on every
run) equals the hand-written model `CC.frequencyComponents` — the function the theorems
`C09_freqs_sorted`, `C09_freqs_mem`, `C09_once_*` are about — for every component list, every
`w_max` and every `w_resolution`, results and exceptions alike.

What it says about the code: an edit of the function (the merge condition, its comparison, the
order of sorting and merging, the harmonic bound `np.floor(w_max/w)`, the `arange` range, the
periodic-type test, the KeyError fallback) either changes the generated definition, and this proof
or the refusal of the translator shows it, or leaves it semantically equal.
What it does not say: numbers are exact rationals (binary64 rounding of `w*n` and of the quotient
inside `np.floor` is the tie margin of the correspondence check), `FComp` is the reading of a
component (`type`, `float(value['w'])` or `KeyError`), `sorted` is `sortQ`, and the meaning of
the idioms is fixed by CC/Model/FreqBase.lean (trusted). -/
theorem C09_gen_frequency_components (cs : List FComp) (wmax wres : Rat) :
    Freq.frequency_components cs wmax wres = frequencyComponents cs wmax wres := by
  unfold Freq.frequency_components frequencyComponents
  rw [C09_gen_flatten]
  cases allFrequencies wmax cs with
  | error e => rfl
  | ok l => simp only [List.map_id', C09_gen_loop]

/-- **the theorems about the listed frequencies, for the generated function**: what
`C09_freqs_sorted` and `C09_freqs_mem` prove of the hand model holds of the function translated from
the source — the listed frequencies are more than `w_resolution` apart (strictly increasing), each is
a source frequency or a harmonic `k·w0 ≤ w_max`, and every such frequency is represented by a listed
one at most `w_resolution` below it.  Hypothesis: the resolution is not negative (the default is
`1e-3`). -/
theorem C09_gen_freqs (cs : List FComp) (wmax wres : Rat) (hres : 0 ≤ wres) (ws : List Rat)
    (h : Freq.frequency_components cs wmax wres = .ok ws) :
    ws.Pairwise (fun a b => wres < b - a) ∧
    (∀ w ∈ ws, IsSourceFrequency cs wmax w) ∧
    (∀ f, IsSourceFrequency cs wmax f → ∃ k ∈ ws, k ≤ f ∧ f - k ≤ wres) := by
  rw [C09_gen_frequency_components] at h
  exact ⟨C09_freqs_sorted cs wmax wres hres ws h, C09_freqs_mem cs wmax wres hres ws h⟩

/-- non-vacuity: a single-frequency source at 1 rad/s and a periodic source with fundamental 2 rad/s,
analysed up to 5 rad/s at the default resolution — the generated function lists 0, 1, 2, 4 -/
example : Freq.frequency_components
    [⟨"ac_voltage_source", some 1⟩, ⟨"resistor", none⟩, ⟨"periodic_current_source", some 2⟩] 5 Freq.default_w_resolution
      = .ok [0, 1, 2, 4] := by decide +kernel

/-- non-vacuity of the error branch: a periodic source with `w = 0` raises `ZeroDivisionError` -/
example : Freq.frequency_components [⟨"periodic_voltage_source", some 0⟩] 5 (1/1000) = .error .zeroDivision := by
  decide +kernel

/-- the default `w_resolution` in the signature of `frequency_components` is the binary64 number
next to `1/1000` (the hand model's default; the tie theorem holds for every resolution) -/
theorem C09_gen_default_resolution :
    Freq.default_w_resolution - 1/1000 < 1/10^19 ∧ 1/1000 - Freq.default_w_resolution < 1/10^19 := by
  unfold Freq.default_w_resolution
  norm_num

end CC
