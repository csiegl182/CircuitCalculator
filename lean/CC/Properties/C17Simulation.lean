/-
  C17 (circuit loader) — the two hand-written constructor interpreters simulate each other, and
  `Load.accepts` is exact.

  The constructor of a circuit component is modelled twice: `Load.callCompFactory` (Load group,
  CC/Model/Load.lean, over the JSON-like tree `J`, driven by the generated `componentFactories`) and
  `CtorSpec.construct` (Circuit group, CC/Model/Circuit.lean, over `Val`, driven by the generated
  `Gen.ctorSpecs`).  C17Circuit ties them through agreeing generated descriptions (`Load.agrees`,
  `C17_circuit_ctor_tables_agree`); this file relates their results, up to an explicit translation between
  the two value representations (`Load.J.toVal?`, `Load.Obj.toArgs?`).  ONE generic lemma about a pair of
  agreeing descriptions (`Load.callCompFactory_simulates`) follows the two interpreters stage by stage:
  keyword binding, guards, value dictionary.

  NOT proved here: that the Python functions compute what the models compute (correspondence,
  harness/props/c17.py); value blocks with `None` / list / dictionary leaves have no counterpart in `Val`,
  so the simulation does not speak about them (the loader side alone is covered by `C17_circuit_rejects`).
-/
import CC.Properties.C17Circuit
namespace CC
open CC.Load CC.Gen.Load CC.Spec.Load

namespace Load

/-- a leaf of the loader's JSON-like tree as a value of the Circuit group's model: numbers, strings and
complex numbers as they are; a boolean as the number it equals in Python (`True == 1`; `Val` has no
booleans); `None`, lists and dictionaries have no counterpart (`none`) -/
def J.toVal? : J → Option Val
  | .num q => some (.num q)
  | .bool b => some (.num (if b then 1 else 0))
  | .str s => some (.str s)
  | .cx z => some (.cplx z.re z.im)
  | _ => none

def Obj.toArgs? : Obj → Option (List (String × Val))
  | [] => some []
  | (k, v) :: r =>
    match v.toVal?, Obj.toArgs? r with
    | some v', some r' => some ((k, v') :: r')
    | _, _ => none

def ResRel {α β : Type} (R : α → β → Prop) : Except Err α → Except Err β → Prop
  | .ok a, .ok b => R a b
  | .error e, .error e' => e = e'
  | _, _ => False

def CompRel (c : Comp) (c' : Component) : Prop :=
  c.ty = c'.kind ∧ c.id = .str c'.id ∧ c.nodes = .arr (c'.nodes.map J.str) ∧ Obj.toArgs? c.value = some c'.value

theorem ResRel.cases {α β : Type} {R : α → β → Prop} {r : Except Err α} {r' : Except Err β} (h : ResRel R r r') :
    (∃ e, r = .error e ∧ r' = .error e) ∨ (∃ a b, r = .ok a ∧ r' = .ok b ∧ R a b) := by
  cases r with
  | error e =>
    cases r' with
    | ok b => exact h.elim
    | error e' => obtain rfl : e = e' := h; exact Or.inl ⟨e, rfl, rfl⟩
  | ok a =>
    cases r' with
    | error e' => exact h.elim
    | ok b => exact Or.inr ⟨a, b, rfl, rfl, h⟩

theorem ResRel.bind {α β γ δ : Type} {R : α → β → Prop} {S : γ → δ → Prop} {x : Except Err α} {y : Except Err β}
    {F : α → Except Err γ} {G : β → Except Err δ} (h : ResRel R x y) (hFG : ∀ a b, R a b → ResRel S (F a) (G b)) :
    ResRel S (x >>= F) (y >>= G) := by
  rcases h.cases with ⟨e, rfl, rfl⟩ | ⟨a, b, rfl, rfl, hr⟩
  · exact rfl
  · exact hFG a b hr

theorem ResRel.of_eq {α : Type} {R : α → α → Prop} {x y : Except Err α} (h : x = y) (hR : ∀ a, R a a) : ResRel R x y := by
  subst h; cases x <;> first | exact rfl | exact hR _

theorem toArgs_cons {k : String} {v : J} {r : Obj} {a : List (String × Val)}
    (h : Obj.toArgs? ((k, v) :: r) = some a) :
    ∃ v' r', v.toVal? = some v' ∧ Obj.toArgs? r = some r' ∧ a = (k, v') :: r' := by
  simp only [Obj.toArgs?] at h
  cases hv : v.toVal? with
  | none => simp [hv] at h
  | some v' =>
    cases hr : Obj.toArgs? r with
    | none => simp [hv, hr] at h
    | some r' =>
      simp only [hv, hr, Option.some.injEq] at h
      exact ⟨v', r', rfl, rfl, h.symm⟩

theorem find_toArgs {o : Obj} {a : List (String × Val)} (h : Obj.toArgs? o = some a) (k : String) :
    Option.Rel (fun v v' => v.toVal? = some v') (Obj.find o k) (a.lookup k) := by
  induction o generalizing a with
  | nil => cases h; exact .none
  | cons q r ih =>
    obtain ⟨k', v⟩ := q
    obtain ⟨v', r', hv, hr, rfl⟩ := toArgs_cons h
    by_cases hk : k' = k
    · subst hk; simpa [Obj.find, List.lookup] using Option.Rel.some hv
    · have hb : (k == k') = false := by simp [Ne.symm hk]
      simpa [Obj.find, List.lookup, hk, hb] using ih hr

theorem toArgs_keys (o : Obj) (a : List (String × Val)) (h : Obj.toArgs? o = some a) :
    a.map (·.1) = o.map (·.1) := by
  induction o generalizing a with
  | nil => simp only [Obj.toArgs?, Option.some.injEq] at h; subst h; rfl
  | cons q r ih =>
    obtain ⟨k', w⟩ := q
    obtain ⟨w', r', hw, hr, e⟩ := toArgs_cons h
    subst e
    simp [ih r' hr]

theorem bound_both (params : List (String × Option Int)) (vo : Obj) (env : List (String × Val))
    (hbe : Obj.toArgs? (boundOf params vo) = some env) (p : String)
    (hp : params.any (fun q => q.1 == p) = true) :
    ∃ v v', Obj.find (boundOf params vo) p = some v ∧ v.toVal? = some v' ∧ env.lookup p = some v' := by
  obtain ⟨q, _, hv⟩ := find_boundOf_param hp vo
  have hk := find_toArgs hbe p
  rw [hv] at hk ⊢
  generalize env.lookup p = l at hk
  cases hk with
  | some hv => exact ⟨_, _, rfl, hv, rfl⟩

theorem toArgs?_map {α : Type} (key : α → String) (g : α → J) (h : α → Val) :
    ∀ l : List α, (∀ x ∈ l, (g x).toVal? = some (h x)) →
      Obj.toArgs? (l.map fun x => (key x, g x)) = some (l.map fun x => (key x, h x))
  | [], _ => rfl
  | a :: l, hl => by
    simp only [List.map_cons, Obj.toArgs?, hl a List.mem_cons_self,
      toArgs?_map key g h l fun x hx => hl x (List.mem_cons_of_mem _ hx)]

theorem bound_one {vo : Obj} {args : List (String × Val)} (htr : Obj.toArgs? vo = some args) (k : String) (d : Option Int) :
    ((args.lookup k).or (d.map fun n => Val.num n)).isSome = (d.isSome || Obj.has vo k) ∧
    ((d.isSome || Obj.has vo k) = true → ((Obj.find vo k).getD (dfltJ d)).toVal?
      = some (((args.lookup k).or (d.map fun n => Val.num n)).getD (.num 0))) := by
  have hk := find_toArgs htr k
  rw [Obj.has]
  generalize Obj.find vo k = x at hk
  generalize args.lookup k = y at hk
  cases hk with
  | none => cases d <;> simp [dfltJ, J.toVal?]
  | some hv => simp [hv]

theorem all_known_eq (params : List (String × Option Int)) (ps : List (String × PTy × Option Val))
    (hk : ps.map (·.1) = params.map (·.1)) (vo : Obj) (args : List (String × Val))
    (htr : Obj.toArgs? vo = some args) :
    args.all (fun a => ps.any fun p => p.1 == a.1) = keysKnown params vo := by
  have hkeys : ∀ k, ps.any (fun p => p.1 == k) = params.any (fun q => q.1 == k) := by
    intro k
    have := congrArg (fun l => l.any (· == k)) hk
    simpa [List.any_map, Function.comp_def] using this
  have h1 : args.all (fun a => ps.any fun p => p.1 == a.1) = (args.map (·.1)).all fun k => params.any fun q => q.1 == k := by
    simp [List.all_map, Function.comp_def, hkeys]
  rw [h1, toArgs_keys vo args htr, keysKnown, List.all_map]; rfl

theorem bindArgs_sim (params : List (String × Option Int)) (ps : List (String × PTy × Option Val))
    (hps : ps.map (fun p => (p.1, p.2.2)) = params.map (fun p => (p.1, p.2.map fun n => Val.num n)))
    (vo : Obj) (args : List (String × Val)) (hdup : dupKeys vo = false) (htr : Obj.toArgs? vo = some args) :
    ResRel (fun b e => b = boundOf params vo ∧ Obj.toArgs? b = some e) (bindArgs params vo) (CC.bindParams ps args) := by
  have hfst : ps.map (·.1) = params.map (·.1) := by
    have := congrArg (List.map Prod.fst) hps
    simpa [List.map_map, Function.comp_def] using this
  -- both closed forms read the parameters through (name, default) only
  have hall : ps.all (fun p => (boundVal args p).isSome)
      = params.all fun p => ((args.lookup p.1).or (p.2.map fun n => Val.num n)).isSome := by
    have := congrArg (List.all · fun q : String × Option Val => ((args.lookup q.1).or q.2).isSome) hps
    simpa [List.all_map, Function.comp_def, boundVal] using this
  have hby : boundBy ps args
      = params.map fun p => (p.1, ((args.lookup p.1).or (p.2.map fun n => Val.num n)).getD (.num 0)) := by
    have := congrArg (List.map fun q : String × Option Val => (q.1, ((args.lookup q.1).or q.2).getD (Val.num 0))) hps
    simpa [List.map_map, Function.comp_def, boundBy, boundVal] using this
  have hreq : (params.all fun p => ((args.lookup p.1).or (p.2.map fun n => Val.num n)).isSome)
      = params.all fun p => p.2.isSome || Obj.has vo p.1 :=
    List.all_congr rfl fun p => (bound_one htr p.1 p.2).1
  rw [bindArgs_eq, CC.bindParams_eq, all_known_eq params ps hfst vo args htr, hdup, hall, hreq, hby]
  by_cases h : (keysKnown params vo && params.all fun p => p.2.isSome || Obj.has vo p.1) = true
  · simp only [Bool.not_false, Bool.true_and, h, if_true]
    refine ⟨rfl, toArgs?_map _ _ _ params fun p hp => (bound_one htr p.1 p.2).2 ?_⟩
    exact List.all_eq_true.1 (Bool.and_eq_true_iff.1 h).2 p hp
  · simp only [Bool.not_false, Bool.true_and, h]
    exact rfl

theorem guard_one (env : List (String × Val)) (p : String) (b : Int) (v : J) (v' : Val)
    (h2 : v.toVal? = some v') (h3 : env.lookup p = some v') :
    (Guard.mk p .lt (b : Rat) "ValueError").check env =
      match guardLt v b with
      | none => .error .typeError
      | some true => .error .valueError
      | some false => .ok () := by
  have hexc : errOfExc "ValueError" = Err.valueError := by decide +kernel
  cases v with
  | num q =>
    simp only [J.toVal?, Option.some.injEq] at h2; subst h2
    by_cases hq : q < (b : Rat) <;> simp [Guard.check, h3, guardLt, Cmp.holds, hexc, hq]
  | bool t =>
    simp only [J.toVal?, Option.some.injEq] at h2; subst h2
    by_cases hq : (if t then (1 : Rat) else 0) < (b : Rat) <;> simp [Guard.check, h3, guardLt, Cmp.holds, hexc, hq]
  | str s | cx z => simp only [J.toVal?, Option.some.injEq] at h2; subst h2; simp [Guard.check, h3, guardLt]
  | null | arr l | obj kv => simp [J.toVal?] at h2

theorem runGuards_sim (bound : Obj) (env : List (String × Val)) (guards : List (String × Int))
    (hb : ∀ g ∈ guards, ∃ v v', Obj.find bound g.1 = some v ∧ v.toVal? = some v' ∧ env.lookup g.1 = some v') :
    Load.runGuards bound guards
      = forM (guards.map fun g => Guard.mk g.1 .lt g.2 "ValueError") (fun g : Guard => g.check env) := by
  induction guards with
  | nil => rfl
  | cons g r ih =>
    obtain ⟨p, b⟩ := g
    obtain ⟨v, v', h1, h2, h3⟩ := hb (p, b) (List.mem_cons_self ..)
    have ih' := ih (fun g hg => hb g (List.mem_cons_of_mem _ hg))
    dsimp only at h1 h3
    have hg := guard_one env p b v v' h2 h3
    simp only [List.map_cons, List.forM_cons, Load.runGuards, h1, Option.getD_some, bind, Except.bind]
    rw [hg]
    cases guardLt v b with
    | none => rfl
    | some t => cases t <;> simp [ih']

def valOne (env : List (String × Val)) (kv : String × VE) : Except Err (String × Val) :=
  do pure (kv.1, ← kv.2.eval env)

theorem valOne_eq (env : List (String × Val)) (k : String) (ve : VE) :
    valOne env (k, ve) = match ve.eval env with | .ok v => .ok (k, v) | .error e => .error e := by
  simp only [valOne, bind, Except.bind, pure, Except.pure]
  cases ve.eval env <;> rfl

theorem buildValue_sim (bound : Obj) (env : List (String × Val)) (value : List (String × VSrc))
    (hb : ∀ kv ∈ value, ∀ p, kv.2.param? = some p →
      ∃ v v', Obj.find bound p = some v ∧ v.toVal? = some v' ∧ env.lookup p = some v') :
    ResRel (fun o a => Obj.toArgs? o = some a) (Load.buildValue bound value)
      ((value.map fun kv => (kv.1, Load.VSrc.toVE kv.2)).mapM (valOne env)) := by
  induction value with
  | nil => simp [Load.buildValue, ResRel, pure, Except.pure, Obj.toArgs?]
  | cons kv r ih =>
    obtain ⟨k, s⟩ := kv
    have h0 := hb (k, s) (List.mem_cons_self ..)
    have ih' := ih (fun g hg => hb g (List.mem_cons_of_mem _ hg))
    simp only [List.map_cons, List.mapM_cons, Load.buildValue, valOne_eq, bind, Except.bind, pure, Except.pure]
    have head : (match s.eval bound with
        | none => (VSrc.toVE s).eval env = .error .attributeError
        | some v => ∃ v', v.toVal? = some v' ∧ (VSrc.toVE s).eval env = .ok v') := by
      cases s with
      | const n => simp [VSrc.eval, VSrc.toVE, VE.eval, J.toVal?]
      | param p =>
        obtain ⟨v, v', h1, h2, h3⟩ := h0 p rfl
        simp [VSrc.eval, VSrc.toVE, VE.eval, h1, h2, h3]
      | re p | im p =>
        obtain ⟨v, v', h1, h2, h3⟩ := h0 p rfl
        cases v with
        | null | arr _ | obj _ => simp [J.toVal?] at h2
        | num _ | bool _ | str _ | cx _ =>
          simp only [J.toVal?, Option.some.injEq] at h2
          subst h2
          simp [VSrc.eval, VSrc.toVE, VE.eval, h1, h3, J.toVal?]
    cases hs : s.eval bound with
    | none =>
      rw [hs] at head
      simp [head, ResRel]
    | some v =>
      rw [hs] at head
      obtain ⟨v', hv, he⟩ := head
      simp only [he]
      rcases ih'.cases with ⟨e, h1, h2⟩ | ⟨o, a, h1, h2, hr⟩
      · rw [h1, h2]; simp [ResRel]
      · rw [h1, h2]; simp [ResRel, Obj.toArgs?, hv, hr]

/-- **The generic simulation lemma.**  `f` (Load group) and `s` (Circuit group) are two descriptions of
one constructor that agree (`Load.agrees`), `f` is well-formed.  Then on corresponding arguments — the
identifier a string, the nodes a list of strings, the value block a dictionary (no key twice, as in every
Python `dict`) of translatable leaves and `args` its translation — the two hand-written interpreters
`Load.callCompFactory` and `CtorSpec.construct` return corresponding results: both succeed with the same
component (`CompRel`), or both fail with the same exception class. -/
theorem callCompFactory_simulates (f : CompFactory) (s : CtorSpec) (hag : Load.agrees f s = true)
    (hwf : f.wellFormed = true) (id : String) (nodes : List String) (vo : Obj) (args : List (String × Val))
    (hdup : dupKeys vo = false) (htr : Obj.toArgs? vo = some args) :
    ResRel CompRel (callCompFactory f (.str id) (.arr (nodes.map J.str)) (.obj vo))
      (s.construct (some id) (some nodes) args) := by
  simp only [Load.agrees, Bool.and_eq_true, beq_iff_eq, List.isEmpty_iff] at hag
  obtain ⟨⟨⟨⟨⟨hkind, hname⟩, hparams⟩, hguards⟩, hvalues⟩, hwave⟩ := hag
  obtain ⟨_, _, hwv, hwg, _⟩ := CompFactory.wellFormed_iff.1 hwf
  have h1 := bindArgs_sim f.params s.params hparams.symm vo args hdup htr
  rw [CtorSpec.construct_some, hwave, callCompFactory_bind]
  split
  · -- `id` / `nodes` among the keys: no keyword of a well-formed constructor
    rename_i hidn
    have hk : keysKnown f.params vo = false := by
      cases hk : keysKnown f.params vo with
      | false => rfl
      | true => obtain ⟨a, b⟩ := keysKnown_no_id f hwf vo hk; simp [a, b] at hidn
    rw [bindArgs_unknown_key _ _ hk] at h1
    rcases h1.cases with ⟨e, h, h'⟩ | ⟨b, e, h, _⟩
    · cases h; rw [h']; exact rfl
    · cases h
  · refine h1.bind fun bound env ⟨hb, hbe⟩ => ?_
    subst hb
    have hboth := bound_both f.params vo env hbe
    have hg := runGuards_sim _ env f.guards (fun g hg => hboth g.1 (hwg g hg))
    rw [hguards] at hg
    refine (ResRel.of_eq (R := fun _ _ => True) hg fun _ => trivial).bind fun _ _ _ => ?_
    have hv := buildValue_sim _ env f.value (by
      intro kv hkv p hp
      have := hwv kv hkv
      rw [hp] at this
      exact hboth p this)
    rw [hvalues] at hv
    exact hv.bind fun o a hoa => ⟨hkind, rfl, rfl, hoa⟩

theorem ResRel.both {α β : Type} {R : α → β → Prop} {r : Except Err α} {r' : Except Err β} (h : ResRel R r r') :
    (∀ e, r = .error e ↔ r' = .error e) ∧
    (∀ a, r = .ok a → ∃ b, r' = .ok b ∧ R a b) ∧ (∀ b, r' = .ok b → ∃ a, r = .ok a ∧ R a b) := by
  rcases h.cases with ⟨e, rfl, rfl⟩ | ⟨a, b, rfl, rfl, hr⟩
  · exact ⟨fun _ => ⟨fun h => by cases h; rfl, fun h => by cases h; rfl⟩, fun _ => nofun, fun _ => nofun⟩
  · refine ⟨fun _ => ⟨nofun, nofun⟩, fun _ ha => ⟨b, rfl, ?_⟩, fun _ hb => ⟨a, rfl, ?_⟩⟩
    · cases ha; exact hr
    · cases hb; exact hr

end Load

/-- **C17, the two constructor interpreters simulate each other.**  For EVERY kind `p.1` of the generated
circuit table, with `f` the Load group's and `s` the Circuit group's description of its constructor, and for
EVERY identifier, node list and value block `vo` — a dictionary (no key twice) whose leaves are numbers,
strings, complex numbers or booleans, `args` its translation `Load.Obj.toArgs?` (number ↦ number, string ↦
string, complex ↦ complex, `True`/`False` ↦ 1/0; the Circuit group's `Val` has no booleans) —
`Load.callCompFactory f` (the loader's constructor call, CC/Model/Load.lean) and `s.construct` (the Circuit
group's constructor, CC/Model/Circuit.lean) give corresponding results (`Load.ResRel Load.CompRel`): both
succeed with the same type, identifier, nodes and value dictionary (same keys, same order, corresponding
values), or both fail with the same exception class (`TypeError`, `ValueError`, `AttributeError`).
Not covered: value blocks with a `None` / list / dictionary leaf (`Val` cannot express them; on the loader
side `C17_circuit_rejects` says what happens) and `Val.inf` arguments (no JSON counterpart).  Says nothing
about Python beyond the two models (correspondence runs). -/
theorem C17_constructors_simulate (p : String × String) (hp : p ∈ circuitComponentTranslators) :
    ∃ f s, Load.factoryOf p.1 = some f ∧ Gen.tables.ctor? p.2 = some s ∧ s ∈ Gen.ctorSpecs ∧
      ∀ (id : String) (nodes : List String) (vo : Obj) (args : List (String × Val)),
        Load.dupKeys vo = false → Load.Obj.toArgs? vo = some args →
        Load.ResRel Load.CompRel (Load.callCompFactory f (.str id) (.arr (nodes.map J.str)) (.obj vo))
          (s.construct (some id) (some nodes) args) := by
  obtain ⟨f, s, hf, hs, hmem, hag, _, _⟩ := C17_circuit_constructor_half p hp
  obtain ⟨f0, hf0, _, _, hwf⟩ := Load.factoryOf_table p hp
  rw [hf] at hf0; cases hf0
  exact ⟨f, s, hf, hs, hmem, fun id nodes vo args hdup htr =>
    Load.callCompFactory_simulates f s hag hwf id nodes vo args hdup htr⟩

/-- the same, spelt out: one fails iff the other fails, with the same exception; when one succeeds the
other succeeds with the corresponding component -/
theorem C17_constructors_simulate_cases (p : String × String) (hp : p ∈ circuitComponentTranslators) :
    ∃ f s, Load.factoryOf p.1 = some f ∧ Gen.tables.ctor? p.2 = some s ∧
      ∀ (id : String) (nodes : List String) (vo : Obj) (args : List (String × Val)),
        Load.dupKeys vo = false → Load.Obj.toArgs? vo = some args →
        (∀ e, Load.callCompFactory f (.str id) (.arr (nodes.map J.str)) (.obj vo) = .error e ↔
              s.construct (some id) (some nodes) args = .error e) ∧
        (∀ c, Load.callCompFactory f (.str id) (.arr (nodes.map J.str)) (.obj vo) = .ok c →
          ∃ c', s.construct (some id) (some nodes) args = .ok c' ∧
            c.ty = c'.kind ∧ c.id = .str c'.id ∧ c.nodes = .arr (c'.nodes.map J.str) ∧
            Load.Obj.toArgs? c.value = some c'.value) ∧
        (∀ c', s.construct (some id) (some nodes) args = .ok c' →
          ∃ c, Load.callCompFactory f (.str id) (.arr (nodes.map J.str)) (.obj vo) = .ok c ∧
            c.ty = c'.kind ∧ c.id = .str c'.id ∧ c.nodes = .arr (c'.nodes.map J.str) ∧
            Load.Obj.toArgs? c.value = some c'.value) := by
  obtain ⟨f, s, hf, hs, _, h⟩ := C17_constructors_simulate p hp
  exact ⟨f, s, hf, hs, fun id nodes vo args hdup htr => (h id nodes vo args hdup htr).both⟩

/-- non-vacuity: an a.c. source with a boolean and a default; both sides succeed -/
example : Load.dupKeys [("w", J.num 50), ("V", .bool true), ("phi", .num (1/2))] = false ∧
    Load.Obj.toArgs? [("w", J.num 50), ("V", .bool true), ("phi", .num (1/2))]
      = some [("w", .num 50), ("V", .num 1), ("phi", .num (1/2))] := ⟨by decide +kernel, rfl⟩

/-- … a complex source with a string where a complex number belongs: both sides `AttributeError` -/
example : ∃ f s, Load.factoryOf "complex_voltage_source" = some f ∧ Gen.tables.ctor? "complex_voltage_source" = some s ∧
    Load.callCompFactory f (.str "U") (.arr [.str "1", .str "0"]) (.obj [("V", .str "x")]) = .error .attributeError ∧
    s.construct (some "U") (some ["1", "0"]) [("V", .str "x")] = .error .attributeError :=
  ⟨_, _, rfl, rfl, by decide +kernel, by decide +kernel⟩

/-- **The hypothesis "no key twice" cannot be dropped** (it holds of every Python `dict`): on the list
`[("R", 5), ("R", 5)]` — not a dictionary — the loader model answers `TypeError` (its model of "multiple
values for keyword argument"), the Circuit group's model looks the first one up and succeeds. -/
theorem C17_simulation_needs_unique_keys :
    ∃ f s, Load.factoryOf "resistor" = some f ∧ Gen.tables.ctor? "resistor" = some s ∧
      Load.Obj.toArgs? [("R", J.num 5), ("R", J.num 5)] = some [("R", .num 5), ("R", .num 5)] ∧
      Load.callCompFactory f (.str "R1") (.arr [.str "1", .str "0"]) (.obj [("R", .num 5), ("R", .num 5)])
        = .error .typeError ∧
      s.construct (some "R1") (some ["1", "0"]) [("R", .num 5), ("R", .num 5)]
        = .ok ⟨"resistor", "R1", ["1", "0"], [("R", .num 5)]⟩ :=
  ⟨_, _, rfl, rfl, by decide +kernel, by decide +kernel, by decide +kernel⟩

theorem C17_loader_table_lookup :
    ∀ p ∈ circuitComponentTranslators, Gen.tables.loaders.lookup p.1 = some p.2 := by decide +kernel

/-- **C17, the two `generate_component` models simulate each other** on the kinds of the table: for every
kind `p.1` of the circuit table and every entry dictionary `o` (any key order, any further keys) whose `id`
is a string, whose `nodes` is a list of strings, whose `type` is `p.1` and whose `value` is a dictionary `vo`
(no key twice) of translatable leaves, the Load group's `Load.generateComponent` (dictionary → constructor
call) and the Circuit group's `CC.generateComponent` on the corresponding record give corresponding results:
the same component, or the same exception class (`IncorrectComponentInformation` for a `TypeError` of the
call, `ValueError`, `AttributeError`).  Outside the table the two models name the exception differently
(`.other "UnknownCircuitComponent"` / `.unknownKind`, one Python class) — not part of this statement. -/
theorem C17_loaders_simulate (p : String × String) (hp : p ∈ circuitComponentTranslators)
    (o : Obj) (id : String) (nodes : List String) (vo : Obj) (args : List (String × Val))
    (hid : Obj.find o "id" = some (.str id)) (hval : Obj.find o "value" = some (.obj vo))
    (hty : Obj.find o "type" = some (.str p.1)) (hnodes : Obj.find o "nodes" = some (.arr (nodes.map J.str)))
    (hdup : Load.dupKeys vo = false) (htr : Load.Obj.toArgs? vo = some args) :
    Load.ResRel Load.CompRel (Load.generateComponent (.obj o)).1
      (CC.generateComponent Gen.tables ⟨some id, some p.1, some nodes, some args⟩) := by
  obtain ⟨f, s, hf, hs, _, h⟩ := C17_constructors_simulate p hp
  have hsim := h id nodes vo args hdup htr
  rw [Load.generateComponent_known p.1 f hf o _ _ _ hid hval hty hnodes]
  simp only [CC.generateComponent, bind, Except.bind, pure, Except.pure, C17_loader_table_lookup p hp, hs]
  rcases hsim.cases with ⟨e, h1, h2⟩ | ⟨c, c', h1, h2, hr⟩
  · rw [h1, h2]
    cases e <;> simp [Load.ResRel, throw, throwThe, MonadExceptOf.throw]
  · rw [h1, h2]; exact hr

/-- non-vacuity of `C17_loaders_simulate`: an entry with a further key and another key order -/
example : Obj.find [("note", J.str "x"), ("nodes", .arr (["b", "a"].map J.str)), ("type", .str "ac_voltage_source"),
      ("value", .obj [("w", .num 50), ("V", .num 1)]), ("id", .str "U")] "nodes" = some (.arr (["b", "a"].map J.str)) ∧
    ("ac_voltage_source", "ac_voltage_source") ∈ circuitComponentTranslators := by decide +kernel

/-- a `None` leaf has no counterpart in the Circuit group's value type -/
example : Load.Obj.toArgs? [("R", J.null)] = none := by decide +kernel

/-- **C17, circuit loader: `Load.accepts` is necessary and sufficient.**  For any kind the table knows (`f`
its constructor description) and any entry dictionary with the four keys whose `value` is a dictionary `vo`:
`generate_component` succeeds with `c` IFF `f` accepts `vo` and `c` is the component `Load.builtBy` describes. -/
theorem C17_circuit_accepts_iff (kind : String) (f : CompFactory) (hf : Load.factoryOf kind = some f)
    (o : Obj) (id nodes : J) (vo : Obj)
    (hid : Obj.find o "id" = some id) (hval : Obj.find o "value" = some (.obj vo))
    (hty : Obj.find o "type" = some (.str kind)) (hnodes : Obj.find o "nodes" = some nodes) (c : Comp) :
    (Load.generateComponent (.obj o)).1 = .ok c ↔ Load.accepts f vo = true ∧ c = Load.builtBy f id nodes vo := by
  rw [Load.generateComponent_known kind f hf o id _ nodes hid hval hty hnodes]
  rw [← Load.callCompFactory_ok_iff f id nodes vo c]
  cases Load.callCompFactory f id nodes (.obj vo) with
  | ok c0 => simp
  | error e => cases e <;> simp

/-- **C17, circuit loader: every failing branch with its exception.**  Same setting; a value block that is
NOT accepted always raises, and the exception tells why:
* `IncorrectComponentInformation` (the translated `TypeError`) only if the keyword binding fails
  (`Load.bindable` false: `id` / `nodes` / an unexpected keyword / a missing parameter) or some guarded
  parameter is no number (`'x' < 0`);
* `ValueError` only if the binding succeeds and some sign guard `P < bound` fires;
* `AttributeError` only if binding and all guards pass and `.real` / `.imag` is taken of something that is no
  number (a string, `None`, a list, a dictionary).

The converses fail: with several guards the first one that does not pass decides between `TypeError` and
`ValueError` (`ac_voltage_source`, guards `R`, `w`: `{V: 1, R: 'x', w: -1}` gives `TypeError`,
`{V: 1, R: -1, w: 'x'}` gives `ValueError`). -/
theorem C17_circuit_rejects (kind : String) (f : CompFactory) (hf : Load.factoryOf kind = some f)
    (o : Obj) (id nodes : J) (vo : Obj)
    (hid : Obj.find o "id" = some id) (hval : Obj.find o "value" = some (.obj vo))
    (hty : Obj.find o "type" = some (.str kind)) (hnodes : Obj.find o "nodes" = some nodes)
    (hacc : Load.accepts f vo = false) :
    ∃ e, (Load.generateComponent (.obj o)).1 = .error e ∧
      ((e = .other "IncorrectComponentInformation" ∧ (Load.bindable f vo = false ∨ (Load.bindable f vo = true ∧
          ∃ g ∈ f.guards, Load.guardLt ((Obj.find (Load.boundOf f.params vo) g.1).getD .null) g.2 = none))) ∨
       (e = .valueError ∧ Load.bindable f vo = true ∧
          ∃ g ∈ f.guards, Load.guardLt ((Obj.find (Load.boundOf f.params vo) g.1).getD .null) g.2 = some true) ∨
       (e = .attributeError ∧ Load.bindable f vo = true ∧
          (∀ g ∈ f.guards, Load.guardLt ((Obj.find (Load.boundOf f.params vo) g.1).getD .null) g.2 = some false) ∧
          ∃ kv ∈ f.value, kv.2.eval (Load.boundOf f.params vo) = none)) := by
  rw [Load.generateComponent_known kind f hf o id _ nodes hid hval hty hnodes]
  obtain ⟨e, he, hcase⟩ := Load.callCompFactory_rejects f id nodes vo hacc
  rw [he]
  rcases hcase with ⟨h1, h2⟩ | ⟨h1, h2⟩ | ⟨h1, h2⟩
  · subst h1; exact ⟨_, rfl, Or.inl ⟨rfl, h2⟩⟩
  · subst h1; exact ⟨_, rfl, Or.inr (Or.inl ⟨rfl, h2⟩)⟩
  · subst h1; exact ⟨_, rfl, Or.inr (Or.inr ⟨rfl, h2⟩)⟩

/-- non-vacuity, one witness per branch: a negative resistance (`ValueError`), a string resistance
(`TypeError` of `'x' < 0`, reported as `IncorrectComponentInformation`), a misspelt key (binding), a string
impedance (`AttributeError`) -/
example : ∃ f, Load.factoryOf "resistor" = some f ∧ Load.accepts f [("R", .num (-1))] = false ∧
    Load.accepts f [("R", .str "x")] = false ∧ Load.bindable f [("R", .str "x")] = true ∧
    Load.bindable f [("r", .num 1)] = false := ⟨_, rfl, by decide +kernel, by decide +kernel, by decide +kernel, by decide +kernel⟩
example : (Load.generateComponent (.obj [("id", .str "R1"), ("type", .str "resistor"),
    ("nodes", .arr [.str "1", .str "0"]), ("value", .obj [("R", .num (-1))])])).1 = .error .valueError := by decide +kernel
example : (Load.generateComponent (.obj [("id", .str "Z1"), ("type", .str "impedance"),
    ("nodes", .arr [.str "1", .str "0"]), ("value", .obj [("Z", .str "x")])])).1 = .error .attributeError := by decide +kernel
example : (Load.generateComponent (.obj [("id", .str "R1"), ("type", .str "resistor"),
    ("nodes", .arr [.str "1", .str "0"]), ("value", .obj [("R", .str "x")])])).1
      = .error (.other "IncorrectComponentInformation") := by decide +kernel

end CC

