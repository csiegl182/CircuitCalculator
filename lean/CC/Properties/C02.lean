/-
  Property C02 — DC/AC phasor analysis of component circuits is exact at every frequency.

  Model   CC/Model/Circuit.lean (transformCircuit, dcGet, cxGet, cxPower), CC/Model/MNA.lean
  Spec    CC/Spec/Phasor.lean (`Spec.phasorNet`: the intended phasor network),
          CC/Spec/Circuit.lean (`CircuitEqs`: Kirchhoff + element laws)
  Uses    C07 (per-kind faithfulness), C01 (`C01_sound`) at `K = GQ`; `C01_unique`, `C01_exists`, `C01_det_ne_zero`
          enter in C02More.lean.
-/
import CC.Properties.C07
import CC.Properties.C01
import CC.Proofs.GQField
import CC.Gen.Solution
namespace CC
open Gen

/-- **C02 (component).**  For every kind property C02 names (`exactKinds`, CC/Properties/C07.lean: resistor,
conductance, impedance, admittance, capacitor, inductance, lamp / load, short circuit, DC / AC /
complex sources): whenever the specification defines the intended branch of a component, the
generated translator produces exactly it, at every frequency and resolution. -/
theorem C02_component_eq_spec (trig : Trig) (harm : Harm) (h0 : TrigZero trig) (c : Component) (w wres : Rat)
    (sb : Branch String GQ) (hk : c.kind ∈ exactKinds) (hdc : c.dcOK)
    (hs : Spec.branchOf trig harm c w wres = some sb) :
    ∃ br, transformComponent Gen.tables trig harm c w wres = some (.ok br) ∧ Spec.erase br = sb :=
  C07_faithful_nonperiodic trig harm h0 c w wres sb hk hdc hs

/-! `Spec.erase` blanks the `type` string of a branch, which neither `Network`'s checks nor the circuit equations read:
a network and its erased form pass the same checks, have the same solutions and are well-posed together. -/

abbrev Net.eraseTy (N : Net String GQ) : Net String GQ := ⟨N.branches.map Spec.erase, N.zero⟩

theorem eraseTy_eq {N S : Net String GQ} (hmap : N.branches.map Spec.erase = S.branches) (hz : N.zero = S.zero) :
    N.eraseTy = S := by
  cases S; cases hmap; cases hz; rfl

/-- `Network.__post_init__` looks at terminals, identifiers and the reference label only -/
theorem check_eraseTy (N : Net String GQ) : N.eraseTy.check = N.check := by
  simp only [Net.check, Net.nodeLabels, Net.ids, List.map_map, Function.comp_def, Spec.erase, List.length_map,
    List.isEmpty_map]
  rfl

theorem allLabels_eraseTy (N : Net String GQ) : N.eraseTy.allLabels = N.allLabels := by
  simp only [Net.allLabels, List.map_map, Function.comp_def, Spec.erase]

theorem circuitEqs_eraseTy (N : Net String GQ) (R : Report String GQ) : CircuitEqs N.eraseTy R ↔ CircuitEqs N R := by
  have hk : ∀ n, kclResidual N.eraseTy R n = kclResidual N R n := fun n => by
    unfold kclResidual; rw [List.map_map]; rfl
  constructor <;> rintro ⟨h1, h2, h3, h4⟩
  · exact ⟨h1, fun b hb => h2 (Spec.erase b) (List.mem_map_of_mem hb),
      fun b hb => h3 (Spec.erase b) (List.mem_map_of_mem hb), fun n hn => hk n ▸ h4 n (allLabels_eraseTy N ▸ hn)⟩
  · refine ⟨h1, ?_, ?_, fun n hn => (hk n).trans (h4 n (allLabels_eraseTy N ▸ hn))⟩
    · rintro _ hb; obtain ⟨b, hb', rfl⟩ := List.mem_map.mp hb; exact h2 b hb'
    · rintro _ hb; obtain ⟨b, hb', rfl⟩ := List.mem_map.mp hb; exact h3 b hb'

theorem agreeOn_eraseTy (N : Net String GQ) (R T : Report String GQ) : R.AgreeOn N.eraseTy T ↔ R.AgreeOn N T := by
  unfold Report.AgreeOn
  rw [allLabels_eraseTy]
  refine and_congr_right fun _ => ⟨fun h b hb => h (Spec.erase b) (List.mem_map_of_mem hb), ?_⟩
  rintro h _ hb; obtain ⟨b, hb', rfl⟩ := List.mem_map.mp hb; exact h b hb'

theorem zeroSources_eraseTy (N : Net String GQ) : N.eraseTy.zeroSources = N.zeroSources.eraseTy := by
  simp only [Net.zeroSources, Net.eraseTy, List.map_map, Function.comp_def, Spec.erase]

theorem wellPosed_eraseTy (N : Net String GQ) : WellPosed N.eraseTy ↔ WellPosed N := by
  simp only [WellPosed, zeroSources_eraseTy, circuitEqs_eraseTy, agreeOn_eraseTy]

theorem exactKinds_translated : ∀ k ∈ exactKinds, Gen.tables.hasKind k = true := by decide +kernel

/-- the hypotheses under which C02 is proved for a component list: every entry is a ground
or a well-formed component of an exactly translated kind -/
def ExactList (cs : List Component) : Prop :=
  ∀ c ∈ cs, c.kind = "ground" ∨ (c.kind ∈ exactKinds ∧ c.dcOK)

/-- the statement: for every accepted circuit over the kinds property C02 names whose intended
phasor network `S` exists, at every frequency `w` and resolution, the comprehension of
`transform_circuit` succeeds and its branches are — entry by entry, in order — the branches of
`S`; the reference node is that of `S`; and `transform_circuit` itself succeeds whenever `S`
passes `Network`'s checks -/
def C02_transform_eq_spec_statement : Prop :=
  ∀ (trig : Trig) (harm : Harm), TrigZero trig → ∀ (cs : List Component) (C : Circuit) (w wres : Rat),
    cs ≠ [] → Circuit.mk? cs = .ok C → ExactList cs →
    ∀ S : Net String GQ, Spec.phasorNet trig harm cs w wres = some S →
    (∃ bs, transformBranches Gen.tables trig harm C.components w wres = .ok bs ∧
        bs.map Spec.erase = S.branches ∧ C.ground = S.zero) ∧
    (S.check = .ok () →
      ∃ N, transformCircuit Gen.tables trig harm C w wres = .ok N ∧
        N.branches.map Spec.erase = S.branches ∧ N.zero = S.zero)

theorem C02_transform_eq_spec : C02_transform_eq_spec_statement := by
  intro trig harm h0 cs C w wres hne hC hex S hS
  obtain ⟨hg, hcomp⟩ := C07_ground cs C hne hC
  obtain ⟨sbs, hbs, hS⟩ := Option.bind_eq_some_iff.mp hS
  obtain ⟨z, hz, hS⟩ := Option.bind_eq_some_iff.mp hS
  cases hS
  have hgz : C.ground = z := Option.some.inj (hg.trans hz)
  -- every non-ground component is of a kind C02 names, so its translator returns the intended branch
  obtain ⟨bs, hbs', hmap⟩ := mapM_ok_of_mapM_some (h := Spec.erase)
    (f := fun c => match transformComponent Gen.tables trig harm c w wres with
      | some r => r
      | none => Except.error Err.keyError) _ _ (fun c hc sb hcs => by
      obtain ⟨hc', hkg⟩ := List.mem_filter.mp hc
      rcases hex c hc' with h | ⟨hk, hdc⟩
      · exact absurd h (of_decide_eq_true hkg)
      · obtain ⟨br, hbr, he⟩ := C02_component_eq_spec trig harm h0 c w wres sb hk hdc hcs
        exact ⟨br, by rw [hbr], he⟩) hbs
  have htb : transformBranches Gen.tables trig harm C.components w wres = .ok bs := by
    rw [hcomp, ← C07_nothing_dropped] at *
    exact hbs'
  refine ⟨⟨bs, htb, hmap, hgz⟩, fun hcheck => ⟨{ branches := bs, zero := C.ground }, ?_, hmap, hgz⟩⟩
  have hc2 : Net.check ({ branches := bs, zero := C.ground } : Net String GQ) = .ok () := by
    rw [← check_eraseTy, eraseTy_eq (N := ⟨bs, C.ground⟩) (S := ⟨sbs, z⟩) hmap hgz]; exact hcheck
  simp only [transformCircuit, htb, hc2, bind, Except.bind, pure, Except.pure]

theorem wf_of_erase {N S : Net String GQ} (hmap : N.branches.map Spec.erase = S.branches) (hz : N.zero = S.zero)
    (hcheck : S.check = .ok ()) (hloop : ∀ b ∈ S.branches, b.n1 ≠ b.n2) : N.WF := by
  have hNcheck : N.check = .ok () := by rw [← check_eraseTy, eraseTy_eq hmap hz]; exact hcheck
  obtain ⟨hzero, hids⟩ := (Net.check_ok_iff N).mp hNcheck
  exact ⟨hids, hzero, fun b hb => hloop (Spec.erase b) (hmap ▸ List.mem_map_of_mem hb)⟩

/-- **C02 (exact).**  Let `S` be the intended phasor network of an accepted circuit over
the kinds of C02 at frequency `w` (inductor `jwL`, capacitor `jwC`, source at `w` ↦ its phasor,
other sources short / open), valid as a network and without self-loop branches.  Then
`transform_circuit` yields a network `N`, and for **every** vector `x` that solves the matrix
equation the code builds for `N` (whatever `numpy.linalg.solve` returns), the potentials,
voltages and currents the accessors report satisfy Kirchhoff's laws and every element law
*of `S`*.
What this theorem does **not** state: that such an `x` exists, or that it is unique — both hold
for a well-posed `S` and are `CC.C02_exists_unique` (CC/Properties/C02More.lean, from `C01_det_ne_zero`,
`C01_exists`, `C01_unique`); the check decides well-posedness per instance with the exact spec tableau.  Hypotheses
carried: `S` passes `Network`'s checks (`S.check = ok`) and has no self-loop branch (as C01). -/
theorem C02_exact (trig : Trig) (harm : Harm) (h0 : TrigZero trig)
    (cs : List Component) (C : Circuit) (w wres : Rat) (hne : cs ≠ [])
    (hC : Circuit.mk? cs = .ok C) (hex : ExactList cs)
    (S : Net String GQ) (hS : Spec.phasorNet trig harm cs w wres = some S)
    (hcheck : S.check = .ok ()) (hloop : ∀ b ∈ S.branches, b.n1 ≠ b.n2) :
    ∃ N, transformCircuit Gen.tables trig harm C w wres = .ok N ∧
      ∀ x : List GQ, x.length = N.nodes.length + N.vsIds.length → matVec N.mnaA x = N.mnaB →
        CircuitEqs S (N.reportOf x) ∧
        (∀ n ∈ N.allLabels, N.potential x n = .ok ((N.reportOf x).pot n)) ∧
        (∀ b ∈ N.branches, N.voltage x b.id = .ok ((N.reportOf x).v b.id) ∧
                            N.current x b.id = .ok ((N.reportOf x).i b.id)) := by
  obtain ⟨N, hN, hmap, hz⟩ := (C02_transform_eq_spec trig harm h0 cs C w wres hne hC hex S hS).2 hcheck
  refine ⟨N, hN, ?_⟩
  intro x hx hsolve
  have wf := wf_of_erase hmap hz hcheck hloop
  obtain ⟨hp, hvi, heq⟩ := C01_sound N x wf hx hsolve
  exact ⟨eraseTy_eq hmap hz ▸ (circuitEqs_eraseTy N _).mpr heq, hp, hvi⟩

theorem divR_eq_div (v : GQ) (r : Rat) : GQ.divR v r = v / GQ.ofRat r := by
  -- `r / (r·r) = 1/r` also at `r = 0`, so no case distinction
  have hi : (GQ.ofRat r)⁻¹ = ⟨r⁻¹, 0⟩ := by
    simp only [GQ.inv_def, GQ.ofRat, GQ.normSq, mul_zero, add_zero, div_self_mul_self', neg_zero, zero_div]
  rw [GQ.div_def, hi]
  apply GQ.ext' <;> simp only [GQ.divR, GQ.re_mul, GQ.im_mul, mul_zero, sub_zero, zero_add, div_eq_mul_inv]

/-- **link to the translator.**  The hand-written wrapper `cxGet` (CC/Model/Circuit.lean) computes
what the *generated* `Gen.Sol.cx_get_voltage / _current / _potential` (harness/extract_solution.py,
the three bodies are the same expression of their own quantity) compute at `K = GQ`, `r2` embedded. -/
theorem C02_wrappers_generated (peak : Bool) (r2 : Rat) (N : Net String GQ) (x : List GQ) (q : Quantity) (id : String) :
    cxGet peak r2 N x q id
      = (N.quantity x q id).map (fun v => Gen.Sol.cx_get_voltage GQ.conj (GQ.ofRat r2) peak v v v) ∧
    (∀ v i phi : GQ, Gen.Sol.cx_get_current GQ.conj (GQ.ofRat r2) peak v i phi
        = Gen.Sol.cx_get_voltage GQ.conj (GQ.ofRat r2) peak i i i ∧
      Gen.Sol.cx_get_potential GQ.conj (GQ.ofRat r2) peak v i phi
        = Gen.Sol.cx_get_voltage GQ.conj (GQ.ofRat r2) peak phi phi phi) := by
  constructor
  · unfold cxGet
    cases N.quantity x q id <;> cases peak <;>
      simp [bind, Except.bind, pure, Except.pure, Except.map, Gen.Sol.cx_get_voltage, divR_eq_div]
  · intro v i phi
    cases peak <;> simp [Gen.Sol.cx_get_current, Gen.Sol.cx_get_potential, Gen.Sol.cx_get_voltage]

/-- **C02 (rms).**  Every RMS potential, voltage and current is the peak phasor divided by
`√2` (whatever number the caller's `np.sqrt(2)` is).  *By definition* of the hand-written wrapper
`cxGet`, which is tied to `ComplexSolution.get_*` by the `cc_solution` correspondence and to the
generated formulas by `C02_wrappers_generated`; the statement about the generated formulas
themselves is `CC.C05_gen_rms`. -/
theorem C02_rms (r2 : Rat) (N : Net String GQ) (x : List GQ) (q : Quantity) (id : String) :
    cxGet false r2 N x q id = (cxGet true r2 N x q id).map (fun v => GQ.divR v r2) := by
  unfold cxGet
  cases N.quantity x q id <;> simp [bind, Except.bind, pure, Except.pure, Except.map]

theorem rms_mul_conj (r2 : Rat) (h2 : r2 * r2 = 2) (v i : GQ) :
    GQ.divR v r2 * GQ.conj (GQ.divR i r2) = GQ.smulR (1 / 2) v * GQ.conj i := by
  have hdiv : ∀ a b : Rat, a / r2 * (b / r2) = 1 / 2 * a * b := fun a b => by
    rw [div_mul_div_comm, h2, mul_assoc, one_div, inv_mul_eq_div]
  apply GQ.ext'
  · simp only [GQ.re_mul, GQ.divR, GQ.smulR, GQ.conj, hdiv, mul_neg]
  · simp only [GQ.im_mul, GQ.divR, GQ.smulR, GQ.conj, hdiv, mul_neg]

/-- … and, with `√2·√2 = 2`, both modes report the same complex power -/
theorem C02_rms_power (r2 : Rat) (h2 : r2 * r2 = 2) (N : Net String GQ) (x : List GQ) (id : String) :
    cxPower false r2 N x id = cxPower true r2 N x id := by
  -- both sides are the same two reads; the results differ by `rms_mul_conj`
  simp only [cxPower, cxGet, bind_assoc, pure_bind, rms_mul_conj r2 h2, if_true, Bool.false_eq_true, if_false]

/-- the network `DCSolution` solves / the network `ComplexSolution(w)` solves -/
def dcNet (trig : Trig) (harm : Harm) (C : Circuit) : Except Err (Net String GQ) :=
  transformCircuit Gen.tables trig harm C 0 Gen.defaultWResTransform
def cxNet (trig : Trig) (harm : Harm) (C : Circuit) (w : Rat) : Except Err (Net String GQ) :=
  transformCircuit Gen.tables trig harm C w Gen.defaultWResTransform

/-- **C02 (dc).**  The DC analysis solves the very network of the complex analysis at `w = 0`
and reports the real parts of its peak values; in that network an inductor is a short and a
capacitor an open circuit (`C07_limits_dc`).
Conjunct 1 is `rfl` between the two definitions `dcNet` / `cxNet` above, which only transcribe
`transform(self.circuit, w=[0])` and `transform(self.circuit, w=[self.w])` of Circuit/solution.py (`__post_init__` of
`DCSolution` and of `ComplexSolution`)
(tied by the `cc_transform` correspondence at the default resolution, not by a translator);
conjunct 2 holds *by definition* of the hand-written `dcGet` / `cxGet` (the generated
`.real` formulas are `CC.C05_gen_dc_real`). -/
theorem C02_dc (trig : Trig) (harm : Harm) (C : Circuit) (r2 : Rat) (N : Net String GQ) (x : List GQ)
    (q : Quantity) (id : String) :
    dcNet trig harm C = cxNet trig harm C 0 ∧
    dcGet N x q id = (cxGet true r2 N x q id).map (·.re) ∧
    (∀ L Cap : Rat, (Elem.norton (⟨0, 0 * L⟩ : GQ) 0).isShort = true ∧
                    (Elem.thevenin (⟨0, 0 * Cap⟩ : GQ) 0).isOpen = true) := by
  refine ⟨rfl, ?_, fun L Cap => C07_limits_dc L Cap⟩
  unfold dcGet cxGet
  cases N.quantity x q id <;> simp [bind, Except.bind, pure, Except.pure, Except.map]

/-- **C02 (gate boundary).**  A sinusoidal source exactly `w_res` away from the analysis
frequency is still active; anything farther is replaced (short for a voltage source). -/
theorem C02_gate_boundary (trig : Trig) (harm : Harm) (h0 : TrigZero trig) (c : Component) (w wres : Rat)
    (a b : String) (V R ws phi : Rat)
    (hk : c.kind = "ac_voltage_source") (hn : c.nodes = [a, b])
    (hV : c.value.lookup "V" = some (.num V)) (hR : c.value.lookup "R" = some (.num R))
    (hw : c.value.lookup "w" = some (.num ws)) (hp : c.value.lookup "phi" = some (.num phi)) :
    (Spec.dist w ws = wres → transformComponent Gen.tables trig harm c w wres
        = some (.ok { n1 := a, n2 := b, id := c.id, ty := "voltage_source", e := .norton ⟨R, 0⟩ (Spec.phasor trig V phi) })) ∧
    (wres < Spec.dist w ws → transformComponent Gen.tables trig harm c w wres
        = some (.ok { n1 := a, n2 := b, id := c.id, ty := "short_circuit", e := .norton 0 0 })) := by
  have h := (C07_faithful_ac_voltage_source trig harm c w wres a b h0 V R ws phi hk hn hV hR hw hp).1
  constructor
  · intro he
    rw [h, if_pos (le_of_eq he)]
  · intro hlt
    rw [h, if_neg (not_le.mpr hlt)]

section Examples

theorem exExact : ExactList exCs := by
  intro c hc
  simp only [exCs, List.mem_cons, List.mem_nil_iff, or_false] at hc
  rcases hc with rfl | rfl | rfl
  · left; rfl
  · right; exact ⟨by decide, fun h => by rcases h with h | h <;> exact absurd h (by decide)⟩
  · right; exact ⟨by decide, fun h => by rcases h with h | h <;> exact absurd h (by decide)⟩

/-- the intended network of `exCs` at `w = 2` exists, is a valid network and has no self-loop:
the hypotheses of `C02_transform_eq_spec` and `C02_exact` are met -/
theorem exSpec : Spec.phasorNet (fun _ => (1, 0)) (fun _ _ _ _ => (0, 0)) exCs 2 0
    = some ⟨[⟨"1", "0", "V", "", .norton ⟨1, 0⟩ ⟨3, 0⟩⟩, ⟨"1", "0", "C", "", .thevenin ⟨0, 8⟩ 0⟩], "0"⟩ := by
  have hb : (Spec.nonGround exCs).mapM (fun c => Spec.branchOf (fun _ => (1, 0)) (fun _ _ _ _ => (0, 0)) c 2 0)
      = some [⟨"1", "0", "V", "", .norton ⟨1, 0⟩ ⟨3, 0⟩⟩, ⟨"1", "0", "C", "", .thevenin ⟨0, 8⟩ 0⟩] := by
    decide +kernel
  have hg : Spec.groundOf exCs = some "0" := by decide
  simp [Spec.phasorNet, hb, hg]

example := C02_exact (fun _ => (1, 0)) (fun _ _ _ _ => (0, 0)) rfl exCs _ 2 0 (by decide) exCircuit exExact _ exSpec
  (by simp [Net.check, Net.nodeLabels, sortL, dedupL, Net.ids])
  (by intro b hb; simp only [List.mem_cons, List.mem_nil_iff, or_false] at hb; rcases hb with rfl | rfl <;> decide)

end Examples

end CC
