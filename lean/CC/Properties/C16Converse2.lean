/-
  C16 — the converse of short-circuit contraction: every solution of the contracted network extends to a
  solution of the original one.  Built on CC/Proofs/ContractConverse.lean (`step_converse`,
  `contractAll_converse`: induction along the contraction steps; the current of one short per step balances
  Kirchhoff's current law at the absorbed node).

  Hypothesis (`DroppedZeroOK N keep`): if anything is contracted, every branch of `N` whose terminals are joined
  by non-exempt short circuits — exactly the branches that disappear, `C16_short_dropped_iff` — is consistent
  at zero voltage (`Elem.ZeroVoltOK`, i.e. it is NOT an ideal voltage source with `V ≠ 0`,
  `Elem.zeroVoltOK_iff`).  It is necessary: it holds whenever `N` has a solution at all
  (`C16_short_converse_needs`).  With it the contracted network's solutions are exactly the restrictions of the
  original's (`C16_short_iff`); the same for `passive_network` relative to the source-zeroed input
  (`C16_passive_converse`, `C16_passive_iff`) and for its probe network, hence the port impedance
  (`C16_passive_probe_converse`, `C16_passive_port_iff`).
-/
import CC.Proofs.ContractConverse
import CC.Properties.C16Converse
import CC.Properties.C16PassivePort
set_option linter.unusedSectionVars false

namespace CC
variable {L K : Type} [DecidableEq L] [LabelOrd L] [Field K] [DecidableEq K]

/-- **the hypothesis of the converse**: if a non-exempt short exists, every branch whose terminals are joined
by non-exempt shorts (every branch `remove_short_circuit_elements` drops) is consistent at zero voltage -/
def DroppedZeroOK (N : Net L K) (keep : List (ElemKey K)) : Prop :=
  ∀ b ∈ N.branches, HasShort N keep → ShortJoined N keep b.n1 b.n2 → b.e.ZeroVoltOK

theorem droppedZeroOK_of_sourceFree (N : Net L K) (keep : List (ElemKey K))
    (h : ∀ b ∈ N.branches, HasShort N keep → ShortJoined N keep b.n1 b.n2 → b.e.zeroSources = b.e) :
    DroppedZeroOK N keep :=
  fun b hb h1 h2 => Elem.zeroVoltOK_of_sourceFree _ (h b hb h1 h2)

/-- **C16 (short contraction, converse).**  `N` any network with distinct identifiers,
`keep` any exemption list, `N'` = `remove_short_circuit_elements(N, keep)`.  If every dropped branch is
consistent at zero voltage (`DroppedZeroOK`; necessary, see `C16_short_converse_needs`), then EVERY solution
`R'` of the circuit equations of `N'` extends to a solution `R` of the circuit equations of `N` with
  * `R.pot x = R'.pot (σ x)` for every label `x` (σ = `shortSigma N keep`), in particular `R.pot = R'.pot` on
    every label of `N'`;
  * the same voltage and reported current on every branch of `N'`;
  * voltage 0 on every dropped branch.
Any number of shorts, chained, starred, parallel, in cycles, on the reference node.  Says nothing about
uniqueness of the extension (currents in cycles of shorts are not unique) nor about the link model ↔ Python. -/
theorem C16_short_converse (N N' : Net L K) (keep : List (ElemKey K)) (R' : Report L K)
    (hid : N.ids.Nodup) (hr : removeShort N keep = .ok N') (hd : DroppedZeroOK N keep)
    (h : CircuitEqs N' R') :
    ∃ R : Report L K, CircuitEqs N R ∧ (∀ x, R.pot x = R'.pot (shortSigma N keep x)) ∧
      (∀ b' ∈ N'.branches, R.v b'.id = R'.v b'.id ∧ R.i b'.id = R'.i b'.id) ∧
      (∀ n ∈ N'.allLabels, R.pot n = R'.pot n) ∧
      (∀ b ∈ N.branches, HasShort N keep → ShortJoined N keep b.n1 b.n2 → R.v b.id = 0) := by
  have hN' := mk?_ok hr
  subst hN'
  have h' := (circuitEqsAll_iff _ R').mpr h
  have hd' : shortPairs N keep ≠ [] → ∀ b ∈ N.branches,
      sigmaAll N.zero (shortPairs N keep) b.n1 = sigmaAll N.zero (shortPairs N keep) b.n2 → b.e.ZeroVoltOK :=
    fun hne b hb he => hd b hb
      (by_contra fun hn => hne (List.isEmpty_iff.mp ((shortPairs_isEmpty_iff N keep).mpr hn)))
      ((C16_short_sigma_eq_iff N keep _ _).mp he)
  obtain ⟨R, hR, hpot, hsurv⟩ := contractAll_converse N.zero (shortPairs N keep) N.branches hid
    (pairShort_shortPairs N keep) hd' R' h'
  refine ⟨R, (circuitEqsAll_iff N R).mp hR, hpot, hsurv, ?_, ?_⟩
  · exact fun n hn => (hpot n).trans (congrArg R'.pot (shortSigma_fix_result hr n hn))
  · intro b hb _ hj
    exact converse_dropped_voltage N.zero (shortPairs N keep) N.branches R R' hR hpot b hb
      ((C16_short_sigma_eq_iff N keep _ _).mpr hj)

theorem shortJoined_equipotential (N : Net L K) (keep : List (ElemKey K)) (R : Report L K)
    (h : CircuitEqs N R) {a b : L} (hj : ShortJoined N keep a b) : R.pot a = R.pot b :=
  eqvGen_congr R.pot (fun _ _ ⟨s, hs, h1, _, e1, e2⟩ => e1 ▸ e2 ▸ short_equipotential h1 (h.volt s hs) (h.law s hs)) hj

/-- **the hypothesis of the converse is necessary**: if `N` has any solution, every branch whose terminals are
joined by non-exempt shorts is consistent at zero voltage.  (So when `DroppedZeroOK` fails, `N` has no solution and
nothing extends; `C16ex.exBad` is such a network.) -/
theorem C16_short_converse_needs (N : Net L K) (keep : List (ElemKey K)) (R : Report L K)
    (h : CircuitEqs N R) : DroppedZeroOK N keep := by
  intro b hb _ hj
  have hv := (volt_zero_iff (h.volt b hb)).mpr (shortJoined_equipotential N keep R h hj)
  exact ⟨R.i b.id, hv ▸ h.law b hb⟩

/-- **C16 (short contraction is an identity on solutions).**  Under `DroppedZeroOK`: a report
solves the contracted network iff some solution of the original network agrees with it on everything the
contracted network has (potentials of its labels, voltage and current of its branches) — the solutions of
`N'` are exactly the restrictions of the solutions of `N`. -/
theorem C16_short_iff (N N' : Net L K) (keep : List (ElemKey K)) (R' : Report L K)
    (hid : N.ids.Nodup) (hr : removeShort N keep = .ok N') (hd : DroppedZeroOK N keep) :
    CircuitEqs N' R' ↔ ∃ R : Report L K, CircuitEqs N R ∧ R.AgreeOn N' R' := by
  constructor
  · intro h
    obtain ⟨R, hR, _, hs, hp, _⟩ := C16_short_converse N N' keep R' hid hr hd h
    exact ⟨R, hR, hp, hs⟩
  · rintro ⟨R, hR, hA⟩
    exact circuitEqs_of_agreeOn N' R R' hA (C16_short N N' keep R hr hR).1

/-- the same when every branch that is dropped is source-free (an impedance, an admittance, a short, an open
circuit) — no hypothesis on the branches that survive -/
theorem C16_short_iff_sourceFree (N N' : Net L K) (keep : List (ElemKey K)) (R' : Report L K)
    (hid : N.ids.Nodup) (hr : removeShort N keep = .ok N')
    (hsf : ∀ b ∈ N.branches, HasShort N keep → ShortJoined N keep b.n1 b.n2 → b.e.zeroSources = b.e) :
    CircuitEqs N' R' ↔ ∃ R : Report L K, CircuitEqs N R ∧ R.AgreeOn N' R' :=
  C16_short_iff N N' keep R' hid hr (droppedZeroOK_of_sourceFree N keep hsf)

/-- **solvability, no hypothesis on the elements**: the original network is solvable iff the contracted one is
and no dropped branch is an ideal voltage source with `V ≠ 0` -/
theorem C16_short_solvable_iff (N N' : Net L K) (keep : List (ElemKey K))
    (hid : N.ids.Nodup) (hr : removeShort N keep = .ok N') :
    (∃ R : Report L K, CircuitEqs N R) ↔ (∃ R' : Report L K, CircuitEqs N' R') ∧ DroppedZeroOK N keep := by
  constructor
  · rintro ⟨R, hR⟩
    exact ⟨⟨R, (C16_short N N' keep R hr hR).1⟩, C16_short_converse_needs N keep R hR⟩
  · rintro ⟨⟨R', hR'⟩, hd⟩
    obtain ⟨R, hR, _⟩ := C16_short_converse N N' keep R' hid hr hd hR'
    exact ⟨R, hR⟩

/-- the only branches of the stage network that can violate `DroppedZeroOK` are exempted ones -/
theorem droppedZeroOK_stage (N : Net L K) (keep : List (ElemKey K))
    (hk : ∀ c ∈ (passiveStage N keep).branches, keep.contains c.key = true → HasShort (passiveStage N keep) keep →
      ShortJoined (passiveStage N keep) keep c.n1 c.n2 → c.e.ZeroVoltOK) :
    DroppedZeroOK (passiveStage N keep) keep := by
  intro c hc h1 h2
  obtain ⟨c1, _, rfl⟩ := List.mem_map.mp (show c ∈ List.map (zeroVS keep) _ from hc)
  by_cases hkc : keep.contains c1.key = true
  · have e : zeroVS keep c1 = c1 := zeroVS_of_kept keep c1 hkc
    rw [e] at hc h2 ⊢
    exact hk c1 hc hkc h1 h2
  · -- not exempted: `short_circuitify_voltage_sources` leaves it with source voltage 0
    have hkc' : keep.contains c1.key = false := by simpa using hkc
    rw [Elem.zeroVoltOK_iff]
    intro V hV
    by_cases hv : c1.e.isVSrc = true
    · rw [zeroVS_of_sel keep c1 hkc' hv] at hV
      simp only [zeroInVoltage] at hV
      injection hV with _ h2
      exact h2.symm
    · rw [zeroVS_of_not keep c1 (by simpa using hv)] at hV
      rw [hV] at hv
      by_contra hV0
      exact hv (by simp [Elem.isVSrc, Elem.Vval, hV0])

/-- with the empty exemption list the hypothesis always holds -/
theorem droppedZeroOK_stage_nil (N : Net L K) : DroppedZeroOK (passiveStage N []) ([] : List (ElemKey K)) :=
  droppedZeroOK_stage N [] fun c _ hkc => by simp at hkc

/-- **C16 (`passive_network`, converse).**  `N'` = `passive_network(N, keep)`.  If no
EXEMPTED ideal voltage source with `V ≠ 0` lies parallel to a chain of contracted shorts (`hk`; the non-exempt
branches are zeroed and meet the hypothesis by themselves), then every solution `R'` of the circuit equations of
`N'` extends to a solution `R` of the source-zeroed input (skeleton of `N`, every non-exempt active source set to
0 — the network of `C16_passive_sound`): `R.pot x = R'.pot (σ x)` with σ the contraction's renaming,
`R.pot = R'.pot` on the labels of `N'`, the same voltage and current on every branch of `N'`.  Together with
`C16_passive_sound`: the passive network and the source-zeroed input have the same solutions on what survives. -/
theorem C16_passive_converse (N N' : Net L K) (keep : List (ElemKey K)) (R' : Report L K)
    (hr : passiveNetwork N keep = .ok N')
    (hk : ∀ c ∈ (passiveStage N keep).branches, keep.contains c.key = true → HasShort (passiveStage N keep) keep →
      ShortJoined (passiveStage N keep) keep c.n1 c.n2 → c.e.ZeroVoltOK)
    (h : CircuitEqs N' R') :
    ∃ R : Report L K, CircuitEqs ⟨N.branches.map (zeroWhere (selSrc keep)), N.zero⟩ R ∧
      (∀ x, R.pot x = R'.pot (shortSigma (passiveStage N keep) keep x)) ∧
      (∀ b' ∈ N'.branches, R.v b'.id = R'.v b'.id ∧ R.i b'.id = R'.i b'.id) ∧
      (∀ n ∈ N'.allLabels, R.pot n = R'.pot n) := by
  obtain ⟨hidN, hopen, h4⟩ := passive_chain N N' keep hr
  have hid3 : (passiveStage N keep).ids.Nodup := mk?_ids_nodup (show Net.mk? _ _ = .ok _ from hopen)
  have hidM : (⟨N.branches.map fun b => zeroVS keep (zeroCS keep b), N.zero⟩ : Net L K).ids.Nodup := by
    rwa [ids_map N _ fun b _ => (zeroVS_zeroCS_nodes keep b).2.2]
  -- contraction, open removal, then the record-class change
  obtain ⟨R3, hR3, hpot3, hs3, hl3, _⟩ :=
    C16_short_converse (passiveStage N keep) N' keep R' hid3 h4 (droppedZeroOK_stage N keep hk) h
  obtain ⟨hM, hpotM, hsM⟩ := C16_open_converse _ (passiveStage N keep) R3 hidM hopen hR3
  refine ⟨_, ?_, fun x => by rw [hpotM, hpot3], fun b' hb' => ?_, fun n hn => by rw [hpotM, hl3 n hn]⟩
  · rw [← circuitEqsAll_iff] at hM ⊢
    exact (circuitEqsAll_map_elecEq N.branches _ _ (fun b _ => (C04_zeroed_branch_both keep b).2) N.zero _).mp hM
  · obtain ⟨c, hc, rfl, _⟩ := (C16_short_survivors_iff (passiveStage N keep) N' keep h4 b').mp hb'
    have := hsM c hc
    have h' := hs3 _ hb'
    exact ⟨this.1.trans h'.1, this.2.trans h'.2⟩

/-- **C16 (`passive_network`, converse, no exemptions) — unconditional.**  For the empty exemption list every
solution of `passive_network(N)` extends to a solution of `N` with all its sources set to 0. -/
theorem C16_passive_converse_all (N N' : Net L K) (R' : Report L K)
    (hr : passiveNetwork N [] = .ok N') (h : CircuitEqs N' R') :
    ∃ R : Report L K, CircuitEqs ⟨N.branches.map (zeroWhere (selSrc [])), N.zero⟩ R ∧
      (∀ x, R.pot x = R'.pot (shortSigma (passiveStage N []) [] x)) ∧
      (∀ b' ∈ N'.branches, R.v b'.id = R'.v b'.id ∧ R.i b'.id = R'.i b'.id) ∧
      (∀ n ∈ N'.allLabels, R.pot n = R'.pot n) :=
  C16_passive_converse N N' [] R' hr (fun c _ hkc => by simp at hkc) h

/-- **C16 (`passive_network` is an identity on solutions).**  Under `hk`: `R'` solves the passive network iff
some solution of the source-zeroed input agrees with it on everything the passive network has. -/
theorem C16_passive_iff (N N' : Net L K) (keep : List (ElemKey K)) (R' : Report L K)
    (hr : passiveNetwork N keep = .ok N')
    (hk : ∀ c ∈ (passiveStage N keep).branches, keep.contains c.key = true → HasShort (passiveStage N keep) keep →
      ShortJoined (passiveStage N keep) keep c.n1 c.n2 → c.e.ZeroVoltOK) :
    CircuitEqs N' R' ↔
      ∃ R : Report L K, CircuitEqs ⟨N.branches.map (zeroWhere (selSrc keep)), N.zero⟩ R ∧ R.AgreeOn N' R' := by
  constructor
  · intro h
    obtain ⟨R, hR, _, hs, hp⟩ := C16_passive_converse N N' keep R' hr hk h
    exact ⟨R, hR, hp, hs⟩
  · rintro ⟨R, hR, hA⟩
    exact circuitEqs_of_agreeOn N' R R' hA (C16_passive_sound N N' keep R hr hR).1

/-- **converse of `passive_inj_sound`.**  The last clause is there for the test source of a probe network,
whose identifier is not in `N`.  No hypothesis on the elements: with every source zeroed, every dropped branch is
consistent at zero voltage. -/
theorem passive_inj_converse (N N' : Net L K) (keep : List (ElemKey K)) (hr : passiveNetwork N keep = .ok N')
    (inj : L → K) (R' : Report L K) (h : EqsInj (zs N'.branches) N'.zero R' inj) :
    ∃ R : Report L K, EqsInj (zs N.branches) N.zero R inj ∧
      (∀ x, R.pot x = R'.pot (shortSigma (passiveStage N keep) keep x)) ∧
      ∀ id, id ∉ N.ids → R.v id = R'.v id ∧ R.i id = R'.i id := by
  have hidN := (passive_chain N N' keep hr).1
  have hids : (N.branches.map fun c => zsB (zeroVS keep (zeroCS keep c))).map (·.id) = N.ids :=
    ids_map N (fun c => zsB (zeroVS keep (zeroCS keep c))) fun c _ => (zeroVS_zeroCS_nodes keep c).2.2
  have hsub : ∀ c ∈ zs (passiveStage N keep).branches, c ∈ N.branches.map fun c => zsB (zeroVS keep (zeroCS keep c)) :=
    fun c hc => by rw [zs_passiveStage] at hc; exact (List.filter_sublist.map _).subset hc
  obtain ⟨hz, hb⟩ := zs_contract_shape N N' keep hr
  rw [hz, hb] at h
  -- contraction: every short has a zeroed counterpart, every branch of the zeroed list is fine at zero voltage
  obtain ⟨R3, hR3, hpot3, _, hout3⟩ := contractAll_converse_inj N.zero (shortPairs (passiveStage N keep) keep)
    (zs (passiveStage N keep).branches) inj
    (by rw [zs_passiveStage]; exact ((List.filter_sublist.map _).map _).nodup (hids ▸ hidN))
    (pairShort_zs_stage N keep)
    (fun _ c hc _ => by obtain ⟨s, _, rfl⟩ := List.mem_map.mp hc; exact Elem.zeroVoltOK_zeroSources _) R' h
  -- open circuits, then record classes
  rw [zs_passiveStage] at hR3
  have hR2 := eqsInj_filter_open_converse N.branches _ _ (hids ▸ hidN) (fun c _ hq => isOpen_zsB_zeroed keep c hq)
    N.zero R3 inj hR3
  refine ⟨_, EqsInj.map (g := zsB) hR2 id fun c _ => (elecEq_zsB_zeroed keep c).symm.carries _, hpot3, fun id hid => ?_⟩
  rw [← hids] at hid
  simp only [openExt, findId_none hid]
  exact hout3 id fun h' => hid (List.map_subset _ hsub h')

set_option linter.unusedVariables false in
/-- **C16 (`passive_network` and the probe network, converse).**  `N'` = `passive_network(N, keep)`, `a ≠ b` two
nodes that the contraction does not rename, `pid` not an identifier of `N`.  Every solution `R'` of the probe
network of `N'` extends to a solution `R` of the probe network of `N` with the same potentials at `a` and `b`
(indeed `R.pot x = R'.pot (σ x)` everywhere).  No hypothesis on the elements: in the probe network every source
— exempted or not — is zeroed, so every dropped branch is consistent at zero voltage. -/
theorem C16_passive_probe_converse (N N' : Net L K) (keep : List (ElemKey K))
    (hr : passiveNetwork N keep = .ok N') (pid : String) (hpid : pid ∉ N.ids) (a b : L) (hab : a ≠ b)
    (ha : PassiveKeepsNode N keep a) (hb : PassiveKeepsNode N keep b) (J : K) (R' : Report L K)
    (h : CircuitEqs (probeNet N' pid a b J) R') :
    ∃ R : Report L K, CircuitEqs (probeNet N pid a b J) R ∧
      (∀ x, R.pot x = R'.pot (shortSigma (passiveStage N keep) keep x)) ∧
      R.pot a = R'.pot a ∧ R.pot b = R'.pot b := by
  obtain ⟨h1, hi, hv⟩ := (probe_iff N' pid a b J R').mp h
  obtain ⟨R, hR, hpot, hout⟩ := passive_inj_converse N N' keep hr _ R' h1
  have ea : R.pot a = R'.pot a := (hpot a).trans (congrArg R'.pot ha)
  have eb : R.pot b = R'.pot b := (hpot b).trans (congrArg R'.pot hb)
  obtain ⟨ev, ei⟩ := hout pid hpid
  exact ⟨R, (probe_iff N pid a b J R).mpr ⟨ei ▸ hR, ei.trans hi, by rw [ev, ea, eb]; exact hv⟩, hpot, ea, eb⟩

/-- **C16 (`passive_network` keeps the port impedance).**  `N'` =
`passive_network(N, keep)`; `a ≠ b` two nodes that keep their names (`PassiveKeepsNode`: e.g. the reference node,
or any node that is not a terminal of a contracted short / zeroed ideal voltage source); `pid` not an identifier
of `N`.  Then for every `z`: `z` is the Spec's port impedance of `N` between `a` and `b` iff it is that of `N'` —
neither solvability of the probe network of `N` nor well-posedness of the probe network of `N'` is assumed
(unlike `C16_passive_port`; both transfer through `C16_passive_probe_sound` / `C16_passive_probe_converse`).  Not covered:
ports at renamed nodes.  The hypothesis `hab` is in the statement and is only handed on to `C16_passive_probe_sound` and
`C16_passive_probe_converse`, whose proofs do not use it. -/
theorem C16_passive_port_iff (N N' : Net L K) (keep : List (ElemKey K))
    (hr : passiveNetwork N keep = .ok N') (pid : String) (hpid : pid ∉ N.ids) (a b : L) (hab : a ≠ b)
    (ha : PassiveKeepsNode N keep a) (hb : PassiveKeepsNode N keep b) (z : K) :
    PortZ N pid a b z ↔ PortZ N' pid a b z := by
  constructor <;> intro h
  · refine h.transport (fun R hR => ⟨R, C16_passive_probe_sound N N' keep hr pid a b hab ha hb 1 R hR⟩) fun S hS => ?_
    obtain ⟨R1, hR1, _, e1, e2⟩ := C16_passive_probe_converse N N' keep hr pid hpid a b hab ha hb 1 S hS
    exact ⟨R1, hR1, by rw [e1, e2]⟩
  · refine h.transport (fun S hS => ?_) fun R hR => ⟨R, C16_passive_probe_sound N N' keep hr pid a b hab ha hb 1 R hR, rfl⟩
    obtain ⟨R1, hR1, _⟩ := C16_passive_probe_converse N N' keep hr pid hpid a b hab ha hb 1 S hS
    exact ⟨R1, hR1⟩

/-- the probe networks of `N` and of `passive_network(N, keep)` are solvable together -/
theorem C16_passive_probe_solvable_iff (N N' : Net L K) (keep : List (ElemKey K))
    (hr : passiveNetwork N keep = .ok N') (pid : String) (hpid : pid ∉ N.ids) (a b : L) (hab : a ≠ b)
    (ha : PassiveKeepsNode N keep a) (hb : PassiveKeepsNode N keep b) (J : K) :
    (∃ R : Report L K, CircuitEqs (probeNet N pid a b J) R) ↔
      (∃ R' : Report L K, CircuitEqs (probeNet N' pid a b J) R') :=
  ⟨fun ⟨R, hR⟩ => ⟨R, C16_passive_probe_sound N N' keep hr pid a b hab ha hb J R hR⟩,
   fun ⟨S, hS⟩ =>
    let ⟨R1, hR1, _⟩ := C16_passive_probe_converse N N' keep hr pid hpid a b hab ha hb J S hS
    ⟨R1, hR1⟩⟩

/-! ### the hypotheses are satisfiable -/

namespace C16ex

/-- `exN` (C16Survive.lean: chain of two shorts `S1 (a,b)`, `S2 (c,a)`, resistor `R3 (b,c)` parallel to the chain,
exempt short `K`): distinct ids, a result, and every branch is source-free, so `DroppedZeroOK` holds -/
theorem exN_dropped : DroppedZeroOK exN exKeep :=
  droppedZeroOK_of_sourceFree exN exKeep fun b hb _ _ =>
    (by decide +kernel : ∀ b ∈ exN.branches, b.e.zeroSources = b.e) b hb

example : exN.ids.Nodup ∧ removeShort exN exKeep = .ok exN' ∧ DroppedZeroOK exN exKeep :=
  ⟨by decide +kernel, exShort, exN_dropped⟩

/-- a DRIVEN network: current source `I` (1 A into `a`), chain of two shorts `S1 (a,b)`, `S2 (b,c)`, resistor
`Rp (a,c)` parallel to the chain, load `R1 (c,z)` -/
def exD : Net String ℚ :=
  ⟨[⟨"z", "a", "I", "current_source", .thevenin 0 1⟩, ⟨"a", "b", "S1", "short_circuit", .norton 0 0⟩,
    ⟨"b", "c", "S2", "short_circuit", .norton 0 0⟩, ⟨"a", "c", "Rp", "resistor", .norton 1 0⟩,
    ⟨"c", "z", "R1", "resistor", .norton 2 0⟩], "z"⟩
def exD' : Net String ℚ :=
  ⟨[⟨"z", "c", "I", "current_source", .thevenin 0 1⟩, ⟨"c", "z", "R1", "resistor", .norton 2 0⟩], "z"⟩

theorem exD_short : removeShort exD [] = .ok exD' := by
  refine C16ex_mk_ok ?_ (by decide +kernel) (by decide +kernel)
  rw [show shortPairs exD [] = [("a", "b"), ("b", "c")] from by decide +kernel,
    contractAll_cons, List.map_cons, List.map_nil, contractAll_cons, List.map_nil, contractAll_nil]
  decide +kernel

/-- the (non-zero) solution of the contracted network: 2 V across the load -/
def exDR : Report String ℚ :=
  { pot := fun n => if n = "c" then 2 else 0,
    v := fun id => if id = "R1" then 2 else -2,
    i := fun _ => 1 }

theorem exDR_solves : CircuitEqs exD' exDR := by decide +kernel

theorem exD_dropped : DroppedZeroOK exD [] :=
  fun b hb _ _ =>
    ((by decide +kernel : ∀ b ∈ exD.branches, b.e = .thevenin 0 1 ∨ b.e.zeroSources = b.e) b hb).elim
      (fun e => e ▸ Elem.zeroVoltOK_thevenin _ _) (Elem.zeroVoltOK_of_sourceFree _)

/-- `C16_short_converse` on the driven network: the non-zero solution of the contracted network extends to the
original — two chained shorts and a parallel resistor re-inserted, 2 V at `a`, `b`, `c` alike -/
example : ∃ R : Report String ℚ, CircuitEqs exD R ∧ R.pot "a" = 2 ∧ R.pot "b" = 2 ∧ R.v "R1" = 2 ∧ R.v "Rp" = 0 := by
  obtain ⟨R, hR, hpot, hs, hl, hdv⟩ :=
    C16_short_converse exD exD' [] exDR (by decide +kernel) exD_short exD_dropped exDR_solves
  have hc : R.pot "c" = 2 := (hl "c" (by decide +kernel)).trans (by decide +kernel)
  have hbc : R.pot "b" = R.pot "c" := shortJoined_equipotential exD [] R hR
    (.rel _ _ ⟨⟨"b", "c", "S2", "short_circuit", .norton 0 0⟩, List.mem_of_getElem? (i := 2) rfl, rfl, rfl, rfl, rfl⟩)
  have hab : R.pot "a" = R.pot "b" := shortJoined_equipotential exD [] R hR
    (.rel _ _ ⟨⟨"a", "b", "S1", "short_circuit", .norton 0 0⟩, List.mem_of_getElem? (i := 1) rfl, rfl, rfl, rfl, rfl⟩)
  have hRp := (volt_zero_iff (hR.volt ⟨"a", "c", "Rp", "resistor", .norton 1 0⟩ (List.mem_of_getElem? (i := 3) rfl))).mpr
    (hab.trans hbc)
  exact ⟨R, hR, hab.trans (hbc.trans hc), hbc.trans hc,
    (hs ⟨"c", "z", "R1", "resistor", .norton 2 0⟩ (List.mem_of_getElem? (i := 1) rfl)).1.trans (by decide +kernel), hRp⟩

/-- the hypothesis cannot be dropped: an ideal 5 V source parallel to a short.  `DroppedZeroOK` fails, and the
network has no solution at all (`C16_short_converse_needs`), whatever its contraction looks like -/
def exBad : Net String ℚ :=
  ⟨[⟨"a", "z", "S", "short_circuit", .norton 0 0⟩, ⟨"a", "z", "V", "voltage_source", .norton 0 5⟩,
    ⟨"a", "z", "R", "resistor", .norton 2 0⟩], "z"⟩

theorem exBad_not_ok : ¬ DroppedZeroOK exBad [] := by
  intro h
  have hS : (⟨"a", "z", "S", "short_circuit", .norton 0 0⟩ : Branch String ℚ) ∈ exBad.branches :=
    List.mem_of_getElem? (i := 0) rfl
  have := h ⟨"a", "z", "V", "voltage_source", .norton 0 5⟩ (List.mem_of_getElem? (i := 1) rfl)
    ⟨_, hS, by decide +kernel, rfl⟩ (.rel _ _ ⟨_, hS, by decide +kernel, rfl, rfl, rfl⟩)
  exact absurd ((Elem.zeroVoltOK_iff _).mp this 5 rfl) (by decide +kernel)

example : ¬ ∃ R : Report String ℚ, CircuitEqs exBad R :=
  fun ⟨R, hR⟩ => exBad_not_ok (C16_short_converse_needs exBad [] R hR)

/-- `C16_passive_converse_all`, `C16_passive_port_iff`: `passive_network(exP) = exP4` (C16Compose.lean), port between
`b` (keeps its name) and the reference node; no solvability or well-posedness hypothesis -/
example (z : ℚ) : PortZ exP "p" "b" "z" z ↔ PortZ (⟨exP4, "z"⟩ : Net String ℚ) "p" "b" "z" z :=
  C16_passive_port_iff exP ⟨exP4, "z"⟩ [] exP_passive "p" (by decide +kernel) "b" "z" (by decide +kernel) exP_keeps_b
    (passiveKeepsNode_zero exP []) z
example : ∃ R : Report String ℚ, CircuitEqs ⟨exP.branches.map (zeroWhere (selSrc [])), exP.zero⟩ R :=
  let ⟨R, hR, _⟩ := C16_passive_converse_all exP ⟨exP4, "z"⟩ Report.zeroRep exP_passive
    ((circuitEqsAll_iff (⟨exP4, "z"⟩ : Net String ℚ) _).mp (C04_zero_all exP4 "z"))
  ⟨R, hR⟩
end C16ex

end CC
