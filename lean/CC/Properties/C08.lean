/-
  C08 — Fourier series of the built-in periodic waveforms are the true coefficients.

  All statements are about the definitions in CC/Gen/Fourier.lean, which the translator
  regenerates from SignalProcessing/periodic_functions.py on every run.

  Algebraic part (any field `K`, `π`, `cos`, `sin` arbitrary parameters):
    C08_abc, C08_conj, C08_neg_index, C08_lookup, C08_mapping_total.
  Analytic part (ℝ/ℂ, Mathlib; `π := Real.pi`, `cos/sin := Real.cos/Real.sin`,
  float `%` := `x − y⌊x/y⌋`): for every amplitude (either sign), phase, offset, period `T > 0`:
    the object returned by `fourier_series` for the waveform has
      c₀(time_function) = amplitude(0),
      cₙ(time_function) = amplitude(n)/2 · exp(j·phase(n))   for every n ≥ 1,
    where cₙ(f) = (1/T)∫₀ᵀ f(t)·exp(−2πi·n·t/T) dt   — C08_const … C08_tri,
    and `c(n)` of the code is that coefficient for every n ≠ 0 of either sign — C08_c_true;
    C08_all (all six at once), C08_parseval (energy = amplitude(0)² + Σ amplitude(n)²/2),
    C08_mean_square (the reconstruction converges to the time function in the mean square).
-/
import CC.Proofs.FourierAlg
import CC.Proofs.FourierWave
import CC.Proofs.FourierParseval
import CC.Proofs.FourierMeanSquare

namespace CC
open CC.Gen.Fourier CC.Fourier

section algebraic
variable {K : Type} [Field K]

/-- `a = A·cos φ`, `b = −A·sin φ`, and for `n ≥ 0` the complex form is `c = (a − j·b)/2`
(pairs are `(re, im)`). -/
theorem C08_abc (π : K) (cos sin : K → K) (h : HarmObj K) (n : ℤ) :
    h.a π cos sin n = h.amplitude π n * cos (h.phase π n)
    ∧ h.b π cos sin n = -(h.amplitude π n * sin (h.phase π n))
    ∧ (0 ≤ n → h.c π cos sin n = (h.a π cos sin n / 2, -(h.b π cos sin n) / 2)) := by
  refine ⟨rfl, neg_mul _ _, fun _ => ?_⟩
  rw [c_eq, HarmObj.a, HarmObj.b, neg_mul, neg_neg, div_mul_eq_mul_div, div_mul_eq_mul_div]

/-- `amplitude(−n) = amplitude(n)`, `phase(−n) = −phase(n)` for every integer `n`. -/
theorem C08_neg_index (π : K) (h : HarmObj K) (n : ℤ) :
    h.amplitude π (-n) = h.amplitude π n ∧ h.phase π (-n) = -h.phase π n :=
  ⟨amplitude_neg π h n, phase_neg π h n⟩

/-- `c(−n) = conj c(n)` for every integer `n`, for any even `cos` and odd `sin`. -/
theorem C08_conj [CharZero K] (π : K) (cos sin : K → K)
    (hcos : ∀ x, cos (-x) = cos x) (hsin : ∀ x, sin (-x) = -sin x) (h : HarmObj K) (n : ℤ) :
    h.c π cos sin (-n) = ((h.c π cos sin n).1, -(h.c π cos sin n).2) := by
  rw [c_eq, c_eq, amplitude_neg, phase_neg, hcos, hsin, mul_neg]

end algebraic

/-- every wave class is a key of `fourier_series_mapping`, its harmonic class is the one
of the same waveform, and `fourier_series` passes amplitude, phase, offset through -/
theorem C08_mapping_total :
    (∀ w : Wave, (fourierSeriesMapping.lookup w).isSome)
    ∧ fourierSeriesMapping =
        [(.ConstantFunction, .ConstFunctionHarmonics), (.CosFunction, .CosFunctionHarmonics),
         (.SinFunction, .SinFunctionHarmonics), (.RectFunction, .RectFunctionHarmonics),
         (.TriFunction, .TriFunctionHarmonics), (.SawFunction, .SawFunctionHarmonics)] :=
  ⟨fun w => by cases w <;> decide, rfl⟩

/-- looking a waveform up by its type name returns that waveform; an unknown name is an
`UnknownWavetype` error -/
theorem C08_lookup :
    periodicFunction "const" = .ok .ConstantFunction
    ∧ periodicFunction "cos" = .ok .CosFunction
    ∧ periodicFunction "sin" = .ok .SinFunction
    ∧ periodicFunction "rect" = .ok .RectFunction
    ∧ periodicFunction "tri" = .ok .TriFunction
    ∧ periodicFunction "saw" = .ok .SawFunction
    ∧ (∀ w : Wave, periodicFunction w.wavetype = .ok w)
    ∧ (∀ s : String, s ∉ ["const", "cos", "sin", "rect", "tri", "saw"] →
        periodicFunction s = .error "UnknownWavetype") :=
  ⟨rfl, rfl, rfl, rfl, rfl, rfl, periodicFunction_wavetype, periodicFunction_unknown⟩

open Complex

/-- The C08 claim for one waveform object: `fourier_series` succeeds and its amplitude / phase
pair *is* the Fourier coefficient of the object's own time function, for every order. -/
def TrueCoefficients (w : WaveObj ℝ) : Prop :=
  ∃ h : HarmObj ℝ, fourierSeries w = .ok h
    ∧ coeff (timeR w) w.period 0 = ((h.amplitude Real.pi 0 : ℝ) : ℂ)
    ∧ ∀ n : ℕ, 1 ≤ n →
        coeff (timeR w) w.period n
          = ((h.amplitude Real.pi n / 2 : ℝ) : ℂ) * cexp (I * ((h.phase Real.pi n : ℝ) : ℂ))

private theorem natCast_int_not_neg (n : ℕ) : ¬ ((n : ℤ) < 0) := by omega

/-- the orders `n ≥ 0` never take the `n < 0` branch of `amplitude` / `phase`: it is enough to
compare with the coefficient functions of the harmonic class -/
private theorem trueCoefficients_of (w : WaveObj ℝ) (h : HarmObj ℝ) (hs : fourierSeries w = .ok h)
    (h0 : coeff (timeR w) w.period 0 = ((h.amplitudeCoefficient Real.pi 0 : ℝ) : ℂ))
    (hn : ∀ n : ℤ, 0 < n → coeff (timeR w) w.period n
      = ((h.amplitudeCoefficient Real.pi n / 2 : ℝ) : ℂ)
          * cexp (I * ((h.phaseCoefficient Real.pi n : ℝ) : ℂ))) :
    TrueCoefficients w :=
  ⟨h, hs, h0, fun n h1 => by
    rw [amplitude_of_nonneg _ _ (Int.natCast_nonneg n), phase_of_nonneg _ _ (Int.natCast_nonneg n)]
    exact hn n (by omega)⟩

theorem C08_const (T A φ off : ℝ) (hT : 0 < T) : TrueCoefficients ⟨.ConstantFunction, T, A, φ, off⟩ := by
  refine trueCoefficients_of _ ⟨.ConstFunctionHarmonics, A, φ, off⟩ rfl ?_ fun n hn => ?_
  · rw [timeR_const, coeff_const T hT.ne', if_pos rfl]
    rfl
  · rw [timeR_const, coeff_const T hT.ne', if_neg hn.ne']
    simp only [HarmObj.amplitudeCoefficient, ConstFunctionHarmonics.amplitudeCoefficient, if_neg hn.ne', Int.cast_zero,
      zero_div, ofReal_zero, zero_mul]

theorem C08_cos (T A φ off : ℝ) (hT : 0 < T) : TrueCoefficients ⟨.CosFunction, T, A, φ, off⟩ := by
  refine trueCoefficients_of _ ⟨.CosFunctionHarmonics, A, φ, off⟩ rfl ?_ fun n hn => ?_
  · rw [timeR_cos, coeff_cosk_add_const T A φ off hT.ne', if_neg one_ne_zero, if_neg (by omega : ¬ (1 : ℤ) = -0),
      if_pos rfl, zero_add, zero_add]
    rfl
  · rw [timeR_cos, coeff_cosk_add_const T A φ off hT.ne', if_neg (by omega : ¬ 1 = -n), if_neg hn.ne', add_zero,
      add_zero]
    simp only [HarmObj.amplitudeCoefficient, HarmObj.phaseCoefficient, CosFunctionHarmonics.amplitudeCoefficient,
      CosFunctionHarmonics.phaseCoefficient, if_neg hn.ne', eq_comm (a := (1 : ℤ))]
    split_ifs
    · rfl
    · rw [Int.cast_zero, zero_div, ofReal_zero, zero_mul]

/-- a sine wave is the cosine wave of phase `−π/2 + φ`, and so is its harmonic class -/
theorem C08_sin (T A φ off : ℝ) (hT : 0 < T) : TrueCoefficients ⟨.SinFunction, T, A, φ, off⟩ := by
  obtain ⟨_, ⟨⟩, h0, hn⟩ := C08_cos T A (-Real.pi / (2 : ℤ) + φ) off hT
  rw [← timeR_sin] at h0 hn
  exact ⟨⟨.SinFunctionHarmonics, A, φ, off⟩, rfl, h0, hn⟩

private theorem cexp_phase_shift (x : ℝ) :
    cexp (I * ((-Real.pi / 2 + x : ℝ) : ℂ)) = -I * cexp (I * (x : ℂ)) := by
  rw [ofReal_add, mul_add, Complex.exp_add, mul_comm I, ofReal_div, ofReal_neg, ofReal_ofNat,
    Complex.exp_neg_pi_div_two_mul_I]

private theorem neg_one_zpow_eq_ite (n : ℤ) : (-1 : ℂ) ^ n = if n % 2 = 0 then 1 else -1 := by
  split_ifs with h
  · exact (Int.even_iff.mpr h).neg_one_zpow
  · exact (Int.odd_iff.mpr (Int.emod_two_ne_zero.mp h)).neg_one_zpow

theorem C08_rect (T A φ off : ℝ) (hT : 0 < T) : TrueCoefficients ⟨.RectFunction, T, A, φ, off⟩ := by
  refine trueCoefficients_of _ ⟨.RectFunctionHarmonics, A, φ, off⟩ rfl ?_ fun n hn => ?_
  · rw [timeR_rect, coeff_phase_shift_zero _ T φ hT, coeff_pl_zero T _ _ _ _ hT]
    show _ = (off : ℂ)
    push_cast
    ring
  · rw [timeR_rect, coeff_phase_shift _ T φ hT n, coeff_pl T _ _ _ _ hT n hn.ne', neg_one_zpow_eq_ite]
    simp only [HarmObj.amplitudeCoefficient, HarmObj.phaseCoefficient, RectFunctionHarmonics.amplitudeCoefficient,
      RectFunctionHarmonics.phaseCoefficient, if_neg hn.ne', Int.cast_ofNat]
    split_ifs
    · push_cast
      ring
    · rw [cexp_phase_shift]
      push_cast
      ring

theorem C08_saw (T A φ off : ℝ) (hT : 0 < T) : TrueCoefficients ⟨.SawFunction, T, A, φ, off⟩ := by
  refine trueCoefficients_of _ ⟨.SawFunctionHarmonics, A, φ, off⟩ rfl ?_ fun n hn => ?_
  · rw [timeR_saw, coeff_phase_shift_zero _ T φ hT, coeff_pl_zero T _ _ _ _ hT]
    show _ = (off : ℂ)
    push_cast
    ring
  · rw [timeR_saw, coeff_phase_shift _ T φ hT n, coeff_pl T _ _ _ _ hT n hn.ne']
    simp only [HarmObj.amplitudeCoefficient, HarmObj.phaseCoefficient, SawFunctionHarmonics.amplitudeCoefficient,
      SawFunctionHarmonics.phaseCoefficient, if_neg hn.ne', Int.cast_ofNat, cexp_phase_shift]
    push_cast
    ring

theorem C08_tri (T A φ off : ℝ) (hT : 0 < T) : TrueCoefficients ⟨.TriFunction, T, A, φ, off⟩ := by
  refine trueCoefficients_of _ ⟨.TriFunctionHarmonics, A, φ, off⟩ rfl ?_ fun n hn => ?_
  · rw [timeR_tri, coeff_phase_shift_zero _ T φ hT, coeff_pl_zero T _ _ _ _ hT]
    show _ = (off : ℂ)
    push_cast
    ring
  · rw [timeR_tri, coeff_phase_shift _ T φ hT n, coeff_pl T _ _ _ _ hT n hn.ne', div_pow, I_sq, neg_one_zpow_eq_ite]
    simp only [HarmObj.amplitudeCoefficient, HarmObj.phaseCoefficient, TriFunctionHarmonics.amplitudeCoefficient,
      TriFunctionHarmonics.phaseCoefficient, if_neg hn.ne']
    split_ifs
    · push_cast
      ring
    · push_cast
      ring

def pairC (p : ℝ × ℝ) : ℂ := ⟨p.1, p.2⟩

private theorem ofReal_mul_cexp (r θ : ℝ) :
    ((r : ℝ) : ℂ) * cexp (I * (θ : ℂ)) = ⟨r * Real.cos θ, r * Real.sin θ⟩ := by
  rw [mul_comm I, Complex.exp_mul_I, ← ofReal_cos, ← ofReal_sin, mul_add, ← mul_assoc, ← ofReal_mul, ← ofReal_mul,
    Complex.mk_eq_add_mul_I]

/-- For every waveform whose amplitude/phase pair is true (C08_const … C08_tri), the code's
complex form `c(n)` is the complex Fourier coefficient for **every** `n ≠ 0`, negative orders
included. -/
theorem C08_c_true (w : WaveObj ℝ) (hw : TrueCoefficients w) (h : HarmObj ℝ)
    (hh : fourierSeries w = .ok h) (n : ℤ) (hn : n ≠ 0) :
    pairC (h.c Real.pi Real.cos Real.sin n) = coeff (timeR w) w.period n := by
  obtain ⟨_, e', -, hpos⟩ := hw
  cases hh.symm.trans e'
  rw [c_eq, pairC, ← ofReal_mul_cexp]
  obtain ⟨k, rfl | rfl⟩ := n.eq_nat_or_neg
  · exact (hpos k (by omega)).symm
  · -- a negative order is the conjugate of the positive one, on both sides
    rw [coeff_neg, hpos k (by omega), amplitude_neg, phase_neg, map_mul, conj_ofReal, ← Complex.exp_conj, map_mul,
      conj_I, conj_ofReal, ofReal_neg, mul_neg, neg_mul]

/-! ### examples: the hypotheses are satisfiable by concrete, non-trivial inputs -/

example : TrueCoefficients ⟨.RectFunction, 2, -3, 100, 1⟩ := C08_rect _ _ _ _ two_pos
example : TrueCoefficients ⟨.SawFunction, 1 / 50, 3 / 2, -40, -2⟩ := C08_saw _ _ _ _ (by norm_num)
example (n : ℤ) :
    (HarmObj.c Real.pi Real.cos Real.sin ⟨.TriFunctionHarmonics, (2 : ℝ), 1, 0⟩ (-n))
      = ((HarmObj.c Real.pi Real.cos Real.sin ⟨.TriFunctionHarmonics, (2 : ℝ), 1, 0⟩ n).1,
         -(HarmObj.c Real.pi Real.cos Real.sin ⟨.TriFunctionHarmonics, (2 : ℝ), 1, 0⟩ n).2) :=
  C08_conj Real.pi Real.cos Real.sin Real.cos_neg Real.sin_neg _ n
example (n : ℤ) (hn : n ≠ 0) :
    pairC (HarmObj.c Real.pi Real.cos Real.sin ⟨.RectFunctionHarmonics, (-3 : ℝ), 100, 1⟩ n)
      = coeff (timeR ⟨.RectFunction, 2, -3, 100, 1⟩) 2 n :=
  C08_c_true _ (C08_rect _ _ _ _ two_pos) _ rfl n hn

theorem C08_all (w : WaveObj ℝ) (hT : 0 < w.period) : TrueCoefficients w := by
  obtain ⟨cls, T, A, φ, off⟩ := w
  cases cls
  exacts [C08_const T A φ off hT, C08_cos T A φ off hT, C08_sin T A φ off hT, C08_rect T A φ off hT,
    C08_tri T A φ off hT, C08_saw T A φ off hT]

/-- **Parseval**: the mean square of the time function over one period equals
`amplitude(0)² + Σ_{n≥1} amplitude(n)²/2` (all six waveforms, all parameters, `T > 0`). -/
theorem C08_parseval (w : WaveObj ℝ) (h : HarmObj ℝ) (hT : 0 < w.period) (hh : fourierSeries w = .ok h) :
    HasSum (fun n : ℕ => if n = 0 then (h.amplitude Real.pi 0) ^ 2 else (h.amplitude Real.pi n) ^ 2 / 2)
      ((1 / w.period) * ∫ t in (0:ℝ)..w.period, (timeR w t) ^ 2) := by
  obtain ⟨_, e', h0, hpos⟩ := C08_all w hT
  cases hh.symm.trans e'
  obtain ⟨hm, C, hb⟩ := measurable_bounded_timeR w hT
  exact parseval_of_coeff (timeR w) w.period hT hm C hb
    (fun n : ℕ => h.amplitude Real.pi (n : ℤ)) (fun n : ℕ => h.phase Real.pi (n : ℤ)) h0 hpos

/-- **mean-square convergence**: the reconstruction
`amplitude(0) + Σ_{1≤n≤N} amplitude(n)·cos(2πn·t/T + phase(n))` converges to the time function
in the mean square over one period (all six waveforms, all parameters, `T > 0`). -/
theorem C08_mean_square (w : WaveObj ℝ) (h : HarmObj ℝ) (hT : 0 < w.period) (hh : fourierSeries w = .ok h) :
    Filter.Tendsto
      (fun N : ℕ => ∫ t in (0:ℝ)..w.period,
        (timeR w t - (h.amplitude Real.pi 0 + ∑ n ∈ Finset.Icc 1 N,
          h.amplitude Real.pi n * Real.cos (2 * Real.pi * n / w.period * t + h.phase Real.pi n))) ^ 2)
      Filter.atTop (nhds 0) := by
  obtain ⟨_, e', h0, hpos⟩ := C08_all w hT
  cases hh.symm.trans e'
  obtain ⟨hm, C, hb⟩ := measurable_bounded_timeR w hT
  exact mean_square_of_coeff (timeR w) w.period hT hm C hb
    (fun n : ℕ => h.amplitude Real.pi (n : ℤ)) (fun n : ℕ => h.phase Real.pi (n : ℤ)) h0 hpos

example :
    HasSum (fun n : ℕ => if n = 0 then (HarmObj.amplitude Real.pi ⟨.SawFunctionHarmonics, (3 / 2 : ℝ), -40, -2⟩ 0) ^ 2
        else (HarmObj.amplitude Real.pi ⟨.SawFunctionHarmonics, (3 / 2 : ℝ), -40, -2⟩ n) ^ 2 / 2)
      ((1 / (1 / 50 : ℝ)) * ∫ t in (0:ℝ)..(1 / 50), (timeR ⟨.SawFunction, 1 / 50, 3 / 2, -40, -2⟩ t) ^ 2) :=
  C08_parseval ⟨.SawFunction, 1 / 50, 3 / 2, -40, -2⟩ _ (by norm_num) rfl

end CC
