/-
  Property C03, state-space and transient level — the input/output behaviour of the state-space model
  is independent of names, listing order, reference node and terminal orientation.

  Setting (`StateModelOK`): `N` is the `w = 0` network of an RLC + ideal-source circuit (`RLC`), the
  four matrices `m` are what `stateSpaceMatrices` returns for certificates `Ainv`, `S` that satisfy the
  certificate equations (`ModelCert`).  Two such settings `(N, cv, lv, …)` and `(N', cv', lv', …)` are
  related by one of the C03 transformations of CC/Properties/C03.lean (`Net.rename σ τ` with `σ`
  injective, a permutation of the branch list, `Net.flip f`, `switchGround`), their dictionaries give
  the same capacitance / inductance to the same (renamed) element (`SameValues`, any dictionary
  order), and the inputs give the same amplitude to the same (renamed) source, negated for a reversed
  source (`SameInput`; the position of a source in `sources` may differ).

  (a) TRANSFER LEVEL (`C03_transfer_*`): for every `s`, every `x = (s − A)⁻¹ B u` and
      `x' = (s − A')⁻¹ B' u'` (written `s·x = A x + B u`): when the phasor network of the target
      setting at `s` is well-posed, the two reports (`y = C x + D u` read through the accessors — every
      potential, every element's voltage and current) coincide up to the transformation: equal
      (listing order), equal after renaming, negated on the reversed elements, potentials shifted by
      one common constant (reference node).  Proof: `C10_transfer` (each report solves its phasor
      network), the Spec-level invariance `C03_perm / _rename / _reverse` / re-referencing applied to
      substituted networks (`subst_perm / _reref / _reverse / _rename`, CC/Proofs/StateInvariance.lean), and `C01_unique`.
  (b) SAMPLE LEVEL (`C03_sample_*`): for EVERY pair of states related by the induced state map
      (`SameState`: same capacitor voltage / inductor current for the same renamed element, negated for
      a reversed one) and inputs as above — hence for every integrator —, the per-sample reports
      (`y = C x + D u`, `ẋ = A x + B u`) coincide up to the transformation, provided the circuit with
      its states imposed (`stateNet`: capacitors ↦ voltage sources `x_k`, inductors ↦ current sources)
      is well-posed for the target setting.  Proof: `C03_sample_state` (the sample report solves
      `stateNet`: `state_circuit`, CC/Proofs/StateInvariance.lean, from `model_sample_circuit`, `x = DQᵀ y` and
      `state_readback`), invariance, `C01_unique`.
      The reports contain the capacitor currents `C_k·ẋ_k` and the inductor voltages `L_k·ẋ_k`, so the
      agreement includes the derivative `ẋ = A x + B u` of every state (values are non-zero, `ModelCert`).

  NOT proved here: that the state TRAJECTORIES of two related models stay related under the integrator
  (`lsim` is a parameter of the model); the theorems are per sample, for related states.  The output
  ROWS are the subject of CC/Properties/C10Rows.lean (`C10_output_rows`).  Well-posedness of the target network is a
  hypothesis, not derived from that of the original (as in `C03_reported_*`).
-/
import CC.Proofs.StateInvariance
import CC.Properties.C10
import CC.Properties.C01Det

set_option linter.unusedSectionVars false

namespace CC
open Matrix Mx

section defs
variable {L K : Type} [DecidableEq L] [LabelOrd L] [Field K] [DecidableEq K]

/-- the hypotheses of `C10_transfer` / `C12_sample_circuit`, bundled -/
structure StateModelOK (N : Net L K) (cv lv : ValDict K) (Ainv S Delta : List (List K)) (m : SSMats K) : Prop where
  rlc : RLC N cv lv
  delta : ssDelta N cv = .ok Delta
  mats : stateSpaceMatrices N cv lv Ainv S = .ok m
  cert : ModelCert id N cv lv Ainv S Delta

def phasorOf (N : Net L K) (cv lv : ValDict K) (u : Fin (ssNInputs N lv) → K) (s : K) : Net L K :=
  phasorNet N cv lv (ssSources N lv) (List.ofFn u) s

/-- the circuit with its states imposed: capacitor `k` ↦ ideal voltage source `x_k`, inductor `k` ↦ ideal
current source `x_{nc+k}`, sources at `u` -/
def stateNet (N : Net L K) (cv lv : ValDict K) (u : Fin (ssNInputs N lv) → K)
    (x : Fin (ssNStates N cv lv) → K) : Net L K :=
  N.mapElems (stateElem cv lv (ssSources N lv) (List.ofFn u) (List.ofFn x))

/-- the report `C10_transfer` speaks about: `y = C x + D u` read through the accessors, `ẋ = s·x` -/
def transferReport (N : Net L K) (cv lv : ValDict K) (m : SSMats K) (s : K)
    (x : Fin (ssNStates N cv lv) → K) (u : Fin (ssNInputs N lv) → K) : Report L K :=
  (sampleNet N cv lv (ssSources N lv) (List.ofFn u) (List.ofFn (s • x))).reportOf
    (List.ofFn (toM N.nY (ssNStates N cv lv) m.C *ᵥ x + toM N.nY (ssNInputs N lv) m.D *ᵥ u))

/-- the report `C12_sample_circuit` speaks about: `y = C x + D u` read through the accessors,
`ẋ = A x + B u` -/
def sampleReport (N : Net L K) (cv lv : ValDict K) (m : SSMats K)
    (x : Fin (ssNStates N cv lv) → K) (u : Fin (ssNInputs N lv) → K) : Report L K :=
  (sampleNet N cv lv (ssSources N lv) (List.ofFn u)
      (List.ofFn (toM (ssNStates N cv lv) (ssNStates N cv lv) m.A *ᵥ x
        + toM (ssNStates N cv lv) (ssNInputs N lv) m.B *ᵥ u))).reportOf
    (List.ofFn (toM N.nY (ssNStates N cv lv) m.C *ᵥ x + toM N.nY (ssNInputs N lv) m.D *ᵥ u))

/-- **C03 (sample level, the states are reported).**  For every state `x` and input `u` the sample
report solves the circuit with the states imposed: reported capacitor voltage = `x_k`, reported inductor
current = `x_{nc+k}`, sources at `u`, Kirchhoff's laws, every other element law. -/
theorem C03_sample_state {N : Net L K} {cv lv : ValDict K} {Ainv S Delta : List (List K)} {m : SSMats K}
    (ok : StateModelOK N cv lv Ainv S Delta m)
    (x : Fin (ssNStates N cv lv) → K) (u : Fin (ssNInputs N lv) → K) :
    CircuitEqs (stateNet N cv lv u x) (sampleReport N cv lv m x u) :=
  state_circuit ok.rlc ok.delta ok.mats ok.cert x u

theorem C03_transfer_solves {N : Net L K} {cv lv : ValDict K} {Ainv S Delta : List (List K)} {m : SSMats K}
    (ok : StateModelOK N cv lv Ainv S Delta m) (s : K)
    (x : Fin (ssNStates N cv lv) → K) (u : Fin (ssNInputs N lv) → K)
    (hx : s • x = toM _ _ m.A *ᵥ x + toM _ _ m.B *ᵥ u) :
    CircuitEqs (phasorOf N cv lv u s) (transferReport N cv lv m s x u) :=
  C10_transfer ok.rlc ok.delta ok.mats ok.cert s x u hx

end defs

section core
variable {L L' K : Type} [DecidableEq L] [LabelOrd L] [DecidableEq L'] [LabelOrd L'] [Field K] [DecidableEq K]
variable {N : Net L K} {cv lv : ValDict K} {Ainv S Delta : List (List K)} {m : SSMats K}
variable {N' : Net L' K} {cv' lv' : ValDict K} {Ainv' S' Delta' : List (List K)} {m' : SSMats K}

theorem transfer_core (ok : StateModelOK N cv lv Ainv S Delta m) (ok' : StateModelOK N' cv' lv' Ainv' S' Delta' m')
    (s : K) (x : Fin (ssNStates N cv lv) → K) (u : Fin (ssNInputs N lv) → K)
    (x' : Fin (ssNStates N' cv' lv') → K) (u' : Fin (ssNInputs N' lv') → K)
    (hx : s • x = toM _ _ m.A *ᵥ x + toM _ _ m.B *ᵥ u)
    (hx' : s • x' = toM _ _ m'.A *ᵥ x' + toM _ _ m'.B *ᵥ u')
    (Φ : Report L K → Report L' K)
    (hΦ : ∀ R, CircuitEqs (phasorOf N cv lv u s) R → CircuitEqs (phasorOf N' cv' lv' u' s) (Φ R))
    (hw' : WellPosed (phasorOf N' cv' lv' u' s)) :
    (transferReport N' cv' lv' m' s x' u').AgreeOn (phasorOf N' cv' lv' u' s)
      (Φ (transferReport N cv lv m s x u)) :=
  subst_core ok'.rlc.wf.ids_nodup (C03_transfer_solves ok s x u hx) (C03_transfer_solves ok' s x' u' hx') Φ hΦ hw'

theorem sample_core (ok : StateModelOK N cv lv Ainv S Delta m) (ok' : StateModelOK N' cv' lv' Ainv' S' Delta' m')
    (x : Fin (ssNStates N cv lv) → K) (u : Fin (ssNInputs N lv) → K)
    (x' : Fin (ssNStates N' cv' lv') → K) (u' : Fin (ssNInputs N' lv') → K)
    (Φ : Report L K → Report L' K)
    (hΦ : ∀ R, CircuitEqs (stateNet N cv lv u x) R → CircuitEqs (stateNet N' cv' lv' u' x') (Φ R))
    (hw' : WellPosed (stateNet N' cv' lv' u' x')) :
    (sampleReport N' cv' lv' m' x' u').AgreeOn (stateNet N' cv' lv' u' x')
      (Φ (sampleReport N cv lv m x u)) :=
  subst_core ok'.rlc.wf.ids_nodup (C03_sample_state ok x u) (C03_sample_state ok' x' u') Φ hΦ hw'

end core

section transfer
variable {L K : Type} [DecidableEq L] [LabelOrd L] [Field K] [DecidableEq K]
variable {N N' : Net L K} {cv lv cv' lv' : ValDict K} {Ainv S Delta Ainv' S' Delta' : List (List K)} {m m' : SSMats K}

theorem flip_id (f : String → Bool) (b : Branch L K) : (b.flip f).id = b.id := by
  unfold Branch.flip; split <;> rfl

theorem flip_e (f : String → Bool) (b : Branch L K) : (b.flip f).e = Elem.rev (f b.id) b.e := by
  unfold Branch.flip Elem.rev; split <;> rfl

/-- **C03 (state-space transfer, listing order).**  Branch list permuted (and dictionaries / source order
possibly different): the two models' responses at `s` are the same report. -/
theorem C03_transfer_perm (ok : StateModelOK N cv lv Ainv S Delta m) (ok' : StateModelOK N' cv' lv' Ainv' S' Delta' m')
    (hz : N.zero = N'.zero) (hp : N.branches.Perm N'.branches)
    (hv : SameValues id N cv lv cv' lv')
    (s : K) (x : Fin (ssNStates N cv lv) → K) (u : Fin (ssNInputs N lv) → K)
    (x' : Fin (ssNStates N' cv' lv') → K) (u' : Fin (ssNInputs N' lv') → K)
    (hu : SameInput id (fun _ => false) N (ssSources N lv) (List.ofFn u) (ssSources N' lv') (List.ofFn u'))
    (hx : s • x = toM _ _ m.A *ᵥ x + toM _ _ m.B *ᵥ u)
    (hx' : s • x' = toM _ _ m'.A *ᵥ x' + toM _ _ m'.B *ᵥ u')
    (hw' : WellPosed (phasorOf N' cv' lv' u' s)) :
    (transferReport N' cv' lv' m' s x' u').AgreeOn (phasorOf N' cv' lv' u' s) (transferReport N cv lv m s x u) :=
  transfer_core ok ok' s x u x' u' hx hx' id
    (subst_perm hz hp fun b hb => phasorElem_rel id (fun _ => false) s hv hu b hb b rfl rfl) hw'

/-- **C03 (state-space transfer, reference node).**  Another reference node: same voltages and currents,
all potentials shifted by the potential of the new reference. -/
theorem C03_transfer_reref (ok : StateModelOK N cv lv Ainv S Delta m) (ok' : StateModelOK N' cv' lv' Ainv' S' Delta' m')
    (g : L) (hr : switchGround N g = .ok N')
    (hv : SameValues id N cv lv cv' lv')
    (s : K) (x : Fin (ssNStates N cv lv) → K) (u : Fin (ssNInputs N lv) → K)
    (x' : Fin (ssNStates N' cv' lv') → K) (u' : Fin (ssNInputs N' lv') → K)
    (hu : SameInput id (fun _ => false) N (ssSources N lv) (List.ofFn u) (ssSources N' lv') (List.ofFn u'))
    (hx : s • x = toM _ _ m.A *ᵥ x + toM _ _ m.B *ᵥ u)
    (hx' : s • x' = toM _ _ m'.A *ᵥ x' + toM _ _ m'.B *ᵥ u')
    (hw' : WellPosed (phasorOf N' cv' lv' u' s)) :
    (transferReport N' cv' lv' m' s x' u').AgreeOn (phasorOf N' cv' lv' u' s)
      ((transferReport N cv lv m s x u).shift ((transferReport N cv lv m s x u).pot g)) :=
  transfer_core ok ok' s x u x' u' hx hx' (fun R => R.shift (R.pot g))
    (subst_reref g hr fun b hb => phasorElem_rel id (fun _ => false) s hv hu b hb b rfl rfl) hw'

/-- **C03 (state-space transfer, terminal order).**  Elements `f` reversed (reactive elements and
resistors swapped, sources swapped with negated amplitude — `SameInput`): their own voltage and current
are negated, nothing else changes. -/
theorem C03_transfer_reverse (f : String → Bool) (ok : StateModelOK N cv lv Ainv S Delta m)
    (ok' : StateModelOK (N.flip f) cv' lv' Ainv' S' Delta' m')
    (hv : SameValues id N cv lv cv' lv')
    (s : K) (x : Fin (ssNStates N cv lv) → K) (u : Fin (ssNInputs N lv) → K)
    (x' : Fin (ssNStates (N.flip f) cv' lv') → K) (u' : Fin (ssNInputs (N.flip f) lv') → K)
    (hu : SameInput id f N (ssSources N lv) (List.ofFn u) (ssSources (N.flip f) lv') (List.ofFn u'))
    (hx : s • x = toM _ _ m.A *ᵥ x + toM _ _ m.B *ᵥ u)
    (hx' : s • x' = toM _ _ m'.A *ᵥ x' + toM _ _ m'.B *ᵥ u')
    (hw' : WellPosed (phasorOf (N.flip f) cv' lv' u' s)) :
    (transferReport (N.flip f) cv' lv' m' s x' u').AgreeOn (phasorOf (N.flip f) cv' lv' u' s)
      ((transferReport N cv lv m s x u).flip f) :=
  transfer_core ok ok' s x u x' u' hx hx' (fun R => R.flip f)
    (subst_reverse f fun b hb => phasorElem_rel id f s hv hu b hb (b.flip f) (flip_id f b) (flip_e f b)) hw'

end transfer

section transferRename
variable {L L' K : Type} [DecidableEq L] [LabelOrd L] [DecidableEq L'] [LabelOrd L'] [Field K] [DecidableEq K]
variable {N : Net L K} {cv lv cv' lv' : ValDict K} {Ainv S Delta Ainv' S' Delta' : List (List K)} {m m' : SSMats K}

/-- **C03 (state-space transfer, renaming).**  Nodes renamed by an injective `σ`, identifiers by `τ`
(dictionary keys and source names follow `τ` — `SameValues τ`, `SameInput τ`): the response of the
renamed model, read back through the renaming, is the response of the original model.  As in
`C03_reported_rename` the well-posedness hypothesis is that of the ORIGINAL phasor network. -/
theorem C03_transfer_rename (σ : L → L') (hσ : Function.Injective σ) (τ : String → String)
    (ok : StateModelOK N cv lv Ainv S Delta m)
    (ok' : StateModelOK (N.rename σ τ) cv' lv' Ainv' S' Delta' m')
    (hv : SameValues τ N cv lv cv' lv')
    (s : K) (x : Fin (ssNStates N cv lv) → K) (u : Fin (ssNInputs N lv) → K)
    (x' : Fin (ssNStates (N.rename σ τ) cv' lv') → K) (u' : Fin (ssNInputs (N.rename σ τ) lv') → K)
    (hu : SameInput τ (fun _ => false) N (ssSources N lv) (List.ofFn u)
            (ssSources (N.rename σ τ) lv') (List.ofFn u'))
    (hx : s • x = toM _ _ m.A *ᵥ x + toM _ _ m.B *ᵥ u)
    (hx' : s • x' = toM _ _ m'.A *ᵥ x' + toM _ _ m'.B *ᵥ u')
    (hw : WellPosed (phasorOf N cv lv u s)) :
    (transferReport N cv lv m s x u).AgreeOn (phasorOf N cv lv u s)
      ((transferReport (N.rename σ τ) cv' lv' m' s x' u').comap σ τ) :=
  transfer_core ok' ok s x' u' x u hx' hx (fun R' => R'.comap σ τ)
    (subst_rename σ hσ τ fun b hb => phasorElem_rel τ (fun _ => false) s hv hu b hb (b.rename σ τ) rfl rfl) hw

end transferRename

section sample
variable {L K : Type} [DecidableEq L] [LabelOrd L] [Field K] [DecidableEq K]
variable {N N' : Net L K} {cv lv cv' lv' : ValDict K} {Ainv S Delta Ainv' S' Delta' : List (List K)} {m m' : SSMats K}

/-- **C03 (transient sample, listing order).**  For states related by the induced state map (same
capacitor voltage / inductor current for the same element, whatever its position in the dictionaries)
and the same source values, the two sample reports coincide. -/
theorem C03_sample_perm (ok : StateModelOK N cv lv Ainv S Delta m) (ok' : StateModelOK N' cv' lv' Ainv' S' Delta' m')
    (hz : N.zero = N'.zero) (hp : N.branches.Perm N'.branches)
    (x : Fin (ssNStates N cv lv) → K) (u : Fin (ssNInputs N lv) → K)
    (x' : Fin (ssNStates N' cv' lv') → K) (u' : Fin (ssNInputs N' lv') → K)
    (hs : SameState id (fun _ => false) N cv lv cv' lv' (List.ofFn x) (List.ofFn x'))
    (hu : SameInput id (fun _ => false) N (ssSources N lv) (List.ofFn u) (ssSources N' lv') (List.ofFn u'))
    (hw' : WellPosed (stateNet N' cv' lv' u' x')) :
    (sampleReport N' cv' lv' m' x' u').AgreeOn (stateNet N' cv' lv' u' x') (sampleReport N cv lv m x u) :=
  sample_core ok ok' x u x' u' id
    (subst_perm hz hp fun b hb => stateElem_rel id (fun _ => false) hs hu b hb b rfl rfl) hw'

/-- **C03 (transient sample, reference node).**  Another reference node: same voltages and currents, all
potentials shifted by the sample potential of the new reference. -/
theorem C03_sample_reref (ok : StateModelOK N cv lv Ainv S Delta m) (ok' : StateModelOK N' cv' lv' Ainv' S' Delta' m')
    (g : L) (hr : switchGround N g = .ok N')
    (x : Fin (ssNStates N cv lv) → K) (u : Fin (ssNInputs N lv) → K)
    (x' : Fin (ssNStates N' cv' lv') → K) (u' : Fin (ssNInputs N' lv') → K)
    (hs : SameState id (fun _ => false) N cv lv cv' lv' (List.ofFn x) (List.ofFn x'))
    (hu : SameInput id (fun _ => false) N (ssSources N lv) (List.ofFn u) (ssSources N' lv') (List.ofFn u'))
    (hw' : WellPosed (stateNet N' cv' lv' u' x')) :
    (sampleReport N' cv' lv' m' x' u').AgreeOn (stateNet N' cv' lv' u' x')
      ((sampleReport N cv lv m x u).shift ((sampleReport N cv lv m x u).pot g)) :=
  sample_core ok ok' x u x' u' (fun R => R.shift (R.pot g))
    (subst_reref g hr fun b hb => stateElem_rel id (fun _ => false) hs hu b hb b rfl rfl) hw'

/-- **C03 (transient sample, terminal order).**  Reversed reactive elements carry the negated state,
reversed sources the negated value; then exactly the reversed elements' own voltage and current are
negated. -/
theorem C03_sample_reverse (f : String → Bool) (ok : StateModelOK N cv lv Ainv S Delta m)
    (ok' : StateModelOK (N.flip f) cv' lv' Ainv' S' Delta' m')
    (x : Fin (ssNStates N cv lv) → K) (u : Fin (ssNInputs N lv) → K)
    (x' : Fin (ssNStates (N.flip f) cv' lv') → K) (u' : Fin (ssNInputs (N.flip f) lv') → K)
    (hs : SameState id f N cv lv cv' lv' (List.ofFn x) (List.ofFn x'))
    (hu : SameInput id f N (ssSources N lv) (List.ofFn u) (ssSources (N.flip f) lv') (List.ofFn u'))
    (hw' : WellPosed (stateNet (N.flip f) cv' lv' u' x')) :
    (sampleReport (N.flip f) cv' lv' m' x' u').AgreeOn (stateNet (N.flip f) cv' lv' u' x')
      ((sampleReport N cv lv m x u).flip f) :=
  sample_core ok ok' x u x' u' (fun R => R.flip f)
    (subst_reverse f fun b hb => stateElem_rel id f hs hu b hb (b.flip f) (flip_id f b) (flip_e f b)) hw'

end sample

section sampleRename
variable {L L' K : Type} [DecidableEq L] [LabelOrd L] [DecidableEq L'] [LabelOrd L'] [Field K] [DecidableEq K]
variable {N : Net L K} {cv lv cv' lv' : ValDict K} {Ainv S Delta Ainv' S' Delta' : List (List K)} {m m' : SSMats K}

/-- **C03 (transient sample, renaming).**  Well-posedness hypothesis: the ORIGINAL circuit with its states
imposed. -/
theorem C03_sample_rename (σ : L → L') (hσ : Function.Injective σ) (τ : String → String)
    (ok : StateModelOK N cv lv Ainv S Delta m)
    (ok' : StateModelOK (N.rename σ τ) cv' lv' Ainv' S' Delta' m')
    (x : Fin (ssNStates N cv lv) → K) (u : Fin (ssNInputs N lv) → K)
    (x' : Fin (ssNStates (N.rename σ τ) cv' lv') → K) (u' : Fin (ssNInputs (N.rename σ τ) lv') → K)
    (hs : SameState τ (fun _ => false) N cv lv cv' lv' (List.ofFn x) (List.ofFn x'))
    (hu : SameInput τ (fun _ => false) N (ssSources N lv) (List.ofFn u)
            (ssSources (N.rename σ τ) lv') (List.ofFn u'))
    (hw : WellPosed (stateNet N cv lv u x)) :
    (sampleReport N cv lv m x u).AgreeOn (stateNet N cv lv u x)
      ((sampleReport (N.rename σ τ) cv' lv' m' x' u').comap σ τ) :=
  sample_core ok' ok x' u' x u (fun R' => R'.comap σ τ)
    (subst_rename σ hσ τ fun b hb => stateElem_rel τ (fun _ => false) hs hu b hb (b.rename σ τ) rfl rfl) hw

end sampleRename

namespace C03ex

/-! ### non-vacuity: the series circuit `V(1,0) – R=1 (1,2) – C=1 (2,0)` and the same circuit with the
capacitor listed as `C (0,2)` -/

def fC : String → Bool := fun id => id == "C"

def netRCf : Net String ℚ := { zero := "0", branches := [
  { n1 := "1", n2 := "0", id := "V", e := .norton 0 1 },
  { n1 := "1", n2 := "2", id := "R", e := .norton 1 0 },
  { n1 := "0", n2 := "2", id := "C", e := .thevenin 0 0 }] }

theorem netRC_flip : netRC.flip fC = netRCf := by
  simp [netRC, netRCf, Net.flip, Branch.flip, fC, Elem.reversed]

theorem netRCf_nodes : netRCf.nodes = ["1", "2"] := by
  simp only [Net.nodes, Net.nodeLabels, sortL_string]; decide +kernel
theorem netRCf_Delta : ssDelta netRCf [("C", 1)] = .ok [[0, -1, 0]] := by
  simp only [ssDelta, ssDeltaRow, netRCf_nodes]
  decide +kernel

theorem netRCf_cert : ModelCert id netRCf [("C", 1)] [] rcAinv rcS [[0, -1, 0]] := by
  refine .of_checks rfl ?_ ?_ (by decide +kernel)
  · simp only [Net.nY, Net.nN, ssAtilde, Net.mnaA, netRCf_nodes]
    decide +kernel
  · simp only [ssM, ssDQ, ssQL, ssQ, ssNStates, Net.nY, Net.nN, netRCf_nodes]
    decide +kernel

theorem netRCf_rlc : RLC netRCf [("C", 1)] [] := by decide +kernel

def rcM : SSMats ℚ := { A := [[-1]], B := [[1]], C := [[0], [1], [1]], D := [[1], [0], [-1]] }
def rcMf : SSMats ℚ := { A := [[-1]], B := [[-1]], C := [[0], [-1], [-1]], D := [[1], [0], [-1]] }

theorem netRCf_mats : stateSpaceMatrices netRCf [("C", 1)] [] rcAinv rcS = .ok rcMf := by
  rw [stateSpaceMatrices_eq_ok netRCf_Delta rfl]
  simp only [ssCore, ssDQ, ssQL, ssQS, ssQ, ssNStates, Net.nY, Net.nN, netRCf_nodes, rcMf, Except.ok.injEq,
    SSMats.mk.injEq]
  decide +kernel

theorem rc_ok : StateModelOK netRC [("C", 1)] [] rcAinv rcS [[0, 1, 0]] rcM :=
  ⟨netRC_rlc, netRC_Delta, netRC_mats, netRC_cert⟩
theorem rcf_ok : StateModelOK netRCf [("C", 1)] [] rcAinv rcS [[0, -1, 0]] rcMf :=
  ⟨netRCf_rlc, netRCf_Delta, netRCf_mats, netRCf_cert⟩

theorem one_state_eq (n p : Nat) (hn : n = 1) (hp : p = 1) (a b c d s : ℚ) (h : s * c = a * c + b * d) :
    s • (fun _ : Fin n => c) = toM n n [[a]] *ᵥ (fun _ => c) + toM n p [[b]] *ᵥ (fun _ => d) := by
  subst hn hp
  funext i
  simp [Matrix.mulVec, dotProduct, Mx.get, h]

theorem rcf_phasor : phasorOf netRCf [("C", 1)] [] (fun _ => 1) 1
    = { zero := "0", branches := [
        { n1 := "1", n2 := "0", id := "V", e := .norton 0 1 },
        { n1 := "1", n2 := "2", id := "R", e := .norton 1 0 },
        { n1 := "0", n2 := "2", id := "C", e := .thevenin 1 0 }] } := by
  rw [phasorOf, phasorNet, Net.mapElems, Net.mk.injEq]
  decide +kernel

/-- determinant `-2` -/
theorem rcf_phasor_wellposed : WellPosed (phasorOf netRCf [("C", 1)] [] (fun _ => 1) 1) :=
  wellPosed_of_matrix (by decide +kernel) (A := [[1, -1, 1], [-1, 2, 0], [1, 0, 0]])
    (by simp only [Net.mnaA, Net.nodes, Net.nodeLabels, sortL_string]; decide +kernel) (by decide +kernel)

/-- with the state imposed the capacitor is a second ideal source: a 4 × 4 matrix of determinant `1` -/
theorem rcf_state_wellposed : WellPosed (stateNet netRCf [("C", 1)] [] (fun _ => 1) (fun _ => -1/2)) :=
  wellPosed_of_matrix (by decide +kernel) (A := [[1, -1, 0, 1], [-1, 1, -1, 0], [0, -1, 0, 0], [1, 0, 0, 0]])
    (by simp only [Net.mnaA, Net.nodes, Net.nodeLabels, Net.vsSorted, Net.vsIds, sortL_string]; decide +kernel)
    (by decide +kernel)

theorem rc_sameInput : SameInput id fC netRC (ssSources netRC []) (List.ofFn fun _ : Fin (ssNInputs netRC []) => (1 : ℚ))
    (ssSources netRCf []) (List.ofFn fun _ : Fin (ssNInputs netRCf []) => (1 : ℚ)) := by
  unfold SameInput
  decide +kernel

theorem rc_sameState : SameState id fC netRC [("C", 1)] [] [("C", 1)] []
    (List.ofFn fun _ : Fin (ssNStates netRC [("C", 1)] []) => (1/2 : ℚ))
    (List.ofFn fun _ : Fin (ssNStates netRCf [("C", 1)] []) => (-1/2 : ℚ)) :=
  ⟨by decide +kernel, by decide +kernel⟩

/-- **non-vacuity of `C03_transfer_reverse` and `C03_sample_reverse`** (and of `StateModelOK`, `SameValues`,
`SameInput`, `SameState`): the RC circuit and the description with the capacitor's terminals swapped, at
`s = 1`, `u = u' = 1` (the source is not reversed), `x = 1/2`, `x' = -1/2` (the reversed capacitor's voltage). -/
example :
    StateModelOK netRC [("C", 1)] [] rcAinv rcS [[0, 1, 0]] rcM
    ∧ StateModelOK (netRC.flip fC) [("C", 1)] [] rcAinv rcS [[0, -1, 0]] rcMf
    ∧ SameValues id netRC [("C", (1 : ℚ))] [] [("C", 1)] []
    ∧ SameInput id fC netRC (ssSources netRC []) (List.ofFn fun _ : Fin (ssNInputs netRC []) => (1 : ℚ))
        (ssSources (netRC.flip fC) []) (List.ofFn fun _ : Fin (ssNInputs (netRC.flip fC) []) => (1 : ℚ))
    ∧ SameState id fC netRC [("C", 1)] [] [("C", 1)] []
        (List.ofFn fun _ : Fin (ssNStates netRC [("C", 1)] []) => (1/2 : ℚ))
        (List.ofFn fun _ : Fin (ssNStates (netRC.flip fC) [("C", 1)] []) => (-1/2 : ℚ))
    ∧ (1 : ℚ) • (fun _ : Fin (ssNStates netRC [("C", 1)] []) => (1/2 : ℚ))
        = toM (ssNStates netRC [("C", 1)] []) (ssNStates netRC [("C", 1)] []) rcM.A *ᵥ (fun _ => 1/2)
          + toM (ssNStates netRC [("C", 1)] []) (ssNInputs netRC []) rcM.B *ᵥ (fun _ => 1)
    ∧ (1 : ℚ) • (fun _ : Fin (ssNStates (netRC.flip fC) [("C", 1)] []) => (-1/2 : ℚ))
        = toM (ssNStates (netRC.flip fC) [("C", 1)] []) (ssNStates (netRC.flip fC) [("C", 1)] []) rcMf.A *ᵥ (fun _ => -1/2)
          + toM (ssNStates (netRC.flip fC) [("C", 1)] []) (ssNInputs (netRC.flip fC) []) rcMf.B *ᵥ (fun _ => 1)
    ∧ WellPosed (phasorOf (netRC.flip fC) [("C", 1)] [] (fun _ => 1) 1)
    ∧ WellPosed (stateNet (netRC.flip fC) [("C", 1)] [] (fun _ => 1) (fun _ => -1/2)) := by
  rw [netRC_flip]
  exact ⟨rc_ok, rcf_ok, ⟨fun _ _ => rfl, fun _ _ => rfl⟩, rc_sameInput, rc_sameState,
    one_state_eq _ _ rfl (by decide +kernel) _ _ _ _ _ (by norm_num),
    one_state_eq _ _ rfl (by decide +kernel) _ _ _ _ _ (by norm_num),
    rcf_phasor_wellposed, rcf_state_wellposed⟩

end C03ex

end CC
