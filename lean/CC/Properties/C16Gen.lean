/-
  C16 / C04 (translator tie) — every function of the hand-written model CC/Model/Transform.lean,
  which the C16 and C04 theorems are about, equals the function that
  harness/extract_transformers.py regenerates from the AST of Network/transformers.py on every
  run (CC/Gen/Transformers.lean).  A changed comprehension, condition, argument, terminal,
  exemption test, list operation or composition in transformers.py changes the generated
  definition, and the corresponding equality below stops compiling.

  All statements hold for every network, every exemption list and every field `K`; exceptions
  (`FloatingGroundNode`, `AmbiguousBranchIDs` of the `Network` constructor, `KeyError` of
  `network[id]`) included.  The exemption list of the generated functions is a list of element
  objects `(name, type, record)` compared by dataclass equality; the hand model's `ElemKey` is
  the same triple as a structure (`ElemKey.ofElt`, a bijection), so "all exemption lists" loses
  nothing.
-/
import CC.Proofs.TransformersGen
import CC.Properties.C01Gen
set_option linter.unusedSectionVars false

namespace CC
open CC.Gen.Core CC.Gen.Transformers CC.Py
variable {L K : Type} [DecidableEq L] [LabelOrd L] [Field K] [DecidableEq K]

/-- `Network(branches, zero)` — constructor plus `__post_init__` — is the model's `Net.mk?` -/
theorem C16_gen_construct (bs : List (Branch L K)) (z : L) :
    Py.construct Gen.Core.Network.post_init bs z = Net.mk? bs z := by
  unfold Py.construct Net.mk?
  rw [C01_gen_check]
  rfl

/-- `element in keep` (dataclass equality) is the model's `keep.contains b.key`; every list of
`ElemKey`s is the image of a list of element objects -/
theorem C16_gen_keep (b : Branch L K) (keep : List (Py.Elt K)) :
    decide (Py.element b ∈ keep) = (keep.map ElemKey.ofElt).contains b.key
    ∧ Function.Injective (ElemKey.ofElt (K := K))
    ∧ ∀ ks : List (ElemKey K), ∃ keep' : List (Py.Elt K), keep'.map ElemKey.ofElt = ks := by
  refine ⟨gen_mem_keep b keep, ElemKey.ofElt_injective, fun ks => ⟨ks.map fun k => (k.id, k.ty, k.e), ?_⟩⟩
  simp [List.map_map, Function.comp_def, ElemKey.ofElt]

theorem C16_gen_is_zero_node (N : Net L K) (n : L) :
    Gen.Transformers.Network.is_zero_node N n = decide (n = N.zero) := gen_is_zero_node N n

theorem C16_gen_switchGround (N : Net L K) (g : L) : switch_ground_node N g = switchGround N g := by
  simp only [switch_ground_node, switchGround, C16_gen_construct]

/-- `list(network.branches)`, `network[element]`, `.remove` (first equal branch), constructor -/
theorem C16_gen_removeElement (N : Net L K) (id : String) : remove_element N id = removeElement N id := by
  unfold remove_element removeElement
  rw [gen_getitem]
  cases h : N.get? id with
  | none => rfl
  | some b =>
    have hb := (get?_some_mem N h).1
    simp only [bind, Except.bind, gen_listRemove b N.branches hb, C16_gen_construct]

theorem C16_gen_removeOpen (N : Net L K) : remove_open_circuit_elements N = removeOpen N := by
  simp only [remove_open_circuit_elements, removeOpen, C16_gen_construct, gen_isOpen]

/-- the three comprehensions of the loop body -/
theorem C16_gen_contractStep (bs : List (Branch L K)) (an rn : L) :
    (((bs.map fun b => if decide (b.n1 = an) then Py.mkBranch rn b.n2 (Py.element b) else b).map
        fun b => if decide (b.n2 = an) then Py.mkBranch b.n1 rn (Py.element b) else b).filter
        fun b => decide (b.n1 ≠ b.n2)) = contractStep bs an rn := by
  simp only [contractStep, gen_mkBranch_n1, gen_mkBranch_n2, decide_eq_true_eq]

/-- the initial list of terminal pairs of the non-exempt shorts, with the reference-node rule -/
theorem C16_gen_shortPairs (N : Net L K) (keep : List (Py.Elt K)) :
    ((N.branches.filter fun b => is_short_circuit b.e && decide (Py.element b ∉ keep)).map fun vs =>
        if (!(Gen.Transformers.Network.is_zero_node N vs.n1)) then (vs.n1, vs.n2) else (vs.n2, vs.n1))
      = shortPairs N (keep.map ElemKey.ofElt) := by
  simp only [shortPairs, gen_isShort, decide_not, gen_mem_keep]
  congr 1
  funext vs
  exact gen_orient N (vs.n1, vs.n2)

/-- `remove_short_circuit_elements`: the indexed loop `for k in range(len(pairs))` — take `pairs[k]`
(never an IndexError: the list keeps its length), orient it by the reference-node rule, contract,
rename the whole pair list — is the hand model's recursion `contractAll` over the remaining pairs -/
theorem C16_gen_removeShort (N : Net L K) (keep : List (Py.Elt K)) :
    remove_short_circuit_elements N keep = removeShort N (keep.map ElemKey.ofElt) := by
  unfold remove_short_circuit_elements removeShort
  refine (gen_loop N.zero _ ?_ (fun bs => Py.construct Gen.Core.Network.post_init bs N.zero) _ _).trans ?_
  · -- one pass of the generated loop is `loopPass`: the comprehensions are those of `contractStep` / `renPair`
    intro acc k
    simp only [loopPass, Py.listIndex]
    cases acc.2[k]? with
    | none => rfl
    | some p =>
      simp only [bind, Except.bind, pure, Except.pure, gen_orient, decide_eq_true_eq]
      rfl
  · rw [C16_gen_construct, C16_gen_shortPairs]

/-- `short_circuitify_voltage_sources` with its helpers `zero_in_voltage`,
`is_intended_voltage_source` (also the tie for C04) -/
theorem C16_gen_shortCircuitifyVS (N : Net L K) (keep : List (Py.Elt K)) :
    short_circuitify_voltage_sources N keep = shortCircuitifyVS N (keep.map ElemKey.ofElt) := by
  unfold short_circuitify_voltage_sources shortCircuitifyVS
  simp only [C16_gen_construct, impedance, Py.mkBranch, gen_Zfin, gen_mem_keep, gen_isVSrc, gen_intended, zeroInVoltage]

/-- `open_circuitify_current_sources` (also the tie for C04) -/
theorem C16_gen_openCircuitifyCS (N : Net L K) (keep : List (Py.Elt K)) :
    open_circuitify_current_sources N keep = openCircuitifyCS N (keep.map ElemKey.ofElt) := by
  unfold open_circuitify_current_sources openCircuitifyCS
  simp only [C16_gen_construct, admittance, Py.mkBranch, gen_Yfin, gen_mem_keep, gen_isCS, gen_intended, zeroInCurrent]

theorem C16_gen_removeIdealCS (N : Net L K) (keep : List (Py.Elt K)) :
    remove_ideal_current_sources N keep = removeIdealCS N (keep.map ElemKey.ofElt) := by
  unfold remove_ideal_current_sources removeIdealCS
  rw [C16_gen_openCircuitifyCS]
  congr 1
  funext r
  exact C16_gen_removeOpen r

theorem C16_gen_removeIdealVS (N : Net L K) (keep : List (Py.Elt K)) :
    remove_ideal_voltage_sources N keep = removeIdealVS N (keep.map ElemKey.ofElt) := by
  unfold remove_ideal_voltage_sources removeIdealVS
  rw [C16_gen_shortCircuitifyVS]
  congr 1
  funext r
  exact C16_gen_removeShort r keep

theorem C16_gen_passiveNetwork (N : Net L K) (keep : List (Py.Elt K)) :
    passive_network N keep = passiveNetwork N (keep.map ElemKey.ofElt) := by
  unfold passive_network passiveNetwork
  rw [C16_gen_removeIdealCS]
  congr 1
  funext r
  exact C16_gen_removeIdealVS r keep

/-- the default argument `keep=[]` of the six functions that have one -/
theorem C16_gen_defaults (N : Net L K) :
    remove_short_circuit_elements N = removeShort N [] ∧ short_circuitify_voltage_sources N = shortCircuitifyVS N []
    ∧ open_circuitify_current_sources N = openCircuitifyCS N [] ∧ remove_ideal_current_sources N = removeIdealCS N []
    ∧ remove_ideal_voltage_sources N = removeIdealVS N [] ∧ passive_network N = passiveNetwork N [] :=
  ⟨C16_gen_removeShort N [], C16_gen_shortCircuitifyVS N [], C16_gen_openCircuitifyCS N [], C16_gen_removeIdealCS N [],
   C16_gen_removeIdealVS N [], C16_gen_passiveNetwork N []⟩

/-- `branch.element.Z` / `.Y` handed to `impedance` / `admittance` are numbers (never `np.inf`)
wherever the zeroing functions do so: a voltage source has a finite `Z`, a current source a
finite `Y` — the translator's `toNum` is sound there -/
theorem C16_gen_finite (e : Elem K) :
    (is_voltage_source e = true → (Gen.Core.Elem.Z e).isFin = true) ∧
    (is_current_source e = true → (Gen.Core.Elem.Y e).isFin = true) := by
  constructor
  · intro h
    cases e with
    | norton Z V => rfl
    | thevenin Y I =>
      by_cases hy : Y = 0 <;>
        simp_all [is_voltage_source, Gen.Core.Elem.V, Gen.Core.Elem.Z, TheveninElement.V, TheveninElement.Z, XVal.absGt0, XVal.isFin]
  · intro h
    cases e with
    | thevenin Y I => rfl
    | norton Z V =>
      by_cases hz : Z = 0 <;>
        simp_all [is_current_source, Gen.Core.Elem.I, Gen.Core.Elem.Y, NortenElement.I, NortenElement.Y, XVal.absGt0, XVal.isFin]

end CC
