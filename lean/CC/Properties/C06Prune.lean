/-
  Property C06 — the pruning / re-indexing path of `open_circuit_impedance`
  (`keep = A.any(axis=0)`, `A[np.ix_(keep, keep)]`, `i1 = np.count_nonzero(keep[:i])`; model:
  `keepMask`, `subMatrix`, `countBefore` of CC/Model/Port.lean), which `C06_impl_eq_spec_partial`
  (CC/Properties/C06.lean) excludes by hypothesis.
-/
import CC.Proofs.PortPrune
import CC.Properties.C06
set_option linter.unusedSectionVars false

namespace CC
variable {L K : Type} [DecidableEq L] [LabelOrd L] [Field K] [DecidableEq K]

/-- **C06 (pruning, code level): whatever number `open_circuit_impedance` returns is the port voltage of a
solution of the unit-current problem.**  For every network (any labels, any field, ideal voltage sources
anywhere, ANY number of unknowns pruned because they hang on zero-admittance branches only) with distinct ids
and without self-loops, and any linear solver that returns solutions (`SolveOK`): if the function does not take
one of its early `return 0` (those are `C06_impl_early_correct`) and returns the number `z`, then the probe
network of the Spec (sources deactivated, unit current injected into `n1` and drawn from `n2`) has a solution
whose port voltage is `z`.  The solution is the one the code computed, with potential zero at the pruned nodes.

No hypothesis on the mask, none on well-posedness.  What it does not say: that every OTHER solution of the
probe network has the same port voltage — that is `C06_impl_eq_spec_pruned` (needs the port impedance to be
defined). -/
theorem C06_impl_pruned_solution (N : Net L K) (solve : List (List K) → List K → Option (List K))
    (pid : String) (n1 n2 : L) (z : K) (hp : pid ∉ N.ids) (hsolve : SolveOK solve) (hids : N.ids.Nodup)
    (hsl : ∀ b ∈ N.branches, b.n1 ≠ b.n2) (hne : N.portIsEarly n1 n2 = false)
    (h : N.openCircuitImpedance solve n1 n2 = .ok z) :
    ∃ R : Report L K, CircuitEqs (probeNet N pid n1 n2 1) R ∧ R.pot n1 - R.pot n2 = z :=
  openCircuitImpedance_solution N solve pid n1 n2 z hp hsolve hids hne h

/-- **C06 (code level, with pruned unknowns): whenever the port impedance is defined and
`open_circuit_impedance` returns a number, the number is the port impedance.**  Extends
`C06_impl_eq_spec_partial` to inputs in which any number of non-port unknowns is pruned (nodes that hang on
zero-admittance branches only: a capacitor at `w = 0`, an open circuit, an ideal current source): the
hypotheses "no pruned unknown" and "well-posed probe network" (which fails as soon as a node is pruned: its
potential is free) are replaced by the one that is genuinely needed — the Spec's impedance `PortZ` exists for
some value `z'` (the unit-current problem is solvable and all its solutions have the same port voltage).
The port nodes themselves are never pruned (the code has returned `np.inf`: `C06_isolated_port`).

What it does not say: that the function returns a number whenever `PortZ` is defined — it does not
(`C06_floating_island_counterexample`). -/
theorem C06_impl_eq_spec_pruned (N : Net L K) (solve : List (List K) → List K → Option (List K))
    (pid : String) (n1 n2 : L) (z z' : K) (hp : pid ∉ N.ids) (hsolve : SolveOK solve) (hids : N.ids.Nodup)
    (hsl : ∀ b ∈ N.branches, b.n1 ≠ b.n2) (hdef : PortZ N pid n1 n2 z')
    (h : N.openCircuitImpedance solve n1 n2 = .ok z) : PortZ N pid n1 n2 z := by
  cases hearly : N.portIsEarly n1 n2 with
  | true =>
    obtain ⟨h0, hz0⟩ := C06_impl_early_correct solve N pid hp n1 n2 hearly hdef.1
    rw [h0] at h; cases h; exact hz0
  | false =>
    obtain ⟨R, hR, hport⟩ := C06_impl_pruned_solution N solve pid n1 n2 z hp hsolve hids hsl hearly h
    have : z' = z := by rw [← hdef.2 R hR, hport]
    rw [← this]; exact hdef

/-- **C06 (pruning: the selection keeps exactly the marked entries, in order).**  `x[keep]` is the list of the
entries of `x` whose mask bit is set, in their original order; `A[np.ix_(keep, keep)]` applies it to the rows and
inside every kept row. -/
theorem C06_prune_select_in_order (keep : List Bool) (A : List (List K)) :
    subMatrix keep A = (((keep.zip A).filter (·.1)).map (·.2)).map
      (fun r => ((keep.zip r).filter (·.1)).map (·.2)) := by
  unfold subMatrix
  rw [selectL_eq_filter]
  apply List.map_congr_left
  intro r _
  exact selectL_eq_filter keep r

/-- **C06 (pruning: `np.count_nonzero(keep[:i])` of a kept index is its position in the pruned system).**  For a
kept index `i`: the entry of any selected vector at `countBefore keep i` is the entry of the vector at `i`, that
position lies inside the pruned system, and positions of different kept indices are different and in the same
order. -/
theorem C06_prune_countBefore_position (keep : List Bool) (i : Nat) (hi : keep[i]? = some true) :
    (∀ x : List K, (selectL keep x)[countBefore keep i]? = x[i]?) ∧
    countBefore keep i < (keep.filter id).length ∧
    (∀ j, i < j → countBefore keep i < countBefore keep j) :=
  ⟨fun x => selectL_getElem? keep x i hi, countBefore_lt keep i hi, fun j hj => countBefore_strict keep i j hi hj⟩

/-- **C06 (pruning: a dropped unknown's column and row of the MNA matrix are entirely zero).**  The column by
the definition of the mask (`keep = A.any(axis=0)`), the row because `[[Y, B], [Bᵀ, 0]]` is symmetric. -/
theorem C06_prune_dropped_zero (N : Net L K) (k : Nat)
    (hk : (keepMask N.mnaA.length N.mnaA)[k]? = some false) :
    (∀ r ∈ N.mnaA, r.getD k 0 = 0) ∧ (∀ r, N.mnaA[k]? = some r → ∀ v ∈ r, v = 0) :=
  ⟨keepMask_false_col _ _ k hk, fun r hr => mnaA_dropped_row_zero N k r (keepMask_false_col _ _ k hk) hr⟩

/-- **C06 (pruning: the solution of the pruned system, extended by zeros, solves the unpruned system; the
entry the code reads is the port node's entry).**  For the MNA matrix `A` of any network, its column mask
`keep`, any kept index `i` and any `x` with `A[np.ix_(keep, keep)] · x = unit(count_nonzero(keep[:i]))`:
the vector `x̃` with the entries of `x` at the kept positions and zero at the dropped ones satisfies
`A · x̃ = unit(i)`, and `x̃[i] = x[count_nonzero(keep[:i])]`. -/
theorem C06_prune_extend_solves (N : Net L K) (i : Nat) (x : List K)
    (hi : (keepMask N.mnaA.length N.mnaA)[i]? = some true)
    (hsol : matVec (subMatrix (keepMask N.mnaA.length N.mnaA) N.mnaA) x
      = unitVec (subMatrix (keepMask N.mnaA.length N.mnaA) N.mnaA).length
          (countBefore (keepMask N.mnaA.length N.mnaA) i)) :
    matVec N.mnaA (expandL (keepMask N.mnaA.length N.mnaA) x) = unitVec N.mnaA.length i ∧
      (expandL (keepMask N.mnaA.length N.mnaA) x).getD i 0
        = x.getD (countBefore (keepMask N.mnaA.length N.mnaA) i) 0 :=
  prune_extend_solves N i x hi hsol

namespace C06ex

/-- the pruned system of `exP` (`O(1,0)` open, `R(2,0) = 5`, `R2(3,2) = 7`) for the port `(2, 0)`: node `1` dropped -/
def AP' : List (List ℚ) := [[12/35, -1/7], [-1/7, 1/7]]
def solveP : List (List ℚ) → List ℚ → Option (List ℚ) := fun A b => if A = AP' ∧ b = [1, 0] then some [5, 5] else none

theorem solveP_ok : SolveOK solveP := solveOK_entry rfl (by decide +kernel) solveOK_none

theorem exP_labels (g : Nat) : ({exP with zero := g} : Net Nat ℚ).nodeLabels = [0, 1, 2, 3] :=
  nodeLabels_nat_eq exP.branches _ (by decide) (by decide) (by decide)

theorem exP_check : exP.check = .ok () := check_of_labels (exP_labels 0) (by decide) (by decide)

theorem exP_pre : exP.portPre 2 0 = .ok (.sys {exP with zero := 0} [false, true, true] AP' [1, 0] 0) :=
  portPre_eval_nat exP (l := [0, 1, 2, 3]) (a := 2) (g := 0) (i := 1) (j := 0) (by decide) (by decide) (by decide)
    (by decide) (by decide) (by decide +kernel) rfl rfl (by decide) (by decide) rfl rfl (by decide +kernel)
    (by decide +kernel) (by decide +kernel) (by decide +kernel) (by decide +kernel)

theorem exP_model_value : exP.openCircuitImpedance solveP 2 0 = .ok 5 := by
  rw [Net.openCircuitImpedance, exP_pre]
  decide +kernel

theorem exP_not_early : exP.portIsEarly 2 0 = false := by decide +kernel

end C06ex

/-- non-vacuity of `C06_impl_pruned_solution` / `C06_impl_eq_spec_pruned`: `exP` (`O(1,0)` open, `R(2,0) = 5 Ω`,
`R2(3,2) = 7 Ω`), port `(2, 0)` — node `1` hangs on an open branch only, is pruned, and sorts before the port
node `2`, whose index changes from `1` to `0`: every hypothesis holds, the model returns `5`, `PortZ` is `5`;
this input is outside the hypotheses of `C06_impl_eq_spec_partial` (`keep = [False, True, True]`). -/
example : "p" ∉ C06ex.exP.ids ∧ SolveOK C06ex.solveP ∧ C06ex.exP.ids.Nodup ∧
    (∀ b ∈ C06ex.exP.branches, b.n1 ≠ b.n2) ∧ C06ex.exP.portIsEarly 2 0 = false ∧
    (∃ z', PortZ C06ex.exP "p" 2 0 z') ∧ C06ex.exP.openCircuitImpedance C06ex.solveP 2 0 = .ok 5 ∧
    (∃ N' A e i1, C06ex.exP.portPre 2 0 = .ok (.sys N' [false, true, true] A e i1)) :=
  ⟨by decide, C06ex.solveP_ok, by decide, by decide, C06ex.exP_not_early, ⟨5, C06ex.exP_spec_value⟩,
    C06ex.exP_model_value, ⟨_, _, _, _, C06ex.exP_pre⟩⟩

example : PortZ C06ex.exP "p" 2 0 5 :=
  C06_impl_eq_spec_pruned C06ex.exP C06ex.solveP "p" 2 0 5 5 (by decide) C06ex.solveP_ok (by decide) (by decide)
    C06ex.exP_spec_value C06ex.exP_model_value

/-- non-vacuity of the bookkeeping lemmas: the mask `[False, True, True]`, kept index `1` ↦ position `0` -/
example : ([false, true, true] : List Bool)[1]? = some true ∧ countBefore [false, true, true] 1 = 0 ∧
    selectL [false, true, true] [(10 : ℚ), 20, 30] = [20, 30] ∧
    expandL [false, true, true] [(20 : ℚ), 30] = [0, 20, 30] := by
  refine ⟨rfl, rfl, rfl, rfl⟩

end CC
