/-
  C17 (circuit loader) — "every kind of the circuit table loads to exactly the given id, nodes and
  value", proved on the loader model of CC/Model/Load.lean *through* the dictionary → constructor-call
  step (`generateComponent`: which keys are read, how the value block is bound to the constructor's
  keywords, guards, `.real` / `.imag`), for EVERY kind of the generated table
  `circuitComponentTranslators` and EVERY entry dictionary — any key order, any further keys.  A key of
  the *entry* beyond `id`, `value`, `type`, `nodes` is ignored; an extra or misspelt key *inside the value
  block* is rejected with `IncorrectComponentInformation`, never dropped.

  The constructor descriptions the Load group extracts (`componentFactories`) and the ones the Circuit
  group extracts (`Gen.ctorSpecs`, on which `C19_stored_unaltered` and `C07_reads_written` are stated)
  agree for every kind of the table.

  Not proved here: that the Python functions compute what the model computes (correspondence,
  harness/props/c17.py); `Circuit.__post_init__` on the list of components (`mkCircuit`; C19).
-/
import CC.Proofs.LoadCircuit
import CC.Properties.C17
import CC.Properties.C19
namespace CC
open CC.Load CC.Gen.Load CC.Spec.Load

/-- **Every entry dictionary.**  `generate_component` reads exactly the keys `id`, `value`, `type`,
`nodes` (in this order; the first missing one decides the error) and its result is `Load.fromFields` of
what it finds there — table lookup, constructor call, `TypeError ↦ IncorrectComponentInformation`.
The caller's dictionary is returned unchanged. -/
theorem C17_circuit_fields (o : Obj) :
    Load.generateComponent (.obj o)
      = (Load.fromFields (Obj.find o "id") (Obj.find o "value") (Obj.find o "type") (Obj.find o "nodes"), .obj o) := by
  have h1 := Load.generateComponentObj_fields o
  have h2 := (C17_circuit_pure (.obj o)).1
  rw [← h1, ← Load.generateComponent_obj]
  exact Prod.ext rfl h2

/-- Keys of the *entry* other than `id`, `value`, `type`, `nodes` are **ignored**: two entries that agree
on these four keys load equally (whatever else they contain, in whatever order). -/
theorem C17_circuit_entry_keys_ignored (o o' : Obj)
    (h : ∀ k ∈ ["id", "value", "type", "nodes"], Obj.find o k = Obj.find o' k) :
    (Load.generateComponent (.obj o)).1 = (Load.generateComponent (.obj o')).1 := by
  rw [C17_circuit_fields, C17_circuit_fields]
  simp only [h "id" (by simp), h "value" (by simp), h "type" (by simp), h "nodes" (by simp)]

/-- non-vacuity: a further key, in front -/
example : (Load.generateComponent (.obj [("comment", .str "x"), ("id", .str "R1"), ("type", .str "resistor"),
      ("nodes", .arr [.str "1", .str "0"]), ("value", .obj [("R", .num 5)])])).1
    = (Load.generateComponent (.obj [("type", .str "resistor"), ("value", .obj [("R", .num 5)]),
      ("nodes", .arr [.str "1", .str "0"]), ("id", .str "R1")])).1 :=
  C17_circuit_entry_keys_ignored _ _ (by decide +kernel)

/-- **Missing required key.**  No `id`: `UnidentifiedComponent`; an `id` but no `value`, no `type` or no
`nodes`: `IncorrectComponentInformation` — whatever else the entry contains. -/
theorem C17_circuit_missing_key (o : Obj) :
    (Obj.find o "id" = none → (Load.generateComponent (.obj o)).1 = .error (.other "UnidentifiedComponent")) ∧
    (Obj.find o "id" ≠ none →
      (Obj.find o "value" = none ∨ Obj.find o "type" = none ∨ Obj.find o "nodes" = none) →
      (Load.generateComponent (.obj o)).1 = .error (.other "IncorrectComponentInformation")) := by
  rw [C17_circuit_fields]
  constructor
  · intro h; simp only [h, Load.fromFields]
  · intro hid h
    cases h1 : Obj.find o "id" with
    | none => exact absurd h1 hid
    | some id =>
      cases h2 : Obj.find o "value" with
      | none => rfl
      | some v =>
        cases h3 : Obj.find o "type" with
        | none => rfl
        | some t =>
          cases h4 : Obj.find o "nodes" with
          | none => rfl
          | some n => simp [h2, h3, h4] at h

example : Obj.find [("type", J.str "resistor"), ("value", .obj [("R", .num 5)])] "id" = none := by decide +kernel

/-- **Unknown kind.**  All four keys present and a `type` string that is no key of the table:
`UnknownCircuitComponent` (the value block is not looked at); the same for a `type` that is a number,
a boolean or `None`; a list or a dictionary there is unhashable (`TypeError`). -/
theorem C17_circuit_unknown_kind (o : Obj) (id value ty nodes : J)
    (hid : Obj.find o "id" = some id) (hval : Obj.find o "value" = some value)
    (hty : Obj.find o "type" = some ty) (hnodes : Obj.find o "nodes" = some nodes) :
    (∀ kind, ty = .str kind → kind ∉ circuitComponentTranslators.map (·.1) →
      (Load.generateComponent (.obj o)).1 = .error (.other "UnknownCircuitComponent")) ∧
    ((ty = .null ∨ (∃ b, ty = .bool b) ∨ (∃ q, ty = .num q) ∨ (∃ z, ty = .cx z)) →
      (Load.generateComponent (.obj o)).1 = .error (.other "UnknownCircuitComponent")) ∧
    (((∃ l, ty = .arr l) ∨ (∃ kv, ty = .obj kv)) → (Load.generateComponent (.obj o)).1 = .error .typeError) := by
  rw [C17_circuit_fields]
  simp only [hid, hval, hty, hnodes, Load.fromFields]
  refine ⟨?_, ?_, ?_⟩
  · intro kind e hk; subst e; exact Load.dispatchC_unknown kind hk _ _ _
  · rintro (e | ⟨b, e⟩ | ⟨q, e⟩ | ⟨z, e⟩) <;> subst e <;> rfl
  · rintro (⟨l, e⟩ | ⟨kv, e⟩) <;> subst e <;> rfl

example : "capacitor" ∉ circuitComponentTranslators.map (·.1) := by decide +kernel

/-- Generated obligation: every kind of `circuit_component_translators` resolves to a constructor
description of that kind and that name, whose parameter names and value keys are distinct, whose value
fields and guards refer to its parameters, and which has no parameter `id` / `nodes`. -/
theorem C17_circuit_table_wellformed :
    (circuitComponentTranslators.all fun p =>
      (Load.factoryOf p.1).any fun f => f.kind == p.1 && f.name == p.2 && f.wellFormed) = true ∧
    (circuitComponentTranslators.map (·.1)).Nodup := by
  decide +kernel

theorem Load.factoryOf_table (p : String × String) (hp : p ∈ circuitComponentTranslators) :
    ∃ f, Load.factoryOf p.1 = some f ∧ f.kind = p.1 ∧ f.name = p.2 ∧ f.wellFormed = true := by
  have h := C17_circuit_table_wellformed.1
  rw [List.all_eq_true] at h
  have hp' := h p hp
  cases hf : Load.factoryOf p.1 with
  | none => simp [hf] at hp'
  | some f =>
    simp only [hf, Option.any_some, Bool.and_eq_true, beq_iff_eq] at hp'
    exact ⟨f, rfl, hp'.1.1, hp'.1.2, hp'.2⟩

/-- The dictionary → constructor-call step, for any kind the table knows and any entry dictionary with
the four keys whose value block the constructor accepts (`Load.accepts`, see `Load.accepts_of` for
readable sufficient conditions): the result is the component `Load.builtBy` describes, and the entry is
left as it was. -/
theorem C17_circuit_loads_given (kind : String) (f : CompFactory) (hf : Load.factoryOf kind = some f)
    (o : Obj) (id nodes : J) (vo : Obj)
    (hid : Obj.find o "id" = some id) (hval : Obj.find o "value" = some (.obj vo))
    (hty : Obj.find o "type" = some (.str kind)) (hnodes : Obj.find o "nodes" = some nodes)
    (hacc : Load.accepts f vo = true) :
    Load.generateComponent (.obj o) = (.ok (Load.builtBy f id nodes vo), .obj o) := by
  rw [C17_circuit_fields]
  simp only [hid, hval, hty, hnodes, Load.fromFields, Load.dispatchC_factory kind f hf,
    Load.callCompFactory_ok f id nodes vo hacc]

/-- **C17, circuit loader, faithful.**  For EVERY kind `p.1` of the generated circuit table there is the
constructor description `f` of that kind such that for EVERY entry dictionary `o` (any key order, any
further keys) with `id`, `nodes`, `type = p.1` and a value block `vo` that `f` accepts, the loaded
component has
* exactly the given `id` and the given `nodes` object (so the nodes in the given order), type `p.1`,
* exactly the keys the constructor writes, in its order,
* a plain field = the written value; = the literal default when an optional parameter is not written;
* `P.real` / `P.imag` fields = the real / imaginary part of a written complex number (a written real
  number `q` gives `q` and `0`); literal fields = the literal.
Says nothing about Python beyond the model (correspondence), nor about `Circuit(...)` on the list. -/
theorem C17_circuit_faithful (p : String × String) (hp : p ∈ circuitComponentTranslators) :
    ∃ f, Load.factoryOf p.1 = some f ∧ f.kind = p.1 ∧ f.name = p.2 ∧
    ∀ (o : Obj) (id nodes : J) (vo : Obj),
      Obj.find o "id" = some id → Obj.find o "value" = some (.obj vo) →
      Obj.find o "type" = some (.str p.1) → Obj.find o "nodes" = some nodes →
      Load.accepts f vo = true →
      ∃ c, (Load.generateComponent (.obj o)).1 = .ok c ∧
        c.id = id ∧ c.nodes = nodes ∧ c.ty = p.1 ∧
        c.value.map (·.1) = f.value.map (·.1) ∧
        (∀ k q v, (k, VSrc.param q) ∈ f.value → Obj.find vo q = some v → Obj.find c.value k = some v) ∧
        (∀ k q n, (k, VSrc.param q) ∈ f.value → (q, some n) ∈ f.params → Obj.find vo q = none →
          Obj.find c.value k = some (.num n)) ∧
        (∀ k n, (k, VSrc.const n) ∈ f.value → Obj.find c.value k = some (.num n)) ∧
        (∀ k q z, (k, VSrc.re q) ∈ f.value → Obj.find vo q = some (.cx z) → Obj.find c.value k = some (.num z.re)) ∧
        (∀ k q z, (k, VSrc.im q) ∈ f.value → Obj.find vo q = some (.cx z) → Obj.find c.value k = some (.num z.im)) ∧
        (∀ k q r, (k, VSrc.re q) ∈ f.value → Obj.find vo q = some (.num r) → Obj.find c.value k = some (.num r)) ∧
        (∀ k q r, (k, VSrc.im q) ∈ f.value → Obj.find vo q = some (.num r) → Obj.find c.value k = some (.num 0)) ∧
        (∀ k q n, ((k, VSrc.re q) ∈ f.value ∨ (k, VSrc.im q) ∈ f.value) → (q, some n) ∈ f.params →
          Obj.find vo q = none → Obj.find c.value k = some (.num (if (k, VSrc.re q) ∈ f.value then n else 0))) := by
  obtain ⟨f, hf, hk, hn, hwf⟩ := Load.factoryOf_table p hp
  refine ⟨f, hf, hk, hn, ?_⟩
  intro o id nodes vo hid hval hty hnodes hacc
  refine ⟨Load.builtBy f id nodes vo, ?_, rfl, rfl, hk, ?_, ?_, ?_, ?_, ?_, ?_, ?_, ?_, ?_⟩
  · rw [C17_circuit_loads_given p.1 f hf o id nodes vo hid hval hty hnodes hacc]
  · simp [Load.builtBy, List.map_map, Function.comp_def]
  · intro k q v hm hv
    rw [Load.builtBy_find f hwf id nodes vo k _ hm, VSrc.stored, Load.given_written f vo q v hv]
  · intro k q n hm hq hv
    rw [Load.builtBy_find f hwf id nodes vo k _ hm, VSrc.stored, Load.given_default f hwf vo q n hq hv]
  · intro k n hm
    rw [Load.builtBy_find f hwf id nodes vo k _ hm, VSrc.stored]
  · intro k q z hm hv
    rw [Load.builtBy_find f hwf id nodes vo k _ hm, VSrc.stored, Load.given_written f vo q _ hv]
  · intro k q z hm hv
    rw [Load.builtBy_find f hwf id nodes vo k _ hm, VSrc.stored, Load.given_written f vo q _ hv]
  · intro k q r hm hv
    rw [Load.builtBy_find f hwf id nodes vo k _ hm, VSrc.stored, Load.given_written f vo q _ hv]
  · intro k q r hm hv
    rw [Load.builtBy_find f hwf id nodes vo k _ hm, VSrc.stored, Load.given_written f vo q _ hv]
  · intro k q n hm hq hv
    by_cases hre : (k, VSrc.re q) ∈ f.value
    · rw [Load.builtBy_find f hwf id nodes vo k _ hre, VSrc.stored, Load.given_default f hwf vo q n hq hv]
      simp [hre]
    · have him : (k, VSrc.im q) ∈ f.value := hm.resolve_left hre
      rw [Load.builtBy_find f hwf id nodes vo k _ him, VSrc.stored, Load.given_default f hwf vo q n hq hv]
      simp [hre]

/-- non-vacuity of `C17_circuit_faithful`: an a.c. source written with its keys in another order, an
optional parameter left out, and a further key in the entry — accepted by the table's constructor -/
example : ∃ f, Load.factoryOf "ac_voltage_source" = some f ∧
    Load.accepts f [("w", .num 50), ("V", .num 1), ("phi", .num (1/2))] = true ∧
    Obj.find [("note", J.str "x"), ("nodes", .arr [.str "b", .str "a"]), ("type", .str "ac_voltage_source"),
      ("value", .obj [("w", .num 50), ("V", .num 1), ("phi", .num (1/2))]), ("id", .str "U")] "value"
      = some (.obj [("w", .num 50), ("V", .num 1), ("phi", .num (1/2))]) := by
  refine ⟨_, rfl, by decide +kernel, by simp [Obj.find]⟩

/-- … and a complex kind with a complex leaf (what `undictify_all_complex_values` leaves there) -/
example : ∃ f, Load.factoryOf "complex_current_source" = some f ∧
    Load.accepts f [("I", .cx ⟨1, 2⟩)] = true := ⟨_, rfl, by decide +kernel⟩

/-- **The value block is checked, not filtered.**  For a kind of the table (all four keys present): a
value that is no mapping, a key of the value block that is no keyword of the constructor (extra or
misspelt — **rejected**, not ignored), or a parameter without default that is not written — each ends
in `IncorrectComponentInformation`. -/
theorem C17_circuit_bad_value_block (kind : String) (f : CompFactory) (hf : Load.factoryOf kind = some f)
    (o : Obj) (id value nodes : J)
    (hid : Obj.find o "id" = some id) (hval : Obj.find o "value" = some value)
    (hty : Obj.find o "type" = some (.str kind)) (hnodes : Obj.find o "nodes" = some nodes) :
    ((∀ vo, value ≠ .obj vo) →
      (Load.generateComponent (.obj o)).1 = .error (.other "IncorrectComponentInformation")) ∧
    (∀ vo, value = .obj vo → Load.keysKnown f.params vo = false →
      (Load.generateComponent (.obj o)).1 = .error (.other "IncorrectComponentInformation")) ∧
    (∀ vo q, value = .obj vo → (q, none) ∈ f.params → Obj.find vo q = none →
      (Load.generateComponent (.obj o)).1 = .error (.other "IncorrectComponentInformation")) := by
  rw [Load.generateComponent_known kind f hf o id value nodes hid hval hty hnodes]
  refine ⟨?_, ?_, ?_⟩
  · intro h; rw [Load.callCompFactory_not_mapping f id nodes value h]
  · intro vo e hk; subst e; rw [Load.callCompFactory_unknown_key f id nodes vo hk]
  · intro vo q e hq hv; subst e; rw [Load.callCompFactory_missing f id nodes vo q hq hv]

/-- non-vacuity: a misspelt key next to the right one; a resistor without `R` -/
example : ∃ f, Load.factoryOf "resistor" = some f ∧
    Load.keysKnown f.params [("R", .num 5), ("r", .num 7)] = false ∧ ("R", none) ∈ f.params :=
  ⟨_, rfl, by decide +kernel, by decide +kernel⟩

def Load.VSrc.toVE : VSrc → VE
  | .param p => .param p
  | .re p => .re p
  | .im p => .im p
  | .const n => .lit n

/-- the Load group's description `f` and the Circuit group's description `s` of one constructor say the
same: kind, name, parameters with their literal defaults, guards (`P < bound ⇒ ValueError`), the value
dictionary; no wavetype lookup -/
def Load.agrees (f : CompFactory) (s : CtorSpec) : Bool :=
  f.kind == s.kind && f.name == s.fn &&
  (f.params.map fun p => (p.1, p.2.map fun n => Val.num n)) == (s.params.map fun p => (p.1, p.2.2)) &&
  (f.guards.map fun g => Guard.mk g.1 .lt g.2 "ValueError") == s.guards &&
  (f.value.map fun kv => (kv.1, Load.VSrc.toVE kv.2)) == s.values && s.waveChecks.isEmpty

/-- Generated obligation: the circuit table as the two extractors read it is the same table, and for
every kind the two constructor descriptions agree (`Load.agrees`). -/
theorem C17_circuit_ctor_tables_agree :
    Gen.componentTranslators = circuitComponentTranslators ∧
    (circuitComponentTranslators.all fun p =>
      (Load.factoryOf p.1).any fun f => (Gen.tables.ctor? p.2).any fun s =>
        Load.agrees f s && decide (s ∈ Gen.ctorSpecs)) = true := by
  decide +kernel

/-- **Composition with the constructor half.**  For every kind of the circuit table the constructor the
loader calls is described twice — `f` (Load group, the one `C17_circuit_faithful` is about) and `s`
(Circuit group) — and the descriptions agree.  On `s`: whatever `s.construct` builds stores the identifier
and the terminals it was called with, has the table's kind and writes exactly the keys the loaded
component carries (`CC.C19_stored_unaltered`); and the translator of that kind reads only these keys
(`CC.C07_reads_written`).  That the two hand-written interpreters (`Load.callCompFactory`,
`CtorSpec.construct`) compute corresponding results on corresponding arguments is
`C17_constructors_simulate` (CC/Properties/C17Simulation.lean). -/
theorem C17_circuit_constructor_half (p : String × String) (hp : p ∈ circuitComponentTranslators) :
    ∃ f s, Load.factoryOf p.1 = some f ∧ Gen.tables.ctor? p.2 = some s ∧ s ∈ Gen.ctorSpecs ∧
      Load.agrees f s = true ∧
      (∀ id nodes args c, s.construct (some id) (some nodes) args = .ok c →
        c.id = id ∧ c.nodes = nodes ∧ c.kind = p.1 ∧ c.value.map (·.1) = f.value.map (·.1)) ∧
      readsWritten Gen.tables s = true := by
  have h := C17_circuit_ctor_tables_agree.2
  rw [List.all_eq_true] at h
  have hp' := h p hp
  obtain ⟨f0, hf0, hk0, _, _⟩ := Load.factoryOf_table p hp
  cases hf : Load.factoryOf p.1 with
  | none => simp [hf] at hp'
  | some f =>
    cases hs : Gen.tables.ctor? p.2 with
    | none => simp [hf, hs] at hp'
    | some s =>
      simp only [hf, hs, Option.any_some, Bool.and_eq_true, decide_eq_true_eq] at hp'
      obtain ⟨hag, hmem⟩ := hp'
      refine ⟨f, s, rfl, rfl, hmem, hag, ?_, C07_reads_written s hmem⟩
      have hfk : f.kind = p.1 := by
        rw [hf] at hf0; cases hf0; exact hk0
      have hag' := hag
      simp only [Load.agrees, Bool.and_eq_true, beq_iff_eq] at hag'
      obtain ⟨⟨⟨⟨⟨hkind, _⟩, _⟩, _⟩, hval⟩, _⟩ := hag'
      intro id nodes args c hc
      obtain ⟨h1, h2, h3, h4⟩ := C19_stored_unaltered.2 s id nodes args c hc
      refine ⟨h1, h2, by rw [h3, ← hkind, hfk], ?_⟩
      rw [h4, ← hval]
      simp [List.map_map, Function.comp_def]

/-- …hence the translator of a loaded kind finds every key it reads in the loaded component: the keys
of the component `C17_circuit_faithful` yields are `f.value.map (·.1)`, and every key of the translator
of that kind (`TSpec.allKeys`) is among them. -/
theorem C17_circuit_translator_reads_loaded (p : String × String) (hp : p ∈ circuitComponentTranslators)
    (f : CompFactory) (hf : Load.factoryOf p.1 = some f) (fn : String) (t : TSpec)
    (h1 : Gen.tables.transformers.lookup p.1 = some fn) (h2 : Gen.tables.tspec? fn = some t) :
    ∀ k ∈ t.allKeys, k ∈ f.value.map (·.1) := by
  obtain ⟨f', s, hf', _, hmem, hag, _, hrw⟩ := C17_circuit_constructor_half p hp
  rw [hf] at hf'; cases hf'
  obtain ⟨f0, hf0, hk0, _, _⟩ := Load.factoryOf_table p hp
  rw [hf] at hf0; cases hf0
  simp only [Load.agrees, Bool.and_eq_true, beq_iff_eq] at hag
  obtain ⟨⟨⟨⟨⟨hkind, _⟩, _⟩, _⟩, hval⟩, _⟩ := hag
  have hsk : s.kind = p.1 := by rw [← hkind, hk0]
  simp only [readsWritten, hsk, h1, h2, List.all_eq_true, List.contains_iff_mem] at hrw
  intro k hk
  have := hrw k hk
  rw [← hval, List.map_map] at this
  exact this

/-- non-vacuity: the table's translator of an a.c. source exists and reads keys -/
example : ∃ fn t, Gen.tables.transformers.lookup "ac_voltage_source" = some fn ∧
    Gen.tables.tspec? fn = some t ∧ t.allKeys ≠ [] := by
  refine ⟨_, _, rfl, rfl, by decide +kernel⟩

end CC
