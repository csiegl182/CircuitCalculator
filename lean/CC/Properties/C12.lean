/-
  C12 — transient simulation solves the circuit's differential equations.

  The theorems are algebraic: they hold for EVERY state sample `x` and input sample `u`, hence
  for every integrator (`scipy.signal.lsim` is a parameter of the model and stays in the
  trusted base).
  The theorems speak of the report read from `y = C x + D u`; that the get_voltage / get_current output ROWS deliver
  that report is in CC/Properties/C10Rows.lean (`C10_output_rows`, `C12_rows_sample_circuit`).
  NOT theorems (decided per instance by the oracle only):
    * "agrees with the exact response of the linear system for piecewise-linear inputs": `lsim` is a parameter of the
      model (trusted base); oracle = independent matrix-exponential reference on every case;
    * "for constant inputs they settle to the DC solution": `C12_settle_dc` is only the fixed-point identity (ẋ = 0 ⇒
      outputs = DC solution), and CC/Properties/C12Equilibrium.lean carries it to the circuit (`C12_equilibrium_is_dc`: a
      rest point reports a solution of the DC network); convergence needs Re λ < 0 (C11 proves ≤ 0) and the flow;
      oracle = settle stream;
    * "for periodic inputs they settle to the multi-frequency steady state of C09": `C12_frequency_response` is the
      frequency response only, not convergence of the simulation to it; oracle = periodic-steady-state stream.
-/
import CC.Proofs.StatePhasor

set_option linter.unusedSectionVars false

namespace CC
open Matrix Mx

section
variable {L K : Type} [DecidableEq L] [LabelOrd L] [Field K] [DecidableEq K]

theorem C12_sample_equations (re : K → K) {N : Net L K} {cvals lvals : ValDict K}
    {Ainv S Delta : List (List K)} {m : SSMats K} (hD : ssDelta N cvals = .ok Delta)
    (hm : stateSpaceMatrices N cvals lvals Ainv S = .ok m)
    (hc : ModelCert re N cvals lvals Ainv S Delta)
    (x : Fin (ssNStates N cvals lvals) → K) (u : Fin (ssNInputs N lvals) → K) :
    let ny := N.nY; let ns := ssNStates N cvals lvals; let nu := ssNInputs N lvals
    let y := toM ny ns m.C *ᵥ x + toM ny nu m.D *ᵥ u
    let xdot := toM ns ns m.A *ᵥ x + toM ns nu m.B *ᵥ u
    toM ny ny (ssAtilde re N) *ᵥ y
        = toM ny nu (ssQS N lvals) *ᵥ u
          + toM ny ns (ssDQ N cvals lvals Delta) *ᵥ
              ((diagonal fun i : Fin ns => (ssLambda cvals lvals).getD i 0) *ᵥ xdot) :=
  (model_sample_system re hD hm hc x u).1

/-- the states are outputs: `x = DQᵀ (C x + D u)` -/
theorem C12_state_is_output (re : K → K) {N : Net L K} {cvals lvals : ValDict K}
    {Ainv S Delta : List (List K)} {m : SSMats K} (hD : ssDelta N cvals = .ok Delta)
    (hm : stateSpaceMatrices N cvals lvals Ainv S = .ok m)
    (hc : ModelCert re N cvals lvals Ainv S Delta)
    (x : Fin (ssNStates N cvals lvals) → K) (u : Fin (ssNInputs N lvals) → K) :
    (toM N.nY (ssNStates N cvals lvals) (ssDQ N cvals lvals Delta))ᵀ
        *ᵥ (toM N.nY (ssNStates N cvals lvals) m.C *ᵥ x + toM N.nY (ssNInputs N lvals) m.D *ᵥ u) = x :=
  (model_sample_system re hD hm hc x u).2

/-- settling: at a rest point the outputs are the DC solution of the nodal system -/
theorem C12_settle_dc (re : K → K) {N : Net L K} {cvals lvals : ValDict K}
    {Ainv S Delta : List (List K)} {m : SSMats K} (hD : ssDelta N cvals = .ok Delta)
    (hm : stateSpaceMatrices N cvals lvals Ainv S = .ok m)
    (hc : ModelCert re N cvals lvals Ainv S Delta)
    (x : Fin (ssNStates N cvals lvals) → K) (u : Fin (ssNInputs N lvals) → K)
    (hx : toM (ssNStates N cvals lvals) (ssNStates N cvals lvals) m.A *ᵥ x
            + toM (ssNStates N cvals lvals) (ssNInputs N lvals) m.B *ᵥ u = 0) :
    toM N.nY (ssNStates N cvals lvals) m.C *ᵥ x + toM N.nY (ssNInputs N lvals) m.D *ᵥ u
      = toM N.nY N.nY Ainv *ᵥ (toM N.nY (ssNInputs N lvals) (ssQS N lvals) *ᵥ u) :=
  StateAlg.dc_of_sample hc.hA (model_sample_system re hD hm hc x u).1 hx

/-- the state handed to the integrator is the zero vector of the state dimension -/
theorem C12_rest (n : Nat) : (transientX0 n : List K) = List.replicate n 0 := rfl

/-- a lemma about `dotL`: zero state and zero input give zero output, whatever the rows -/
theorem C12_rest_output (rc rd : List K) (ns nu : Nat) :
    dotL rc (Mx.zeroVec ns : List K) + dotL rd (Mx.zeroVec nu : List K) = 0 := by
  rw [dotL_right_zero rc (Mx.zeroVec ns) fun v hv => List.eq_of_mem_replicate hv,
    dotL_right_zero rd (Mx.zeroVec nu) fun v hv => List.eq_of_mem_replicate hv, add_zero]

/-- row `k` of `_u` is the waveform supplied for `sources[k]` (and a missing one is an error) -/
theorem C12_input_order {sources : List String} {input : String → Option (List K)} {U : List (List K)}
    (h : transientU sources input = .ok U) : U.map some = sources.map input := by
  unfold transientU at h
  have hF := mapM_eq_ok.1 h
  clear h
  induction hF with
  | nil => rfl
  | @cons s b rest bs hb _ ih =>
    have hs : input s = some b := by
      cases hi : input s with
      | none => rw [hi] at hb; cases hb
      | some row => rw [hi] at hb; cases hb; rfl
    simp [hs, ih]

/-- sample `t` of a reported series is `row_c·x_t + row_d·u_t` -/
theorem C12_output_sample (nS : Nat) (rc rd : List K) (X U : List (List K)) (t : Nat) (ht : t < nS) :
    (transientOutput nS rc rd X U).getD t 0 = dotL rc (sampleCol X t) + dotL rd (sampleCol U t) := by
  simp [transientOutput, List.getD_eq_getElem?_getD, ht]

end

section
variable {L K : Type} [DecidableEq L] [LabelOrd L] [Field K] [DecidableEq K]

set_option linter.unusedVariables false in
/-- the right-hand side of the per-sample network is the model's `QS·u + DQ·(Λ·ẋ)` (the two length hypotheses are
not needed: both sides read the entries beyond the lengths of `u`, `ẋ` as `0`) -/
theorem C12_sample_rhs {N : Net L K} {cvals lvals : ValDict K} {Delta : List (List K)} (h : RLC N cvals lvals)
    (hD : ssDelta N cvals = .ok Delta) (u xdot : List K)
    (hu : u.length = ssNInputs N lvals) (hx : xdot.length = ssNStates N cvals lvals) :
    (sampleNet N cvals lvals (ssSources N lvals) u xdot).mnaB
      = Mx.vecAdd (matVec (ssQS N lvals) u)
          (matVec (ssDQ N cvals lvals Delta) (List.zipWith (· * ·) (ssLambda cvals lvals) xdot)) :=
  sample_rhs h hD u xdot

/-- **Every sample solves the circuit.**  For the `w = 0` network of an RLC + ideal-source circuit,
the model's matrices (any certificates) and ANY state `x` and input `u` — hence for every integrator —
the reported potentials, voltages and currents (`y = C x + D u` read through the accessors) satisfy
the circuit equations of the circuit at that sample: capacitor `k` carries `C_k·ẋ_k`, inductor `k`
has the voltage `L_k·ẋ_k` with `ẋ = A x + B u`, every source has its instantaneous value `u`. -/
theorem C12_sample_circuit {N : Net L K} {cvals lvals : ValDict K} {Ainv S Delta : List (List K)}
    {m : SSMats K} (h : RLC N cvals lvals) (hD : ssDelta N cvals = .ok Delta)
    (hm : stateSpaceMatrices N cvals lvals Ainv S = .ok m)
    (hc : ModelCert id N cvals lvals Ainv S Delta)
    (x : Fin (ssNStates N cvals lvals) → K) (u : Fin (ssNInputs N lvals) → K) :
    let y := toM N.nY (ssNStates N cvals lvals) m.C *ᵥ x + toM N.nY (ssNInputs N lvals) m.D *ᵥ u
    let xdot := toM (ssNStates N cvals lvals) (ssNStates N cvals lvals) m.A *ᵥ x
                + toM (ssNStates N cvals lvals) (ssNInputs N lvals) m.B *ᵥ u
    let P := sampleNet N cvals lvals (ssSources N lvals) (List.ofFn u) (List.ofFn xdot)
    CircuitEqs P (P.reportOf (List.ofFn y)) :=
  model_sample_circuit h hD hm hc x u

/-- Kirchhoff's current law at every node (reference included), every sample -/
theorem C12_kcl_sample {N : Net L K} {cvals lvals : ValDict K} {Ainv S Delta : List (List K)}
    {m : SSMats K} (h : RLC N cvals lvals) (hD : ssDelta N cvals = .ok Delta)
    (hm : stateSpaceMatrices N cvals lvals Ainv S = .ok m)
    (hc : ModelCert id N cvals lvals Ainv S Delta)
    (x : Fin (ssNStates N cvals lvals) → K) (u : Fin (ssNInputs N lvals) → K) :
    let y := toM N.nY (ssNStates N cvals lvals) m.C *ᵥ x + toM N.nY (ssNInputs N lvals) m.D *ᵥ u
    let xdot := toM (ssNStates N cvals lvals) (ssNStates N cvals lvals) m.A *ᵥ x
                + toM (ssNStates N cvals lvals) (ssNInputs N lvals) m.B *ᵥ u
    let P := sampleNet N cvals lvals (ssSources N lvals) (List.ofFn u) (List.ofFn xdot)
    ∀ n ∈ P.allLabels, kclResidual P (P.reportOf (List.ofFn y)) n = 0 :=
  (model_sample_circuit h hD hm hc x u).kcl

/-- every element law, every sample: resistor `v = R·i`, source = its waveform, capacitor
`i = C·ẋ_k`, inductor `v = L·ẋ_k` -/
theorem C12_element_laws {N : Net L K} {cvals lvals : ValDict K} {Ainv S Delta : List (List K)}
    {m : SSMats K} (h : RLC N cvals lvals) (hD : ssDelta N cvals = .ok Delta)
    (hm : stateSpaceMatrices N cvals lvals Ainv S = .ok m)
    (hc : ModelCert id N cvals lvals Ainv S Delta)
    (x : Fin (ssNStates N cvals lvals) → K) (u : Fin (ssNInputs N lvals) → K) :
    let y := toM N.nY (ssNStates N cvals lvals) m.C *ᵥ x + toM N.nY (ssNInputs N lvals) m.D *ᵥ u
    let xdot := toM (ssNStates N cvals lvals) (ssNStates N cvals lvals) m.A *ᵥ x
                + toM (ssNStates N cvals lvals) (ssNInputs N lvals) m.B *ᵥ u
    let P := sampleNet N cvals lvals (ssSources N lvals) (List.ofFn u) (List.ofFn xdot)
    ∀ b ∈ P.branches, b.e.lawResidual ((P.reportOf (List.ofFn y)).v b.id) ((P.reportOf (List.ofFn y)).i b.id) = 0 :=
  (model_sample_circuit h hD hm hc x u).law

/-- Kirchhoff's voltage law and the reference potential, every sample -/
theorem C12_kvl_sample {N : Net L K} {cvals lvals : ValDict K} {Ainv S Delta : List (List K)}
    {m : SSMats K} (h : RLC N cvals lvals) (hD : ssDelta N cvals = .ok Delta)
    (hm : stateSpaceMatrices N cvals lvals Ainv S = .ok m)
    (hc : ModelCert id N cvals lvals Ainv S Delta)
    (x : Fin (ssNStates N cvals lvals) → K) (u : Fin (ssNInputs N lvals) → K) :
    let y := toM N.nY (ssNStates N cvals lvals) m.C *ᵥ x + toM N.nY (ssNInputs N lvals) m.D *ᵥ u
    let xdot := toM (ssNStates N cvals lvals) (ssNStates N cvals lvals) m.A *ᵥ x
                + toM (ssNStates N cvals lvals) (ssNInputs N lvals) m.B *ᵥ u
    let P := sampleNet N cvals lvals (ssSources N lvals) (List.ofFn u) (List.ofFn xdot)
    (P.reportOf (List.ofFn y)).pot P.zero = 0 ∧ ∀ b ∈ P.branches, voltResidual (P.reportOf (List.ofFn y)) b = 0 :=
  ⟨(model_sample_circuit h hD hm hc x u).ref_zero, (model_sample_circuit h hD hm hc x u).volt⟩

/-- frequency response: at every complex frequency `s` — each harmonic `j·k·w₀` of a periodic excitation — the
response of the model `(A, B, C, D)` is the phasor solution at `s`.  This is `C10_transfer` verbatim; it says nothing
about the SIMULATION converging to that steady state (open, oracle only). -/
theorem C12_frequency_response {N : Net L K} {cvals lvals : ValDict K} {Ainv S Delta : List (List K)}
    {m : SSMats K} (h : RLC N cvals lvals) (hD : ssDelta N cvals = .ok Delta)
    (hm : stateSpaceMatrices N cvals lvals Ainv S = .ok m)
    (hc : ModelCert id N cvals lvals Ainv S Delta)
    (s : K) (x : Fin (ssNStates N cvals lvals) → K) (u : Fin (ssNInputs N lvals) → K)
    (hx : s • x = toM _ _ m.A *ᵥ x + toM _ _ m.B *ᵥ u) :
    let y := toM N.nY (ssNStates N cvals lvals) m.C *ᵥ x + toM N.nY (ssNInputs N lvals) m.D *ᵥ u
    let P := sampleNet N cvals lvals (ssSources N lvals) (List.ofFn u) (List.ofFn (s • x))
    CircuitEqs (phasorNet N cvals lvals (ssSources N lvals) (List.ofFn u) s) (P.reportOf (List.ofFn y)) :=
  model_transfer h hD hm hc s x u hx

/-- `C12_frequency_response` under the name `C05_periodic_steady` (CC/Properties/C05Compose.lean) cites -/
theorem C12_periodic_steady {N : Net L K} {cvals lvals : ValDict K} {Ainv S Delta : List (List K)}
    {m : SSMats K} (h : RLC N cvals lvals) (hD : ssDelta N cvals = .ok Delta)
    (hm : stateSpaceMatrices N cvals lvals Ainv S = .ok m)
    (hc : ModelCert id N cvals lvals Ainv S Delta)
    (s : K) (x : Fin (ssNStates N cvals lvals) → K) (u : Fin (ssNInputs N lvals) → K)
    (hx : s • x = toM _ _ m.A *ᵥ x + toM _ _ m.B *ᵥ u) :
    let y := toM N.nY (ssNStates N cvals lvals) m.C *ᵥ x + toM N.nY (ssNInputs N lvals) m.D *ᵥ u
    let P := sampleNet N cvals lvals (ssSources N lvals) (List.ofFn u) (List.ofFn (s • x))
    CircuitEqs (phasorNet N cvals lvals (ssSources N lvals) (List.ofFn u) s) (P.reportOf (List.ofFn y)) :=
  C12_frequency_response h hD hm hc s x u hx

end

end CC
