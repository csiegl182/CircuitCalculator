/-
  Property C02 — existence and uniqueness of the phasor solution.

  `C02_exact` (CC/Properties/C02.lean) says: whatever vector solves the matrix equation of the
  converted network, the reported quantities satisfy the circuit equations of the intended phasor
  network `S`.  It states neither that such a vector exists nor that the result is unique.  With
  the determinant form of C01 (CC/Properties/C01Det.lean) both follow for a well-posed `S`.
-/
import CC.Properties.C02
import CC.Properties.C01Det

namespace CC
open Gen

/-- **C02 (well-posedness transfers to the converted network).**  If the network with the `type`
strings erased is well-posed, so is the network itself. -/
theorem C02_wellPosed_transfer (N : Net String GQ)
    (hw : WellPosed (⟨N.branches.map Spec.erase, N.zero⟩ : Net String GQ)) : WellPosed N :=
  (wellPosed_eraseTy N).mp hw

/-- **C02 (existence and uniqueness).**  Hypotheses of `C02_exact` (accepted circuit over the kinds
of C02, intended phasor network `S` at frequency `w` exists, passes `Network`'s checks, has no
self-loop branch) plus: `S` is well-posed (its source-free circuit has only the zero solution).
Then `transform_circuit` yields a network `N` such that
 * the determinant of the matrix the code builds for `N` is non-zero — `numpy.linalg.solve` is
   never handed a singular matrix in exact arithmetic;
 * the matrix equation has exactly one solution vector of the right length;
 * for that vector (hence for whatever the solver returns, if it returns an exact solution) the
   accessors succeed, what they report solves the circuit equations of `S`, and it agrees — on every
   node label, every branch voltage and every branch current — with EVERY solution of the circuit
   equations of `S`: the reported quantities are the phasor solution.
Not stated: anything about floating-point rounding of the solver; circuits whose phasor network
is not well-posed (e.g. a capacitor in series with a current source at `w = 0`). -/
theorem C02_exists_unique (trig : Trig) (harm : Harm) (h0 : TrigZero trig)
    (cs : List Component) (C : Circuit) (w wres : Rat) (hne : cs ≠ [])
    (hC : Circuit.mk? cs = .ok C) (hex : ExactList cs)
    (S : Net String GQ) (hS : Spec.phasorNet trig harm cs w wres = some S)
    (hcheck : S.check = .ok ()) (hloop : ∀ b ∈ S.branches, b.n1 ≠ b.n2) (hw : WellPosed S) :
    ∃ N, transformCircuit Gen.tables trig harm C w wres = .ok N ∧
      (toMatrix (N.nodes.length + N.vsIds.length) N.mnaA).det ≠ 0 ∧
      (∃! x : List GQ, x.length = N.nodes.length + N.vsIds.length ∧ matVec N.mnaA x = N.mnaB) ∧
      ∀ x : List GQ, x.length = N.nodes.length + N.vsIds.length → matVec N.mnaA x = N.mnaB →
        CircuitEqs S (N.reportOf x) ∧
        (∀ R : Report String GQ, CircuitEqs S R → (N.reportOf x).AgreeOn S R) ∧
        (∀ n ∈ N.allLabels, N.potential x n = .ok ((N.reportOf x).pot n)) ∧
        (∀ b ∈ N.branches, N.voltage x b.id = .ok ((N.reportOf x).v b.id) ∧
                            N.current x b.id = .ok ((N.reportOf x).i b.id)) := by
  obtain ⟨N, hN, hmap, hz⟩ := (C02_transform_eq_spec trig harm h0 cs C w wres hne hC hex S hS).2 hcheck
  obtain ⟨N', hN', hex'⟩ := C02_exact trig harm h0 cs C w wres hne hC hex S hS hcheck hloop
  have hNN : N' = N := by rw [hN] at hN'; exact (Except.ok.inj hN').symm
  subst hNN
  have wf := wf_of_erase hmap hz hcheck hloop
  have hwN : WellPosed N' := (wellPosed_eraseTy N').mp (eraseTy_eq hmap hz ▸ hw)
  have hSids : S.ids.Nodup := ((Net.check_ok_iff S).mp hcheck).2
  refine ⟨N', hN, C01_det_ne_zero N' wf hwN, ?_, ?_⟩
  · obtain ⟨x, hx, hsol, _⟩ := C01_exists N' wf hwN
    exact ⟨x, ⟨hx, hsol⟩, fun y hy => C01_matrix_unique N' wf hwN y x hy.1 hx hy.2 hsol⟩
  · intro x hx hsol
    obtain ⟨heq, hp, hvi⟩ := hex' x hx hsol
    exact ⟨heq, fun R hR => C01_unique S hSids hw _ _ heq hR, hp, hvi⟩

/-- the intended network of `exCs` at `w = 2` (source `3∠0` behind 1 Ω, capacitor `j8` S) -/
def exS : Net String GQ :=
  ⟨[⟨"1", "0", "V", "", .norton ⟨1, 0⟩ ⟨3, 0⟩⟩, ⟨"1", "0", "C", "", .thevenin ⟨0, 8⟩ 0⟩], "0"⟩

/-- … is well-posed: its matrix is the single entry `1 + 8j` -/
theorem exS_wellPosed : WellPosed exS :=
  wellPosed_of_matrix (by decide +kernel) (A := [[⟨1, 8⟩]])
    (by simp only [Net.mnaA, Net.nodes, Net.nodeLabels, sortL_string]; decide +kernel) (by decide +kernel)

/-- every hypothesis of `C02_exists_unique` is met by `exCs` at `w = 2` -/
example := C02_exists_unique (fun _ => (1, 0)) (fun _ _ _ _ => (0, 0)) rfl exCs _ 2 0 (by decide) exCircuit exExact
  exS exSpec
  (by simp [exS, Net.check, Net.nodeLabels, sortL, dedupL, Net.ids])
  (by intro b hb; simp only [exS, List.mem_cons, List.mem_nil_iff, or_false] at hb; rcases hb with rfl | rfl <;> decide)
  exS_wellPosed

end CC

