/-
  C12 — equilibrium = DC solution (the algebraic core of "settling to DC").

  For a constant input `u`, a state `x*` with `A x* + B u = 0` (a rest point of `ẋ = A x + B u`) gives a
  report — read from `y = C x* + D u` — that solves the circuit equations of the DC (`s = 0`) network:
  capacitors carry no current, inductors no voltage, every source has its value `u`.  Instance of
  `C10_transfer` at `s = 0` (`0 • x* = A x* + B u`), equivalently of `C12_sample_circuit` with `ẋ = 0`.

  NOT proved here: that a trajectory *converges* to such a rest point (that is a statement about the
  spectrum of `A` and about the integrator; the settling clause stays with the oracle of
  harness/props/c12.py), nor that the rest point exists or is unique.
-/
import CC.Properties.C10
namespace CC
open Matrix Mx StateAlg

section
variable {L K : Type} [DecidableEq L] [LabelOrd L] [Field K] [DecidableEq K]

/-- **Equilibrium is the DC solution.**  If `A x + B u = 0` then the report read from `y = C x + D u`
(sources at `u`, reactive sources at strength `ẋ = 0`) satisfies the circuit equations of the phasor
network at `s = 0` driven by `u`. -/
theorem C12_equilibrium_is_dc {N : Net L K} {cvals lvals : ValDict K} {Ainv S Delta : List (List K)}
    {m : SSMats K} (h : RLC N cvals lvals) (hD : ssDelta N cvals = .ok Delta)
    (hm : stateSpaceMatrices N cvals lvals Ainv S = .ok m)
    (hc : ModelCert id N cvals lvals Ainv S Delta)
    (x : Fin (ssNStates N cvals lvals) → K) (u : Fin (ssNInputs N lvals) → K)
    (hx : toM (ssNStates N cvals lvals) (ssNStates N cvals lvals) m.A *ᵥ x
            + toM (ssNStates N cvals lvals) (ssNInputs N lvals) m.B *ᵥ u = 0) :
    let y := toM N.nY (ssNStates N cvals lvals) m.C *ᵥ x + toM N.nY (ssNInputs N lvals) m.D *ᵥ u
    let P := sampleNet N cvals lvals (ssSources N lvals) (List.ofFn u)
      (List.ofFn (0 : Fin (ssNStates N cvals lvals) → K))
    CircuitEqs (phasorNet N cvals lvals (ssSources N lvals) (List.ofFn u) 0) (P.reportOf (List.ofFn y)) := by
  have h0 : (0 : K) • x = toM (ssNStates N cvals lvals) (ssNStates N cvals lvals) m.A *ᵥ x
      + toM (ssNStates N cvals lvals) (ssNInputs N lvals) m.B *ᵥ u := by rw [hx, zero_smul]
  have := C10_transfer h hD hm hc 0 x u h0
  simpa only [zero_smul] using this

/-- …and when the DC network is well-posed it is THE DC solution: it agrees with every solution of the
DC circuit equations (in particular the one the DC engine reports, C01/C02). -/
theorem C12_equilibrium_is_dc_unique {N : Net L K} {cvals lvals : ValDict K} {Ainv S Delta : List (List K)}
    {m : SSMats K} (h : RLC N cvals lvals) (hD : ssDelta N cvals = .ok Delta)
    (hm : stateSpaceMatrices N cvals lvals Ainv S = .ok m)
    (hc : ModelCert id N cvals lvals Ainv S Delta)
    (x : Fin (ssNStates N cvals lvals) → K) (u : Fin (ssNInputs N lvals) → K)
    (hx : toM (ssNStates N cvals lvals) (ssNStates N cvals lvals) m.A *ᵥ x
            + toM (ssNStates N cvals lvals) (ssNInputs N lvals) m.B *ᵥ u = 0)
    (hw : WellPosed (phasorNet N cvals lvals (ssSources N lvals) (List.ofFn u) 0))
    (R : Report L K) (hR : CircuitEqs (phasorNet N cvals lvals (ssSources N lvals) (List.ofFn u) 0) R) :
    let y := toM N.nY (ssNStates N cvals lvals) m.C *ᵥ x + toM N.nY (ssNInputs N lvals) m.D *ᵥ u
    let P := sampleNet N cvals lvals (ssSources N lvals) (List.ofFn u)
      (List.ofFn (0 : Fin (ssNStates N cvals lvals) → K))
    (P.reportOf (List.ofFn y)).AgreeOn (phasorNet N cvals lvals (ssSources N lvals) (List.ofFn u) 0) R := by
  have h0 : (0 : K) • x = toM (ssNStates N cvals lvals) (ssNStates N cvals lvals) m.A *ᵥ x
      + toM (ssNStates N cvals lvals) (ssNInputs N lvals) m.B *ᵥ u := by rw [hx, zero_smul]
  have := C10_transfer_unique h hD hm hc 0 x u h0 hw R hR
  simpa only [zero_smul] using this

/-- non-vacuity: the structural hypotheses hold for the series circuit `V – R – C` of CC/Properties/C10.lean
(`netRC_rlc`, `netRC_Delta`, `netRC_cert`, matrices exist), and the rest-point hypothesis is met there by the
rest state under zero input (for a non-zero constant input the rest point is `x* = −A⁻¹ B u` whenever `A`
is invertible — existence is not claimed by the theorems). -/
example : ∃ m, RLC netRC [("C", 1)] [] ∧ ssDelta netRC [("C", 1)] = .ok [[0, 1, 0]]
    ∧ stateSpaceMatrices netRC [("C", 1)] [] rcAinv rcS = .ok m
    ∧ ModelCert id netRC [("C", 1)] [] rcAinv rcS [[0, 1, 0]]
    ∧ toM (ssNStates netRC [("C", 1)] []) (ssNStates netRC [("C", 1)] []) m.A *ᵥ (0 : Fin _ → ℚ)
        + toM (ssNStates netRC [("C", 1)] []) (ssNInputs netRC []) m.B *ᵥ (0 : Fin _ → ℚ) = 0 :=
  ⟨_, netRC_rlc, netRC_Delta, netRC_mats, netRC_cert, by rw [mulVec_zero, mulVec_zero, add_zero]⟩

end
end CC
