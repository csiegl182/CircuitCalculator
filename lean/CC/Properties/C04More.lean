/-
  Property C04 — linearity at the level of the numbers the code reports.

  `CC/Properties/C04.lean` proves linearity, scaling and the all-sources-zero case for *any*
  solution of the Spec (`CircuitEqsAll`).  Here the same for the values the accessors return, always through
  `C01_sound` (whatever solves the matrix equation is a solution of the circuit) and
  `C01_reported_is_the_solution` (for a well-posed network the accessors report *the* solution).
  Reported currents superpose only on branches that are not linear (lossy) sources in any of the three
  networks; the exclusion is the open finding C04 and is necessary
  (`C04_lossy_current_counterexample`, `C04_reported_lossy_current_counterexample`: a witness over ℚ).

  Validity (`Net.WF`) and well-posedness are assumed for ONE of the networks only: both depend on
  the skeleton, not on the source values (`withSrc_wf`, `withSrc_wellPosed`).
-/
import CC.Properties.C04
import CC.Properties.C01Det
import CC.Proofs.GQField
import CC.Proofs.MapElems
set_option linter.unusedSectionVars false
set_option linter.unnecessarySeqFocus false

namespace CC
variable {L K : Type} [DecidableEq L] [LabelOrd L] [Field K] [DecidableEq K]

/-- a skeleton with source values is a replacement of elements, so the `mapElems_*` lemmas apply to it -/
theorem withSrc_eq_mapElems (bs : List (Branch L K)) (z : L) (s : String → K) :
    (⟨withSrc bs s, z⟩ : Net L K) = Net.mapElems ⟨bs, z⟩ fun b => b.e.setSrc (s b.id) := rfl

theorem withSrc_allLabels (bs : List (Branch L K)) (z : L) (s t : String → K) :
    (⟨withSrc bs s, z⟩ : Net L K).allLabels = (⟨withSrc bs t, z⟩ : Net L K).allLabels := by
  rw [withSrc_eq_mapElems, withSrc_eq_mapElems, mapElems_allLabels, mapElems_allLabels]

theorem setSrc_setSrc (e : Elem K) (s t : K) : (e.setSrc s).setSrc t = e.setSrc t := by cases e <;> rfl

theorem withSrc_withSrc (bs : List (Branch L K)) (s t : String → K) : withSrc (withSrc bs s) t = withSrc bs t := by
  simp only [withSrc, List.map_map, Function.comp_def, setSrc_setSrc]

theorem withSrc_wf (bs : List (Branch L K)) (z : L) (s t : String → K)
    (wf : (⟨withSrc bs s, z⟩ : Net L K).WF) : (⟨withSrc bs t, z⟩ : Net L K).WF :=
  withSrc_withSrc bs s t ▸ withSrc_eq_mapElems (withSrc bs s) z t ▸ mapElems_wf _ _ wf

theorem setSrc_zeroSources (e : Elem K) (s : K) : (e.setSrc s).zeroSources = e.zeroSources := by
  cases e <;> rfl

theorem withSrc_zeroSources (bs : List (Branch L K)) (z : L) (s t : String → K) :
    (⟨withSrc bs s, z⟩ : Net L K).zeroSources = (⟨withSrc bs t, z⟩ : Net L K).zeroSources := by
  simp [Net.zeroSources, withSrc, setSrc_zeroSources, Function.comp_def]

theorem withSrc_wellPosed (bs : List (Branch L K)) (z : L) (s t : String → K)
    (hw : WellPosed (⟨withSrc bs s, z⟩ : Net L K)) : WellPosed (⟨withSrc bs t, z⟩ : Net L K) :=
  wellPosed_congr (withSrc_zeroSources bs z s t) hw

/-- **C04 (all sources deactivated, reported values).**  For a valid, well-posed skeleton whose
source values are all zero: whatever vector satisfies the matrix equation the code builds, every
accessor succeeds and returns `0` — the potential of every node label, the voltage, the current
and the power (`V·conj I`, any ring endomorphism `conj`) of every branch.

That the network the library's zeroing operations return has the solutions of such a skeleton is
`C04_deactivate_solutions_withSrc` (CC/Properties/C04Zeroing.lean). -/
theorem C04_reported_zero_all (conj : K →+* K) (bs : List (Branch L K)) (z : L)
    (wf : (⟨withSrc bs fun _ => 0, z⟩ : Net L K).WF)
    (hw : WellPosed (⟨withSrc bs fun _ => 0, z⟩ : Net L K))
    (x : List K)
    (hx : x.length = (⟨withSrc bs fun _ => 0, z⟩ : Net L K).nodes.length
        + (⟨withSrc bs fun _ => 0, z⟩ : Net L K).vsIds.length)
    (h : matVec (⟨withSrc bs fun _ => 0, z⟩ : Net L K).mnaA x
        = (⟨withSrc bs fun _ => 0, z⟩ : Net L K).mnaB) :
    let N : Net L K := ⟨withSrc bs fun _ => 0, z⟩
    (∀ n ∈ N.allLabels, N.potential x n = .ok 0) ∧
    (∀ b ∈ N.branches, N.voltage x b.id = .ok 0 ∧ N.current x b.id = .ok 0 ∧
        N.power conj x b.id = .ok 0) := by
  intro N
  have hS : CircuitEqs N (Report.zeroRep : Report L K) :=
    (circuitEqsAll_iff N _).mp (C04_zero_all bs z)
  obtain ⟨hp, hb⟩ := accessors_eq_solution N wf hw x hx h _ hS
  refine ⟨hp, fun b hb' => ⟨(hb b hb').1, (hb b hb').2, ?_⟩⟩
  rw [Net.power, (hb b hb').1, (hb b hb').2]
  show Except.ok ((0 : K) * conj 0) = _
  rw [map_zero, mul_zero]

/-- **C04 (scaling, reported values).**  Let `bs` be a skeleton (topology, identifiers,
immittances) with reference `z`, valid and well-posed, `s` any source assignment and `a` ANY
scalar (zero included).  Whatever vectors `x1`, `x` satisfy the two matrix equations the code
builds for the sources `s` and `a·s`: on every node label and every branch the accessors of both
runs succeed, and the scaled run returns `a` times the potential, `a` times the voltage, `a` times
the current — reported current, in the library's reference direction, lossy sources included —
and `a · conj a` times the power of the unscaled run.  (`conj` is any ring endomorphism; for
`K = ℂ` and complex conjugation `a · conj a = |a|²`.)

Not covered: floating-point rounding (the statement is about exact solutions of the two matrix
equations), and networks that are not well-posed (no unique solution to compare). -/
theorem C04_reported_scale (conj : K →+* K) (bs : List (Branch L K)) (z : L) (s : String → K) (a : K)
    (wf1 : (⟨withSrc bs s, z⟩ : Net L K).WF) (hw1 : WellPosed (⟨withSrc bs s, z⟩ : Net L K))
    (x1 x : List K)
    (hx1 : x1.length = (⟨withSrc bs s, z⟩ : Net L K).nodes.length + (⟨withSrc bs s, z⟩ : Net L K).vsIds.length)
    (hx : x.length = (⟨withSrc bs fun id => a * s id, z⟩ : Net L K).nodes.length
        + (⟨withSrc bs fun id => a * s id, z⟩ : Net L K).vsIds.length)
    (h1 : matVec (⟨withSrc bs s, z⟩ : Net L K).mnaA x1 = (⟨withSrc bs s, z⟩ : Net L K).mnaB)
    (h : matVec (⟨withSrc bs fun id => a * s id, z⟩ : Net L K).mnaA x
        = (⟨withSrc bs fun id => a * s id, z⟩ : Net L K).mnaB) :
    let N1 : Net L K := ⟨withSrc bs s, z⟩
    let N : Net L K := ⟨withSrc bs fun id => a * s id, z⟩
    (∀ n ∈ N.allLabels, ∃ p, N1.potential x1 n = .ok p ∧ N.potential x n = .ok (a * p)) ∧
    (∀ b ∈ bs, ∃ v i, N1.voltage x1 b.id = .ok v ∧ N1.current x1 b.id = .ok i ∧
        N1.power conj x1 b.id = .ok (v * conj i) ∧
        N.voltage x b.id = .ok (a * v) ∧ N.current x b.id = .ok (a * i) ∧
        N.power conj x b.id = .ok ((a * conj a) * (v * conj i))) := by
  intro N1 N
  have wf : N.WF := withSrc_wf bs z s _ wf1
  have hw : WellPosed N := withSrc_wellPosed bs z s _ hw1
  have hids : (bs.map (·.id)).Nodup := by
    have := wf1.ids_nodup
    simpa [Net.ids, withSrc_ids] using this
  obtain ⟨sp1, sb1, e1'⟩ := C01_sound N1 x1 wf1 hx1 h1
  obtain ⟨sp, sb, _⟩ := C01_sound N x wf hx h
  have e1 := (circuitEqsAll_iff N1 _).mpr e1'
  -- a solution of the scaled circuit whose values are `a` times the reported ones
  have key : ∃ S : Report L K, CircuitEqsAll (withSrc bs fun id => a * s id) z S ∧
      (∀ n, S.pot n = a * (N1.reportOf x1).pot n) ∧ (∀ id, S.v id = a * (N1.reportOf x1).v id) ∧
      (∀ b ∈ bs, S.i b.id = a * (N1.reportOf x1).i b.id) := by
    by_cases ha : a = 0
    · simp only [ha, zero_mul]
      exact ⟨Report.zeroRep, C04_zero_all bs z, fun _ => rfl, fun _ => rfl, fun _ _ => rfl⟩
    · exact C04_scale bs z hids a ha s _ e1
  obtain ⟨S, hS, hp, hv, hi⟩ := key
  have hS' : CircuitEqs N S := (circuitEqsAll_iff N S).mp hS
  obtain ⟨ap, ab⟩ := C01_reported_is_the_solution N wf hw x hx h S hS'
  refine ⟨?_, ?_⟩
  · intro n hn
    have hn1 : n ∈ N1.allLabels := by rw [withSrc_allLabels bs z s fun id => a * s id]; exact hn
    exact ⟨_, sp1 n hn1, by rw [sp n hn, ap n hn, hp]⟩
  · intro b hb
    have m1 := mem_withSrc s hb
    have m := mem_withSrc (fun id => a * s id) hb
    have q1 := sb1 _ m1
    have q := sb _ m
    have r := ab _ m
    have pw1 := C01_power (⇑conj) N1 x1 wf1 _ m1
    have pw := C01_power (⇑conj) N x wf _ m
    simp only at q1 q r pw1 pw
    refine ⟨_, _, q1.1, q1.2, pw1, ?_, ?_, ?_⟩
    · rw [q.1, r.1, hv]
    · rw [q.2, r.2, hi b hb]
    · rw [pw, r.1, r.2, hv, hi b hb, C04_scale_power]

/-- **C04 (superposition of reported currents — PARTIAL).**  For a valid, well-posed skeleton:
whatever vectors satisfy the three matrix equations the code builds for the source assignments
`s1`, `s2` and `s1 + s2`, the current the accessor returns for the sum is the sum of the currents
returned for the parts, on every branch that is not a linear (lossy) source in any of the three
networks.

The three `isLossy = false` hypotheses are the open finding C04 and are NOT removable: the reported
current of a lossy source is in generator direction while its source value is non-zero and in
passive direction once it is zero (see `C04_superpose`); only its physical current superposes
(`C04_linear`). -/
theorem C04_reported_superpose_current (bs : List (Branch L K)) (z : L) (s1 s2 : String → K)
    (wf : (⟨withSrc bs fun id => s1 id + s2 id, z⟩ : Net L K).WF)
    (hw : WellPosed (⟨withSrc bs fun id => s1 id + s2 id, z⟩ : Net L K))
    (x1 x2 x : List K)
    (hx1 : x1.length = (⟨withSrc bs s1, z⟩ : Net L K).nodes.length + (⟨withSrc bs s1, z⟩ : Net L K).vsIds.length)
    (hx2 : x2.length = (⟨withSrc bs s2, z⟩ : Net L K).nodes.length + (⟨withSrc bs s2, z⟩ : Net L K).vsIds.length)
    (hx : x.length = (⟨withSrc bs fun id => s1 id + s2 id, z⟩ : Net L K).nodes.length
        + (⟨withSrc bs fun id => s1 id + s2 id, z⟩ : Net L K).vsIds.length)
    (h1 : matVec (⟨withSrc bs s1, z⟩ : Net L K).mnaA x1 = (⟨withSrc bs s1, z⟩ : Net L K).mnaB)
    (h2 : matVec (⟨withSrc bs s2, z⟩ : Net L K).mnaA x2 = (⟨withSrc bs s2, z⟩ : Net L K).mnaB)
    (h : matVec (⟨withSrc bs fun id => s1 id + s2 id, z⟩ : Net L K).mnaA x
        = (⟨withSrc bs fun id => s1 id + s2 id, z⟩ : Net L K).mnaB) :
    let N : Net L K := ⟨withSrc bs fun id => s1 id + s2 id, z⟩
    let N1 : Net L K := ⟨withSrc bs s1, z⟩
    let N2 : Net L K := ⟨withSrc bs s2, z⟩
    ∀ b ∈ bs, (b.e.setSrc (s1 b.id + s2 b.id)).isLossy = false →
      (b.e.setSrc (s1 b.id)).isLossy = false → (b.e.setSrc (s2 b.id)).isLossy = false →
      ∃ i1 i2, N1.current x1 b.id = .ok i1 ∧ N2.current x2 b.id = .ok i2 ∧
        N.current x b.id = .ok (i1 + i2) := by
  intro N N1 N2 b hb l3 l1 l2
  obtain ⟨_, sb1, c1⟩ := C01_sound N1 x1 (withSrc_wf bs z _ s1 wf) hx1 h1
  obtain ⟨_, sb2, c2⟩ := C01_sound N2 x2 (withSrc_wf bs z _ s2 wf) hx2 h2
  obtain ⟨_, sb, c⟩ := C01_sound N x wf hx h
  have hi := ((superpose_unique bs z s1 s2 wf.ids_nodup hw _ _ _ c1 c2 c).2 b hb).2
  rw [physCurrent_notLossy l3, physCurrent_notLossy l1, physCurrent_notLossy l2] at hi
  exact ⟨_, _, (sb1 _ (mem_withSrc s1 hb)).2, (sb2 _ (mem_withSrc s2 hb)).2,
    ((sb _ (mem_withSrc (fun id => s1 id + s2 id) hb)).2).trans (congrArg Except.ok hi)⟩

/-- the source assignment of `exampleNet` over its own skeleton -/
def exampleSrc : String → ℚ := fun id => if id = "V" then 10 else 0

theorem exampleNet_withSrc : (⟨withSrc exampleNet.branches exampleSrc, "0"⟩ : Net String ℚ) = exampleNet :=
  congrArg (Net.mk · "0") (by decide +kernel)

theorem exampleNet_skeleton (s : String → ℚ) :
    (⟨withSrc exampleNet.branches s, "0"⟩ : Net String ℚ).WF ∧
    WellPosed (⟨withSrc exampleNet.branches s, "0"⟩ : Net String ℚ) :=
  ⟨withSrc_wf _ _ exampleSrc s (exampleNet_withSrc ▸ exampleNet_wf),
    withSrc_wellPosed _ _ exampleSrc s (exampleNet_withSrc ▸ exampleNet_wellPosed)⟩

/-- the hypotheses of `C04_reported_scale` are met by `exampleNet`, scale factor `-3`: both
matrix equations have solution vectors of the right length -/
example : ∃ x1 x : List ℚ,
    (⟨withSrc exampleNet.branches exampleSrc, "0"⟩ : Net String ℚ).WF ∧
    WellPosed (⟨withSrc exampleNet.branches exampleSrc, "0"⟩ : Net String ℚ) ∧
    x1.length = (⟨withSrc exampleNet.branches exampleSrc, "0"⟩ : Net String ℚ).nodes.length
      + (⟨withSrc exampleNet.branches exampleSrc, "0"⟩ : Net String ℚ).vsIds.length ∧
    x.length = (⟨withSrc exampleNet.branches fun id => -3 * exampleSrc id, "0"⟩ : Net String ℚ).nodes.length
      + (⟨withSrc exampleNet.branches fun id => -3 * exampleSrc id, "0"⟩ : Net String ℚ).vsIds.length ∧
    matVec (⟨withSrc exampleNet.branches exampleSrc, "0"⟩ : Net String ℚ).mnaA x1
      = (⟨withSrc exampleNet.branches exampleSrc, "0"⟩ : Net String ℚ).mnaB ∧
    matVec (⟨withSrc exampleNet.branches fun id => -3 * exampleSrc id, "0"⟩ : Net String ℚ).mnaA x
      = (⟨withSrc exampleNet.branches fun id => -3 * exampleSrc id, "0"⟩ : Net String ℚ).mnaB := by
  obtain ⟨wf1, hw1⟩ := exampleNet_skeleton exampleSrc
  obtain ⟨wf, hw⟩ := exampleNet_skeleton fun id => -3 * exampleSrc id
  obtain ⟨x1, hx1, h1, _⟩ := C01_exists _ wf1 hw1
  obtain ⟨x, hx, h, _⟩ := C01_exists _ wf hw
  exact ⟨x1, x, wf1, hw1, hx1, hx, h1, h⟩

/-- the hypotheses of `C04_reported_zero_all` and `C04_reported_superpose_current` are met likewise
(any source assignment over the skeleton of `exampleNet`; the resistor branches are not lossy) -/
example (s : String → ℚ) : (⟨withSrc exampleNet.branches s, "0"⟩ : Net String ℚ).WF ∧
    WellPosed (⟨withSrc exampleNet.branches s, "0"⟩ : Net String ℚ) ∧
    ∃ x : List ℚ, x.length = (⟨withSrc exampleNet.branches s, "0"⟩ : Net String ℚ).nodes.length
      + (⟨withSrc exampleNet.branches s, "0"⟩ : Net String ℚ).vsIds.length ∧
      matVec (⟨withSrc exampleNet.branches s, "0"⟩ : Net String ℚ).mnaA x
        = (⟨withSrc exampleNet.branches s, "0"⟩ : Net String ℚ).mnaB := by
  obtain ⟨wf, hw⟩ := exampleNet_skeleton s
  obtain ⟨x, hx, h, _⟩ := C01_exists _ wf hw
  exact ⟨wf, hw, x, hx, h⟩

/-- the three non-lossy hypotheses of `C04_reported_superpose_current` hold for the resistor `R1`
of `exampleNet` under the decomposition `exampleSrc + exampleSrc` (and fail, rightly, for a branch
that carries both an impedance and a non-zero source value) -/
example : let b : Branch String ℚ := { n1 := "1", n2 := "2", id := "R1", e := .norton 5 0 }
    b ∈ exampleNet.branches ∧ (b.e.setSrc (exampleSrc b.id + exampleSrc b.id)).isLossy = false ∧
      (b.e.setSrc (exampleSrc b.id)).isLossy = false := by
  refine ⟨by simp [exampleNet], ?_, ?_⟩ <;> simp [exampleSrc, Elem.setSrc, Elem.isLossy, Elem.kind]

/-- skeleton of the finding's input: `Vq` (internal impedance 2 Ω) and `Iq` (internal admittance
1/2 S), both between nodes `1` and `0` -/
def lossySkeleton : List (Branch String ℚ) :=
  [ { n1 := "1", n2 := "0", id := "Vq", e := .norton 2 0 },
    { n1 := "1", n2 := "0", id := "Iq", e := .thevenin (1/2) 0 } ]

/-- part 1: `Vq = 8 V` alone (`Iq` deactivated into its admittance) -/
def lossyS1 : String → ℚ := fun id => if id = "Vq" then 8 else 0
/-- part 2: `Iq = 1 A` alone (`Vq` deactivated into its impedance) -/
def lossyS2 : String → ℚ := fun id => if id = "Iq" then 1 else 0

def lossyR1 : Report String ℚ :=
  { pot := fun n => if n = "1" then -4 else 0, v := fun _ => -4, i := fun _ => -2 }
def lossyR2 : Report String ℚ :=
  { pot := fun n => if n = "1" then -1 else 0, v := fun _ => -1, i := fun _ => -1/2 }
def lossyR : Report String ℚ :=
  { pot := fun n => if n = "1" then -5 else 0, v := fun _ => -5, i := fun id => if id = "Vq" then -3/2 else 3/2 }

theorem lossy_net1 : withSrc lossySkeleton lossyS1 =
    [ { n1 := "1", n2 := "0", id := "Vq", e := .norton 2 8 },
      { n1 := "1", n2 := "0", id := "Iq", e := .thevenin (1/2) 0 } ] := by
  decide +kernel

theorem lossy_net2 : withSrc lossySkeleton lossyS2 =
    [ { n1 := "1", n2 := "0", id := "Vq", e := .norton 2 0 },
      { n1 := "1", n2 := "0", id := "Iq", e := .thevenin (1/2) 1 } ] := by
  decide +kernel

theorem lossy_net : (withSrc lossySkeleton fun id => lossyS1 id + lossyS2 id) =
    [ { n1 := "1", n2 := "0", id := "Vq", e := .norton 2 8 },
      { n1 := "1", n2 := "0", id := "Iq", e := .thevenin (1/2) 1 } ] := by
  decide +kernel

theorem lossyR1_solves : CircuitEqsAll (withSrc lossySkeleton lossyS1) "0" lossyR1 :=
  (circuitEqsAll_iff ⟨_, "0"⟩ _).mpr (by decide +kernel)

theorem lossyR2_solves : CircuitEqsAll (withSrc lossySkeleton lossyS2) "0" lossyR2 :=
  (circuitEqsAll_iff ⟨_, "0"⟩ _).mpr (by decide +kernel)

theorem lossyR_solves :
    CircuitEqsAll (withSrc lossySkeleton fun id => lossyS1 id + lossyS2 id) "0" lossyR :=
  (circuitEqsAll_iff ⟨_, "0"⟩ _).mpr (by decide +kernel)

/-- **C04 (the lossy exclusion is necessary — Spec level).**  Superposition of the *reported*
current without the `isLossy = false` hypotheses of `C04_superpose` is FALSE: for `Vq = 8 V`
behind 2 Ω in parallel with `Iq = 1 A` beside 1/2 S, the reported current of `Vq` is −3/2 A with
both sources active, −2 A with `Vq` alone (generator direction) and −1/2 A with `Iq` alone
(passive direction, `Vq` is then a plain impedance); −3/2 ≠ −2 + −1/2.  Voltages (−5 = −4 − 1) and
physical currents (3/2 = 2 − 1/2) do superpose, as `C04_linear` says. -/
theorem C04_lossy_current_counterexample :
    ¬ ∀ (bs : List (Branch String ℚ)) (z : String) (s1 s2 : String → ℚ) (R1 R2 R : Report String ℚ),
        (bs.map (·.id)).Nodup →
        CircuitEqsAll (withSrc bs s1) z R1 → CircuitEqsAll (withSrc bs s2) z R2 →
        CircuitEqsAll (withSrc bs fun id => s1 id + s2 id) z R →
        ∀ b ∈ bs, R.i b.id = R1.i b.id + R2.i b.id := by
  intro hall
  exact absurd (hall lossySkeleton "0" lossyS1 lossyS2 lossyR1 lossyR2 lossyR (by decide)
    lossyR1_solves lossyR2_solves lossyR_solves
    { n1 := "1", n2 := "0", id := "Vq", e := .norton 2 0 } (by decide +kernel)) (by decide +kernel)

theorem lossy_wf (s : String → ℚ) : (⟨withSrc lossySkeleton s, "0"⟩ : Net String ℚ).WF :=
  withSrc_wf lossySkeleton "0" (fun _ => 0) s (by decide +kernel)

/-- the matrix of the skeleton is the single entry `1/2 + 1/2 = 1` -/
theorem lossy_wellPosed (s : String → ℚ) : WellPosed (⟨withSrc lossySkeleton s, "0"⟩ : Net String ℚ) :=
  withSrc_wellPosed lossySkeleton "0" (fun _ => 0) s <|
    wellPosed_of_matrix (by decide +kernel) (A := [[1]])
      (by simp only [Net.mnaA, Net.nodes, Net.nodeLabels, sortL_string]; decide +kernel) (by decide +kernel)

theorem lossy_current_Vq (s : String → ℚ) (R : Report String ℚ)
    (hR : CircuitEqsAll (withSrc lossySkeleton s) "0" R) (x : List ℚ)
    (hx : x.length = (⟨withSrc lossySkeleton s, "0"⟩ : Net String ℚ).nodes.length
        + (⟨withSrc lossySkeleton s, "0"⟩ : Net String ℚ).vsIds.length)
    (h : matVec (⟨withSrc lossySkeleton s, "0"⟩ : Net String ℚ).mnaA x
        = (⟨withSrc lossySkeleton s, "0"⟩ : Net String ℚ).mnaB) :
    (⟨withSrc lossySkeleton s, "0"⟩ : Net String ℚ).current x "Vq" = .ok (R.i "Vq") :=
  ((accessors_eq_solution _ (lossy_wf s) (lossy_wellPosed s) x hx h R
    ((circuitEqsAll_iff (⟨withSrc lossySkeleton s, "0"⟩ : Net String ℚ) R).mp hR)).2 _
    (mem_withSrc s (b := { n1 := "1", n2 := "0", id := "Vq", e := .norton 2 0 }) (by decide +kernel))).2

/-- **C04 (the lossy exclusion is necessary — reported values).**  On the valid, well-posed
skeleton `Vq` (2 Ω) ∥ `Iq` (1/2 S): whatever vectors solve the three matrix equations the code
builds for `Vq = 8 V` alone, `Iq = 1 A` alone, and both, `get_current('Vq')` returns −2, −1/2 and
−3/2 — the full response is not the sum of the parts.  So the three `isLossy = false` hypotheses of
`C04_reported_superpose_current` cannot be dropped for the current code (open finding C04).  Such
vectors exist (`C01_exists`). -/
theorem C04_reported_lossy_current_counterexample :
    (∀ x1 x2 x : List ℚ,
      x1.length = (⟨withSrc lossySkeleton lossyS1, "0"⟩ : Net String ℚ).nodes.length
        + (⟨withSrc lossySkeleton lossyS1, "0"⟩ : Net String ℚ).vsIds.length →
      x2.length = (⟨withSrc lossySkeleton lossyS2, "0"⟩ : Net String ℚ).nodes.length
        + (⟨withSrc lossySkeleton lossyS2, "0"⟩ : Net String ℚ).vsIds.length →
      x.length = (⟨withSrc lossySkeleton fun id => lossyS1 id + lossyS2 id, "0"⟩ : Net String ℚ).nodes.length
        + (⟨withSrc lossySkeleton fun id => lossyS1 id + lossyS2 id, "0"⟩ : Net String ℚ).vsIds.length →
      matVec (⟨withSrc lossySkeleton lossyS1, "0"⟩ : Net String ℚ).mnaA x1
        = (⟨withSrc lossySkeleton lossyS1, "0"⟩ : Net String ℚ).mnaB →
      matVec (⟨withSrc lossySkeleton lossyS2, "0"⟩ : Net String ℚ).mnaA x2
        = (⟨withSrc lossySkeleton lossyS2, "0"⟩ : Net String ℚ).mnaB →
      matVec (⟨withSrc lossySkeleton fun id => lossyS1 id + lossyS2 id, "0"⟩ : Net String ℚ).mnaA x
        = (⟨withSrc lossySkeleton fun id => lossyS1 id + lossyS2 id, "0"⟩ : Net String ℚ).mnaB →
      (⟨withSrc lossySkeleton lossyS1, "0"⟩ : Net String ℚ).current x1 "Vq" = .ok (-2) ∧
      (⟨withSrc lossySkeleton lossyS2, "0"⟩ : Net String ℚ).current x2 "Vq" = .ok (-1/2) ∧
      (⟨withSrc lossySkeleton fun id => lossyS1 id + lossyS2 id, "0"⟩ : Net String ℚ).current x "Vq"
        = .ok (-3/2)) ∧
    (-3/2 : ℚ) ≠ -2 + -1/2 ∧
    (∃ x1 x2 x : List ℚ,
      (x1.length = (⟨withSrc lossySkeleton lossyS1, "0"⟩ : Net String ℚ).nodes.length
        + (⟨withSrc lossySkeleton lossyS1, "0"⟩ : Net String ℚ).vsIds.length ∧
       matVec (⟨withSrc lossySkeleton lossyS1, "0"⟩ : Net String ℚ).mnaA x1
        = (⟨withSrc lossySkeleton lossyS1, "0"⟩ : Net String ℚ).mnaB) ∧
      (x2.length = (⟨withSrc lossySkeleton lossyS2, "0"⟩ : Net String ℚ).nodes.length
        + (⟨withSrc lossySkeleton lossyS2, "0"⟩ : Net String ℚ).vsIds.length ∧
       matVec (⟨withSrc lossySkeleton lossyS2, "0"⟩ : Net String ℚ).mnaA x2
        = (⟨withSrc lossySkeleton lossyS2, "0"⟩ : Net String ℚ).mnaB) ∧
      (x.length = (⟨withSrc lossySkeleton fun id => lossyS1 id + lossyS2 id, "0"⟩ : Net String ℚ).nodes.length
        + (⟨withSrc lossySkeleton fun id => lossyS1 id + lossyS2 id, "0"⟩ : Net String ℚ).vsIds.length ∧
       matVec (⟨withSrc lossySkeleton fun id => lossyS1 id + lossyS2 id, "0"⟩ : Net String ℚ).mnaA x
        = (⟨withSrc lossySkeleton fun id => lossyS1 id + lossyS2 id, "0"⟩ : Net String ℚ).mnaB)) := by
  refine ⟨?_, by norm_num, ?_⟩
  · intro x1 x2 x hx1 hx2 hx h1 h2 h
    refine ⟨?_, ?_, ?_⟩
    · rw [lossy_current_Vq lossyS1 lossyR1 lossyR1_solves x1 hx1 h1]; rfl
    · rw [lossy_current_Vq lossyS2 lossyR2 lossyR2_solves x2 hx2 h2]; rfl
    · rw [lossy_current_Vq _ lossyR lossyR_solves x hx h]; rfl
  · obtain ⟨x1, hx1, h1, _⟩ := C01_exists _ (lossy_wf lossyS1) (lossy_wellPosed lossyS1)
    obtain ⟨x2, hx2, h2, _⟩ := C01_exists _ (lossy_wf lossyS2) (lossy_wellPosed lossyS2)
    obtain ⟨x, hx, h, _⟩ := C01_exists _ (lossy_wf fun id => lossyS1 id + lossyS2 id)
      (lossy_wellPosed fun id => lossyS1 id + lossyS2 id)
    exact ⟨x1, x2, x, ⟨hx1, h1⟩, ⟨hx2, h2⟩, ⟨hx, h⟩⟩

/-- **C04 (|a|²).**  For the exact complex numbers of the driver the power factor `a · conj a` of
`C04_reported_scale` (taken with `conj := GQ.conjHom`, the conjugation `get_power` uses) is the
real number `|a|² = re² + im²`. -/
theorem C04_scale_factor_is_abs_sq (a : GQ) : a * GQ.conjHom a = GQ.ofRat (a.re * a.re + a.im * a.im) := by
  apply GQ.ext' <;> simp [GQ.conjHom, GQ.conj, GQ.ofRat] <;> ring


end CC

