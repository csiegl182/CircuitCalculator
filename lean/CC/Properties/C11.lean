/-
  C11 — derived dynamics are passive and stable.

  The Lyapunov form is a signed nodal form of the outputs: xᵀ(W A + Aᵀ W)x = −2·yᵀ(Jn Ã)y with y = C x (every field),
  and for Ã = [[Y, Bm],[Bmᵀ, 0]], Jn = diag(1, −1) that is the form φᵀ Y φ of the node admittance matrix,
  = Σ_b G_b (Δφ_b)² ≥ 0 for a network without negative conductances.  Hence (ordered field) xᵀ(W A + Aᵀ W)x ≤ 0, and
  re λ ≤ 0 for every eigenpair of A when W = diag(C…, L…) is positive.  `C11_structure` shows that the executable model
  HAS the structure the matrix-level theorems assume (Jn·DQ = −DQ·J, non-negative resistive form), so the `C11_model_*`
  theorems hold for the A the model returns: every RLC network, every naming / listing order, any certificates.
  The FLOW clause of the property (along exp(tA) the stored energy ½ x(t)ᵀ W x(t) cannot grow, responses stay bounded
  after all sources have returned to zero) is in C11Flow.lean, for exact solutions of the differential equation; here
  only its rate form: C11_energy_rate + C11_model_lyapunov give d/dt ½xᵀWx = xᵀW A x ≤ 0 at every state.
-/
import CC.Proofs.StatePassive
import Mathlib.LinearAlgebra.Matrix.Notation


namespace CC
open Matrix Mx StateAlg

section
variable {K : Type} [Field K]
variable {n p : Type} [Fintype n] [Fintype p] [DecidableEq n] [DecidableEq p]
variable {At Ainv Jn : Matrix n n K} {DQ : Matrix n p K} {Li S W J : Matrix p p K}

/-- `S = (DQᵀ Ãinv DQ)⁻¹` is symmetric since `Ã` is -/
theorem C11_symm_S (hA : At * Ainv = 1) (hs : Atᵀ = At) (hS : (DQᵀ * Ainv * DQ) * S = 1) : Sᵀ = S :=
  S_symm hA hs hS

/-- the Lyapunov form is minus twice the signed nodal form of the output vector `y = C x`
(`W Λ⁻¹ = J = diag(−1…, +1…)`; `Jn·DQ = −DQ·J`: capacitor columns of `DQ` live in node rows,
inductor columns in voltage-source rows) -/
theorem C11_lyapunov_form (hA : At * Ainv = 1) (hs : Atᵀ = At) (hS : (DQᵀ * Ainv * DQ) * S = 1)
    (hW : Wᵀ = W) (hWJ : W * Li = J) (hJn : Jn * DQ = -(DQ * J)) (x : p → K) :
    x ⬝ᵥ (W * ssA Li S + (ssA Li S)ᵀ * W) *ᵥ x
      = -2 * ((ssC DQ Ainv S *ᵥ x) ⬝ᵥ (Jn * At) *ᵥ (ssC DQ Ainv S *ᵥ x)) :=
  lyapunov_form hA hs hS hW hWJ hJn x

variable {nn nv : Type} [Fintype nn] [Fintype nv] [DecidableEq nn] [DecidableEq nv]

/-- for the nodal matrix `[[Y, Bm],[Bmᵀ, 0]]` the signed form is the form of the node admittance
matrix: `yᵀ(Jn Ã)y = φᵀ Y φ` (`= Σ_b G_b (Δφ_b)²` for a resistive network) -/
theorem C11_signed_form (Y : Matrix nn nn K) (Bm : Matrix nn nv K) (φ : nn → K) (i : nv → K) :
    (Sum.elim φ i) ⬝ᵥ ((fromBlocks (1 : Matrix nn nn K) 0 0 (-1 : Matrix nv nv K)) * fromBlocks Y Bm Bmᵀ 0)
        *ᵥ (Sum.elim φ i) = φ ⬝ᵥ Y *ᵥ φ := by
  -- blockwise: `Ã y = (Yφ + Bm i, Bmᵀφ)`, `Jn` flips the sign of the second block, and `i·Bmᵀφ = φ·Bm i`
  rw [← mulVec_mulVec, fromBlocks_mulVec, fromBlocks_mulVec, sumElim_dotProduct_sumElim]
  simp only [Sum.elim_comp_inl, Sum.elim_comp_inr, zero_mulVec, add_zero, zero_add, one_mulVec, neg_mulVec,
    dotProduct_add, dotProduct_neg]
  rw [mulVec_transpose, dotProduct_comm i, ← dotProduct_mulVec, add_neg_cancel_right]

end

/-- `Ã` (the real part of the nodal matrix at `w = 0`) is symmetric for EVERY network: the
hypothesis `Atᵀ = At` of the theorems above is always met by the model -/
theorem C11_Atilde_symm {L K : Type} [DecidableEq L] [LabelOrd L] [Field K] [DecidableEq K]
    (re : K → K) (hre : re 0 = 0) (N : Net L K) :
    (toM N.nY N.nY (ssAtilde re N))ᵀ = toM N.nY N.nY (ssAtilde re N) :=
  Atilde_symm re hre N N.nY

section ordered
variable {F : Type} [Field F] [LinearOrder F] [IsStrictOrderedRing F]
variable {n p : Type} [Fintype n] [Fintype p] [DecidableEq n] [DecidableEq p]
variable {At Ainv Jn : Matrix n n F} {DQ : Matrix n p F} {Li S W J : Matrix p p F}

/-- **Lyapunov inequality** `xᵀ(W A + Aᵀ W)x ≤ 0` for every `x` -/
theorem C11_lyapunov (hA : At * Ainv = 1) (hs : Atᵀ = At) (hS : (DQᵀ * Ainv * DQ) * S = 1)
    (hW : Wᵀ = W) (hWJ : W * Li = J) (hJn : Jn * DQ = -(DQ * J))
    (hpass : ∀ y : n → F, 0 ≤ y ⬝ᵥ (Jn * At) *ᵥ y) (x : p → F) :
    x ⬝ᵥ (W * ssA Li S + (ssA Li S)ᵀ * W) *ᵥ x ≤ 0 :=
  lyapunov hA hs hS hW hWJ hJn hpass x

/-- the stored energy `½ xᵀ W x` changes at the rate `xᵀ W (A x) = ½ xᵀ(W A + Aᵀ W)x` along
`ẋ = A x` -/
theorem C11_energy_rate (A W : Matrix p p F) (hW : Wᵀ = W) (x : p → F) :
    x ⬝ᵥ W *ᵥ (A *ᵥ x) = (1 / 2) * (x ⬝ᵥ (W * A + Aᵀ * W) *ᵥ x) := by
  rw [lyap_symm A hW, one_div, inv_mul_cancel_left₀ two_ne_zero]

/-- **natural frequencies**: an eigenpair `λ = α + jβ`, `v = a + jb ≠ 0` of `A` (real form:
`A a = α a − β b`, `A b = β a + α b`) has `α ≤ 0` -/
theorem C11_eig (A : Matrix p p F) (w : p → F) (hw : ∀ i, 0 < w i)
    (hlyap : ∀ x : p → F, x ⬝ᵥ (diagonal w * A + Aᵀ * diagonal w) *ᵥ x ≤ 0)
    (α β : F) (a b : p → F) (hab : a ≠ 0 ∨ b ≠ 0)
    (ha : A *ᵥ a = α • a - β • b) (hb : A *ᵥ b = β • a + α • b) : α ≤ 0 :=
  eig_re_nonpos A (diagonal_transpose w) (fun _ => quad_diag_pos w hw) hlyap α β a b hab ha hb

end ordered

/-- non-vacuity of the hypotheses of `C11_lyapunov`: the series circuit `V(1,0) – R=1 – C=1`
(unknowns `(φ₁, φ₂, i_V)`, one capacitor state): `W = [1]`, `Λ⁻¹ = [−1]`, `J = [−1]`,
`Jn = diag(1, 1, −1)` -/
example :
    let At : Matrix (Fin 3) (Fin 3) ℚ := !![1, -1, 1; -1, 1, 0; 1, 0, 0]
    let Jn : Matrix (Fin 3) (Fin 3) ℚ := !![1, 0, 0; 0, 1, 0; 0, 0, -1]
    let DQ : Matrix (Fin 3) (Fin 1) ℚ := !![0; 1; 0]
    let W : Matrix (Fin 1) (Fin 1) ℚ := !![1]
    let Li : Matrix (Fin 1) (Fin 1) ℚ := !![-1]
    let J : Matrix (Fin 1) (Fin 1) ℚ := !![-1]
    Wᵀ = W ∧ W * Li = J ∧ Jn * DQ = -(DQ * J)
      ∧ ∀ y : Fin 3 → ℚ, y ⬝ᵥ (Jn * At) *ᵥ y = (y 0 - y 1) * (y 0 - y 1) := by
  intro At Jn DQ W Li J
  refine ⟨by decide +kernel, by decide +kernel, by decide +kernel, fun y => ?_⟩
  have e : Jn * At = !![1, -1, 1; -1, 1, 0; -1, 0, 0] := by decide +kernel
  rw [e]
  simp only [mulVec, dotProduct, Fin.sum_univ_three, of_apply, cons_val_zero, cons_val_one, cons_val]
  ring

section model
variable {L F : Type} [DecidableEq L] [LabelOrd L] [Field F] [LinearOrder F] [IsStrictOrderedRing F]

/-- the two structural hypotheses of `C11_lyapunov`, for every network: signature identity and
non-negative resistive form (`Jn = diag(+1 node rows, −1 voltage-source rows)`,
`J = diag(−1 capacitor states, +1 inductor states)`) -/
theorem C11_structure (N : Net L F) (cvals lvals : ValDict F) {Delta : List (List F)} (wf : N.WF)
    (hD : ssDelta N cvals = .ok Delta) (hpos : ∀ b ∈ N.branches, 0 ≤ b.e.Yfin) :
    (diagonal fun i : Fin N.nY => if (i : Nat) < N.nN then (1 : F) else -1)
        * toM N.nY (ssNStates N cvals lvals) (ssDQ N cvals lvals Delta)
      = -(toM N.nY (ssNStates N cvals lvals) (ssDQ N cvals lvals Delta)
          * diagonal fun k : Fin (ssNStates N cvals lvals) => if (k : Nat) < cvals.length then (-1 : F) else 1)
    ∧ ∀ y : Fin N.nY → F,
        0 ≤ y ⬝ᵥ ((diagonal fun i : Fin N.nY => if (i : Nat) < N.nN then (1 : F) else -1)
                  * toM N.nY N.nY N.mnaA) *ᵥ y := by
  have hids := wf.ids_nodup
  refine ⟨?_, fun y => ?_⟩
  · -- entry by entry: off the two blocks `DQ` vanishes, on them the two signs are opposite
    ext i k
    rw [Matrix.neg_apply, diagonal_mul, mul_diagonal, toM_apply]
    by_cases hk : (k : Nat) < cvals.length
    · by_cases hi : (i : Nat) < N.nN
      · rw [if_pos hi, if_pos hk, one_mul, mul_neg_one, neg_neg]
      · rw [ssDQ_cap_vsrow_zero N cvals lvals hD i.2 (Nat.le_of_not_lt hi) hk, mul_zero, zero_mul, neg_zero]
    · by_cases hi : (i : Nat) < N.nN
      · rw [ssDQ_ind_noderow_zero N cvals lvals Delta hids hi (Nat.le_of_not_lt hk) k.2, mul_zero, zero_mul, neg_zero]
      · rw [if_neg hi, if_neg hk, neg_one_mul, mul_one]
  · -- as lists: `y` is the packing of its own label-indexed reading `s`, the form is `Σ_b Yfin_b·(Δφ_b)²`
    set s := N.solOf (List.ofFn y)
    have hpack : List.ofFn y = N.pack s := pack_solOf N hids (List.ofFn y) (by rw [List.length_ofFn]; rfl)
    have hA := (mnaA_shape N hids).matVec_ofFn y
    rw [hpack] at hA
    have hsig : List.ofFn (fun i : Fin N.nY => y i * if (i : Nat) < N.nN then (1 : F) else -1)
        = N.nodes.map s.phi ++ N.vsSorted.map fun b => -(s.ivs b.id) :=
      ofFn_signed y (List.length_map _) hpack
    rw [← mulVec_mulVec, dotProduct_mulVec, funext (vecMul_diagonal y _), dotProduct_eq_dotL, hsig, ← hA,
      signed_form_list N s]
    exact List.sum_nonneg (List.forall_mem_map.mpr fun b hb =>
      mul_nonneg (hpos b (List.mem_filter.mp hb).1) (mul_self_nonneg _))

/-- **Passivity of the derived dynamics, for the model**: `xᵀ(W A + Aᵀ W)x ≤ 0` for every `x`, with
`W = diag(C…, L…)` in dictionary order -/
theorem C11_model_lyapunov {N : Net L F} {cvals lvals : ValDict F} {Ainv S Delta : List (List F)} {m : SSMats F}
    (h : RLC N cvals lvals) (hD : ssDelta N cvals = .ok Delta)
    (hm : stateSpaceMatrices N cvals lvals Ainv S = .ok m)
    (hc : ModelCert id N cvals lvals Ainv S Delta)
    (hpos : ∀ b ∈ N.branches, 0 ≤ b.e.Yfin) (x : Fin (ssNStates N cvals lvals) → F) :
    let W : Matrix (Fin (ssNStates N cvals lvals)) (Fin (ssNStates N cvals lvals)) F :=
      diagonal fun k => (cvals.vals ++ lvals.vals).getD k 0
    let A := toM (ssNStates N cvals lvals) (ssNStates N cvals lvals) m.A
    x ⬝ᵥ (W * A + Aᵀ * W) *ᵥ x ≤ 0 := by
  intro W A
  obtain ⟨⟨eA, _⟩, hlen, _, hs⟩ := hc.alg hD hm
  obtain ⟨hJn, hpass⟩ := C11_structure N cvals lvals h.wf hD hpos
  rw [← ssAtilde_id] at hpass
  simp only [A, eA]
  exact lyapunov hc.hA hs hc.hS (diagonal_transpose _) (W_mul_invLambda cvals lvals _ hlen hc.hnz) hJn hpass x

/-- **Stability, for the model**: with positive C, L every eigenpair `λ = α + jβ`, `v = a + jb ≠ 0` of
the model's `A` has `α ≤ 0` -/
theorem C11_model_eig {N : Net L F} {cvals lvals : ValDict F} {Ainv S Delta : List (List F)} {m : SSMats F}
    (h : RLC N cvals lvals) (hD : ssDelta N cvals = .ok Delta)
    (hm : stateSpaceMatrices N cvals lvals Ainv S = .ok m)
    (hc : ModelCert id N cvals lvals Ainv S Delta)
    (hpos : ∀ b ∈ N.branches, 0 ≤ b.e.Yfin)
    (hval : ∀ k : Fin (ssNStates N cvals lvals), 0 < (cvals.vals ++ lvals.vals).getD k 0)
    (α β : F) (a b : Fin (ssNStates N cvals lvals) → F) (hab : a ≠ 0 ∨ b ≠ 0)
    (ha : toM _ _ m.A *ᵥ a = α • a - β • b) (hb : toM _ _ m.A *ᵥ b = β • a + α • b) : α ≤ 0 :=
  eig_re_nonpos _ (diagonal_transpose _) (fun _ => quad_diag_pos _ hval)
    (fun x => C11_model_lyapunov h hD hm hc hpos x) α β a b hab ha hb

end model

end CC
