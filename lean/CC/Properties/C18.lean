/-
  C18 — displayed numbers are accurate to the stated precision.

  Theorems about the model `CC.Model.Fmt` over the *generated* `CC.Gen.Fmt` (tables,
  defaults, arithmetic kernels translated from `Utils.py` / `Display.py`), against the spec
  `CC.Spec.Fmt`.  The arithmetic statements are over all rationals, precisions and admissible
  tables; the text-level ones over `|v| < 1e16` outside the rounds-up-to-one region
  (`InDomain`); the table statements are decided on the generated tables.
-/
import CC.Model.Fmt
import CC.Spec.Fmt
import CC.Proofs.FmtArith
import CC.Proofs.FmtDigits
import CC.Proofs.FmtTable
import CC.Proofs.FmtExponent
import CC.Proofs.FmtRender
import CC.Proofs.FmtMantissa
import CC.Gen.FmtGuard

namespace CC
open CC.Fmt CC.Gen.Fmt

/-- the translator accepted `Utils.py` / `Display.py` (every statement of the translated
functions inside the grammar, every hand-modelled function of the modelled shape) -/
theorem C18_translator_accepts : CC.Gen.FmtGuard.fmt_tables_refusal = none := by decide

/-- the engineering exponent computed by `Float3.exponent3` is a multiple of
three, for every precision and every decimal exponent. -/
theorem C18_exp3 (p e : ℤ) : f3_exponent3 p e % 3 = 0 := by
  rw [exponent3_eq]; omega

/-- the engineering exponent is the decimal exponent of the leading digit rounded down to a
multiple of three -/
theorem C18_exp3_floor (p e : ℤ) :
    f3_exponent3 p e ≤ p + e - 1 ∧ p + e - 1 < f3_exponent3 p e + 3 := by
  rw [exponent3_eq]; omega

/-- `FloatPrecision.mantissa` is a nearest integer of `v / 10^e`:
mantissa · 10^e is within half a unit of the last mantissa digit of `v`, for every `e`. -/
theorem C18_mantissa_half (v : ℚ) (e : ℤ) :
    |((fp_mantissa v e : ℤ) : ℚ) * pow10 e - v| ≤ pow10 e / 2 := by
  have h := abs_rhe_mul_div_sub_le v (inv_pos.mpr (pow10_pos e))
  have e1 : (1 : ℚ) / (2 * (pow10 e)⁻¹) = pow10 e / 2 := by
    rw [one_div, mul_inv, inv_inv, div_eq_mul_inv, mul_comm]
  rwa [e1, ← div_eq_mul_inv, div_inv_eq_mul] at h

/-- a mantissa of `p` digits (or `10^p` after a rounding
carry) is scaled by `Float3.mantissa3` into `[1, 1000]`, for every precision `p ≥ 1` and every
exponent. -/
theorem C18_mantissa_range (M p e : ℤ) (hlo : pow10 (p - 1) ≤ |(M : ℚ)|) (hhi : |(M : ℚ)| ≤ pow10 p) :
    1 ≤ |f3_mantissa3 M e (f3_exponent3 p e)| ∧ |f3_mantissa3 M e (f3_exponent3 p e)| ≤ 1000 := by
  rw [abs_mantissa3]
  -- with `r = (p + e - 1) % 3` the scaled mantissa lies in `[10^r, 10^(r+1)]`
  have hr := Int.emod_nonneg (p + e - 1) (by norm_num : (3 : ℤ) ≠ 0)
  have hr3 := Int.emod_lt_of_pos (p + e - 1) (by norm_num : (0 : ℤ) < 3)
  exact ⟨(pow10_one_le hr).trans (le_mul_pow10 hlo (by ring)),
    (mul_pow10_le hhi (k := (p + e - 1) % 3 + 1) (by ring)).trans
      ((pow10_le_pow10 (b := 3) (by omega)).trans_eq (by norm_num [pow10_eq_zpow]))⟩

/-- `e` is the exponent of the last of `p` significant digits of `v`: regular; or `v` lies
within half a unit (of its own `p`-th digit) below the next decade, which `e` already
addresses (rounding carry); or the code's `'1.0'` branch (`exponent` returns `0` for a value
that rounds up to `1`). -/
def ExpOK (v : ℚ) (p : ℕ) (e : ℤ) : Prop :=
  (pow10 (e + p - 1) ≤ |v| ∧ |v| < pow10 (e + p)) ∨
  (pow10 (e + p - 1) - pow10 (e - 1) / 2 ≤ |v| ∧ |v| < pow10 (e + p - 1)) ∨
  (e = 0 ∧ 1 - pow10 (-(p : ℤ)) / 2 ≤ |v| ∧ |v| < 1)

/-- the regular case alone (what a repaired `exponent` would deliver) -/
def ExpRegular (v : ℚ) (p : ℕ) (e : ℤ) : Prop :=
  (pow10 (e + p - 1) ≤ |v| ∧ |v| < pow10 (e + p)) ∨
  (pow10 (e + p - 1) - pow10 (e - 1) / 2 ≤ |v| ∧ |v| < pow10 (e + p - 1))

theorem ExpRegular.expOK {v : ℚ} {p : ℕ} {e : ℤ} (h : ExpRegular v p e) : ExpOK v p e :=
  h.elim Or.inl fun h => Or.inr (Or.inl h)

theorem expRegular_iff {v : ℚ} {p : ℕ} {e : ℤ} :
    ExpRegular v p e ↔ pow10 (e + p - 1) - pow10 (e - 1) / 2 ≤ |v| ∧ |v| < pow10 (e + p) := by
  constructor
  · rintro (⟨h1, h2⟩ | ⟨h1, h2⟩)
    · exact ⟨by linarith [pow10_pos (e - 1)], h2⟩
    · exact ⟨h1, h2.trans (pow10_lt_pow10 (by omega))⟩
  · rintro ⟨h1, h2⟩
    rcases le_or_gt (pow10 (e + p - 1)) |v| with h | h
    · exact Or.inl ⟨h, h2⟩
    · exact Or.inr ⟨h1, h⟩

theorem ExpOK.lt_pow10 {v : ℚ} {p : ℕ} {e : ℤ} (h : ExpOK v p e) : |v| < pow10 (e + p) := by
  rcases h with ⟨_, h2⟩ | ⟨_, h2⟩ | ⟨he, _, h2⟩
  · exact h2
  · exact h2.trans (pow10_lt_pow10 (by omega))
  · exact h2.trans_le (pow10_one_le (by omega))

theorem ExpOK.ratio {v : ℚ} {p : ℕ} {e : ℤ} (hp : 1 ≤ p) (h : ExpOK v p e) : pow10 e / 2 < |v| := by
  have hp' : (1 : ℤ) ≤ p := by exact_mod_cast hp
  have hpe := pow10_pos e
  rcases h with ⟨h1, _⟩ | ⟨h1, _⟩ | ⟨he, h1, _⟩
  · have : pow10 e ≤ pow10 (e + p - 1) := pow10_le_pow10 (by omega)
    linarith
  · have : pow10 e ≤ pow10 (e + p - 1) := pow10_le_pow10 (by omega)
    have h' : pow10 (e - 1) = pow10 e / 10 := pow10_pred e
    rw [h'] at h1; linarith
  · subst he
    have : pow10 (-(p : ℤ)) ≤ pow10 (-1) := pow10_le_pow10 (by omega)
    have e' : pow10 (-1) = 1 / 10 := by simp [pow10_eq_zpow]
    rw [e'] at this; rw [pow10_zero]; linarith

/-- for a value within half a unit of its `p`-th digit below `10^D` (`halfUnit_of_rounds_up`), `mantissa · 10^e = ±10^D`
at `e = D - n`, `n < p`, is within that half unit of it: the rounding carry (`n = p - 1`) and the `'1.0'` branch
(`n = 0`, `e = 0`) alike -/
theorem accurate_of_rounds_up {v : ℚ} {p n : ℕ} {e D : ℤ} (hn : n < p) (hD : D + -e = n)
    (h1 : pow10 D - pow10 (D - p) / 2 ≤ |v|) (h2 : |v| < pow10 D) :
    Accurate v p (((fp_mantissa v e : ℤ) : ℚ) * pow10 e) := by
  unfold Accurate
  rw [qabs_eq_abs, abs_mantissa_mul_sub, mantissa_of_rounds_up hn hD h1 h2, halfUnit_of_rounds_up (by omega) h1 h2,
    ← pow10_natCast_int, ← pow10_add, show (n : ℤ) + e = D by omega, abs_le]
  constructor <;> linarith [pow10_pos (D - p)]

/-- whenever the exponent stage delivers the exponent of the
`p`-th significant digit (`ExpOK`, including the rounding-carry case `999.5 ↦ 1000`,
`0.9995 ↦ 1.00` and the code's `'1.0'` branch), mantissa · 10^exponent is within half a unit
of the `p`-th significant digit of `v`; all `v ≠ 0`, all `p ≥ 1`. -/
theorem C18_accuracy (v : ℚ) (p : ℕ) (e : ℤ) (hp : 1 ≤ p) (h : ExpOK v p e) :
    Accurate v p (((fp_mantissa v e : ℤ) : ℚ) * pow10 e) := by
  rcases h with ⟨h1, h2⟩ | ⟨h1, h2⟩ | ⟨he, h1, h2⟩
  · unfold Accurate
    rw [qabs_eq_abs, halfUnit_of_decade h1 (by rwa [sub_add_cancel]),
      show e + (p : ℤ) - 1 - p + 1 = e by ring]
    exact C18_mantissa_half v e
  · exact accurate_of_rounds_up (n := p - 1) (by omega) (by omega)
      (by rwa [show e + (p : ℤ) - 1 - p = e - 1 by ring]) h2
  · subst he
    exact accurate_of_rounds_up (n := 0) (D := 0) hp rfl (by rwa [pow10_zero, zero_sub]) (by rwa [pow10_zero])

/-- no prefix table of `Utils.py` / `Display.py` skips an SI
prefix between its smallest and its largest exponent. -/
theorem C18_tables_admissible : all_tables.all Table.admissible = true := by decide +kernel

/-- every prefix letter attached to a multiple of three is the SI letter
of that power of ten (the reader `parseBack` knows only SI). -/
theorem C18_tables_si : all_tables.all Table.si = true := by decide

/-- each display helper offers exactly the specified range of
prefixes (`CC.Fmt.helperRange`). -/
theorem C18_display_ranges :
    (all_calls.filterMap fun (f, c) => if c.usePrefix then some (f, c.table.minKey, c.table.maxKey) else none) =
      [("print_complex", -6, 3), ("print_abs", -6, 3), ("print_real", -6, 3), ("print_sinosoidal", -6, 3),
       ("print_sinosoidal", -6, 3), ("print_sinosoidal", -3, 12), ("print_active_power", -12, 12), ("print_active_reactive_power", -12, 12),
       ("print_active_reactive_power", -12, 12), ("print_resistance", -3, 9), ("print_conductance", -3, 9),
       ("print_impedance", -3, 9), ("print_capacitance", -12, -3), ("print_inductance", -9, -3)]
    ∧ helperRange "print_complex" = some (-6, 3) ∧ helperRange "print_abs" = some (-6, 3)
    ∧ helperRange "print_real" = some (-6, 3) ∧ helperRange "print_sinosoidal" = some (-6, 3)
    ∧ helperRange "print_sinosoidal_hz" = some (-3, 12) ∧ helperRange "print_active_power" = some (-12, 12)
    ∧ helperRange "print_active_reactive_power" = some (-12, 12) ∧ helperRange "print_resistance" = some (-3, 9)
    ∧ helperRange "print_conductance" = some (-3, 9) ∧ helperRange "print_impedance" = some (-3, 9)
    ∧ helperRange "print_capacitance" = some (-12, -3) ∧ helperRange "print_inductance" = some (-9, -3) := by
  decide +kernel

/-- which quantity each display helper formats, with which unit and
class (the hand-written `print*` functions of the model assume exactly this). -/
theorem C18_display_args :
    (all_calls.map fun (f, c) => (f, c.cls, c.value, c.unit)) =
      [("print_complex", "ScientificComplex", "value", none),
       ("print_abs", "ScientificFloat", "abs(value)", none),
       ("print_real", "ScientificFloat", "value.real", none),
       ("print_sinosoidal", "ScientificFloat", "abs(value)", none),
       ("print_sinosoidal", "ScientificFloat", "abs(degrees(phase_value))", some ['°']),
       ("print_sinosoidal", "ScientificFloat", "abs(phase_value)", some []),
       ("print_sinosoidal", "ScientificFloat", "value.real", none),
       ("print_sinosoidal", "ScientificFloat", "w / 2 / pi", some ['H', 'z']),
       ("print_sinosoidal", "ScientificFloat", "w", some ['/', 's']),
       ("print_active_power", "ScientificFloat", "abs(value)", some ['W']),
       ("print_active_reactive_power", "ScientificFloat", "abs(value.real)", some ['W']),
       ("print_active_reactive_power", "ScientificFloat", "abs(value.imag)", some ['v', 'a', 'r']),
       ("print_resistance", "ScientificComplex", "R", some ['Ω']),
       ("print_conductance", "ScientificComplex", "G", some ['S']),
       ("print_impedance", "ScientificComplex", "Z", some ['Ω']),
       ("print_capacitance", "ScientificFloat", "C", some ['F']),
       ("print_inductance", "ScientificFloat", "L", some ['H'])]
    ∧ (all_calls.map fun (_, c) => (c.usePrefix, c.compact, c.polar, c.deg)) =
      [(true, true, none, none), (true, false, some false, some false), (true, false, some false, some false),
       (true, false, some false, some false), (false, false, some false, some false),
       (false, false, some false, some false), (true, false, some false, some false), (true, false, some false, some false),
       (false, false, some false, some false), (true, false, some false, some false),
       (true, false, some false, some false), (true, false, some false, some false),
       (true, false, some false, some false), (true, false, some false, some false),
       (true, false, some false, some false), (true, false, some false, some false),
       (true, false, some false, some false)] := by
  decide +kernel

/-- the sine form of a time-function text adds one quarter turn to the phase
(`cos x = sin (x + π/2)`).  Before /repo 286c55c the code subtracted it, so every sine-form label denoted
the negative of the quantity. -/
theorem C18_sine_shift : print_sinosoidal_sin_shift = specSineQuarterTurns := by decide

/-- the dataclass defaults are the specified ones (precision 3, exponent
range ±16, no prefixes, Cartesian, non-compact), and the texts for infinity. -/
theorem C18_defaults :
    fp_precision_default = 3 ∧ fp_min_exp_default = defaultMinExp ∧ fp_max_exp_default = defaultMaxExp
    ∧ sf_precision_default = 3 ∧ sc_precision_default = 3 ∧ sf_use_exp_prefix_default = false
    ∧ sc_use_exp_prefix_default = false ∧ sf_unit_default = [] ∧ sc_unit_default = []
    ∧ sc_compact_default = false ∧ sc_polar_default = false ∧ sc_deg_default = false
    ∧ sf_exp_prefixes_default = sc_exp_prefixes_default
    ∧ sf_str_inf_pos = ['∞'] ∧ sf_str_inf_neg = ['-', '∞']
    ∧ (∀ T, sf_value3_min_exp false T = defaultMinExp ∧ sf_value3_max_exp false T = defaultMaxExp)
    ∧ (∀ T, sf_value3_min_exp true T = T.minKey ∧ sf_value3_max_exp true T = T.maxKey) := by
  refine ⟨by decide, by decide, by decide, by decide, by decide, by decide, by decide, by decide, by decide,
    by decide, by decide, by decide, by decide, by decide, by decide, ?_, ?_⟩
  · intro T; exact ⟨rfl, rfl⟩
  · intro T; exact ⟨rfl, rfl⟩

/-- for every admissible table and every engineering exponent `e3`
(a multiple of three), the printed prefix is the table's prefix for some exponent `k` (or no
prefix, `k = 0`) and the explicit exponent `e<n>` printed next to it makes up the difference,
`n + k = e3`; that `k` is an end of the table or `e3` itself is `prefix_clamp`. -/
theorem C18_prefix_clamp (T : Table) (hT : T.Admissible) (e3 : ℤ) (h3 : e3 % 3 = 0) :
    ∃ k : ℤ, ((k = 0 ∧ sf_exp_prefix true T e3 = []) ∨ (k, sf_exp_prefix true T e3) ∈ T)
      ∧ sf_rebase_exp true T e3 + k = e3 :=
  let ⟨k, _, h⟩ := prefix_clamp T hT e3 h3
  ⟨k, h⟩

/-- without prefixes the whole exponent is printed explicitly -/
theorem C18_no_prefix (T : Table) (e3 : ℤ) : sf_exp_prefix false T e3 = [] ∧ sf_rebase_exp false T e3 = e3 := by
  exact ⟨rfl, rfl⟩

example : (sf_exp_prefixes_default).Admissible := Table.admissible_sound (by decide)
example : sf_rebase_exp true print_real_call0.table (-9) = -3 ∧ sf_exp_prefix true print_real_call0.table (-9) = ['u'] := by decide

/-- (restates the generated definition) `FloatPrecision.is_inf` is exactly `value != 0 and exponent + precision - 3 > max_exp`: the exponent of the
leading digit, not of the last one, decides (/repo edb6a6b) -/
theorem C18_is_inf_iff (v : ℚ) (p e m : ℤ) : fp_is_inf v p e m = true ↔ (v ≠ 0 ∧ m < e + p - 3) := by
  unfold fp_is_inf; by_cases h : v = 0 <;> simp [h]

/-- zero is never saturated: for every configuration the value 0
is not `is_inf`, so its text is a finite number (before /repo f0e8a34 a table whose exponents are
all negative rendered a zero part as `∞`). -/
theorem C18_zero_never_infinity (c : SFCfg) : (c.value3 0).isInf = false := by
  unfold F3.isInf fp_is_inf SFCfg.value3; simp

/-- zero real part, farad table (every exponent negative), precision 5: the zero part is printed as a finite number -/
example : ({ unit := ['F'], precision := 5, usePrefix := true, table := print_capacitance_call0.table } : SCCfg).str
    0 (54 / 10000000000) 0 0 = ['0', '.', '0', '0', '0', '0', '0', 'e', '6', 'm', 'F'] := by
  decide +kernel

/-- (restates the generated definition) `FloatPrecision.is_zero` is exactly `value == 0 or exponent < min_exp` -/
theorem C18_is_zero_iff (v : ℚ) (e m : ℤ) : fp_is_zero v e m = true ↔ (v = 0 ∨ e < m) := by
  unfold fp_is_zero; by_cases h : v = 0 <;> simp [h]

theorem isInf_of_beyond {v : ℚ} {p : ℕ} {e maxExp : ℤ} (hp : 1 ≤ p) (h : ExpOK v p e) (hb : Beyond v maxExp) :
    fp_is_inf v p e maxExp = true := by
  rw [C18_is_inf_iff]
  refine ⟨abs_pos.mp ((half_pos (pow10_pos e)).trans (h.ratio hp)), ?_⟩
  by_contra hle
  unfold Beyond at hb; rw [qabs_eq_abs] at hb
  exact absurd (hb.trans_lt h.lt_pow10) (not_lt.mpr (pow10_le_pow10 (by omega)))

/-- (threshold) with a regular exponent stage, `is_inf` holds for every
value beyond the representable range (`|v| ≥ 1000·10^max_exp`, whatever the precision) and only
for values that reach that bound after rounding to `p` digits.  (Before /repo edb6a6b the threshold was
`10^(max_exp + p)`.) -/
theorem C18_saturate (v : ℚ) (p : ℕ) (e maxExp : ℤ) (hp : 1 ≤ p) (h : ExpRegular v p e) :
    (Beyond v maxExp → fp_is_inf v p e maxExp = true) ∧ (fp_is_inf v p e maxExp = true → BeyondRounded v p maxExp) := by
  refine ⟨isInf_of_beyond hp h.expOK, fun hinf => ?_⟩
  obtain ⟨_, hm⟩ := (C18_is_inf_iff ..).mp hinf
  unfold BeyondRounded
  rw [qabs_eq_abs]
  have hle : pow10 (maxExp + 3) ≤ pow10 (e + p - 1) := pow10_le_pow10 (by omega)
  rcases h with ⟨h1, _⟩ | ⟨h1, h2⟩
  · linarith [halfUnit_nonneg v p]
  · rw [halfUnit_of_rounds_up (D := e + p - 1) hp (by rwa [show e + (p : ℤ) - 1 - p = e - 1 by ring]) h2,
      show e + (p : ℤ) - 1 - p = e - 1 by ring]
    linarith

/-- the text of a saturated value is the infinity sign, negative iff the mantissa is -/
theorem C18_saturate_text (c : SFCfg) (v : ℚ) (h : (c.value3 v).isInf = true) :
    c.str v = if 0 ≤ (c.value3 v).mantissa then ['∞'] else ['-', '∞'] := by
  unfold SFCfg.str
  simp only [h, ↓reduceIte, ge_iff_le]
  rfl

/-- the mantissa, hence the sign of `∞` / of the printed number,
has the sign of `v`. -/
theorem C18_mantissa_sign (v : ℚ) (p : ℕ) (e : ℤ) (hp : 1 ≤ p) (h : ExpOK v p e) :
    (0 < v → 0 < fp_mantissa v e) ∧ (v < 0 → fp_mantissa v e < 0) := by
  have hr := h.ratio hp
  have pos : ∀ a : ℚ, pow10 e / 2 < a → 0 < fp_mantissa a e := fun a ha =>
    le_rhe_of_sub_half_lt (k := 1) (by rw [lt_div_iff₀ (pow10_pos e)]; push_cast; linarith)
  constructor
  · intro hv; rw [abs_of_pos hv] at hr; exact pos v hr
  · intro hv; rw [abs_of_neg hv] at hr
    have := pos (-v) hr
    rw [fp_mantissa_neg] at this; omega

theorem mantissa_neg_iff {v : ℚ} {p : ℕ} {e : ℤ} (hp : 1 ≤ p) (h : ExpOK v p e) (hv0 : v ≠ 0) :
    fp_mantissa v e < 0 ↔ v < 0 := by
  obtain ⟨s1, s2⟩ := C18_mantissa_sign v p e hp h
  refine ⟨fun hM => ?_, s2⟩
  by_contra hv
  have := s1 (lt_of_le_of_ne (not_lt.mp hv) (Ne.symm hv0))
  omega

theorem suppressed_small {v : ℚ} {p : ℕ} {e minExp : ℤ} (h : ExpOK v p e) (hz : fp_is_zero v e minExp = true) :
    v = 0 ∨ |v| < pow10 (minExp + p - 1) :=
  ((C18_is_zero_iff ..).mp hz).imp_right fun hz => h.lt_pow10.trans_le (pow10_le_pow10 (by omega))

/-- a part that `ScientificComplex` treats as zero is zero or
lies below the representable range `10^(min_exp + p - 1)`. -/
theorem C18_suppressed_small (v : ℚ) (p : ℕ) (e minExp : ℤ) (hp : 1 ≤ p) (h : ExpOK v p e)
    (hneg : minExp ≤ 0) (hz : fp_is_zero v e minExp = true) : v = 0 ∨ |v| < pow10 (minExp + p - 1) :=
  suppressed_small h hz

theorem isZero_zero (c : SFCfg) : (c.value3 (qabs 0)).isZero = true := by
  unfold F3.isZero; rw [C18_is_zero_iff]; left; rfl

/-- (Cartesian) the text of a complex value is the text of `|re|` and of
`|im|` (each a `ScientificFloat`, hence each subject to the real-valued theorems) with the
signs of `re` and `im`; a part is left out only if it `is_zero`; all four quadrants. -/
theorem C18_complex (c : SCCfg) (re im absV angle : ℚ) (hpol : c.polar = false) :
    c.str re im absV angle =
      (let sr : List Char := if 0 ≤ re then [] else if c.compact then ['-'] else ['-', ' ']
       let si : List Char := if 0 ≤ im then (if c.compact then ['+'] else [' ', '+', ' '])
                             else (if c.compact then ['-'] else [' ', '-', ' '])
       if (c.toSFCfg.value3 (qabs im)).isZero then sr ++ c.toSFCfg.str (qabs re)
       else if (c.toSFCfg.value3 (qabs re)).isZero then
         (if im < 0 then si ++ ['j'] ++ c.toSFCfg.str (qabs im) else ['j'] ++ c.toSFCfg.str (qabs im))
       else sr ++ c.toSFCfg.str (qabs re) ++ si ++ ['j'] ++ c.toSFCfg.str (qabs im)) := by
  unfold SCCfg.str
  simp only [hpol, Bool.false_eq_true, ↓reduceIte, sc_real_sign_eq, sc_imag_sign_eq]
  rfl

/-- a fact about the rounding `rhe` used by the fixed-notation model (`fixedParts`): `rhe(|x|·10^n)/10^n` is within half a
unit of the `n`-th decimal of `|x|`.  It is *not* a statement about the characters of `fixedFmt` nor about the reader
`parseFixed`; the text of the polar angle is read back in `C18_polar_angle_text`, `C18_polar_reads_back`. -/
theorem C18_fixed_accuracy (x : ℚ) (n : ℕ) :
    |(((rhe (qabs x * ((10 ^ n : ℕ) : ℚ)) : ℤ) : ℚ) / ((10 ^ n : ℕ) : ℚ) - (|x|))| ≤ 1 / (2 * ((10 ^ n : ℕ) : ℚ)) := by
  rw [qabs_eq_abs]
  exact abs_rhe_mul_div_sub_le |x| (by positivity)

/-- **C18_complex** (polar) — magnitude as a `ScientificFloat`, then the angle in fixed
notation (2 decimals and `°`, or 4 decimals); the angle is left out exactly when
`|angle| ≤ 10^-2` (degrees) / `10^-5` (radians), as `C18_polar_omission` says. -/
theorem C18_complex_polar (c : SCCfg) (re im absV angle : ℚ) (hpol : c.polar = true) :
    c.str re im absV angle =
      if c.deg then
        (if |angle| ≤ 1 / 100 then c.toSFCfg.str absV
         else c.toSFCfg.str absV ++ ['∠'] ++ fixedFmt angle 2 ++ ['°'])
      else
        (if |angle| ≤ 1 / 100000 then c.toSFCfg.str absV
         else c.toSFCfg.str absV ++ ['∠'] ++ fixedFmt angle 4) := by
  unfold SCCfg.str
  have e2 : pow10 sc_deg_log10_threshold = 1 / 100 := by decide +kernel
  have e5 : pow10 sc_rad_log10_threshold = 1 / 100000 := by decide +kernel
  simp only [hpol, ↓reduceIte, e2, e5, qabs_eq_abs]
  rfl

/-- a unit the reader can tell apart from the number: it does not start with a digit, a
decimal point or the exponent letter -/
def UnitOK (u : List Char) : Prop :=
  match u with
  | [] => True
  | c :: _ => isDigit c = false ∧ c ≠ '.' ∧ c ≠ 'e'
instance : Decidable (UnitOK u) := by unfold UnitOK; split <;> infer_instance

/-- configurations the property quantifies over: precision `p ≥ 1`; with prefixes, an
admissible SI table -/
def CfgOK (c : SFCfg) : Prop :=
  1 ≤ c.precision ∧ UnitOK c.unit ∧
    (c.usePrefix = true → c.table.Admissible ∧ c.table.si = true ∧ c.table.minKey % 3 = 0 ∧ c.table.maxKey % 3 = 0)

/-- the region in which `FloatPrecision.exponent` takes its `'1.0'` branch -/
def RoundsUpToOne (v : ℚ) (p : ℕ) : Prop := 1 - pow10 (-(p : ℤ)) / 2 ≤ |v| ∧ |v| < 1

/-- **C18 for real values, full strength**: for every `v ≠ 0` and every configuration the
text of `ScientificFloat` reads back to a number within half a unit of the `p`-th digit, in
engineering form, with the sign of `v`, saturating exactly beyond the range.  *False* for the
current code: see `C18_real_counterexample`. -/
def C18_real_statement : Prop :=
  ∀ (c : SFCfg) (v : ℚ), v ≠ 0 → CfgOK c → RealOK v c.precision (c.value3 v).maxExp c.unit (c.str v)

/-- **finding** — `-0.99996` at precision 4 is displayed as `0.0010e3V`: mantissa below 1,
sign lost, reads back as `+1`. -/
theorem C18_real_counterexample : ¬ C18_real_statement := by
  intro h
  have := h { unit := ['V'], precision := 4 } (-99996 / 100000) (by decide +kernel)
    ⟨by decide, by decide, by intro h; exact absurd h (by decide)⟩
  revert this
  decide +kernel

theorem C18_rounds_up_to_one_text :
    ({ unit := ['V'], precision := 4 } : SFCfg).str (-99996 / 100000) = ['0', '.', '0', '0', '1', '0', 'e', '3', 'V']
    ∧ exponent (-99996 / 100000) 4 = 0
    ∧ realFailures (-99996 / 100000) 4 16
        (parseBack ['V'] (({ unit := ['V'], precision := 4 } : SFCfg).str (-99996 / 100000)))
        = ["mantissa_range", "accuracy", "sign"] := by
  decide +kernel

/-- the exponent stage (`FloatPrecision.exponent`, through the `repr` model
`floatToString`) delivers the exponent of the `p`-th significant digit for every `v ≠ 0`
(regular, rounding carry, or the `'1.0'` branch).  Proved for `|v| < 1e16`: `C18_exponent_decade_domain`. -/
def C18_exponent_decade_statement : Prop :=
  ∀ (v : ℚ) (p : ℕ), v ≠ 0 → 1 ≤ p → ExpOK v p (exponent v p)

/-- the digits assembled by `ScientificFloat.__str__` read back to exactly
`mantissa3 · 10^exponent3` with the sign of the mantissa (outside the `'1.0'` branch). -/
def C18_render_statement : Prop :=
  ∀ (c : SFCfg) (v : ℚ), v ≠ 0 → CfgOK c → ExpRegular v c.precision (exponent v c.precision) →
    (c.value3 v).isInf = false →
    ∃ q : Parsed, parseBack c.unit (c.str v) = some (.num q)
      ∧ q.exp = (c.value3 v).exponent3 ∧ q.mant = |(c.value3 v).mantissa3|
      ∧ (q.neg = true ↔ (c.value3 v).mantissa3 < 0)

/-- C18 for real values outside the `'1.0'` branch (the strongest true
restriction).  Proved for `|v| < 1e16`: `C18_real_domain`. -/
def C18_real_partial_statement : Prop :=
  ∀ (c : SFCfg) (v : ℚ), v ≠ 0 → CfgOK c → ¬ RoundsUpToOne v c.precision →
    RealOK v c.precision (c.value3 v).maxExp c.unit (c.str v)

example : CfgOK { unit := ['V'], precision := 3, usePrefix := true, table := print_real_call0.table } :=
  ⟨by decide, by decide, fun _ => ⟨Table.admissible_sound (by decide), by decide, by decide, by decide⟩⟩

/-- the smallest and the largest exponent of every prefix table are
multiples of three (so that the clamped prefix is an SI letter the reader knows). -/
theorem C18_tables_ends : all_tables.all (fun T => T.minKey % 3 == 0 && T.maxKey % 3 == 0) = true := by decide

theorem tableOK_of_mem {T : Table} (h : T ∈ all_tables) :
    T.Admissible ∧ T.si = true ∧ T.minKey % 3 = 0 ∧ T.maxKey % 3 = 0 := by
  have h3 := List.all_eq_true.mp C18_tables_ends T h
  simp only [Bool.and_eq_true, beq_iff_eq] at h3
  exact ⟨Table.admissible_sound (List.all_eq_true.mp C18_tables_admissible T h),
    List.all_eq_true.mp C18_tables_si T h, h3.1, h3.2⟩

theorem cfgOK_of_call {k : CallCfg} {unit : List Char} {p : ℕ} (hp : 1 ≤ p) (hu : UnitOK (k.unit.getD unit))
    (ht : k.table ∈ all_tables) : CfgOK (cfgOfCall k unit p) :=
  ⟨hp, hu, fun _ => tableOK_of_mem ht⟩

theorem cfgOK_print_complex (unit : List Char) (p : ℕ) (polar deg : Bool) (hp : 1 ≤ p) (hu : UnitOK unit) :
    CfgOK (scOfCall print_complex_call0 unit p polar deg).toSFCfg :=
  cfgOK_of_call (k := print_complex_call0) hp hu (by decide)

example : ExpOK (1234 / 10) 3 (exponent (1234 / 10) 3) := by
  have he : exponent (1234 / 10) 3 = 0 := by decide +kernel
  rw [he]
  left
  constructor <;> norm_num [pow10_eq_zpow]
example : RealOK (1234 / 10) 3 16 ['V'] (({ unit := ['V'], precision := 3 } : SFCfg).str (1234 / 10)) := by
  decide +kernel
example : RealOK (-9995 / 10000) 3 3 ['V']
    (({ unit := ['V'], precision := 3, usePrefix := true, table := print_real_call0.table } : SFCfg).str (-9995 / 10000)) := by
  decide +kernel

/-- **finding** — the Cartesian text of `-40.01 µA + j 847.9 µA` at precision 4 is `-40.01uA`:
the imaginary part, twenty times the real part and expressible with the prefix `u`, is left
out because `is_zero` compares the exponent of the *last* digit with `min_exp`
(`C18_suppressed_small`: the threshold is `10^(min_exp + p - 1)`, here `10^-3`). -/
theorem C18_complex_suppression_counterexample :
    printComplex (-4001 / 100000000) (8479 / 10000000) 0 0 ['A'] 4 false false = ['-', '4', '0', '.', '0', '1', 'u', 'A']
    ∧ printComplex (50 / 1000000) (80 / 1000000) 0 0 ['A'] 3 false false = ['5', '0', '.', '0', 'u', 'A'] := by
  decide +kernel

theorem ExpOK.of_lt_one (v : ℚ) (p : ℕ) (hp : 1 ≤ p) (hv0 : v ≠ 0) (hv1 : |v| < 1) : ExpOK v p (exponent v p) := by
  have h0 : 0 < qabs v := qabs_pos hv0
  unfold ExpOK
  rw [← qabs_eq_abs] at hv1 ⊢
  obtain ⟨hz1, hz2⟩ := lzExact_spec h0 hv1
  have hcase := exponent_lt_one v p hp h0 hv1
  generalize lzExact (qabs v) = z at *
  rcases hcase with he | ⟨hnear, he⟩ <;> rw [he]
  · exact Or.inl ⟨by rwa [show -((z : ℤ) + p) + p - 1 = -(z : ℤ) - 1 by ring],
      by rwa [show -((z : ℤ) + p) + p = -(z : ℤ) by ring]⟩
  · split_ifs with hz
    · subst hz
      exact Or.inr (Or.inr ⟨rfl, by simpa [pow10_zero] using hnear, hv1⟩)
    · refine Or.inr (Or.inl ⟨?_, by rwa [show 1 - ((z : ℤ) + p) + p - 1 = -(z : ℤ) by ring]⟩)
      rwa [show 1 - ((z : ℤ) + p) + p - 1 = -(z : ℤ) by ring,
        show 1 - ((z : ℤ) + p) - 1 = -((z + p : ℕ) : ℤ) by push_cast; ring]

theorem ExpOK.of_ge_one (v : ℚ) (p : ℕ) (h1 : 1 ≤ |v|) (hv16 : |v| < 10000000000000000) : ExpOK v p (exponent v p) := by
  -- the digits of the integer part are counted
  have habs := qabs_eq_abs v
  rw [exponent_of_ge_one v p (by rwa [habs]) (by rwa [habs]), habs]
  obtain ⟨a, b⟩ := decade_spec (zero_lt_one.trans_le h1)
  exact Or.inl ⟨by rwa [show decade |v| + 1 - (p : ℤ) + p - 1 = decade |v| by ring],
    by rwa [show decade |v| + 1 - (p : ℤ) + p = decade |v| + 1 by ring]⟩

/-- **C18_exponent_decade** (whole property domain) — for every rational `v ≠ 0` with
`|v| < 1e16` (the property quantifies over `1e-15 … 1e15`) and every `p ≥ 1`. -/
theorem C18_exponent_decade_domain (v : ℚ) (p : ℕ) (hp : 1 ≤ p) (hv0 : v ≠ 0) (hv16 : |v| < 10000000000000000) :
    ExpOK v p (exponent v p) :=
  (le_or_gt 1 |v|).elim (fun h1 => ExpOK.of_ge_one v p h1 hv16) (ExpOK.of_lt_one v p hp hv0)

/-- **C18_exponent_decade** (positional range: the case `1e-4 ≤ |v|` of `C18_exponent_decade_domain`) — for
`1e-4 ≤ |v| < 1e16` (where Python's `repr` is positional) the exponent stage delivers the exponent of the `p`-th
significant digit: regular, rounding carry, or the `'1.0'` branch.  (Small values: `C18_exponent_decade_small`; `|v| ≥ 1e16` is the
open part of `C18_exponent_decade_statement`.) -/
theorem C18_exponent_decade_partial (v : ℚ) (p : ℕ) (hp : 1 ≤ p) (hv4 : 1 / 10000 ≤ |v|)
    (hv16 : |v| < 10000000000000000) : ExpOK v p (exponent v p) :=
  C18_exponent_decade_domain v p hp (abs_pos.mp (lt_of_lt_of_le (by norm_num) hv4)) hv16

example : ExpOK (99996 / 100000) 4 (exponent (99996 / 100000) 4) :=
  C18_exponent_decade_partial _ 4 (by norm_num) (by norm_num [abs_of_pos]) (by norm_num [abs_of_pos])

/-- **C18_exponent_decade** (small values: the case `|v| < 1e-4` of `C18_exponent_decade_domain`) — for
`0 < |v| < 1e-4` (Python's `repr` in exponent notation, `exponent` reads the digits of `'{:.nf}'`) the exponent stage
delivers the exponent of the `p`-th significant digit: regular or rounding carry. -/
theorem C18_exponent_decade_small (v : ℚ) (p : ℕ) (hp : 1 ≤ p) (hv0 : v ≠ 0) (hv4 : |v| < 1 / 10000) :
    ExpOK v p (exponent v p) :=
  C18_exponent_decade_domain v p hp hv0 (hv4.trans (by norm_num))

/-- **C18_accuracy** (whole property domain, unconditional) — for every rational `v ≠ 0`,
`|v| < 1e16`, and every `p ≥ 1`, `mantissa · 10^exponent` as computed by `FloatPrecision` is
within half a unit of the `p`-th significant digit of `v`. -/
theorem C18_accuracy_domain (v : ℚ) (p : ℕ) (hp : 1 ≤ p) (hv0 : v ≠ 0) (hv16 : |v| < 10000000000000000) :
    Accurate v p (((fp_mantissa v (exponent v p) : ℤ) : ℚ) * pow10 (exponent v p)) :=
  C18_accuracy v p _ hp (C18_exponent_decade_domain v p hp hv0 hv16)

/-- **C18_accuracy** (positional range, unconditional: the case `1e-4 ≤ |v|` of `C18_accuracy_domain`) —
for every rational `v` with `1e-4 ≤ |v| < 1e16` and every `p ≥ 1`, the number `mantissa · 10^exponent` computed by
`FloatPrecision` is within half a unit of the `p`-th significant digit of `v`. -/
theorem C18_accuracy_positional (v : ℚ) (p : ℕ) (hp : 1 ≤ p) (hv4 : 1 / 10000 ≤ |v|) (hv16 : |v| < 10000000000000000) :
    Accurate v p (((fp_mantissa v (exponent v p) : ℤ) : ℚ) * pow10 (exponent v p)) :=
  C18_accuracy_domain v p hp (abs_pos.mp (lt_of_lt_of_le (by norm_num) hv4)) hv16

example : ExpOK (47 / 10000000000) 2 (exponent (47 / 10000000000) 2) :=
  C18_exponent_decade_domain _ 2 (by norm_num) (by norm_num) (by norm_num [abs_of_pos])

theorem mantissa_digits (v : ℚ) (p : ℕ) (e : ℤ) (hp : 1 ≤ p) (h : ExpRegular v p e) :
    pow10 ((p : ℤ) - 1) ≤ |((fp_mantissa v e : ℤ) : ℚ)| ∧ |((fp_mantissa v e : ℤ) : ℚ)| ≤ pow10 (p : ℤ) := by
  obtain ⟨h1, h2⟩ := expRegular_iff.mp h
  have hlt : pow10 (e - 1) < pow10 (- -e) := pow10_lt_pow10 (by omega)
  rw [← Int.cast_abs, ← fp_mantissa_abs, fp_mantissa_eq, show (p : ℤ) - 1 = ((p - 1 : ℕ) : ℤ) by omega,
    pow10_natCast_int (p - 1), pow10_natCast_int p]
  constructor
  · exact_mod_cast le_rhe_of_near_pow10 (m := e + p - 1) (by linarith) (by omega)
  · exact_mod_cast rhe_mul_pow10_le h2 (by ring)

theorem ExpOK.regular_of_not_roundsUp {v : ℚ} {p : ℕ} {e : ℤ} (h : ExpOK v p e) (hn : ¬ RoundsUpToOne v p) :
    ExpRegular v p e := by
  rcases h with h | h | ⟨_, h1, h2⟩
  · exact Or.inl h
  · exact Or.inr h
  · exact absurd ⟨h1, h2⟩ hn

/-- **C18_mantissa_range** (property domain, unconditional) — for every rational `v ≠ 0`,
`|v| < 1e16`, every `p ≥ 1`, outside the rounds-up-to-one region, the mantissa scaled to the
engineering exponent satisfies `1 ≤ |mantissa3| ≤ 1000`. -/
theorem C18_mantissa_range_domain (v : ℚ) (p : ℕ) (hp : 1 ≤ p) (hv0 : v ≠ 0) (hv16 : |v| < 10000000000000000)
    (hn : ¬ RoundsUpToOne v p) :
    1 ≤ |f3_mantissa3 (fp_mantissa v (exponent v p)) (exponent v p) (f3_exponent3 p (exponent v p))|
    ∧ |f3_mantissa3 (fp_mantissa v (exponent v p)) (exponent v p) (f3_exponent3 p (exponent v p))| ≤ 1000 := by
  have hreg := (C18_exponent_decade_domain v p hp hv0 hv16).regular_of_not_roundsUp hn
  obtain ⟨a, b⟩ := mantissa_digits v p _ hp hreg
  exact C18_mantissa_range _ p _ a b

/-- **C18_saturate** (property domain, unconditional) — outside the rounds-up-to-one region
`is_inf` holds for every value beyond `1000·10^max_exp` and only for values that reach that
bound after rounding to `p` digits; its text is `∞` / `-∞` with the sign of `v`.
(Under `|v| < 1e16` the first conjunct is vacuous for every configuration without prefixes — `max_exp = 16`, so
`Beyond` needs `|v| ≥ 1e19`; it has content for the prefix tables, whose ends lie below 1e16.) -/
theorem C18_saturate_domain (c : SFCfg) (v : ℚ) (hp : 1 ≤ c.precision) (hv0 : v ≠ 0) (hv16 : |v| < 10000000000000000)
    (hn : ¬ RoundsUpToOne v c.precision) :
    (Beyond v (c.value3 v).maxExp → (c.value3 v).isInf = true)
    ∧ ((c.value3 v).isInf = true → BeyondRounded v c.precision (c.value3 v).maxExp
        ∧ c.str v = if 0 < v then ['∞'] else ['-', '∞']) := by
  have hok := C18_exponent_decade_domain v c.precision hp hv0 hv16
  obtain ⟨s1, s2⟩ := C18_saturate v c.precision (exponent v c.precision) (c.value3 v).maxExp hp
    (hok.regular_of_not_roundsUp hn)
  refine ⟨s1, fun hinf => ⟨s2 hinf, ?_⟩⟩
  have hsign : (c.value3 v).mantissa < 0 ↔ v < 0 := mantissa_neg_iff hp hok hv0
  rw [C18_saturate_text c v hinf]
  by_cases hv : v < 0
  · rw [if_neg (not_le.mpr (hsign.mpr hv)), if_neg (not_lt.mpr hv.le)]
  · rw [if_pos (not_lt.mp (mt hsign.mp hv)), if_pos (lt_of_le_of_ne (not_lt.mp hv) (Ne.symm hv0))]

example : ¬ RoundsUpToOne (1234 / 10) 3 := by
  unfold RoundsUpToOne; rw [abs_of_pos (by norm_num)]; norm_num

/-- `UnitOK` is the reader's `NoNum` (CC/Proofs/FmtRender.lean), word for word -/
theorem UnitOK.noNum {u : List Char} (h : UnitOK u) : NoNum u := h

theorem parseBack_cfg {c : SFCfg} (hcfg : CfgOK c) {e3 : ℤ} (h3 : e3 % 3 = 0) (neg : Bool) (ip F post : ℕ)
    (hF : F < 10 ^ post) :
    ∃ k : ℤ, sf_rebase_exp c.usePrefix c.table e3 + k = e3 ∧
      parseBack c.unit (mantText neg ip post F
          ++ (sf_exp_extension c.usePrefix c.table e3 ++ (sf_exp_prefix c.usePrefix c.table e3 ++ c.unit)))
        = some (.num { neg := neg, intPart := ip, fracNum := if post = 0 then 0 else F, fracLen := post,
                       expE := sf_rebase_exp c.usePrefix c.table e3, pfxKey := k }) := by
  obtain ⟨_, hunit, htab⟩ := hcfg
  rw [exp_extension_eq]
  cases hu : c.usePrefix with
  | false =>
    exact ⟨0, by simp [sf_rebase_exp], parseBack_render c.unit hunit.noNum neg ip F post hF _ _ 0 (Or.inl ⟨rfl, rfl⟩)⟩
  | true =>
    obtain ⟨hadm, hsi, hmin, hmax⟩ := htab hu
    obtain ⟨k, hk, hmem, hsum⟩ := prefix_clamp c.table hadm e3 h3
    refine ⟨k, hsum, parseBack_render c.unit hunit.noNum neg ip F post hF _ _ k ?_⟩
    rcases hmem with ⟨hk0, hpf⟩ | hmem
    · exact Or.inl ⟨hpf, hk0⟩
    · -- the key of the printed prefix is an end of the table or `e3`: a multiple of three, so an SI letter
      exact Or.inr (Table.si_sound hsi hmem (by rcases hk with rfl | rfl | rfl <;> assumption))

/-- **what `ScientificFloat.__str__` shows, for every value that is not saturated** (also `0`, also the `'1.0'` branch): the
reader returns a finite number whose digits are those of the scaled mantissa rounded to the decimals shown (`fixedK`),
whose sign is that of the scaled mantissa unless the integer part shown is `0`, and whose explicit exponent and prefix
denote the engineering exponent -/
theorem str_reads_back {c : SFCfg} (hcfg : CfgOK c) (v : ℚ) (hinf : (c.value3 v).isInf = false) :
    ∃ k : ℤ, sf_rebase_exp c.usePrefix c.table (c.value3 v).exponent3 + k = (c.value3 v).exponent3 ∧
      parseBack c.unit (c.str v) = some (.num
        { neg := decide ((c.value3 v).mantissa3 < 0)
            && decide (fixedK (c.value3 v).mantissa3 (postOf (c.value3 v).mantissa3 c.precision)
                        / 10 ^ postOf (c.value3 v).mantissa3 c.precision ≠ 0),
          intPart := fixedK (c.value3 v).mantissa3 (postOf (c.value3 v).mantissa3 c.precision)
                        / 10 ^ postOf (c.value3 v).mantissa3 c.precision,
          fracNum := if postOf (c.value3 v).mantissa3 c.precision = 0 then 0
                     else fixedK (c.value3 v).mantissa3 (postOf (c.value3 v).mantissa3 c.precision)
                        % 10 ^ postOf (c.value3 v).mantissa3 c.precision,
          fracLen := postOf (c.value3 v).mantissa3 c.precision,
          expE := sf_rebase_exp c.usePrefix c.table (c.value3 v).exponent3, pfxKey := k }) := by
  obtain ⟨k, hsum, hP⟩ := parseBack_cfg hcfg (C18_exp3 c.precision (exponent v c.precision)) _ _
    (fixedK (c.value3 v).mantissa3 (postOf (c.value3 v).mantissa3 c.precision)
      % 10 ^ postOf (c.value3 v).mantissa3 c.precision) _ (Nat.mod_lt _ (by positivity))
  rw [← mantissaText_eq] at hP
  exact ⟨k, hsum, (congrArg _ (str_of_not_inf c v hinf)).trans hP⟩

/-- the verified round trip: for every configuration (`p ≥ 1`, a unit the
reader can tell apart from a number, with prefixes an admissible SI table) and every value
whose exponent stage is regular and that is not saturated, the reader applied to the text of
`ScientificFloat.__str__` returns a number with exactly the mantissa `|mantissa3|`, the sign of
`mantissa3`, and explicit exponent plus prefix denoting exactly `exponent3`. -/
theorem C18_render : C18_render_statement := by
  intro c v _hv0 hcfg hreg hinf
  obtain ⟨dlo, dhi⟩ := mantissa_digits v c.precision (exponent v c.precision) hcfg.1 hreg
  have r1 : 1 ≤ |(c.value3 v).mantissa3| := (C18_mantissa_range _ (c.precision : ℤ) (exponent v c.precision) dlo dhi).1
  obtain ⟨N, hN⟩ : ∃ N : ℕ, |(c.value3 v).mantissa3|
      * ((10 ^ (c.precision - numDigits ⌊|(c.value3 v).mantissa3|⌋.toNat) : ℕ) : ℚ) = (N : ℚ) :=
    mantissa3_integral _ (exponent v c.precision) c.precision dhi
  obtain ⟨k, hsum, hq⟩ := str_reads_back hcfg v hinf
  -- the decimals shown are exact, so the digits are those of `|mantissa3|` itself: no second rounding
  have hK : (fixedK (c.value3 v).mantissa3 (postOf (c.value3 v).mantissa3 c.precision) : ℚ)
      = |(c.value3 v).mantissa3| * ((10 ^ postOf (c.value3 v).mantissa3 c.precision : ℕ) : ℚ) := by
    rw [fixedK_cast, qabs_eq_abs, postOf_of_one_le r1, hN, ← Int.cast_natCast (R := ℚ) N, rhe_intCast]
  have hP : (0 : ℚ) < ((10 ^ postOf (c.value3 v).mantissa3 c.precision : ℕ) : ℚ) := by positivity
  refine ⟨_, hq, hsum, (mantText_value _ _).trans (by rw [hK, mul_div_cancel_right₀ _ hP.ne']), ?_⟩
  have hip0 : fixedK (c.value3 v).mantissa3 (postOf (c.value3 v).mantissa3 c.precision)
      / 10 ^ postOf (c.value3 v).mantissa3 c.precision ≠ 0 := by
    refine (Nat.div_pos ?_ (by positivity)).ne'
    have := mul_le_mul_of_nonneg_right r1 hP.le
    rw [one_mul, ← hK] at this; exact_mod_cast this
  simp [hip0]

/-- **C18 for real values on the property domain** — for every configuration (`CfgOK`), every
rational `v ≠ 0` with `|v| < 1e16` outside the rounds-up-to-one region: the text of
`ScientificFloat` reads back (`parseBack`) to a number within half a unit of the `p`-th
significant digit of `v`, with an exponent (explicit + prefix) that is a multiple of three, a
mantissa in `[1, 1000]` and the sign of `v`; it is `∞`/`-∞` with the sign of `v` exactly beyond
the range (`RealOK`, all clauses, no allowance). -/
theorem C18_real_domain (c : SFCfg) (v : ℚ) (hv0 : v ≠ 0) (hcfg : CfgOK c) (hn : ¬ RoundsUpToOne v c.precision)
    (hv16 : |v| < 10000000000000000) :
    RealOK v c.precision (c.value3 v).maxExp c.unit (c.str v) := by
  have hp := hcfg.1
  have hok := C18_exponent_decade_domain v c.precision hp hv0 hv16
  obtain ⟨sat1, sat2⟩ := C18_saturate_domain c v hp hv0 hv16 hn
  unfold RealOK
  cases hinf : (c.value3 v).isInf with
  | true =>
    obtain ⟨hbr, htxt⟩ := sat2 hinf
    rw [htxt]
    rcases lt_or_gt_of_ne hv0 with hneg | hpos
    · rw [if_neg (not_lt.mpr (le_of_lt hneg)), parseBack_inf_neg]
      exact (realFailures_inf ..).mpr ⟨hbr, (decide_eq_true hneg).symm⟩
    · rw [if_pos hpos, parseBack_inf_pos]
      exact (realFailures_inf ..).mpr ⟨hbr, (decide_eq_false (not_lt.mpr hpos.le)).symm⟩
  | false =>
    obtain ⟨q, hq, hexp, hmant, hneg⟩ := C18_render c v hv0 hcfg (hok.regular_of_not_roundsUp hn) hinf
    rw [hq]
    have c1 : ¬ Beyond v (c.value3 v).maxExp := fun hb => by simpa [hinf] using sat1 hb
    have c2 : q.exp % 3 = 0 := by rw [hexp]; exact C18_exp3 _ _
    have c3 : 1 ≤ q.mant ∧ q.mant ≤ 1000 := by
      rw [hmant]; exact C18_mantissa_range_domain v c.precision hp hv0 hv16 hn
    -- the text denotes `mantissa3 · 10^exponent3 = mantissa · 10^exponent`
    have hm3 : (c.value3 v).mantissa3 = ((fp_mantissa v (exponent v c.precision) : ℤ) : ℚ)
        * pow10 (exponent v c.precision - (c.value3 v).exponent3) := rfl
    have hval : q.value = ((fp_mantissa v (exponent v c.precision) : ℤ) : ℚ) * pow10 (exponent v c.precision) := by
      rw [Parsed.value_eq hmant hneg, hexp, hm3, mul_assoc, ← pow10_add, sub_add_cancel]
    have c4 : AccurateTol 0 v c.precision q.value := by
      unfold AccurateTol
      rw [hval, zero_mul, add_zero]
      exact C18_accuracy_domain v c.precision hp hv0 hv16
    have c5 : q.neg = decide (v < 0) := by
      have hP := pow10_pos (exponent v c.precision - (c.value3 v).exponent3)
      have hM := mantissa_neg_iff hp hok hv0
      rw [Bool.eq_iff_iff, hneg, hm3, decide_eq_true_iff]
      exact ⟨fun h => hM.mp (Int.cast_lt_zero.mp (neg_of_mul_neg_left h hP.le)),
        fun h => mul_neg_of_neg_of_pos (Int.cast_lt_zero.mpr (hM.mpr h)) hP⟩
    exact (realFailures_num ..).mpr ⟨c1, c2, c3, c4, Or.inr c5⟩

/-- a value of the property domain outside the open-finding regions of `exponent` -/
def InDomain (v : ℚ) (p : ℕ) : Prop := v ≠ 0 ∧ |v| < 10000000000000000 ∧ ¬ RoundsUpToOne v p

theorem InDomain.ne_zero {v : ℚ} {p : ℕ} (h : InDomain v p) : v ≠ 0 := h.1
theorem InDomain.abs_lt {v : ℚ} {p : ℕ} (h : InDomain v p) : |v| < 10000000000000000 := h.2.1
theorem InDomain.not_roundsUp {v : ℚ} {p : ℕ} (h : InDomain v p) : ¬ RoundsUpToOne v p := h.2.2

theorem InDomain.of_one_le {x : ℚ} (p : ℕ) (h1 : 1 ≤ |x|) (h16 : |x| < 10000000000000000) : InDomain x p :=
  ⟨abs_pos.mp (zero_lt_one.trans_le h1), h16, fun h => absurd h.2 (not_lt.mpr h1)⟩

theorem InDomain.magnitude {v : ℚ} {p : ℕ} (h : InDomain v p) : InDomain (CC.Fmt.qabs v) p := by
  obtain ⟨h0, h16, hn⟩ := h
  have e : |qabs v| = |v| := by rw [qabs_eq_abs, abs_abs]
  refine ⟨by rw [qabs_eq_abs]; exact abs_ne_zero.mpr h0, by rw [e]; exact h16, ?_⟩
  unfold RoundsUpToOne at hn ⊢; rw [e]; exact hn

theorem RealOK.parse {v : ℚ} {p : ℕ} {m : ℤ} {u s : List Char} (h : RealOK v p m u s) :
    ∃ t, parseBack u s = some t ∧ realFailures v p m (some t) = [] := by
  unfold RealOK at h
  cases hp : parseBack u s with
  | none => rw [hp] at h; simp [realFailures] at h
  | some t => rw [hp] at h; exact ⟨t, rfl, h⟩

theorem CfgOK.realOK {c : SFCfg} (hcfg : CfgOK c) {v : ℚ} (h : InDomain v c.precision) :
    RealOK v c.precision (c.value3 v).maxExp c.unit (c.str v) :=
  C18_real_domain c v h.ne_zero hcfg h.not_roundsUp h.abs_lt

/-- (text level, Cartesian) for every `CfgOK` configuration and every complex value
*both of whose parts are non-zero and in the domain*: which parts appear is decided by `is_zero` of `|im|` and `|re|`
(each branch stated with its condition), the signs are those of `re` and `im`, and the part texts `Tre`, `Tim` read
back (`RealOK`) to the magnitude of their parts.

What this does **not** say: that the *right* parts appear.  `is_zero` drops parts the prefixes can express (`C18_complex_suppression_counterexample` takes the first branch with `|im| = 20·|re|`), and a text `T` that
is not shown in the branch taken is still covered by the `RealOK` conjunct although it is not in the output.  Values
with a zero part (purely real / purely imaginary) are excluded by `InDomain`. -/
theorem C18_complex_shown_parts (c : SCCfg) (re im absV angle : ℚ) (hpol : c.polar = false) (hcfg : CfgOK c.toSFCfg)
    (hre : InDomain re c.precision) (him : InDomain im c.precision) :
    let sr : List Char := if 0 ≤ re then [] else if c.compact then ['-'] else ['-', ' ']
    let si : List Char := if 0 ≤ im then (if c.compact then ['+'] else [' ', '+', ' '])
                          else (if c.compact then ['-'] else [' ', '-', ' '])
    let Tre := c.toSFCfg.str (qabs re)
    let Tim := c.toSFCfg.str (qabs im)
    let Zre := (c.toSFCfg.value3 (qabs re)).isZero
    let Zim := (c.toSFCfg.value3 (qabs im)).isZero
    (Zim = true → c.str re im absV angle = sr ++ Tre)
    ∧ (Zim = false → Zre = true → im < 0 → c.str re im absV angle = si ++ ['j'] ++ Tim)
    ∧ (Zim = false → Zre = true → ¬ im < 0 → c.str re im absV angle = ['j'] ++ Tim)
    ∧ (Zim = false → Zre = false → c.str re im absV angle = sr ++ Tre ++ si ++ ['j'] ++ Tim)
    ∧ RealOK (qabs re) c.precision (c.toSFCfg.value3 (qabs re)).maxExp c.unit Tre
    ∧ RealOK (qabs im) c.precision (c.toSFCfg.value3 (qabs im)).maxExp c.unit Tim := by
  intro sr si Tre Tim Zre Zim
  have hs := C18_complex c re im absV angle hpol
  simp only at hs
  have nt : ∀ {b : Bool}, b = false → ¬ b = true := by intro b h; rw [h]; decide
  refine ⟨?_, ?_, ?_, ?_, hcfg.realOK hre.magnitude, hcfg.realOK him.magnitude⟩
  · intro hz; rw [hs, if_pos hz]
  · intro hz1 hz2 hneg
    rw [hs, if_neg (nt hz1), if_pos hz2, if_pos hneg]
  · intro hz1 hz2 hneg
    rw [hs, if_neg (nt hz1), if_pos hz2, if_neg hneg]
  · intro hz1 hz2
    rw [hs, if_neg (nt hz1), if_neg (nt hz2)]

/-- the end of the range does not move with the number of digits (before /repo edb6a6b
`print_real(50e3, 'V', precision=1)` was `'∞'` and `1.2e8` at six digits a finite text; in general `C18_saturate`,
`C18_real_domain`). -/
theorem C18_saturation_independent_of_precision :
    printReal 50000 ['V'] 1 = ['5', '0', 'k', 'V']
    ∧ RealOK 50000 1 3 ['V'] (printReal 50000 ['V'] 1)
    ∧ printReal 120000000 ['V'] 6 = ['∞']
    ∧ RealOK 120000000 6 3 ['V'] (printReal 120000000 ['V'] 6) := by
  decide +kernel

end CC
