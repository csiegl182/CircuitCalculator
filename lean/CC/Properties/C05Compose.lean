/-
  C05 — compositions of the power balance with the results of C09 (time-domain superposition)
  and C12 (transient samples).

  `C05_instant` needs Kirchhoff's two laws at one instant.  Here those hypotheses are discharged: for every
  sample of the simulated system (ANY state x, input u — hence any integrator) and for its frequency response
  through C12; for a report superposed from lines `φ_l(R_l)` with additive maps `φ_l` because Kirchhoff's laws
  are additive, of which the time-domain solution `v(t) = Σ_l Re(V_l·e^{j w_l t})` at any instant is the
  instance over the per-frequency phasor solutions (C01_sound per frequency).
-/
import CC.Properties.C05
import CC.Properties.C12
import Mathlib.Data.Complex.Basic

set_option linter.unusedSectionVars false

namespace CC
open Matrix Mx

section
variable {L K : Type} [DecidableEq L] [LabelOrd L] [Field K] [DecidableEq K]

/-- **C05 ∘ C12 (every transient sample balances).**  For the executable state-space model (any
certificates), ANY state `x` and input `u`: the instantaneous powers `v·i` of all elements of the
circuit at that sample — capacitor `k` carrying `C_k·ẋ_k`, inductor `k` holding `L_k·ẋ_k` — sum to zero. -/
theorem C05_transient_sample {N : Net L K} {cvals lvals : ValDict K} {Ainv S Delta : List (List K)}
    {m : SSMats K} (h : RLC N cvals lvals) (hD : ssDelta N cvals = .ok Delta)
    (hm : stateSpaceMatrices N cvals lvals Ainv S = .ok m)
    (hc : ModelCert id N cvals lvals Ainv S Delta)
    (x : Fin (ssNStates N cvals lvals) → K) (u : Fin (ssNInputs N lvals) → K) :
    let y := toM N.nY (ssNStates N cvals lvals) m.C *ᵥ x + toM N.nY (ssNInputs N lvals) m.D *ᵥ u
    let xdot := toM (ssNStates N cvals lvals) (ssNStates N cvals lvals) m.A *ᵥ x
                + toM (ssNStates N cvals lvals) (ssNInputs N lvals) m.B *ᵥ u
    let P := sampleNet N cvals lvals (ssSources N lvals) (List.ofFn u) (List.ofFn xdot)
    (P.branches.map fun b => (P.reportOf (List.ofFn y)).v b.id
        * b.e.physCurrent ((P.reportOf (List.ofFn y)).i b.id)).sum = 0 := by
  intro y xdot P
  have hE := C12_sample_circuit h hD hm hc x u
  exact C05_instant P _ hE.volt hE.kcl_all

/-- **C05 ∘ C12 (frequency response balances).**  At every complex frequency `s` the complex powers
`V·conj(I)` of the simulated system's response sum to zero over the phasor circuit at `s`. -/
theorem C05_periodic_steady (conj : K →+* K) {N : Net L K} {cvals lvals : ValDict K}
    {Ainv S Delta : List (List K)}
    {m : SSMats K} (h : RLC N cvals lvals) (hD : ssDelta N cvals = .ok Delta)
    (hm : stateSpaceMatrices N cvals lvals Ainv S = .ok m)
    (hc : ModelCert id N cvals lvals Ainv S Delta)
    (s : K) (x : Fin (ssNStates N cvals lvals) → K) (u : Fin (ssNInputs N lvals) → K)
    (hx : s • x = toM _ _ m.A *ᵥ x + toM _ _ m.B *ᵥ u) :
    let y := toM N.nY (ssNStates N cvals lvals) m.C *ᵥ x + toM N.nY (ssNInputs N lvals) m.D *ᵥ u
    let P := sampleNet N cvals lvals (ssSources N lvals) (List.ofFn u) (List.ofFn (s • x))
    let Q := phasorNet N cvals lvals (ssSources N lvals) (List.ofFn u) s
    (Q.branches.map fun b => (P.reportOf (List.ofFn y)).v b.id
        * conj (b.e.physCurrent ((P.reportOf (List.ofFn y)).i b.id))).sum = 0 := by
  intro y P Q
  exact C05_tellegen conj Q _ (C12_periodic_steady h hD hm hc s x u hx)

end

section
variable {L K : Type} [DecidableEq L] [Field K] [DecidableEq K]

/-- superposition of line reports through additive maps: `Σ_l φ_l(R_l)` -/
def superpose : List ((K →+ K) × Report L K) → Report L K
  | [] => ⟨fun _ => 0, fun _ => 0, fun _ => 0⟩
  | l :: t => ⟨fun n => l.1 (l.2.pot n) + (superpose t).pot n,
               fun k => l.1 (l.2.v k) + (superpose t).v k,
               fun k => l.1 (l.2.i k) + (superpose t).i k⟩

theorem voltResidual_superpose (lines : List ((K →+ K) × Report L K)) (b : Branch L K) :
    voltResidual (superpose lines) b = (lines.map fun l => l.1 (voltResidual l.2 b)).sum := by
  induction lines with
  | nil => simp [superpose, voltResidual]
  | cons l t ih =>
    rw [List.map_cons, List.sum_cons, ← ih]
    simp only [voltResidual, superpose, map_sub]
    ring

theorem physCurrent_add_hom (e : Elem K) (φ : K →+ K) (a r : K) :
    e.physCurrent (φ a + r) = φ (e.physCurrent a) + e.physCurrent r := by
  unfold Elem.physCurrent
  by_cases h : e.isLossy = true <;> simp [h, add_comm]

theorem kclResidual_superpose (N : Net L K) (lines : List ((K →+ K) × Report L K)) (n : L) :
    kclResidual N (superpose lines) n = (lines.map fun l => l.1 (kclResidual N l.2 n)).sum := by
  induction lines with
  | nil =>
    simp only [List.map_nil, List.sum_nil]
    unfold kclResidual
    exact sum_map_eq_zero _ _ fun b _ => by simp [superpose, physCurrent_zero]
  | cons l t ih =>
    rw [List.map_cons, List.sum_cons, ← ih]
    unfold kclResidual
    rw [map_list_sum, List.map_map, ← List.sum_map_add]
    apply congrArg; apply List.map_congr_left
    intro b _
    simp only [superpose, Function.comp_apply]
    rw [physCurrent_add_hom, mul_add, incidence_mul_hom]

/-- **C05 (superposed reports balance).**  If every line report satisfies Kirchhoff's voltage and
current laws on `N`, the superposed report does, and its instantaneous powers sum to zero. -/
theorem C05_superposed (N : Net L K) (lines : List ((K →+ K) × Report L K))
    (hv : ∀ l ∈ lines, ∀ b ∈ N.branches, voltResidual l.2 b = 0)
    (hk : ∀ l ∈ lines, ∀ n, kclResidual N l.2 n = 0) :
    (N.branches.map fun b => (superpose lines).v b.id
        * b.e.physCurrent ((superpose lines).i b.id)).sum = 0 := by
  apply C05_instant N
  · intro b hb
    rw [voltResidual_superpose]
    exact sum_map_eq_zero _ _ fun l hl => by rw [hv l hl b hb, map_zero]
  · intro n
    rw [kclResidual_superpose]
    exact sum_map_eq_zero _ _ fun l hl => by rw [hk l hl n, map_zero]

end

section
variable {L : Type} [DecidableEq L]

/-- `x ↦ Re(x·z)` as an additive map ℂ → ℂ: one spectral line evaluated at an instant
(`z = e^{j w t}`) -/
def reLine (z : ℂ) : ℂ →+ ℂ where
  toFun x := ((x * z).re : ℂ)
  map_zero' := by simp
  map_add' a b := by simp [add_mul]

@[simp] theorem reLine_apply (z x : ℂ) : reLine z x = ((x * z).re : ℂ) := rfl

/-- **C05 ∘ C09 (time-domain solutions balance at every instant).**  With phasor reports `R_l` that
satisfy Kirchhoff's laws per frequency (C01_sound per analysed frequency) and `z_l = e^{j w_l t}`,
the instantaneous values `v(t) = Σ_l Re(V_l z_l)`, `i(t) = Σ_l Re(I_l z_l)` have powers
`p(t) = v(t)·i(t)` that sum to zero over the elements. -/
theorem C05_time_domain (N : Net L ℂ) (lines : List (ℂ × Report L ℂ))
    (hv : ∀ l ∈ lines, ∀ b ∈ N.branches, voltResidual l.2 b = 0)
    (hk : ∀ l ∈ lines, ∀ n, kclResidual N l.2 n = 0) :
    let R := superpose (lines.map fun l => (reLine l.1, l.2))
    (N.branches.map fun b => R.v b.id * b.e.physCurrent (R.i b.id)).sum = 0 := by
  intro R
  apply C05_superposed N
  · intro l hl
    obtain ⟨l', hl', rfl⟩ := List.mem_map.mp hl
    exact hv l' hl'
  · intro l hl
    obtain ⟨l', hl', rfl⟩ := List.mem_map.mp hl
    exact hk l' hl'

/-- the superposed voltage really is `Σ_l Re(V_l z_l)` -/
theorem superpose_reLine_v (lines : List (ℂ × Report L ℂ)) (k : String) :
    (superpose (lines.map fun l => (reLine l.1, l.2))).v k
      = (((lines.map fun l => (l.2.v k * l.1).re).sum : ℝ) : ℂ) := by
  induction lines with
  | nil => simp [superpose]
  | cons l t ih => simp [superpose, ih]

/-- non-vacuity: one line of a one-branch loop -/
example : (superpose (L := Nat) [(reLine 1, ⟨fun _ => 0, fun _ => 2, fun _ => 3⟩)]).v "a" = 2 := by
  simp [superpose]

end
end CC
