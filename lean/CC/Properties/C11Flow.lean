/-
  C11 (flow clause) — along the flow of the derived dynamics the stored energy cannot grow.

  `C11.lean` proves the RATE form: `xᵀ(W A + Aᵀ W)x ≤ 0` at every state (`C11_lyapunov`,
  `C11_model_lyapunov` for the `A` the executable model returns).  This file integrates it, over ℝ (Mathlib
  analysis): for every function `x` with `ẋ = A x + B u(t)` the energy `xᵀPx` is antitone on every convex set of
  times on which the input vanishes, hence the state and every output row stay bounded by the energy at the moment
  the sources have returned to zero; the flow exists: `t ↦ exp(tA) x₀`.
  `C11_flow_of_model_lyapunov` takes the conclusion of `C11_model_lyapunov` VERBATIM as hypothesis; the `C11_model_*`
  theorems are the composition with the model over `K := ℝ` (RLC network without negative conductances, any
  certificates), for the stored energy `½ΣC v² + ½ΣL i²`.

  What this does NOT say: a "solution" is a function with the stated derivative — the EXACT flow of the
  differential equation.  `scipy.signal.lsim` (which `TransientSolution` calls and which evaluates
  `exp(A·Δt)` numerically on a sampling grid, with an interpolation of the input between samples) is
  not modelled; that the simulated samples follow this flow stays a trusted assumption of the
  sampled-energy oracle.  Binary64 rounding of `A` is outside as well (the theorems speak about the
  model's exact `A` over ℝ).
-/
import CC.Properties.C11
import CC.Proofs.StateFlow

set_option linter.unusedSectionVars false

namespace CC
open Matrix Mx StateFlow

section abstract
variable {n q : Type} [Fintype n] [Fintype q] [DecidableEq n] [DecidableEq q]

/-- along `ẋ = A x` (derivative within the set of times `T`) the form `xᵀPx` HAS the derivative
`xᵀ(P A + Aᵀ P)x` — the analytic content behind `C11_energy_rate` (for symmetric `P = W` this is
`2·xᵀW(Ax)`). -/
theorem C11_flow_energy_deriv (A P : Matrix n n ℝ) {x : ℝ → n → ℝ} {T : Set ℝ} {t : ℝ}
    (hx : HasDerivWithinAt x (A *ᵥ x t) T t) :
    HasDerivWithinAt (fun s => x s ⬝ᵥ P *ᵥ x s) (x t ⬝ᵥ (P * A + Aᵀ * P) *ᵥ x t) T t := by
  rw [StateAlg.lyap_split]
  exact hasDerivWithinAt_quad P hx

/-- **Lyapunov flow lemma.**  `A`, `P` real square matrices with the rate inequality
`xᵀ(P A + Aᵀ P)x ≤ 0` for every `x` (the form in which `C11_lyapunov` / `C11_model_lyapunov` state it;
`P` need not be symmetric or definite here).  `T` a convex set of times (interval, half line, ℝ), `x` any
function with derivative `A x(t)` within `T` at every `t ∈ T` (one-sided at end points).  Then
`t ↦ x(t)ᵀ P x(t)` is antitone on `T`.  Speaks about exact solutions of the ODE only. -/
theorem C11_flow_antitone (A P : Matrix n n ℝ)
    (hlyap : ∀ x : n → ℝ, x ⬝ᵥ (P * A + Aᵀ * P) *ᵥ x ≤ 0)
    {T : Set ℝ} (hT : Convex ℝ T) {x : ℝ → n → ℝ}
    (hx : ∀ t ∈ T, HasDerivWithinAt x (A *ᵥ x t) T t) :
    AntitoneOn (fun t => x t ⬝ᵥ P *ᵥ x t) T :=
  antitoneOn_of_hasDerivWithinAt_nonpos hT
    (fun t ht => (C11_flow_energy_deriv A P (hx t ht)).continuousWithinAt)
    (fun t ht => (C11_flow_energy_deriv A P (hx t (interior_subset ht))).mono interior_subset)
    fun t _ => hlyap (x t)

theorem C11_flow_antitone_global (A P : Matrix n n ℝ)
    (hlyap : ∀ x : n → ℝ, x ⬝ᵥ (P * A + Aᵀ * P) *ᵥ x ≤ 0)
    {x : ℝ → n → ℝ} (hx : ∀ t, HasDerivAt x (A *ᵥ x t) t) :
    Antitone fun t => x t ⬝ᵥ P *ᵥ x t :=
  antitoneOn_univ.1 <| C11_flow_antitone A P hlyap convex_univ fun t _ => (hx t).hasDerivWithinAt

/-- **bounded response.**  If moreover `λ·xᵀx ≤ xᵀPx` with `λ > 0` (`P` positive definite), a solution on
`T` satisfies `x(t)ᵀx(t) ≤ x(t₀)ᵀPx(t₀)/λ`, and so does the square of every component, for all
`t₀ ≤ t` in `T`. -/
theorem C11_flow_bounded (A P : Matrix n n ℝ)
    (hlyap : ∀ x : n → ℝ, x ⬝ᵥ (P * A + Aᵀ * P) *ᵥ x ≤ 0)
    {lam : ℝ} (hlam : 0 < lam) (hP : ∀ x : n → ℝ, lam * (x ⬝ᵥ x) ≤ x ⬝ᵥ P *ᵥ x)
    {T : Set ℝ} (hT : Convex ℝ T) {x : ℝ → n → ℝ}
    (hx : ∀ t ∈ T, HasDerivWithinAt x (A *ᵥ x t) T t)
    {t0 t : ℝ} (ht0 : t0 ∈ T) (ht : t ∈ T) (h : t0 ≤ t) :
    x t ⬝ᵥ x t ≤ (x t0 ⬝ᵥ P *ᵥ x t0) / lam ∧ ∀ k, x t k ^ 2 ≤ (x t0 ⬝ᵥ P *ᵥ x t0) / lam := by
  have hb := bounded_of_antitoneOn P hlam hP (C11_flow_antitone A P hlyap hT hx) ht0 ht h
  exact ⟨hb, fun k => (sq_le_dot_self (x t) k).trans hb⟩

/-- **forced system** `ẋ = A x + B u(t)`: on a convex set of times on which the input is zero the
energy is antitone -/
theorem C11_flow_forced (A P : Matrix n n ℝ) (B : Matrix n q ℝ)
    (hlyap : ∀ x : n → ℝ, x ⬝ᵥ (P * A + Aᵀ * P) *ᵥ x ≤ 0)
    {T : Set ℝ} (hT : Convex ℝ T) {x : ℝ → n → ℝ} {u : ℝ → q → ℝ}
    (hx : ∀ t ∈ T, HasDerivWithinAt x (A *ᵥ x t + B *ᵥ u t) T t)
    (hu : ∀ t ∈ T, u t = 0) :
    AntitoneOn (fun t => x t ⬝ᵥ P *ᵥ x t) T :=
  C11_flow_antitone A P hlyap hT (unforced A B hx hu)

/-- **after all sources have returned to zero.**  `x` solves `ẋ = A x + B u(t)` at all times (any input
before `t₁`), `u(t) = 0` for `t ≥ t₁`: the energy is antitone on `[t₁, ∞)`; with `λ·xᵀx ≤ xᵀPx`,
`λ > 0`, the response stays bounded by the energy at `t₁`. -/
theorem C11_flow_after_sources (A P : Matrix n n ℝ) (B : Matrix n q ℝ)
    (hlyap : ∀ x : n → ℝ, x ⬝ᵥ (P * A + Aᵀ * P) *ᵥ x ≤ 0)
    {x : ℝ → n → ℝ} {u : ℝ → q → ℝ} {t1 : ℝ}
    (hx : ∀ t, HasDerivAt x (A *ᵥ x t + B *ᵥ u t) t) (hu : ∀ t, t1 ≤ t → u t = 0) :
    AntitoneOn (fun t => x t ⬝ᵥ P *ᵥ x t) (Set.Ici t1)
    ∧ ∀ lam : ℝ, 0 < lam → (∀ x : n → ℝ, lam * (x ⬝ᵥ x) ≤ x ⬝ᵥ P *ᵥ x) →
        ∀ t, t1 ≤ t → x t ⬝ᵥ x t ≤ (x t1 ⬝ᵥ P *ᵥ x t1) / lam := by
  have h := C11_flow_forced A P B hlyap (convex_Ici t1) (fun t _ => (hx t).hasDerivWithinAt) hu
  exact ⟨h, fun lam hlam hP t ht => bounded_of_antitoneOn P hlam hP h Set.self_mem_Ici ht ht⟩

theorem C11_stored_eq (w x : n → ℝ) : stored w x = (1 / 2) * (x ⬝ᵥ diagonal w *ᵥ x) := by
  rw [StateAlg.dot_diagonal_mulVec, stored]

theorem stored_antitoneOn (A : Matrix n n ℝ) (w : n → ℝ)
    (hlyap : ∀ x : n → ℝ, x ⬝ᵥ (diagonal w * A + Aᵀ * diagonal w) *ᵥ x ≤ 0)
    {T : Set ℝ} (hT : Convex ℝ T) {x : ℝ → n → ℝ}
    (hx : ∀ t ∈ T, HasDerivWithinAt x (A *ᵥ x t) T t) :
    AntitoneOn (fun t => stored w (x t)) T := by
  intro a ha b hb hab
  simp only [C11_stored_eq]
  exact mul_le_mul_of_nonneg_left (C11_flow_antitone A (diagonal w) hlyap hT hx ha hb hab) (by norm_num)

theorem norm_bounded_after_sources (A : Matrix n n ℝ) (B : Matrix n q ℝ) (w : n → ℝ)
    (hlyap : ∀ x : n → ℝ, x ⬝ᵥ (diagonal w * A + Aᵀ * diagonal w) *ᵥ x ≤ 0)
    {lam : ℝ} (hlam : 0 < lam) (hw : ∀ k, lam ≤ w k) {x : ℝ → n → ℝ} {u : ℝ → q → ℝ} {t1 : ℝ}
    (hx : ∀ t, HasDerivAt x (A *ᵥ x t + B *ᵥ u t) t) (hu : ∀ t, t1 ≤ t → u t = 0) {t : ℝ} (ht : t1 ≤ t) :
    x t ⬝ᵥ x t ≤ 2 * stored w (x t1) / lam := by
  have h := (C11_flow_after_sources A (diagonal w) B hlyap hx hu).2 lam hlam (diag_lower w hw) t ht
  rwa [C11_stored_eq, ← mul_assoc, mul_one_div_cancel two_ne_zero, one_mul]

/-- **the flow exists and the energy decreases along it** ("along exp(tA)").  For every initial state `x₀`,
`x(t) = exp(tA)·x₀` (Mathlib's matrix exponential, Banach-algebra `NormedSpace.exp`) solves `ẋ = A x`,
`x(0) = x₀`, and under the rate inequality for `W = diag(w)` the stored energy `½ Σ_k w_k x_k(t)²` is
antitone in `t` on all of ℝ. -/
theorem C11_flow_exp (A : Matrix n n ℝ) (w : n → ℝ)
    (hlyap : ∀ x : n → ℝ, x ⬝ᵥ (diagonal w * A + Aᵀ * diagonal w) *ᵥ x ≤ 0) (x0 : n → ℝ) :
    (∀ t : ℝ, HasDerivAt (fun s : ℝ => NormedSpace.exp (s • A) *ᵥ x0) (A *ᵥ (NormedSpace.exp (t • A) *ᵥ x0)) t)
    ∧ NormedSpace.exp ((0 : ℝ) • A) *ᵥ x0 = x0
    ∧ Antitone fun t : ℝ => (1 / 2) * ∑ k, w k * (NormedSpace.exp (t • A) *ᵥ x0) k ^ 2 :=
  ⟨hasDerivAt_exp_mulVec A x0, exp_zero_mulVec A x0, antitoneOn_univ.1 <|
    stored_antitoneOn A w hlyap convex_univ fun t _ => (hasDerivAt_exp_mulVec A x0 t).hasDerivWithinAt⟩

/-- Cauchy–Schwarz for one output row, with a bound `c` on `xᵀx` -/
theorem row_sq_le {r : Type} (Cm : Matrix r n ℝ) (i : r) {x : n → ℝ} {c : ℝ} (h : x ⬝ᵥ x ≤ c) :
    (Cm *ᵥ x) i ^ 2 ≤ (∑ j, Cm i j ^ 2) * c := by
  have e : x ⬝ᵥ x = ∑ j, x j ^ 2 := Finset.sum_congr rfl fun j _ => (pow_two _).symm
  exact (Finset.sum_mul_sq_le_sq_mul_sq Finset.univ (fun j => Cm i j) x).trans
    (mul_le_mul_of_nonneg_left (e ▸ h) (Finset.sum_nonneg fun _ _ => sq_nonneg _))

/-- **bounded outputs.**  Every output `y = Cm·x(t)` of a solution of `ẋ = A x` on `T` (the potentials,
voltages and currents `C x + D u` read off the state after the input has returned to zero) satisfies
`y_i(t)² ≤ (Σ_j Cm_ij²)·x(t₀)ᵀPx(t₀)/λ` for `t₀ ≤ t` in `T`. -/
theorem C11_flow_output_bounded {r : Type} [Fintype r] (A P : Matrix n n ℝ) (Cm : Matrix r n ℝ)
    (hlyap : ∀ x : n → ℝ, x ⬝ᵥ (P * A + Aᵀ * P) *ᵥ x ≤ 0)
    {lam : ℝ} (hlam : 0 < lam) (hP : ∀ x : n → ℝ, lam * (x ⬝ᵥ x) ≤ x ⬝ᵥ P *ᵥ x)
    {T : Set ℝ} (hT : Convex ℝ T) {x : ℝ → n → ℝ}
    (hx : ∀ t ∈ T, HasDerivWithinAt x (A *ᵥ x t) T t)
    {t0 t : ℝ} (ht0 : t0 ∈ T) (ht : t ∈ T) (h : t0 ≤ t) (i : r) :
    (Cm *ᵥ x t) i ^ 2 ≤ (∑ j, Cm i j ^ 2) * ((x t0 ⬝ᵥ P *ᵥ x t0) / lam) :=
  row_sq_le Cm i (C11_flow_bounded A P hlyap hlam hP hT hx ht0 ht h).1

end abstract

/-- series R–L–C loop with `C = 2`, `L = 1/2`, `R = 1` (states `(v_C, i_L)`):
`A = [[0, 1/C], [−1/L, −R/L]]`, `W = diag(C, L)`: the rate inequality holds (`xᵀ(WA+AᵀW)x = −2R·i_L²`),
`W ≥ ½·1`, and through every `x₀` there is a solution of `ẋ = A x` — the hypotheses of
`C11_flow_antitone`, `C11_flow_antitone_global`, `C11_flow_bounded`, `C11_flow_exp` -/
example :
    let A : Matrix (Fin 2) (Fin 2) ℝ := !![0, 1 / 2; -2, -2]
    let w : Fin 2 → ℝ := ![2, 1 / 2]
    (∀ x : Fin 2 → ℝ, x ⬝ᵥ (diagonal w * A + Aᵀ * diagonal w) *ᵥ x ≤ 0)
    ∧ (∀ x : Fin 2 → ℝ, (1 / 2) * (x ⬝ᵥ x) ≤ x ⬝ᵥ diagonal w *ᵥ x)
    ∧ ∀ x0 : Fin 2 → ℝ, ∃ x : ℝ → Fin 2 → ℝ, x 0 = x0 ∧ ∀ t, HasDerivAt x (A *ᵥ x t) t := by
  intro A w
  refine ⟨?_, ?_, ?_⟩
  · intro x
    rw [StateAlg.lyap_symm A (diagonal_transpose w), dotProduct, Fin.sum_univ_two, mulVec_diagonal, mulVec_diagonal]
    simp only [mulVec, dotProduct, Fin.sum_univ_two, A, w, of_apply, cons_val_zero, cons_val_one]
    calc _ = -(2 * (x 1 * x 1)) := by ring
      _ ≤ 0 := neg_nonpos.mpr (mul_nonneg zero_le_two (mul_self_nonneg _))
  · exact diag_lower w (Fin.forall_fin_two.mpr ⟨by norm_num [w], le_refl _⟩)
  · intro x0
    exact ⟨fun t => NormedSpace.exp (t • A) *ᵥ x0, exp_zero_mulVec A x0, hasDerivAt_exp_mulVec A x0⟩

/-- the hypotheses of `C11_flow_forced` / `C11_flow_after_sources` with an input that is NOT zero before
`t₁ = 0`: on `T = [0, ∞)` the function `exp(tA)x₀` solves `ẋ = A x + B u(t)` within `T` for the input
`u(t) = 1` (`t < 0`), `0` (`t ≥ 0`) -/
example :
    let A : Matrix (Fin 2) (Fin 2) ℝ := !![0, 1 / 2; -2, -2]
    let B : Matrix (Fin 2) (Fin 1) ℝ := !![0; 2]
    let u : ℝ → Fin 1 → ℝ := fun t => if t < 0 then fun _ => 1 else 0
    ∀ x0 : Fin 2 → ℝ, ∃ x : ℝ → Fin 2 → ℝ, x 0 = x0 ∧ u (-1) ≠ 0
      ∧ (∀ t ∈ Set.Ici (0 : ℝ), HasDerivWithinAt x (A *ᵥ x t + B *ᵥ u t) (Set.Ici 0) t)
      ∧ ∀ t ∈ Set.Ici (0 : ℝ), u t = 0 := by
  intro A B u x0
  have hu : ∀ t ∈ Set.Ici (0 : ℝ), u t = 0 := fun t ht => if_neg (not_lt.mpr ht)
  refine ⟨fun t => NormedSpace.exp (t • A) *ᵥ x0, exp_zero_mulVec A x0, ?_, ?_, hu⟩
  · intro h
    rw [show u (-1) = fun _ => 1 from if_pos neg_one_lt_zero] at h
    exact one_ne_zero (congrFun h 0)
  · intro t ht
    rw [hu t ht]
    exact (hasDerivAt_exp_mulVec_zero_input A B x0 t).hasDerivWithinAt


section model
variable {L : Type} [DecidableEq L] [LabelOrd L]

/-- **the chain link**: the hypothesis `hlyap` is the conclusion of `C11_model_lyapunov` (for `F := ℝ`)
VERBATIM, quantified over the state `x`.  Then the stored energy `½ Σ_k w_k x_k(t)²`,
`w = (C…, L…)` in dictionary order, of every solution of `ẋ = A x + B u(t)` (`A`, `B` the model's matrices)
is antitone on every convex set of times on which the input vanishes. -/
theorem C11_flow_of_model_lyapunov {N : Net L ℝ} {cvals lvals : ValDict ℝ} {m : SSMats ℝ}
    (hlyap : ∀ x : Fin (ssNStates N cvals lvals) → ℝ,
      let W : Matrix (Fin (ssNStates N cvals lvals)) (Fin (ssNStates N cvals lvals)) ℝ :=
        diagonal fun k => (cvals.vals ++ lvals.vals).getD k 0
      let A := toM (ssNStates N cvals lvals) (ssNStates N cvals lvals) m.A
      x ⬝ᵥ (W * A + Aᵀ * W) *ᵥ x ≤ 0)
    {T : Set ℝ} (hT : Convex ℝ T) {x : ℝ → Fin (ssNStates N cvals lvals) → ℝ}
    {u : ℝ → Fin (ssNInputs N lvals) → ℝ}
    (hx : ∀ t ∈ T, HasDerivWithinAt x
      (toM (ssNStates N cvals lvals) (ssNStates N cvals lvals) m.A *ᵥ x t
        + toM (ssNStates N cvals lvals) (ssNInputs N lvals) m.B *ᵥ u t) T t)
    (hu : ∀ t ∈ T, u t = 0) :
    AntitoneOn (fun t => (1 / 2) * ∑ k : Fin (ssNStates N cvals lvals), (cvals.vals ++ lvals.vals).getD k 0 * x t k ^ 2) T :=
  stored_antitoneOn _ _ hlyap hT (unforced _ _ hx hu)

/-- **C11 flow clause for the executable model.**  `N` the `w = 0` network (over ℝ) of an RLC + ideal-source
circuit without negative conductances (`RLC`, `hpos`), `m` the matrices `stateSpaceMatrices` returns for
any certificates (`ModelCert`: `Ã·Ainv = 1`, `(DQᵀAinvDQ)·S = 1`, no zero C / L) — the hypotheses of
`C11_model_lyapunov`, nothing more.  For every input `u` and every function `x` that solves
`ẋ = A x + B u(t)` on a convex set of times `T` on which all sources are zero, the stored energy
`½ Σ C_k v_k² + ½ Σ L_k i_k²` (`= ½ Σ_k w_k x_k²`, states in dictionary order) is non-increasing on `T`.
Exact flow of the ODE; `lsim` is not modelled. -/
theorem C11_model_flow {N : Net L ℝ} {cvals lvals : ValDict ℝ} {Ainv S Delta : List (List ℝ)} {m : SSMats ℝ}
    (h : RLC N cvals lvals) (hD : ssDelta N cvals = .ok Delta)
    (hm : stateSpaceMatrices N cvals lvals Ainv S = .ok m)
    (hc : ModelCert id N cvals lvals Ainv S Delta)
    (hpos : ∀ b ∈ N.branches, 0 ≤ b.e.Yfin)
    {T : Set ℝ} (hT : Convex ℝ T) {x : ℝ → Fin (ssNStates N cvals lvals) → ℝ}
    {u : ℝ → Fin (ssNInputs N lvals) → ℝ}
    (hx : ∀ t ∈ T, HasDerivWithinAt x
      (toM (ssNStates N cvals lvals) (ssNStates N cvals lvals) m.A *ᵥ x t
        + toM (ssNStates N cvals lvals) (ssNInputs N lvals) m.B *ᵥ u t) T t)
    (hu : ∀ t ∈ T, u t = 0) :
    AntitoneOn (fun t => (1 / 2) * ∑ k : Fin (ssNStates N cvals lvals), (cvals.vals ++ lvals.vals).getD k 0 * x t k ^ 2) T :=
  C11_flow_of_model_lyapunov (fun x => C11_model_lyapunov h hD hm hc hpos x) hT hx hu

/-- `C11_model_flow` stated for the object `nodal_state_space_model` returns (`M.mats.A`, `M.mats.B`) -/
theorem C11_model_flow_nodal {N : Net L ℝ} {cvals lvals : ValDict ℝ} {Ainv S Delta : List (List ℝ)} {M : NSSM L ℝ}
    (h : RLC N cvals lvals) (hD : ssDelta N cvals = .ok Delta)
    (hM : nodalStateSpaceModel N cvals lvals Ainv S = .ok M)
    (hc : ModelCert id N cvals lvals Ainv S Delta)
    (hpos : ∀ b ∈ N.branches, 0 ≤ b.e.Yfin)
    {T : Set ℝ} (hT : Convex ℝ T) {x : ℝ → Fin (ssNStates N cvals lvals) → ℝ}
    {u : ℝ → Fin (ssNInputs N lvals) → ℝ}
    (hx : ∀ t ∈ T, HasDerivWithinAt x
      (toM (ssNStates N cvals lvals) (ssNStates N cvals lvals) M.mats.A *ᵥ x t
        + toM (ssNStates N cvals lvals) (ssNInputs N lvals) M.mats.B *ᵥ u t) T t)
    (hu : ∀ t ∈ T, u t = 0) :
    AntitoneOn (fun t => (1 / 2) * ∑ k : Fin (ssNStates N cvals lvals), (cvals.vals ++ lvals.vals).getD k 0 * x t k ^ 2) T :=
  C11_model_flow h hD (nodalStateSpaceModel_mats hM) hc hpos hT hx hu

/-- **bounded response of the model after all sources have returned to zero.**  Hypotheses of
`C11_model_eig` (those of `C11_model_lyapunov` and positive C, L).  `x` solves `ẋ = A x + B u(t)` at all
times, with any input before `t₁` and `u(t) = 0` for `t ≥ t₁`.  Then on `[t₁, ∞)` the stored energy
`E(t) = ½ΣC v² + ½ΣL i²` is non-increasing and every capacitor voltage / inductor current satisfies
`x_k(t)² ≤ 2·E(t₁)/w_k`. -/
theorem C11_model_bounded {N : Net L ℝ} {cvals lvals : ValDict ℝ} {Ainv S Delta : List (List ℝ)} {m : SSMats ℝ}
    (h : RLC N cvals lvals) (hD : ssDelta N cvals = .ok Delta)
    (hm : stateSpaceMatrices N cvals lvals Ainv S = .ok m)
    (hc : ModelCert id N cvals lvals Ainv S Delta)
    (hpos : ∀ b ∈ N.branches, 0 ≤ b.e.Yfin)
    (hval : ∀ k : Fin (ssNStates N cvals lvals), 0 < (cvals.vals ++ lvals.vals).getD k 0)
    {x : ℝ → Fin (ssNStates N cvals lvals) → ℝ} {u : ℝ → Fin (ssNInputs N lvals) → ℝ} {t1 : ℝ}
    (hx : ∀ t, HasDerivAt x
      (toM (ssNStates N cvals lvals) (ssNStates N cvals lvals) m.A *ᵥ x t
        + toM (ssNStates N cvals lvals) (ssNInputs N lvals) m.B *ᵥ u t) t)
    (hu : ∀ t, t1 ≤ t → u t = 0) :
    let E := fun t => (1 / 2) * ∑ k : Fin (ssNStates N cvals lvals), (cvals.vals ++ lvals.vals).getD k 0 * x t k ^ 2
    AntitoneOn E (Set.Ici t1)
    ∧ ∀ t, t1 ≤ t → ∀ k : Fin (ssNStates N cvals lvals),
        x t k ^ 2 ≤ 2 * E t1 / (cvals.vals ++ lvals.vals).getD k 0 := by
  intro E
  have ha : AntitoneOn E (Set.Ici t1) :=
    C11_model_flow h hD hm hc hpos (convex_Ici t1) (fun t _ => (hx t).hasDerivWithinAt) hu
  exact ⟨ha, fun t ht k =>
    state_bounded hval ha Set.self_mem_Ici ht ht k⟩

/-- **C11 flow clause along `exp(tA)` for the model**: for every initial state `x₀` the stored energy of
`exp(tA)·x₀`, `A` the model's state matrix, is antitone in `t` (hypotheses of `C11_model_lyapunov`). -/
theorem C11_model_flow_exp {N : Net L ℝ} {cvals lvals : ValDict ℝ} {Ainv S Delta : List (List ℝ)} {m : SSMats ℝ}
    (h : RLC N cvals lvals) (hD : ssDelta N cvals = .ok Delta)
    (hm : stateSpaceMatrices N cvals lvals Ainv S = .ok m)
    (hc : ModelCert id N cvals lvals Ainv S Delta)
    (hpos : ∀ b ∈ N.branches, 0 ≤ b.e.Yfin) (x0 : Fin (ssNStates N cvals lvals) → ℝ) :
    Antitone fun t : ℝ => (1 / 2) * ∑ k : Fin (ssNStates N cvals lvals), (cvals.vals ++ lvals.vals).getD k 0
      * (NormedSpace.exp (t • toM (ssNStates N cvals lvals) (ssNStates N cvals lvals) m.A) *ᵥ x0) k ^ 2 :=
  (C11_flow_exp _ _ (fun x => C11_model_lyapunov h hD hm hc hpos x) x0).2.2

/-- **bounded outputs of the model after all sources have returned to zero**: with `0 < λ ≤` every C, L,
every output `y = C x + D u` of the model (`u(t) = 0` for `t ≥ t₁`) satisfies
`y_i(t)² ≤ (Σ_j C_ij²)·2E(t₁)/λ` for `t ≥ t₁`. -/
theorem C11_model_output_bounded {N : Net L ℝ} {cvals lvals : ValDict ℝ} {Ainv S Delta : List (List ℝ)} {m : SSMats ℝ}
    (h : RLC N cvals lvals) (hD : ssDelta N cvals = .ok Delta)
    (hm : stateSpaceMatrices N cvals lvals Ainv S = .ok m)
    (hc : ModelCert id N cvals lvals Ainv S Delta)
    (hpos : ∀ b ∈ N.branches, 0 ≤ b.e.Yfin)
    {lam : ℝ} (hlam : 0 < lam)
    (hval : ∀ k : Fin (ssNStates N cvals lvals), lam ≤ (cvals.vals ++ lvals.vals).getD k 0)
    {x : ℝ → Fin (ssNStates N cvals lvals) → ℝ} {u : ℝ → Fin (ssNInputs N lvals) → ℝ} {t1 : ℝ}
    (hx : ∀ t, HasDerivAt x
      (toM (ssNStates N cvals lvals) (ssNStates N cvals lvals) m.A *ᵥ x t
        + toM (ssNStates N cvals lvals) (ssNInputs N lvals) m.B *ᵥ u t) t)
    (hu : ∀ t, t1 ≤ t → u t = 0) (t : ℝ) (ht : t1 ≤ t) (i : Fin N.nY) :
    let E := fun t => (1 / 2) * ∑ k : Fin (ssNStates N cvals lvals), (cvals.vals ++ lvals.vals).getD k 0 * x t k ^ 2
    let Cm := toM N.nY (ssNStates N cvals lvals) m.C
    let Dm := toM N.nY (ssNInputs N lvals) m.D
    (Cm *ᵥ x t + Dm *ᵥ u t) i ^ 2 ≤ (∑ j, Cm i j ^ 2) * (2 * E t1 / lam) := by
  intro E Cm Dm
  rw [hu t ht, mulVec_zero, add_zero]
  exact row_sq_le Cm i
    (norm_bounded_after_sources _ _ _ (fun x => C11_model_lyapunov h hD hm hc hpos x) hlam hval hx hu ht)

end model


/-! ### non-vacuity of the model-level hypotheses over ℝ

the series circuit `V(1,0) – R=1 (1,2) – C=1 (2,0)` of `C10.lean` (`netRC`, there over ℚ), as a network
over ℝ with the two inverses the driver finds: it meets `RLC`, `ModelCert`, `hpos`, `hval`, and
`stateSpaceMatrices` succeeds — every hypothesis of `C11_model_flow`, `C11_model_flow_nodal`,
`C11_model_bounded`, `C11_model_flow_exp`; solutions exist by `C11_flow_exp`. -/

def netRCr : Net String ℝ := { zero := "0", branches := [
  { n1 := "1", n2 := "0", id := "V", e := .norton 0 1 },
  { n1 := "1", n2 := "2", id := "R", e := .norton 1 0 },
  { n1 := "2", n2 := "0", id := "C", e := .thevenin 0 0 }] }

theorem netRCr_nodes : netRCr.nodes = ["1", "2"] := by
  simp only [Net.nodes, Net.nodeLabels, sortL_string]; decide +kernel
theorem netRCr_vsIds : netRCr.vsIds = ["V"] := by
  simp [netRCr, Net.vsIds, Net.vs, Elem.isIdealVS, sortL]
theorem netRCr_csIds : netRCr.csIds = [] := by
  simp [netRCr, Net.csIds, Net.cs, Elem.isCS, Elem.Ival, sortL]
theorem netRCr_At : ssAtilde id netRCr = [[1, -1, 1], [-1, 1, 0], [1, 0, 0]] := by
  simp only [ssAtilde, Net.mnaA, Net.vsSorted, Net.byIds, netRCr_nodes, netRCr_vsIds]
  simp [Net.get?, Net.Yentry, Net.nonVS, Branch.dir, Elem.isIdealVS, Elem.Yfin, netRCr]
theorem netRCr_Delta : ssDelta netRCr [("C", 1)] = .ok [[0, 1, 0]] := by
  simp only [ssDelta, ValDict.keys, List.map_cons, List.map_nil, List.mapM_cons, List.mapM_nil, netRCr_nodes,
    ssDeltaRow, Net.nV, netRCr_vsIds]
  simp [bind, Except.bind, pure, Except.pure, Net.get?, netRCr]
theorem netRCr_colsS : ssColsS netRCr [] = [0] := by
  simp [ssColsS, netRCr_csIds, netRCr_vsIds, Net.nC, ValDict.has, ValDict.keys, idxOf?]
theorem netRCr_nY : netRCr.nY = 3 := by simp [Net.nY, Net.nN, Net.nV, netRCr_nodes, netRCr_vsIds]
theorem netRCr_ns : ssNStates netRCr [("C", 1)] [] = 1 := rfl

def rcAinvR : List (List ℝ) := [[0, 0, 1], [0, 1, 1], [1, 1, 0]]
def rcSR : List (List ℝ) := [[1]]

/- Over ℝ the kernel evaluates only what does not compare reals (`netRCr_nodes`): `DQ` and the two products are unfolded
to sums of numerals entry by entry. -/
theorem netRCr_cert : ModelCert id netRCr [("C", 1)] [] rcAinvR rcSR [[0, 1, 0]] := by
  refine .of_checks rfl ?_ ?_ (by simp [ssLambda, ValDict.vals])
  all_goals
    simp only [ssM, ssDQ, ssQL, show ssColsL netRCr [] = [] from rfl, netRCr_nY, netRCr_ns, netRCr_At, rcAinvR, rcSR,
      Mx.mul, Mx.one, Mx.transpose, Mx.hstack, Mx.selectCols, Mx.ofFn, Mx.sumTo, Mx.get, List.range_succ,
      List.range_zero, List.length_cons, List.length_nil, List.map_cons, List.map_nil, List.nil_append,
      List.cons_append, List.getD_cons_zero, List.getD_cons_succ, List.sum_cons, List.sum_nil]
    norm_num

theorem netRCr_ssm : ∃ m, stateSpaceMatrices netRCr [("C", 1)] [] rcAinvR rcSR = .ok m :=
  ⟨_, stateSpaceMatrices_eq_ok netRCr_Delta rfl _ _⟩

theorem netRCr_rlc : RLC netRCr [("C", 1)] [] where
  wf := { ids_nodup := by decide +kernel
          zero_mem := by rw [Net.nodeLabels, if_neg (by decide), mem_sortL]; decide +kernel
          no_self_loop := by decide +kernel }
  capOpen := by intro b hb hk; simp [netRCr] at hb; rcases hb with rfl | rfl | rfl <;> simp [ValDict.keys] at hk ⊢
  indShort := by intro b _ hk; simp [ValDict.keys] at hk
  capMem := by decide +kernel
  indMem := by decide +kernel
  capNodup := by decide +kernel
  indNodup := by decide +kernel
  notLossy := by intro b hb; simp [netRCr] at hb; rcases hb with rfl | rfl | rfl <;> simp [Elem.isLossy, Elem.kind]

theorem netRCr_pos : ∀ b ∈ netRCr.branches, 0 ≤ b.e.Yfin := by
  intro b hb; simp [netRCr] at hb; rcases hb with rfl | rfl | rfl <;> simp [Elem.Yfin]

theorem netRCr_val : ∀ k : Fin (ssNStates netRCr [("C", 1)] []), 0 < (ValDict.vals [("C", (1 : ℝ))] ++ ValDict.vals []).getD k 0 := by
  rw [netRCr_ns]; intro k; fin_cases k; simp [ValDict.vals]

/-- `hval` of `C11_model_output_bounded` with `λ = 1` -/
example : ∀ k : Fin (ssNStates netRCr [("C", 1)] []), (1 : ℝ) ≤ (ValDict.vals [("C", (1 : ℝ))] ++ ValDict.vals []).getD k 0 := by
  rw [netRCr_ns]; intro k; fin_cases k; simp [ValDict.vals]

/-- the theorems applied: the stored energy of the RC circuit over ℝ decreases along `exp(tA)` -/
example : ∃ m, stateSpaceMatrices netRCr [("C", 1)] [] rcAinvR rcSR = .ok m ∧
    ∀ x0, Antitone fun t : ℝ => (1 / 2) * ∑ k : Fin (ssNStates netRCr [("C", 1)] []),
      (ValDict.vals [("C", (1 : ℝ))] ++ ValDict.vals []).getD k 0
        * (NormedSpace.exp (t • toM (ssNStates netRCr [("C", 1)] []) (ssNStates netRCr [("C", 1)] []) m.A) *ᵥ x0) k ^ 2 := by
  obtain ⟨m, hm⟩ := netRCr_ssm
  exact ⟨m, hm, fun x0 => C11_model_flow_exp netRCr_rlc netRCr_Delta hm netRCr_cert netRCr_pos x0⟩

end CC
