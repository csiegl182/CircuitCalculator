/-
  C14 — polar, time-function, power and zero annotations: the theorems on composite texts
  (`CC.Properties.C18Polar`) transferred to the annotation model `CC.Model.Annot` over the generated adapter table.

  The runtime parameters `Derived` (`absV = abs(signed value)`, `angle = np.angle(·, deg)`, `phase`, `phaseDeg`, `w`,
  `wHz`) are computed by libm / numpy in the code and handed to the model: the polar and (for `w ≠ 0`) the
  time-function texts of the model depend on the solution value `q` *only through them*.  The theorems below say what
  the label text denotes in terms of these numbers; that they are the modulus / argument of the signed solution value
  is covered by the correspondence and the oracle, not by these theorems.
-/
import CC.Properties.C14
import CC.Properties.C18Polar

namespace CC
open CC.Fmt CC.Annot CC.Gen.Annot

/-- a complex annotation in polar form (`polar=True`), every quantity, both directions: the
label is the real-path text of the magnitude `d.absV` in the unit of the quantity followed by the generated polar
suffix; the polar reader splits it into a magnitude that satisfies every clause of `RealOK` w.r.t. `d.absV` (half a unit
of the `p`-th digit, engineering form, range `u…k`) and — exactly when `|d.angle|` exceeds `10^-2`° / `10^-5` rad — an
angle within `0.5·10^-2`° / `0.5·10^-4` rad of `d.angle`, never of the opposite sign.  `d.absV`, `d.angle` are the
modulus and argument of the *signed* value as computed at run time (parameters). -/
theorem C14_denotes_polar (qt : Quantity) (reverse : Bool) (q : GQ) (d : Derived) (o : Opts)
    (hpol : o.polar = true) (hp : 1 ≤ o.precision) (habs : InDomain d.absV o.precision) :
    ∃ (s : List Char) (t : Text), annotText .complex qt reverse q d o = some s
      ∧ s = printAbs d.absV (specUnit qt) o.precision ++ polarSuffix o.deg d.angle
      ∧ realFailures d.absV o.precision 3 (some t) = []
      ∧ (|d.angle| ≤ polarCut o.deg → parsePolar (specUnit qt) s = some (t, none, false))
      ∧ (¬ |d.angle| ≤ polarCut o.deg →
          ∃ a : ℚ, parsePolar (specUnit qt) s = some (t, some a, o.deg)
            ∧ |a - d.angle| ≤ (if o.deg then 1 / 200 else 1 / 20000)
            ∧ (0 ≤ d.angle → 0 ≤ a) ∧ (d.angle < 0 → a ≤ 0)) := by
  obtain ⟨huok, hang⟩ := specUnit_ok qt
  set c := scOfCall CC.Gen.Fmt.print_complex_call0 (specUnit qt) o.precision o.polar o.deg with hc
  have hcfg : CfgOK c.toSFCfg := cfgOK_print_complex _ _ _ _ hp huok
  have hpolar : c.polar = true := hpol
  have hdeg : c.deg = o.deg := rfl
  have htext := annotText_complex qt reverse q d o
  have htab : ∀ p ∈ c.table, '∠' ∉ p.2 := by
    show ∀ p ∈ CC.Gen.Fmt.print_complex_call0.table, '∠' ∉ p.2
    decide
  obtain ⟨t, h1, h2, h3⟩ := C18_polar_reads_back c (specValue qt reverse q).re (specValue qt reverse q).im
    d.absV d.angle hpolar hcfg habs hang htab
  rw [hdeg] at h2 h3
  refine ⟨_, t, htext, ?_, h1, h2, h3⟩
  rw [C18_polar_text c _ _ _ _ hpolar, hdeg]
  rfl

example : InDomain ({ absV := 5, angle := 1 / 2 } : Derived).absV ({ polar := true } : Opts).precision :=
  InDomain.of_one_le _ (by norm_num) (by norm_num)

example : annotText .complex .voltage false ⟨4, 3⟩ { absV := 5, angle := 1 / 2 } { polar := true }
    = some ['5', '.', '0', '0', 'V', '∠', '0', '.', '5', '0', '0', '0'] := by decide +kernel

/-- a time-function annotation, every quantity, both directions.
* `d.w = 0`: the label is the real annotation of `Re` of the solution's value in the element's reference direction
  (negated in reverse), and for a value in the domain reads back to it (`RealOK`, all clauses).
* `d.w ≠ 0`: the label is amplitude `·` `sin`/`cos` `(` frequency `·t` phase `)` (`C18_time_text`), where the amplitude
  text is the real-path text of `d.absV` in the unit of the quantity and reads back to it (`RealOK`); phase and
  frequency texts: `C18_time_parts_read_back`, `C18_time_phase_rule`.
`d.absV` (peak modulus), `d.phase` (argument, plus the quarter turn in the sine form), `d.phaseDeg`, `d.wHz` are run-time
parameters.  Not claimed: that the time-function *power* label is `p(t)` (it is not). -/
theorem C14_denotes_time (qt : Quantity) (reverse : Bool) (q : GQ) (d : Derived) (o : Opts) (hp : 1 ≤ o.precision) :
    (d.w = 0 →
      annotText .timeDomain qt reverse q d o = some (printReal (specValue qt reverse q).re (specUnit qt) o.precision)
      ∧ (InDomain (specValue qt reverse q).re o.precision →
          RealOK (specValue qt reverse q).re o.precision 3 (specUnit qt)
            (printReal (specValue qt reverse q).re (specUnit qt) o.precision)))
    ∧ (d.w ≠ 0 →
      annotText .timeDomain qt reverse q d o =
        some (printAbs d.absV (specUnit qt) o.precision ++ ['·'] ++ (if o.sin then ['s', 'i', 'n'] else ['c', 'o', 's'])
          ++ ['('] ++ (if o.hertz then ['2', 'π', '·'] ++ (cfgOfCall CC.Gen.Fmt.print_sinosoidal_call4 [] o.precision).str d.wHz
                       else (cfgOfCall CC.Gen.Fmt.print_sinosoidal_call5 [] o.precision).str d.w)
          ++ ['·', 't'] ++ timePhasePart d.phase d.phaseDeg o.precision o.deg ++ [')'])
      ∧ (InDomain d.absV o.precision →
          RealOK d.absV o.precision 3 (specUnit qt) (printAbs d.absV (specUnit qt) o.precision))) := by
  have htext := annotText_time qt reverse q d o
  obtain ⟨r1, _, _, _, _, r6⟩ := C18_time_parts_read_back (specUnit qt) o.precision hp (specUnit_ok qt).1
  constructor
  · intro hw
    rw [htext, hw, C18_time_w_zero]
    exact ⟨rfl, r6 _⟩
  · intro hw
    rw [htext, C18_time_text _ _ _ _ _ _ _ _ _ _ _ hw]
    exact ⟨rfl, r1 _⟩

example : annotText .timeDomain .voltage true ⟨10, 0⟩ { absV := 10, w := 0 } {}
    = some ['-', '1', '0', '.', '0', 'V'] := by decide +kernel

/-- the DC power annotation: the real-path text of `|P|` in `W` followed by `↓` exactly for
`P > 0` (else `↑`), `P` being the solution's power in the element's reference direction, negated in reverse; for `P` in
the domain the number reads back (`RealOK`, prefixes `p…T`) to `|P|`. -/
theorem C14_denotes_power (reverse : Bool) (q : GQ) (d : Derived) (o : Opts) (hp : 1 ≤ o.precision) :
    ∃ T : List Char,
      annotText .real .power reverse q d o
        = some (T ++ (if (specValue .power reverse q).re > 0 then ['↓'] else ['↑']))
      ∧ (InDomain (specValue .power reverse q).re o.precision →
          RealOK (qabs (specValue .power reverse q).re) o.precision 12 ['W'] T) := by
  obtain ⟨h1, h2⟩ := C18_active_power_text (specValue .power reverse q).re o.precision hp
  exact ⟨_, (annotText_spec .real .power reverse q d o).trans (congrArg some h1), h2⟩

/-- the DC voltage / current / potential annotation of a quantity that is exactly `0` reads
back (`parseBack`) to exactly `0`, unsigned, in the unit of the quantity (the value `0` that `C14_denotes_real`
excludes). -/
theorem C14_denotes_real_zero (qt : Quantity) (hqt : qt ≠ .power) (reverse : Bool) (q : GQ) (d : Derived) (o : Opts)
    (hp : 1 ≤ o.precision) (h0 : (specValue qt reverse q).re = 0) :
    ∃ (s : List Char) (r : Parsed), annotText .real qt reverse q d o = some s
      ∧ parseBack (specUnit qt) s = some (.num r) ∧ r.value = 0 ∧ r.neg = false := by
  have hcfg : CfgOK (cfgOfCall CC.Gen.Fmt.print_real_call0 (specUnit qt) o.precision) :=
    cfgOK_of_call hp (specUnit_ok qt).1 (by decide)
  obtain ⟨r, hr, hval, hneg, _⟩ := C18_zero_text _ hcfg
  refine ⟨_, r, annotText_real qt hqt reverse q d o, ?_, hval, hneg⟩
  rw [h0]; exact hr

example : annotText .real .current false ⟨0, 0⟩ {} {} = some ['0', '.', '0', '0', '0', 'A'] := by decide +kernel

/-- the compact Cartesian annotation of a purely real phasor (imaginary part exactly
`0`) is the sign of the real part and the real-path text of its magnitude, no `j` part; of a purely imaginary phasor whose
imaginary part is not suppressed, `j` (preceded by `-` for a negative part) and the real-path text of its magnitude, no
real part.  The part shown reads back (`RealOK`) to the magnitude of the part when it is in the domain. -/
theorem C14_denotes_complex_zero_part (qt : Quantity) (reverse : Bool) (q : GQ) (d : Derived) (o : Opts)
    (hpol : o.polar = false) (hp : 1 ≤ o.precision) :
    let v := specValue qt reverse q
    let sf := (scOfCall CC.Gen.Fmt.print_complex_call0 (specUnit qt) o.precision o.polar o.deg).toSFCfg
    (v.im = 0 → annotText .complex qt reverse q d o = some ((if 0 ≤ v.re then [] else ['-']) ++ sf.str (qabs v.re)))
    ∧ (v.re = 0 → (sf.value3 (qabs v.im)).isZero = false →
        annotText .complex qt reverse q d o
          = some (if v.im < 0 then ['-'] ++ ['j'] ++ sf.str (qabs v.im) else ['j'] ++ sf.str (qabs v.im)))
    ∧ (InDomain v.re o.precision → RealOK (qabs v.re) o.precision 3 (specUnit qt) (sf.str (qabs v.re)))
    ∧ (InDomain v.im o.precision → RealOK (qabs v.im) o.precision 3 (specUnit qt) (sf.str (qabs v.im))) := by
  intro v sf
  set c := scOfCall CC.Gen.Fmt.print_complex_call0 (specUnit qt) o.precision o.polar o.deg with hc
  have hcfg : CfgOK c.toSFCfg := cfgOK_print_complex _ _ _ _ hp (specUnit_ok qt).1
  have hpolar : c.polar = false := hpol
  have hcompact : c.compact = true := rfl
  have htext := annotText_complex qt reverse q d o
  obtain ⟨z1, z2⟩ := C18_zero_part_read_back c hcfg
  refine ⟨?_, ?_, z1 _, z2 _⟩
  · intro him
    rw [htext, him, C18_cartesian_zero_im c _ _ _ hpolar, hcompact]
    rfl
  · intro hre hz
    rw [htext, hre, (C18_cartesian_zero_re c _ _ _ hpolar).1 hz, hcompact]
    rfl

example : annotText .complex .voltage false ⟨0, -5⟩ {} {} = some ['-', 'j', '5', '.', '0', '0', 'V'] := by
  decide +kernel

end CC
