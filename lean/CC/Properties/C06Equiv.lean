/-
  Property C06 — the other functions of the port group (CC/Model/Port.lean):
  `openCircuitVoltage`, `shortCircuitCurrent`, the Thevenin / Norton records, `elementImpedance`.
-/
import CC.Properties.C06Prune
set_option linter.unusedVariables false

namespace CC
variable {L K : Type} [DecidableEq L] [LabelOrd L] [Field K] [DecidableEq K]

/-- **C06 (`element_impedance`, by definition).**  When `remove_element` succeeds with the network `N'` and the
element `id` is the branch `b`, `element_impedance(N, id)` IS `open_circuit_impedance(N', b.node1, b.node2)`,
and `N'` is `N` without (the first branch equal to) `b`, same reference node.  This is the definition of the
model unfolded — no mathematics; it is stated so that every theorem about `openCircuitImpedance` applies. -/
theorem C06_elementImpedance_def (solve : List (List K) → List K → Option (List K)) (N N' : Net L K)
    (id : String) (b : Branch L K) (hr : N.removeElement id = .ok N') (hb : N.get? id = some b) :
    N.elementImpedance solve id = N'.openCircuitImpedance solve b.n1 b.n2 ∧
      N'.branches = N.branches.erase b ∧ N'.zero = N.zero := by
  refine ⟨by simp [Net.elementImpedance, hr, hb], ?_⟩
  unfold Net.removeElement at hr
  rw [hb] at hr
  simp only at hr
  cases hc : ({ N with branches := N.branches.erase b } : Net L K).check with
  | error e => simp [hc, bind, Except.bind] at hr
  | ok u =>
    simp only [hc, bind, Except.bind, pure, Except.pure] at hr
    cases hr
    exact ⟨rfl, rfl⟩

/-- **C06 (`element_impedance` = port impedance of the network with the element removed, at its terminals).**
By `C06_elementImpedance_def` and `C06_impl_eq_spec_pruned` (a proof, not a definition: the Spec's `PortZ` knows
nothing of matrices): whenever that port impedance is defined and the function returns a number, the number is
the port impedance of `N` without the element between the element's terminals. -/
theorem C06_elementImpedance_spec (solve : List (List K) → List K → Option (List K)) (N N' : Net L K)
    (id pid : String) (b : Branch L K) (z z' : K) (hr : N.removeElement id = .ok N') (hb : N.get? id = some b)
    (hp : pid ∉ N'.ids) (hsolve : SolveOK solve) (hids : N'.ids.Nodup) (hsl : ∀ c ∈ N'.branches, c.n1 ≠ c.n2)
    (hdef : PortZ N' pid b.n1 b.n2 z') (h : N.elementImpedance solve id = .ok z) :
    PortZ N' pid b.n1 b.n2 z := by
  rw [(C06_elementImpedance_def solve N N' id b hr hb).1] at h
  exact C06_impl_eq_spec_pruned N' solve pid b.n1 b.n2 z z' hp hsolve hids hsl hdef h

theorem solutionVector_some (solve : List (List K) → List K → Option (List K)) (N : Net L K) (x : List K)
    (hc : N.check = .ok ()) (hs : solve N.mnaA N.mnaB = some x) : N.solutionVector solve = .ok x := by
  simp [Net.solutionVector, Net.assemble, hc, hs, bind, Except.bind, pure, Except.pure]

theorem openCircuitVoltage_ok {solve : List (List K) → List K → Option (List K)} {N : Net L K} {n1 n2 : L} {V : K} :
    N.openCircuitVoltage solve n1 n2 = .ok V ↔ ∃ x, N.solutionVector solve = .ok x ∧
      if n1 = n2 then V = 0
      else ∃ p1, N.potential x n1 = .ok p1 ∧ ∃ p2, N.potential x n2 = .ok p2 ∧ V = p1 - p2 := by
  unfold Net.openCircuitVoltage
  rw [bind_eq_ok]
  refine exists_congr fun x => and_congr_right fun _ => ?_
  split
  · exact ⟨fun h => (Except.ok.inj h).symm, fun h => h ▸ rfl⟩
  · simp only [bind_eq_ok, pure_eq_ok, Except.ok.injEq, eq_comm (b := V)]

/-- **C06 (`open_circuit_voltage` reports the port voltage of a solution of the circuit).**  For a valid network
(`WF`: distinct ids, reference node present, no self-loop), a solver that returns solutions (`SolveOK`) and does
return one for the network's own system (`hsome`; when numpy raises `LinAlgError` the code silently falls back
to the ZERO vector — that path is excluded here and treated in CC/Properties/C06Fallback.lean), and two labels of
the network: the reported value is `φ(n1) − φ(n2)` of a report that satisfies all circuit equations of `N` (with its
sources).  With `WellPosed N` that report is the only one (`C01_unique`). -/
theorem C06_openCircuitVoltage_sound (N : Net L K) (solve : List (List K) → List K → Option (List K))
    (n1 n2 : L) (V : K) (wf : N.WF) (hsolve : SolveOK solve) (hsome : solve N.mnaA N.mnaB ≠ none)
    (h1 : n1 ∈ N.allLabels) (h2 : n2 ∈ N.allLabels) (h : N.openCircuitVoltage solve n1 n2 = .ok V) :
    ∃ R : Report L K, CircuitEqs N R ∧ V = R.pot n1 - R.pot n2 := by
  cases hs : solve N.mnaA N.mnaB with
  | none => exact absurd hs hsome
  | some x =>
    obtain ⟨hxlen, hxsol⟩ := hsolve _ _ x hs
    have hc : N.check = .ok () := (Net.check_ok_iff N).mpr ⟨wf.zero_mem, wf.ids_nodup⟩
    have hx : x.length = N.nodes.length + N.vsIds.length := by
      rw [hxlen]; simp [Net.mnaB, vsSorted_length N wf.ids_nodup]
    obtain ⟨hpot, _, hR⟩ := C01_sound N x wf hx hxsol
    refine ⟨N.reportOf x, hR, ?_⟩
    obtain ⟨x', hx', h⟩ := openCircuitVoltage_ok.mp h
    cases (solutionVector_some solve N x hc hs).symm.trans hx'
    split at h
    · next e => rw [h, e, sub_self]
    · obtain ⟨p1, e1, p2, e2, rfl⟩ := h
      rw [hpot n1 h1] at e1; rw [hpot n2 h2] at e2
      rw [Except.ok.inj e1, Except.ok.inj e2]

/-- **C06 (`short_circuit_current`, by definition): `Isc = Voc / Zth`, i.e. `Voc = Zth · Isc`** — the sign
convention of the code: both `Voc` and `Isc` are counted from `node1` to `node2`, a positive `Isc` flows through
an attached short from `node1` to `node2`.  Stated for the main path (`open_circuit_impedance` returned a number;
an isolated port node gives `Isc = 0`, identical nodes raise `ZeroDivisionError`).  This is the definition of the
model unfolded. -/
theorem C06_shortCircuitCurrent_def (N : Net L K) (solve : List (List K) → List K → Option (List K))
    (n1 n2 : L) (Z I : K) (hZ : N.openCircuitImpedance solve n1 n2 = .ok Z)
    (h : N.shortCircuitCurrent solve n1 n2 = .ok I) :
    ∃ V, N.openCircuitVoltage solve n1 n2 = .ok V ∧ n1 ≠ n2 ∧ Z ≠ 0 ∧ I = V / Z ∧ V = Z * I := by
  unfold Net.shortCircuitCurrent at h
  rw [hZ] at h
  simp only at h
  cases hV : N.openCircuitVoltage solve n1 n2 with
  | error e => simp [hV, bind, Except.bind] at h
  | ok V =>
    simp only [hV, bind, Except.bind] at h
    by_cases e : n1 = n2
    · simp [e] at h
    · by_cases hz : Z = 0
      · simp [e, hz] at h
      · simp only [e, hz, if_false, pure, Except.pure, Except.ok.injEq] at h
        refine ⟨V, rfl, e, hz, h.symm, ?_⟩
        rw [← h]; field_simp

/-- **C06 (`short_circuit_current` is the current through a short circuit attached to the port).**  For a valid
network whose probe network is well-posed and whose port impedance is defined: in EVERY solution of the network
with a short circuit attached from `n1` to `n2`, the current through the short (first → second terminal) is the
value the function returns.  (Model level: `Voc` through `C06_openCircuitVoltage_sound`, `Zth` through
`C06_impl_eq_spec_pruned`, the link by the Spec-level `C06_norton`.) -/
theorem C06_shortCircuitCurrent_spec (N : Net L K) (solve : List (List K) → List K → Option (List K))
    (pid : String) (n1 n2 : L) (Z z' I : K) (wf : N.WF) (hsolve : SolveOK solve) (hp : pid ∉ N.ids)
    (hsome : solve N.mnaA N.mnaB ≠ none) (h1 : n1 ∈ N.allLabels) (h2 : n2 ∈ N.allLabels)
    (hw : WellPosed (probeNet N pid n1 n2 1)) (hdef : PortZ N pid n1 n2 z')
    (hZ : N.openCircuitImpedance solve n1 n2 = .ok Z) (h : N.shortCircuitCurrent solve n1 n2 = .ok I)
    (sid ty : String) (Rs : Report L K) (hs : CircuitEqs (N.attach ⟨n1, n2, sid, ty, .norton 0 0⟩) Rs) :
    Rs.i sid = I := by
  obtain ⟨V, hV, _, hz, hI, _⟩ := C06_shortCircuitCurrent_def N solve n1 n2 Z I hZ h
  obtain ⟨Roc, hoc, hVeq⟩ := C06_openCircuitVoltage_sound N solve n1 n2 V wf hsolve hsome h1 h2 hV
  have hPZ := C06_impl_eq_spec_pruned N solve pid n1 n2 Z z' hp hsolve wf.ids_nodup wf.no_self_loop hdef hZ
  have := C06_norton N wf.ids_nodup pid hp n1 n2 hw sid ty Roc Rs Z hoc hs hPZ
  rw [hI, hVeq, ← this]; field_simp

theorem theveninEquivalent_ok (N : Net L K) (solve : List (List K) → List K → Option (List K)) (n1 n2 : L)
    (T : TheveninEq K) (h : N.theveninEquivalent solve n1 n2 = .ok T) :
    N.openCircuitVoltage solve n1 n2 = .ok T.U ∧ N.openCircuitImpedance solve n1 n2 = .ok T.Z := by
  obtain ⟨U, hU, h⟩ := bind_eq_ok.mp h
  obtain ⟨Z, hZ, h⟩ := bind_eq_ok.mp h
  cases h
  exact ⟨hU, hZ⟩

/-- **C06 (the Thevenin record reproduces the port's terminal behaviour for every load).**  Attach ANY branch
`x` (an impedance, a source, a short circuit, …) from `n1` to `n2` to the network `N` (with all its sources).
In every solution of the loaded network the port voltage `V = φ(n1) − φ(n2)` and the physical current `J`
through `x` from `n1` to `n2` satisfy `V = U − Z·J` — the terminal equation of an ideal source `U` in series with
`Z`, where `⟨U, Z⟩` is what `TheveninEquivalentSource` stores.  So the load cannot tell the network from its
equivalent: both impose the same relation between its voltage and its current.

Hypotheses: valid network, `SolveOK`, the solver answers for the network's own system (see
`C06_openCircuitVoltage_sound`), well-posed probe network and defined port impedance (the domain of the
Spec-level `C06_port_equation`).  What it does not say: nothing about the import of
`Network/equivalent_sources.py` (CC/Gen/PortImports), nothing about binary64. -/
theorem C06_thevenin_record_terminal (N : Net L K) (solve : List (List K) → List K → Option (List K))
    (pid : String) (n1 n2 : L) (z' : K) (T : TheveninEq K) (wf : N.WF) (hsolve : SolveOK solve) (hp : pid ∉ N.ids)
    (hsome : solve N.mnaA N.mnaB ≠ none) (h1 : n1 ∈ N.allLabels) (h2 : n2 ∈ N.allLabels)
    (hw : WellPosed (probeNet N pid n1 n2 1)) (hdef : PortZ N pid n1 n2 z')
    (h : N.theveninEquivalent solve n1 n2 = .ok T)
    (x : Branch L K) (hx1 : x.n1 = n1) (hx2 : x.n2 = n2) (Rl : Report L K) (hl : CircuitEqs (N.attach x) Rl) :
    Rl.pot n1 - Rl.pot n2 = T.U - T.Z * x.e.physCurrent (Rl.i x.id) := by
  obtain ⟨hV, hZ⟩ := theveninEquivalent_ok N solve n1 n2 T h
  obtain ⟨Roc, hoc, hVeq⟩ := C06_openCircuitVoltage_sound N solve n1 n2 T.U wf hsolve hsome h1 h2 hV
  have hPZ := C06_impl_eq_spec_pruned N solve pid n1 n2 T.Z z' hp hsolve wf.ids_nodup wf.no_self_loop hdef hZ
  rw [hVeq]
  exact (hPZ.line hp).port_equation wf.ids_nodup x hx1 hx2 hoc hl

/-- **C06 (the Norton record reproduces the port's terminal behaviour for every load).**  Same setting as
`C06_thevenin_record_terminal`, on the main path of `NortenEquivalentSource` (the Thevenin record exists; the
function has not raised, so `Z ≠ 0`): `J = I − Y·V` — the terminal equation of an ideal current source `I` in
parallel with the admittance `Y`; and the two records are consistent: `I = U/Z`, `Y = 1/Z`, `U = Z·I`. -/
theorem C06_norton_record_terminal (N : Net L K) (solve : List (List K) → List K → Option (List K))
    (pid : String) (n1 n2 : L) (z' : K) (T : TheveninEq K) (Q : NortonEq K) (wf : N.WF) (hsolve : SolveOK solve)
    (hp : pid ∉ N.ids) (hsome : solve N.mnaA N.mnaB ≠ none) (h1 : n1 ∈ N.allLabels) (h2 : n2 ∈ N.allLabels)
    (hw : WellPosed (probeNet N pid n1 n2 1)) (hdef : PortZ N pid n1 n2 z')
    (hT : N.theveninEquivalent solve n1 n2 = .ok T) (hQ : N.nortonEquivalent solve n1 n2 = .ok Q)
    (x : Branch L K) (hx1 : x.n1 = n1) (hx2 : x.n2 = n2) (Rl : Report L K) (hl : CircuitEqs (N.attach x) Rl) :
    (T.Z ≠ 0 ∧ Q.I = T.U / T.Z ∧ Q.Y = 1 / T.Z ∧ T.U = T.Z * Q.I) ∧
      x.e.physCurrent (Rl.i x.id) = Q.I - Q.Y * (Rl.pot n1 - Rl.pot n2) := by
  have key := C06_thevenin_record_terminal N solve pid n1 n2 z' T wf hsolve hp hsome h1 h2 hw hdef hT x hx1 hx2 Rl hl
  unfold Net.nortonEquivalent at hQ
  rw [hT] at hQ
  simp only at hQ
  by_cases he : N.portIsEarly n1 n2 = true
  · simp [he] at hQ
  · by_cases hz : T.Z = 0
    · simp [he, hz] at hQ
    · simp only [he, hz, if_false, pure, Except.pure, Except.ok.injEq, Bool.false_eq_true] at hQ
      subst hQ
      refine ⟨⟨hz, rfl, rfl, by field_simp⟩, ?_⟩
      simp only
      rw [key]; field_simp; ring

namespace C06ex

/-- a solver certificate table for `exN` (`Vs(1,0) = 10 V`, `R1(1,2) = 10 Ω`, `R2(2,0) = 10 Ω`): the port system
of `(2, 0)` and the network's own system -/
def solve1 : List (List ℚ) → List ℚ → Option (List ℚ) := fun A b =>
  if A = A0 ∧ b = [0, 1, 0] then some [0, 5, 1/2]
  else if A = A0 ∧ b = [0, 0, 10] then some [10, 5, -1/2] else none

theorem solve1_ok : SolveOK solve1 :=
  solveOK_entry rfl (by decide +kernel) (solveOK_entry rfl (by decide +kernel) solveOK_none)

theorem exN_mnaB : exN.mnaB = [0, 0, 10] := by
  simp only [Net.mnaB, exN_nodes]; decide +kernel

theorem exN_wf : exN.WF := ⟨by decide, ((Net.check_ok_iff exN).mp exN_check).1, by decide⟩

theorem exN_voc : exN.openCircuitVoltage solve1 2 0 = .ok 5 := by
  have hs : solve1 exN.mnaA exN.mnaB = some [10, 5, -1/2] := by
    rw [exN_mna, exN_mnaB]; decide +kernel
  unfold Net.openCircuitVoltage
  rw [solutionVector_some solve1 exN _ exN_check hs]
  simp only [Net.potential, exN_nodes]
  decide +kernel

theorem exN_zth : exN.openCircuitImpedance solve1 2 0 = .ok 5 := by
  rw [Net.openCircuitImpedance, exN_pre]
  decide +kernel

theorem exN_thevenin : exN.theveninEquivalent solve1 2 0 = .ok ⟨5, 5⟩ := by
  simp [Net.theveninEquivalent, exN_voc, exN_zth, bind, Except.bind, pure, Except.pure]

theorem exN_not_early : exN.portIsEarly 2 0 = false := by decide +kernel

theorem exN_norton : exN.nortonEquivalent solve1 2 0 = .ok ⟨1, 1/5⟩ := by
  unfold Net.nortonEquivalent
  rw [exN_thevenin]
  simp [exN_not_early, pure, Except.pure]

theorem exN_isc : exN.shortCircuitCurrent solve1 2 0 = .ok 1 := by
  unfold Net.shortCircuitCurrent
  rw [exN_zth]
  simp [exN_voc, bind, Except.bind, pure, Except.pure]

def exE : Net Nat ℚ := { branches := exP.branches ++ [⟨2, 0, "X", "", .norton 3 0⟩], zero := 0 }

theorem exE_get : exE.get? "X" = some ⟨2, 0, "X", "", .norton 3 0⟩ := by decide +kernel

theorem exE_remove : exE.removeElement "X" = .ok exP := by
  have he : exE.branches.erase ⟨2, 0, "X", "", .norton 3 0⟩ = exP.branches := by decide +kernel
  unfold Net.removeElement
  rw [exE_get]
  simp only [he]
  have : ({ exE with branches := exP.branches } : Net Nat ℚ) = exP := rfl
  rw [this, exP_check]
  rfl

theorem exE_value : exE.elementImpedance solveP "X" = .ok 5 := by
  rw [(C06_elementImpedance_def solveP exE exP "X" _ exE_remove exE_get).1]
  exact exP_model_value

end C06ex

/-- non-vacuity of `C06_openCircuitVoltage_sound`, `C06_shortCircuitCurrent_def/_spec`,
`C06_thevenin_record_terminal`, `C06_norton_record_terminal`: `exN` (`Vs(1,0) = 10 V`, `R1(1,2) = R2(2,0) = 10 Ω`),
port `(2, 0)`: `U = 5 V`, `Z = 5 Ω`, `I = 1 A`, `Y = 1/5 S`, `Isc = 1 A` — every hypothesis holds. -/
example : C06ex.exN.WF ∧ SolveOK C06ex.solve1 ∧ "p" ∉ C06ex.exN.ids ∧
    C06ex.solve1 C06ex.exN.mnaA C06ex.exN.mnaB ≠ none ∧ 2 ∈ C06ex.exN.allLabels ∧ 0 ∈ C06ex.exN.allLabels ∧
    WellPosed (probeNet C06ex.exN "p" 2 0 1) ∧ PortZ C06ex.exN "p" 2 0 5 ∧
    C06ex.exN.openCircuitVoltage C06ex.solve1 2 0 = .ok 5 ∧
    C06ex.exN.openCircuitImpedance C06ex.solve1 2 0 = .ok 5 ∧
    C06ex.exN.shortCircuitCurrent C06ex.solve1 2 0 = .ok 1 ∧
    C06ex.exN.theveninEquivalent C06ex.solve1 2 0 = .ok ⟨5, 5⟩ ∧
    C06ex.exN.nortonEquivalent C06ex.solve1 2 0 = .ok ⟨1, 1/5⟩ :=
  ⟨C06ex.exN_wf, C06ex.solve1_ok, by decide,
    by rw [C06ex.exN_mna, C06ex.exN_mnaB]; decide +kernel, by decide, by decide,
    C06ex.exN_wellposed, C06ex.exN_spec_value, C06ex.exN_voc, C06ex.exN_zth, C06ex.exN_isc,
    C06ex.exN_thevenin, C06ex.exN_norton⟩

/-- non-vacuity of `C06_elementImpedance_def/_spec`: `exE` = `exP` plus `X = 3 Ω` across `(2, 0)`;
`element_impedance(exE, "X")` is the port impedance `5 Ω` of `exP` (which has a pruned node) -/
example : C06ex.exE.removeElement "X" = .ok C06ex.exP ∧
    C06ex.exE.get? "X" = some ⟨2, 0, "X", "", .norton 3 0⟩ ∧
    C06ex.exE.elementImpedance C06ex.solveP "X" = .ok 5 ∧ PortZ C06ex.exP "p" 2 0 5 :=
  ⟨C06ex.exE_remove, C06ex.exE_get, C06ex.exE_value,
    C06_elementImpedance_spec C06ex.solveP C06ex.exE C06ex.exP "X" "p" _ 5 5 C06ex.exE_remove C06ex.exE_get
      (by decide) C06ex.solveP_ok (by decide) (by decide) C06ex.exP_spec_value C06ex.exE_value⟩

end CC
