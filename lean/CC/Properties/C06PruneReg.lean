/-
  Property C06 — the converse direction of the pruning path: every solution of the probe network,
  restricted to the kept unknowns, solves the pruned system the code hands to `solve`.  Hence a hypothesis on
  the code's own data — the pruned system has at most one solution (the matrix is regular) — suffices for the
  returned number to be the Spec's port impedance.
-/
import CC.Properties.C06Prune

namespace CC
variable {L K : Type} [DecidableEq L] [LabelOrd L] [Field K] [DecidableEq K]

theorem probe_solution_restrict (P : Net L K) (pid : String) (a : L) (hids : P.ids.Nodup)
    (i : Nat) (hai : idxOf? a P.nodes = some i) (hcol : colZero P.mnaA i = false)
    (S : Report L K) (hS : CircuitEqs (probeNet P pid a P.zero 1) S) :
    ∃ y : List K, y.length = (subMatrix (keepMask P.mnaA.length P.mnaA) P.mnaA).length ∧
      matVec (subMatrix (keepMask P.mnaA.length P.mnaA) P.mnaA) y
        = unitVec (subMatrix (keepMask P.mnaA.length P.mnaA) P.mnaA).length
            (countBefore (keepMask P.mnaA.length P.mnaA) i) ∧
      y.getD (countBefore (keepMask P.mnaA.length P.mnaA) i) 0 = S.pot a - S.pot P.zero := by
  set keep := keepMask P.mnaA.length P.mnaA
  have hklen : keep.length = P.mnaA.length := keepMask_length _ _
  obtain ⟨_, hilt, hget⟩ := idxOf?_some hai
  have hki : keep[i]? = some true := kept_of_colZero_false P hai hcol
  set s := S.toSol
  -- the packed report solves the full system (`rel_impl`); the dropped columns are zero, so selecting rows and columns
  -- commutes with the product (`matVec_selectL`), and the selected unit vector is the unit vector at `countBefore keep i`
  have hfull := rel_impl P a hids i hai S (probe_eqsInj hS)
  have hplen : (P.pack s).length = keep.length := by
    rw [hklen, mnaA_length]; simp [Net.pack]
  have hres := matVec_selectL keep keep P.mnaA (P.pack s)
    (fun r hr => by rw [mnaA_row_length P r hr, hklen, mnaA_length]) hplen
    (fun r hr c hc => keepMask_false_col _ _ c hc r hr)
  have hsub' : (selectL keep P.mnaA).map (selectL keep) = subMatrix keep P.mnaA := rfl
  have hsub : (subMatrix keep P.mnaA).length = countKept keep := subMatrix_length keep _ hklen
  rw [hsub', hfull, ← mnaA_length, ← hklen, selectL_unitVec keep i hki] at hres
  refine ⟨selectL keep (P.pack s), ?_, ?_, ?_⟩
  · rw [hsub, selectL_length keep _ hplen]
  · rw [hsub]; exact hres
  · rw [selectL_getD_kept keep _ i hki]
    have hz0 : S.pot P.zero = 0 := hS.ref_zero
    rw [hz0, sub_zero]
    unfold Net.pack
    rw [List.getD_eq_getElem?_getD, List.getElem?_append_left (by simpa using hilt), List.getElem?_map, hget]
    rfl

/-- **C06 (code level, pruned unknowns, hypothesis on the code's own data): when the pruned system handed to
`np.linalg.solve` has at most one solution, the returned number is the port impedance.**  Same setting as
`C06_impl_pruned_solution` (any number of pruned unknowns, ideal voltage sources anywhere, non-early path);
`hreg` says the system `A·y = e` the function reaches has at most one solution — true whenever `A` is regular,
i.e. whenever numpy does not raise `LinAlgError` in exact arithmetic.  Then `PortZ` is defined and equals the
returned value: existence by `C06_impl_pruned_solution`, uniqueness because every solution of the probe network
restricted to the kept unknowns solves the same pruned system (`probe_solution_restrict`).

`hreg` is the genuinely needed "kept probe system is well-posed"; it fails exactly on floating groups of nodes
(`C06_floating_island_counterexample`), where the function is not complete. -/
theorem C06_impl_eq_spec_kept_regular (N : Net L K) (solve : List (List K) → List K → Option (List K))
    (pid : String) (n1 n2 : L) (z : K) (hp : pid ∉ N.ids) (hsolve : SolveOK solve) (hids : N.ids.Nodup)
    (hsl : ∀ b ∈ N.branches, b.n1 ≠ b.n2) (hne : N.portIsEarly n1 n2 = false)
    (hreg : ∀ N' keep A e i1, N.portPre n1 n2 = .ok (.sys N' keep A e i1) →
      ∀ y y' : List K, y.length = e.length → y'.length = e.length → matVec A y = e → matVec A y' = e → y = y')
    (h : N.openCircuitImpedance solve n1 n2 = .ok z) : PortZ N pid n1 n2 z := by
  obtain ⟨R0, hR0, hport0⟩ := C06_impl_pruned_solution N solve pid n1 n2 z hp hsolve hids hsl hne h
  refine ⟨⟨R0, hR0⟩, fun T hT => ?_⟩
  obtain ⟨a, g, i, x, hag, hcheck, hidx, hcol, hpre, hs, hxi⟩ := openCircuitImpedance_sys hne h
  -- `T`, read on the re-referenced network, restricts to a solution of the pruned system: it is `x`
  obtain ⟨S, hS, hST⟩ := (probe_swapped N pid hp hag _).mp ⟨T, hT, rfl⟩
  obtain ⟨y, hylen, hysol, hyport⟩ := probe_solution_restrict { N with zero := g } pid a hids i hidx hcol S hS
  obtain ⟨hxlen, hxsol⟩ := hsolve _ _ x hs
  have hyx := hreg _ _ _ _ _ hpre y x (by rw [hylen]; simp [unitVec]) hxlen hysol hxsol
  rw [← hST, show S.pot a - S.pot g = _ from hyport.symm, hyx, List.getD_eq_getElem?_getD, hxi]
  rfl

namespace C06ex

theorem AP'_unique (y : List ℚ) (hy : y.length = 2) (h : matVec AP' y = [1, 0]) : y = [5, 5] := by
  match y, hy with
  | [a, b], _ =>
    have h' : [12/35 * a + (-1/7 * b + 0), -1/7 * a + (1/7 * b + 0)] = [(1 : ℚ), 0] := h
    simp only [List.cons.injEq, and_true] at h'
    obtain ⟨h1, h2⟩ := h'
    rw [show a = 5 by linear_combination 5 * h1 + 5 * h2, show b = 5 by linear_combination 5 * h1 + 12 * h2]

theorem exP_regular : ∀ N' keep A e i1, exP.portPre 2 0 = .ok (.sys N' keep A e i1) →
    ∀ y y' : List ℚ, y.length = e.length → y'.length = e.length → matVec A y = e → matVec A y' = e → y = y' := by
  intro N' keep A e i1 h y y' hy hy' h1 h2
  rw [exP_pre] at h
  simp only [Except.ok.injEq, PortPre.sys.injEq] at h
  obtain ⟨_, _, hA, he, _⟩ := h
  subst hA he
  rw [AP'_unique y hy h1, AP'_unique y' hy' h2]

end C06ex

/-- non-vacuity of `C06_impl_eq_spec_kept_regular`: for `exP` (pruned node `1`), port `(2, 0)`, the pruned
system `[[12/35, −1/7], [−1/7, 1/7]]·y = [1, 0]` has exactly one solution; the other hypotheses are those of the
example in CC/Properties/C06Prune.lean. -/
example : ∀ N' keep A e i1, C06ex.exP.portPre 2 0 = .ok (.sys N' keep A e i1) →
    ∀ y y' : List ℚ, y.length = e.length → y'.length = e.length → matVec A y = e → matVec A y' = e → y = y' :=
  C06ex.exP_regular

example : PortZ C06ex.exP "p" 2 0 5 :=
  C06_impl_eq_spec_kept_regular C06ex.exP C06ex.solveP "p" 2 0 5 (by decide) C06ex.solveP_ok (by decide) (by decide)
    C06ex.exP_not_early C06ex.exP_regular C06ex.exP_model_value

end CC
