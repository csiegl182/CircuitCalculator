/-
  Property C04 — superposition over the library's own zeroing operations, any number of groups.

  The property quantifies over "every subset decomposition of the source set"; its textbook form is "each source
  acting alone".  The n-group theorem rests on linearity for finite families (`C04_linear_list`,
  CC/Properties/C04.lean) through `zeroing_superpose_groups_core` (CC/Properties/C04Zeroing.lean), of which the
  two-group theorem `C04_zeroing_superpose` is the instance with two parts.  For a linear (lossy) source the
  reported current is the SIGNED sum over the groups (+ for the group that keeps it, − for every other), i.e.
  `i = i_j − Σ_{k≠j} i_k` for its own group j.
-/
import CC.Properties.C04Zeroing
import CC.Properties.C01Det
set_option linter.unusedSectionVars false

namespace CC
variable {L K : Type} [DecidableEq L] [LabelOrd L] [Field K] [DecidableEq K]

/-- one group of a superposition: the exemption list, the network the library's zeroing returns for it, and
a report (potentials, voltages, reported currents) of that network -/
structure ZeroPart (L K : Type) where
  keep : List (ElemKey K)
  net : Net L K
  rep : Report L K

/-- the same with a solution VECTOR of the returned network's matrix equation instead of a report -/
structure ZeroPartX (L K : Type) where
  keep : List (ElemKey K)
  net : Net L K
  x : List K

/-- **C04 (superposition over the library's own zeroing operations, any finite partition of the sources).**
Let `N` have distinct identifiers and be well-posed.  `parts` is a finite list of groups; group `p` has the
exemption list `p.keep`, `p.net` is what the library returns when it deactivates everything but `p.keep`
(`short_circuitify_voltage_sources` then `open_circuitify_current_sources`, record classes changed as the code
changes them) and `p.rep` is ANY solution of `p.net`.  The exemption lists partition the active sources: every
active source of `N` is exempted by exactly one group (`hpart`; passive elements may be listed or not; a
network without active sources allows the empty list of groups).  Then for ANY solution `R` of `N`:
* the potential of every node label and the voltage of every branch of `N` are the sums over the groups;
* the reported current of every branch that is not a linear (lossy) source is the sum over the groups;
* the reported current of a linear (lossy) source is the SIGNED sum: `+` the current reported in the group that
  keeps it, `−` the current reported in every group that deactivates it (the zeroed record reports first→second,
  the active record in generator direction, `C04_zeroed_not_lossy`);
* in particular, for the group `p` (at any position `parts = l₁ ++ p :: l₂`) that keeps the lossy source,
  `i = i_p − Σ_{q ≠ p} i_q` — the generalisation of `i = i_A − i_B` of `C04_zeroing_superpose`.
Not covered: floating point, ill-posed networks, the link model ↔ Python (`C16_gen_*` + structural
correspondence).  The plain sum for a lossy source is false already for two groups
(`C04_zeroing_lossy_sum_fails`). -/
theorem C04_zeroing_superpose_groups (N : Net L K) (parts : List (ZeroPart L K))
    (hids : N.ids.Nodup) (hw : WellPosed N)
    (hdeact : ∀ p ∈ parts, deactivateOthers N p.keep = .ok p.net)
    (hsol : ∀ p ∈ parts, CircuitEqs p.net p.rep)
    (hpart : ∀ b ∈ N.branches, b.e.isActive = true →
      (parts.filter fun p => p.keep.contains b.key).length = 1)
    (R : Report L K) (hR : CircuitEqs N R) :
    (∀ n ∈ N.allLabels, R.pot n = (parts.map fun p => p.rep.pot n).sum) ∧
    (∀ b ∈ N.branches, R.v b.id = (parts.map fun p => p.rep.v b.id).sum) ∧
    (∀ b ∈ N.branches, b.e.isLossy = false → R.i b.id = (parts.map fun p => p.rep.i b.id).sum) ∧
    (∀ b ∈ N.branches, b.e.isLossy = true →
      R.i b.id = (parts.map fun p =>
        if p.keep.contains b.key = true then p.rep.i b.id else - p.rep.i b.id).sum) ∧
    (∀ b ∈ N.branches, b.e.isLossy = true → ∀ l₁ p l₂, parts = l₁ ++ p :: l₂ →
      p.keep.contains b.key = true →
      R.i b.id = p.rep.i b.id - ((l₁ ++ l₂).map fun q => q.rep.i b.id).sum) :=
  zeroing_superpose_groups_core N parts (·.keep) (·.net) (·.rep) hids hw hdeact hsol hpart R hR

/-- **C04 (superposition over the library's zeroing, any finite partition, reported values).**  `N` valid and
well-posed; the exemption lists of `parts` partition its active sources; `p.net` is what the library's zeroing
returns for `p.keep`.  Whatever vectors `x`, `p.x` satisfy the matrix equations the code builds for `N` and
for every `p.net` (right length): the potentials and voltages the accessors report for `N` are the sums over
the groups of those reported for `p.net`; so are the reported currents of all branches that are not linear
(lossy) sources; the reported current of a linear source is the signed sum, i.e. `i_p − Σ_{q≠p} i_q` for its
own group `p`.  Exact arithmetic; nothing is assumed about the `p.net` beyond the matrix equations (their
validity follows, `deactivateOthers_wf`). -/
theorem C04_reported_zeroing_superpose_groups (N : Net L K) (parts : List (ZeroPartX L K))
    (wf : N.WF) (hw : WellPosed N)
    (hdeact : ∀ p ∈ parts, deactivateOthers N p.keep = .ok p.net)
    (hlen : ∀ p ∈ parts, p.x.length = p.net.nodes.length + p.net.vsIds.length)
    (hmat : ∀ p ∈ parts, matVec p.net.mnaA p.x = p.net.mnaB)
    (hpart : ∀ b ∈ N.branches, b.e.isActive = true →
      (parts.filter fun p => p.keep.contains b.key).length = 1)
    (x : List K) (hx : x.length = N.nodes.length + N.vsIds.length) (h : matVec N.mnaA x = N.mnaB) :
    let R := N.reportOf x
    (∀ n ∈ N.allLabels, R.pot n = (parts.map fun p => (p.net.reportOf p.x).pot n).sum) ∧
    (∀ b ∈ N.branches, R.v b.id = (parts.map fun p => (p.net.reportOf p.x).v b.id).sum) ∧
    (∀ b ∈ N.branches, b.e.isLossy = false →
      R.i b.id = (parts.map fun p => (p.net.reportOf p.x).i b.id).sum) ∧
    (∀ b ∈ N.branches, b.e.isLossy = true →
      R.i b.id = (parts.map fun p =>
        if p.keep.contains b.key = true then (p.net.reportOf p.x).i b.id
        else - (p.net.reportOf p.x).i b.id).sum) ∧
    (∀ b ∈ N.branches, b.e.isLossy = true → ∀ l₁ p l₂, parts = l₁ ++ p :: l₂ →
      p.keep.contains b.key = true →
      R.i b.id = (p.net.reportOf p.x).i b.id - ((l₁ ++ l₂).map fun q => (q.net.reportOf q.x).i b.id).sum) :=
  zeroing_superpose_groups_core N parts (·.keep) (·.net)
    (fun p => p.net.reportOf p.x) wf.ids_nodup hw hdeact
    (fun p hp => (C01_sound p.net p.x (deactivateOthers_wf N p.net p.keep (hdeact p hp) wf)
      (hlen p hp) (hmat p hp)).2.2)
    hpart _ (C01_sound N x wf hx h).2.2

theorem singleton_contains_key (b c : Branch L K) : ([c.key].contains b.key = true) ↔ b.key = c.key := by
  simp

theorem filter_key_length (bs : List (Branch L K)) (hids : (bs.map (·.id)).Nodup) (q : Branch L K → Bool)
    (b : Branch L K) (hb : b ∈ bs) (hq : q b = true) :
    ((bs.filter q).filter fun c => [c.key].contains b.key).length = 1 := by
  -- a member with the key of `b` has the identifier of `b`, hence is `b`
  have e : ∀ c ∈ bs, (([c.key].contains b.key && q c) = true ↔ (c == b) = true) := by
    intro c hc
    rw [Bool.and_eq_true, singleton_contains_key, beq_iff_eq]
    exact ⟨fun h => List.inj_on_of_nodup_map hids hc hb (congrArg ElemKey.id h.1).symm,
      fun h => h.symm ▸ ⟨rfl, hq⟩⟩
  rw [List.filter_filter, ← List.countP_eq_length_filter, List.countP_congr e]
  exact List.count_eq_one_of_mem (List.Nodup.of_map _ hids) hb

/-- "each source alone" is a partition: one exemption list `[s]` per active source `s` of `N` -/
theorem each_source_partition {α : Type} (N : Net L K) (hids : N.ids.Nodup) (parts : List α)
    (keep : α → List (ElemKey K))
    (hkeeps : parts.map keep = (N.branches.filter (·.e.isActive)).map fun b => [b.key]) :
    ∀ b ∈ N.branches, b.e.isActive = true → (parts.filter fun p => (keep p).contains b.key).length = 1 := by
  intro b hb ha
  have e : (parts.filter fun p => (keep p).contains b.key).length
      = ((parts.map keep).filter fun k => k.contains b.key).length := by
    rw [List.filter_map, List.length_map]; rfl
  rw [e, hkeeps, List.filter_map, List.length_map]
  exact filter_key_length N.branches hids (·.e.isActive) b hb ha

/-- **C04 (each source acting alone — the textbook statement).**  `N` with distinct identifiers, well-posed.
There is one part per active source of `N` (`is_voltage_source` or `is_current_source`), in listing order, and
the exemption list of the part of source `s` is `[s]`: `p.net` is the network the library returns when it
deactivates every source but `s`.  Then for ANY solutions: potentials and voltages of `N` are the sums over the
sources of the responses to each source alone; so are the reported currents of every branch that is not a
linear (lossy) source; and the reported current of a lossy source `s` is its current when acting alone MINUS
the currents through it when each of the other sources acts alone.  Same scope as
`C04_zeroing_superpose_groups`, of which this is the instance `keepₖ = [sₖ]`. -/
theorem C04_each_source_alone (N : Net L K) (parts : List (ZeroPart L K))
    (hids : N.ids.Nodup) (hw : WellPosed N)
    (hkeeps : parts.map (·.keep) = (N.branches.filter (·.e.isActive)).map fun b => [b.key])
    (hdeact : ∀ p ∈ parts, deactivateOthers N p.keep = .ok p.net)
    (hsol : ∀ p ∈ parts, CircuitEqs p.net p.rep)
    (R : Report L K) (hR : CircuitEqs N R) :
    (∀ n ∈ N.allLabels, R.pot n = (parts.map fun p => p.rep.pot n).sum) ∧
    (∀ b ∈ N.branches, R.v b.id = (parts.map fun p => p.rep.v b.id).sum) ∧
    (∀ b ∈ N.branches, b.e.isLossy = false → R.i b.id = (parts.map fun p => p.rep.i b.id).sum) ∧
    (∀ b ∈ N.branches, b.e.isLossy = true → ∀ l₁ p l₂, parts = l₁ ++ p :: l₂ → p.keep = [b.key] →
      R.i b.id = p.rep.i b.id - ((l₁ ++ l₂).map fun q => q.rep.i b.id).sum) := by
  obtain ⟨h1, h2, h3, _, h5⟩ := C04_zeroing_superpose_groups N parts hids hw hdeact hsol
    (each_source_partition N hids parts (·.keep) hkeeps) R hR
  refine ⟨h1, h2, h3, fun b hb hl l₁ p l₂ hs hk => h5 b hb hl l₁ p l₂ hs ?_⟩
  rw [hk]; simp

/-- **C04 (each source acting alone, reported values).**  As `C04_each_source_alone`, about the values the
accessors return for whatever vectors satisfy the matrix equations of `N` and of the network returned for
each source. -/
theorem C04_reported_each_source_alone (N : Net L K) (parts : List (ZeroPartX L K))
    (wf : N.WF) (hw : WellPosed N)
    (hkeeps : parts.map (·.keep) = (N.branches.filter (·.e.isActive)).map fun b => [b.key])
    (hdeact : ∀ p ∈ parts, deactivateOthers N p.keep = .ok p.net)
    (hlen : ∀ p ∈ parts, p.x.length = p.net.nodes.length + p.net.vsIds.length)
    (hmat : ∀ p ∈ parts, matVec p.net.mnaA p.x = p.net.mnaB)
    (x : List K) (hx : x.length = N.nodes.length + N.vsIds.length) (h : matVec N.mnaA x = N.mnaB) :
    let R := N.reportOf x
    (∀ n ∈ N.allLabels, R.pot n = (parts.map fun p => (p.net.reportOf p.x).pot n).sum) ∧
    (∀ b ∈ N.branches, R.v b.id = (parts.map fun p => (p.net.reportOf p.x).v b.id).sum) ∧
    (∀ b ∈ N.branches, b.e.isLossy = false →
      R.i b.id = (parts.map fun p => (p.net.reportOf p.x).i b.id).sum) ∧
    (∀ b ∈ N.branches, b.e.isLossy = true → ∀ l₁ p l₂, parts = l₁ ++ p :: l₂ → p.keep = [b.key] →
      R.i b.id = (p.net.reportOf p.x).i b.id - ((l₁ ++ l₂).map fun q => (q.net.reportOf q.x).i b.id).sum) := by
  intro R
  obtain ⟨h1, h2, h3, _, h5⟩ := C04_reported_zeroing_superpose_groups N parts wf hw hdeact hlen hmat
    (each_source_partition N wf.ids_nodup parts (·.keep) hkeeps) x hx h
  refine ⟨h1, h2, h3, fun b hb hl l₁ p l₂ hs hk => h5 b hb hl l₁ p l₂ hs ?_⟩
  rw [hk]; simp

/-- `Vq = 8 V` behind 2 Ω (linear voltage source), `Iq = 1 A` beside 1/2 S (linear current source) and the
ideal current source `J = 2 A`, all between nodes `1` and `0` -/
def triN : Net String ℚ :=
  ⟨[⟨"1", "0", "Vq", "", .norton 2 8⟩, ⟨"1", "0", "Iq", "", .thevenin (1/2) 1⟩,
    ⟨"1", "0", "J", "", .thevenin 0 2⟩], "0"⟩
/-- `Vq` alone: `Iq` becomes `impedance("Iq", 2)`, `J` becomes `admittance("J", 0)` -/
def triNA : Net String ℚ :=
  ⟨[⟨"1", "0", "Vq", "", .norton 2 8⟩, ⟨"1", "0", "Iq", "impedance", .norton 2 0⟩,
    ⟨"1", "0", "J", "admittance", .thevenin 0 0⟩], "0"⟩
/-- `Iq` alone -/
def triNB : Net String ℚ :=
  ⟨[⟨"1", "0", "Vq", "impedance", .norton 2 0⟩, ⟨"1", "0", "Iq", "", .thevenin (1/2) 1⟩,
    ⟨"1", "0", "J", "admittance", .thevenin 0 0⟩], "0"⟩
/-- `J` alone -/
def triNC : Net String ℚ :=
  ⟨[⟨"1", "0", "Vq", "impedance", .norton 2 0⟩, ⟨"1", "0", "Iq", "impedance", .norton 2 0⟩,
    ⟨"1", "0", "J", "", .thevenin 0 2⟩], "0"⟩

def triR : Report String ℚ :=
  { pot := fun n => if n = "1" then -7 else 0, v := fun _ => -7,
    i := fun id => if id = "Vq" then -1/2 else if id = "Iq" then 5/2 else 2 }
def triRA : Report String ℚ :=
  { pot := fun n => if n = "1" then -4 else 0, v := fun _ => -4,
    i := fun id => if id = "Vq" then -2 else if id = "Iq" then -2 else 0 }
def triRB : Report String ℚ :=
  { pot := fun n => if n = "1" then -1 else 0, v := fun _ => -1,
    i := fun id => if id = "Vq" then -1/2 else if id = "Iq" then -1/2 else 0 }
def triRC : Report String ℚ :=
  { pot := fun n => if n = "1" then -2 else 0, v := fun _ => -2,
    i := fun id => if id = "Vq" then -1 else if id = "Iq" then -1 else 2 }

def triParts : List (ZeroPart String ℚ) :=
  [⟨[⟨"Vq", "", .norton 2 8⟩], triNA, triRA⟩, ⟨[⟨"Iq", "", .thevenin (1/2) 1⟩], triNB, triRB⟩,
   ⟨[⟨"J", "", .thevenin 0 2⟩], triNC, triRC⟩]

theorem triN_ids : triN.ids.Nodup := by decide +kernel

theorem triN_deact (keep : List (ElemKey ℚ)) :
    deactivateOthers triN keep = .ok ⟨triN.branches.map fun b => zeroCS keep (zeroVS keep b), "0"⟩ :=
  deactivateOthers_ok triN keep ⟨⟨"1", "0", "Vq", "", .norton 2 8⟩, by decide +kernel, Or.inr rfl⟩ triN_ids

theorem triR_solves : CircuitEqs triN triR := by decide +kernel

theorem triN_wf : triN.WF := by decide +kernel

/-- the matrix of `triN` is the single entry `1/2 + 1/2 + 0 = 1` -/
theorem triN_wellPosed : WellPosed triN :=
  wellPosed_of_matrix triN_wf (A := [[1]])
    (by simp only [Net.mnaA, Net.nodes, Net.nodeLabels, sortL_string]; decide +kernel) (by decide +kernel)

theorem triParts_keeps :
    triParts.map (·.keep) = (triN.branches.filter (·.e.isActive)).map fun b => [b.key] := by
  decide +kernel

theorem triParts_deact : ∀ p ∈ triParts, deactivateOthers triN p.keep = .ok p.net := fun p hp =>
  have h : ∀ p ∈ triParts, triN.branches.map (fun b => zeroCS p.keep (zeroVS p.keep b)) = p.net.branches ∧
      "0" = p.net.zero := by decide +kernel
  (triN_deact p.keep).trans (by rw [(h p hp).1, (h p hp).2])

theorem triParts_sol : ∀ p ∈ triParts, CircuitEqs p.net p.rep := by decide +kernel

/-- **C04 (three sources, each alone — non-vacuity).**  The three-source network `triN` meets every
hypothesis of `C04_each_source_alone` / `C04_zeroing_superpose_groups` (distinct identifiers, well-posed, one
part per active source, the library returns `triNA` / `triNB` / `triNC`, all four circuits solved), and the
conclusions read on it: the potential −7 = −4 − 1 − 2; the reported current of the ideal source `J` is the
plain sum 2 = 0 + 0 + 2; the reported current of the lossy source `Vq` is −1/2 = −2 − (−1/2) − (−1) (own part
minus the others), NOT the plain sum −7/2; that of the lossy `Iq` is 5/2 = −1/2 − (−2) − (−1). -/
theorem C04_three_sources :
    triN.ids.Nodup ∧ WellPosed triN ∧
    (triParts.map (·.keep) = (triN.branches.filter (·.e.isActive)).map fun b => [b.key]) ∧
    (∀ p ∈ triParts, deactivateOthers triN p.keep = .ok p.net) ∧
    (∀ p ∈ triParts, CircuitEqs p.net p.rep) ∧ CircuitEqs triN triR ∧
    triR.pot "1" = triRA.pot "1" + triRB.pot "1" + triRC.pot "1" ∧
    triR.i "J" = triRA.i "J" + triRB.i "J" + triRC.i "J" ∧
    triR.i "Vq" = triRA.i "Vq" - triRB.i "Vq" - triRC.i "Vq" ∧
    triR.i "Iq" = triRB.i "Iq" - triRA.i "Iq" - triRC.i "Iq" ∧
    triR.i "Vq" ≠ triRA.i "Vq" + triRB.i "Vq" + triRC.i "Vq" := by
  exact ⟨triN_ids, triN_wellPosed, triParts_keeps, triParts_deact, triParts_sol, triR_solves,
    by decide +kernel, by decide +kernel, by decide +kernel, by decide +kernel, by decide +kernel⟩

/-- the relation for the lossy `Iq` (middle part) obtained FROM `C04_each_source_alone` -/
example : triR.i "Iq" = triRB.i "Iq" - (triRA.i "Iq" + (triRC.i "Iq" + 0)) :=
  (C04_each_source_alone triN triParts triN_ids triN_wellPosed triParts_keeps triParts_deact triParts_sol
    triR triR_solves).2.2.2 ⟨"1", "0", "Iq", "", .thevenin (1/2) 1⟩ (by decide +kernel)
    (by decide +kernel)
    [⟨[⟨"Vq", "", .norton 2 8⟩], triNA, triRA⟩] ⟨[⟨"Iq", "", .thevenin (1/2) 1⟩], triNB, triRB⟩
    [⟨[⟨"J", "", .thevenin 0 2⟩], triNC, triRC⟩] rfl rfl

/-- the potential of node `1` obtained FROM `C04_zeroing_superpose_groups` (partition hypothesis included) -/
example : triR.pot "1" = triRA.pot "1" + (triRB.pot "1" + (triRC.pot "1" + 0)) :=
  (C04_zeroing_superpose_groups triN triParts triN_ids triN_wellPosed triParts_deact triParts_sol
    (each_source_partition triN triN_ids triParts (·.keep) triParts_keeps) triR triR_solves).1 "1"
    (by decide +kernel)

/-- existence of the solution vectors the reported versions quantify over -/
example : ∃ x : List ℚ, x.length = triN.nodes.length + triN.vsIds.length ∧ matVec triN.mnaA x = triN.mnaB := by
  obtain ⟨x, hx, h, _⟩ := C01_exists triN triN_wf triN_wellPosed
  exact ⟨x, hx, h⟩

end CC
