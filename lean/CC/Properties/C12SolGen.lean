/-
  Property C12, translator tie — `TransientSolution.__post_init__` (Circuit/solution.py).

  harness/extract_solution.py translates the method statement by statement into the GENERATED tree
  `Gen.Sol.methodTable` (CC/Gen/Solution.lean, rewritten from the source on every run);
  CC/Model/SolutionEval.lean part (B) is the reading of that tree (`evalI`, `transientInit`: `self._ssm` = the generated
  `NodalStateSpaceModel` object, `self.input` = a dict of time functions, `self.solver` = an arbitrary function of
  the record `SolverCall` of its arguments).

  A `for` statement in the method (filling `_u` by a row loop) is refused by the translator; a shifted time axis or any
  other change of the statements changes the generated tree, and `C12_gen_init_shape` then fails.
  NOT covered: the statements before `self._ssm = …` beyond their literal
  shape; what the solver computes; dtypes; user functions that raise or broadcast.
-/
import CC.Proofs.SolEval
import CC.Properties.C10Gen
import CC.Properties.C10
set_option linter.unusedSectionVars false
namespace CC
open Gen Gen.Core Gen.State Gen.Sol SolEval

/-- `np.array([self.input[input_id](self.tin) for input_id in self._ssm.sources])` -/
def uExpr : PExpr :=
  .call "np.array" (.pos (.comp (.apply (.index (.self "input") (.name "input_id")) (.pos (.self "tin") .nil))
    (.name "input_id") (.attr (.self "_ssm") "sources")) .nil)

/-- `self._ssm.A.shape[0]` -/
def nStatesExpr : PExpr := .index (.attr (.attr (.self "_ssm") "A") "shape") (.nat 0)

/-- `self.solver(StateSpaceModel(A=self._ssm.A, B=self._ssm.B, C=np.eye(n), D=np.zeros((n, self._ssm.B.shape[1]))),
self._u.T, self.tin, np.zeros((n, 1)))` with `n = self._ssm.A.shape[0]` -/
def solverCallExpr : PExpr :=
  .apply (.self "solver")
    (.pos (.call "StateSpaceModel"
        (.kw "A" (.attr (.self "_ssm") "A") (.kw "B" (.attr (.self "_ssm") "B")
        (.kw "C" (.call "np.eye" (.pos nStatesExpr .nil))
        (.kw "D" (.call "np.zeros" (.pos (.tuple (.pos nStatesExpr
            (.pos (.index (.attr (.attr (.self "_ssm") "B") "shape") (.nat 1)) .nil))) .nil)) .nil)))))
      (.pos (.attr (.self "_u") "T") (.pos (.self "tin")
        (.pos (.call "np.zeros" (.pos (.tuple (.pos nStatesExpr (.pos (.nat 1) .nil))) .nil)) .nil))))

/-- `np.reshape(self._x, (self._x.shape[0], self._ssm.A.shape[0])).T` -/
def xPostExpr : PExpr :=
  .attr (.call "np.reshape" (.pos (.self "_x") (.pos (.tuple (.pos (.index (.attr (.self "_x") "shape") (.nat 0))
    (.pos nStatesExpr .nil))) .nil))) "T"

/-- **the generated tree of `TransientSolution.__post_init__`, literally.** -/
theorem C12_gen_init_shape :
    findMethod "TransientSolution" "__post_init__" = some
      { cls := "TransientSolution", name := "__post_init__", params := [],
        body := [
          .assign (.name "network") (.index (.call "transform" (.pos (.self "circuit") (.kw "w" (.list (.pos (.nat 0) .nil)) .nil))) (.nat 0)),
          .verbatim "C_values" "{c.id: float(c.value['C']) for c in self.circuit.components if c.type == 'capacitor'}",
          .verbatim "L_values" "{c.id: float(c.value['L']) for c in self.circuit.components if c.type == 'inductance'}",
          .assign (.self "_ssm") (.call "nodal_state_space_model" (.pos (.name "network") (.kw "c_values" (.name "C_values") (.kw "l_values" (.name "L_values") .nil)))),
          .assign (.self "_u") uExpr,
          .assign (.tuple (.pos (.self "_tout") (.pos (.self "_x") (.pos (.name "_") .nil)))) solverCallExpr,
          .assign (.self "_x") xPostExpr] } := findMethod_entry 11 rfl

section
variable {K : Type} [Zero K] [One K]

theorem mapM_rows (input : String → Option (List K → List K)) (tin : List K) (F : IVal K → Except Err (IVal K))
    (hF : ∀ s, F (.str s) = match input s with | some f => .ok (.vec (f tin)) | none => .error .keyError)
    (sources : List String) :
    List.mapM (F ∘ IVal.str) sources
      = (transientU sources (fun s => (input s).map (· tin))).map (fun U => U.map IVal.vec) := by
  rw [transientU, ← mapM_map_left]
  congr 1; funext s
  rw [Function.comp, hF]
  cases input s <;> rfl

theorem evalI_uExpr (g : NodalStateSpaceModel String K) (lsim : SolverCall K → List K × IVal K × IVal K)
    (input : String → Option (List K → List K)) (tin : List K) :
    evalI g lsim (env0 input tin) uExpr = (transientU g.sources (fun s => (input s).map (· tin))).map ofRows := by
  unfold uExpr
  simp only [evalI, bind, Except.bind, pure, Except.pure, env0, List.lookup_cons, String.reduceBEq, getAttr, callNamed,
    ↓reduceIte, List.mapM_map]
  rw [mapM_rows input tin _ (fun s => by cases h : input s <;> simp [getItem, applyVal, h]) g.sources]
  cases transientU g.sources (fun s => (input s).map (· tin)) with
  | error e => rfl
  | ok U => simp [Except.map, mapM_ok (asVec ∘ IVal.vec) id U fun _ _ => rfl]

/-- `self._u.T` for `self._u = np.array(rows)` -/
def uT (U : List (List K)) : IVal K :=
  match U with
  | [] => .vec []
  | r :: _ => .mat (Py.Mat.T ⟨U.length, r.length, U⟩)

theorem getAttr_T_ofRows (g : NodalStateSpaceModel String K) (U : List (List K)) :
    getAttr g (ofRows U) "T" = .ok (uT U) := by
  cases U <;> simp [ofRows, getAttr, uT]

def modelCall (g : NodalStateSpaceModel String K) (U : List (List K)) (tin : List K) : SolverCall K :=
  { A := g.A, B := g.B, C := Py.Mat.identity g.A.nrows, D := Py.Mat.zeros g.A.nrows g.B.ncols,
    u := uT U, t := tin, x0 := Py.Mat.zeros g.A.nrows 1 }

/-- `a.shape[0]` -/
def shape0 : IVal K → Option Nat
  | .mat M => some M.nrows
  | .vec v => some v.length
  | _ => none

theorem solver_stmt (g : NodalStateSpaceModel String K) (lsim : SolverCall K → List K × IVal K × IVal K)
    (input : String → Option (List K → List K)) (tin : List K) (U : List (List K)) :
    evalI g lsim ⟨("_u", ofRows U) :: (env0 input tin).self, (env0 input tin).locals⟩ solverCallExpr
      = .ok (.list [.vec (lsim (modelCall g U tin)).1, (lsim (modelCall g U tin)).2.1, (lsim (modelCall g U tin)).2.2]) := by
  unfold solverCallExpr nStatesExpr
  -- `self._u.T`: `ofRows U` is a vector or a matrix according to `U`, and `getAttr` matches on that.  With `↓` the equation
  -- `getAttr_T_ofRows` is tried on `getAttr g (ofRows U) "T"` before `simp` enters it; without, the equations of `getAttr`
  -- (needed for the other attributes) unfold it first and leave a `match ofRows U, "T" with …` that is stuck on the variable `U`.
  simp only [evalI, bind, Except.bind, pure, Except.pure, ↓getAttr_T_ofRows, modelCall, env0, List.lookup_cons,
    String.reduceBEq, getAttr, getItem, callNamed, mkModel, kwLookup, applyVal, String.reduceEq, ↓reduceIte,
    List.getElem?_cons_zero, List.getElem?_cons_succ, List.length_cons, List.length_nil, zero_add, Nat.reduceAdd]

theorem xpost_stmt (g : NodalStateSpaceModel String K) (lsim : SolverCall K → List K × IVal K × IVal K)
    (x : IVal K) (rest locals : List (String × IVal K)) (T : Nat) (Xr : Py.Mat K)
    (hssm : rest.lookup "_ssm" = some .ssm) (hT : shape0 x = some T) (hX : reshape2 x T g.A.nrows = .ok (.mat Xr)) :
    evalI g lsim ⟨("_x", x) :: rest, locals⟩ xPostExpr = .ok (.mat Xr.T) := by
  unfold xPostExpr nStatesExpr
  -- only arrays have a first dimension: `x` is 1-d or 2-d and `T` its length / number of rows
  cases x with
  | vec v | mat M =>
    obtain rfl := Option.some.inj hT
    simp only [evalI, bind, Except.bind, pure, Except.pure, List.lookup_cons, String.reduceBEq, hssm, getAttr,
      getItem, callNamed, hX, String.reduceEq, ↓reduceIte, List.getElem?_cons_zero]
  | _ => cases hT

end

section
variable {K : Type} [Field K] [DecidableEq K]

/-- **C12 (generated `_u`).**  In the tree generated from `TransientSolution.__post_init__` the first statement after
`self._ssm = …` assigns `self._u`, and — for every model object `g` (= `self._ssm`), every dict `input` of time
functions and every requested time vector `tin` — the reading of its right-hand side is the 2-d array whose rows are
the hand model's `transientU` over `g.sources` (the GENERATED `sources` of CC/Gen/StateSpace.lean) with the input of
source `s` being `input[s](tin)`; a source without input function is a `KeyError`.  Hence (third conjunct) row `i`
is the input function of `sources[i]` evaluated on `tin`, in the order of `sources` — which for an object related to
the hand model (`SSRel`, `C10_gen_rel`) is `ssSources`: current sources, then the voltage sources that are no
inductor (second conjunct).
Says about the code: a changed iteration source, per-row expression (`self.input[input_id](self.tin)`), array
constructor, keyword (`dtype=`) or a row loop instead of the comprehension changes the generated tree (or is refused)
and `C12_gen_init_shape` / this proof fails.  Does not say: what the user's functions return (total maps here),
numpy dtype / broadcasting, that `sources` matches the columns of `B` (C10 / C12: `C10_gen_sources`, `C12_sample_rhs`). -/
theorem C12_gen_input_rows (g : NodalStateSpaceModel String K) (lsim : SolverCall K → List K × IVal K × IVal K)
    (input : String → Option (List K → List K)) (tin : List K) :
    (∃ m e, findMethod "TransientSolution" "__post_init__" = some m ∧
      (afterSsm m.body).head? = some (.assign (.self "_u") e) ∧
      evalI g lsim (env0 input tin) e
        = (transientU g.sources (fun s => (input s).map (· tin))).map ofRows) ∧
    (∀ {m : NSSM String K}, SSRel g m → g.sources = ssSources m.net m.lvals) ∧
    (∀ U, transientU g.sources (fun s => (input s).map (· tin)) = .ok U →
      U.length = g.sources.length ∧
      ∀ i (hi : i < g.sources.length) (hi' : i < U.length), ∃ f, input g.sources[i] = some f ∧ U[i] = f tin) := by
  refine ⟨⟨_, uExpr, C12_gen_init_shape, rfl, evalI_uExpr g lsim input tin⟩, fun h => C10_gen_sources h, ?_⟩
  intro U hU
  have fa := mapM_eq_ok.1 hU
  refine ⟨fa.length_eq.symm, fun i hi hi' => ?_⟩
  have hi2 := fa.get hi hi'
  simp only [List.get_eq_getElem] at hi2
  cases hf : input g.sources[i] with
  | none => rw [hf] at hi2; cases hi2
  | some f => rw [hf] at hi2; exact ⟨f, rfl, (Except.ok.inj hi2).symm⟩

/-- **C12 (generated solver call).**  Reading the generated tree of `TransientSolution.__post_init__` from the
statement after `self._ssm = …` to its end: when every source has an input function (`transientU … = ok U`), the
solver is called ONCE, with exactly `modelCall g U tin` — `A`, `B` of the model object, `C = I_n`, `D = 0_{n×m}`
(`n = A.shape[0]`, `m = B.shape[1]`), the transposed array of the input rows `U` (row `i` = input of `sources[i]` on
`tin`: `C12_gen_input_rows`), the requested time vector `tin` itself, and the zero column `np.zeros((n, 1))` as
initial state (its entries are the hand model's `transientX0 n`) — and its three results are bound to `self._tout`
(first, unchanged), `self._x` (second) and a discarded local; `self._x` is then re-assigned
`np.reshape(self._x, (self._x.shape[0], n)).T`, one row per state.  `lsim` is arbitrary, so the statement determines every
argument.  A missing input function aborts with `KeyError` before the solver is called (second conjunct).
Hypotheses: the solver's second result is an array (`shape0`) that reshapes to `(T, n)` (`hX`) — numpy's `ValueError`
otherwise.  Does not say: what the solver computes (C12 assumption), dtypes. -/
theorem C12_gen_solver_call (g : NodalStateSpaceModel String K) (lsim : SolverCall K → List K × IVal K × IVal K)
    (input : String → Option (List K → List K)) (tin : List K) :
    (∀ U T Xr, transientU g.sources (fun s => (input s).map (· tin)) = .ok U →
      shape0 (lsim (modelCall g U tin)).2.1 = some T →
      reshape2 (lsim (modelCall g U tin)).2.1 T g.A.nrows = .ok (.mat Xr) →
      transientInit g lsim input tin = .ok
        ⟨("_x", .mat Xr.T) :: ("_x", (lsim (modelCall g U tin)).2.1) :: ("_tout", .vec (lsim (modelCall g U tin)).1)
            :: ("_u", ofRows U) :: (env0 input tin).self,
          [("_", (lsim (modelCall g U tin)).2.2)]⟩) ∧
    (∀ e, transientU g.sources (fun s => (input s).map (· tin)) = .error e →
      transientInit g lsim input tin = .error e) ∧
    (∀ U, (modelCall g U tin).x0.rows.flatten = (transientX0 g.A.nrows : List K)) := by
  refine ⟨?_, ?_, ?_⟩
  · intro U T Xr hU hT hX
    unfold transientInit
    rw [C12_gen_init_shape]
    simp only [afterSsm, if_true, runStmts, runStmt, evalI_uExpr, hU, Except.map, bind, Except.bind, bindTarget,
      bind1, solver_stmt, bindChain]
    rw [xpost_stmt g lsim _ _ _ T Xr (by simp [env0, List.lookup_cons]) hT hX]
    rfl
  · intro e hU
    unfold transientInit
    rw [C12_gen_init_shape]
    simp only [afterSsm, if_true, runStmts, runStmt, evalI_uExpr, hU, Except.map, bind, Except.bind]
  · intro U
    simp [modelCall, Py.Mat.zeros, transientX0, Mx.zeroVec]
end

/-- the series circuit `V(1,0) – R=1 (1,2) – C=1 (2,0)` of CC/Properties/C10.lean as generated model object (one state,
one source `V`) -/
def exG : NodalStateSpaceModel String ℚ := ssToGen netRC [("C", 1)] [] ⟨[[-1]], [[1]], [[0], [1], [1]], [[1], [0], [-1]]⟩

theorem exG_sources : exG.sources = ["V"] := by decide +kernel

/-- input `V ↦ (t ↦ 2t)` on the grid `[0, 1]`, a solver returning the states `(0, 1)` as a `2×1` array: the
hypotheses of `C12_gen_solver_call` are met (`U = [[0, 2]]`, `T = 2`, `_x = [[0, 1]]`) … -/
example : ∃ (lsim : SolverCall ℚ → List ℚ × IVal ℚ × IVal ℚ) (input : String → Option (List ℚ → List ℚ)),
    transientU exG.sources (fun s => (input s).map (· [0, 1])) = .ok [[0, 2]] ∧
    shape0 (lsim (modelCall exG [[0, 2]] [0, 1])).2.1 = some 2 ∧
    reshape2 (lsim (modelCall exG [[0, 2]] [0, 1])).2.1 2 exG.A.nrows = .ok (.mat ⟨2, 1, [[0], [1]]⟩) :=
  ⟨fun c => (c.t, .mat ⟨2, 1, [[0], [1]]⟩, .mat ⟨2, 1, [[0], [0]]⟩),
   fun s => if s = "V" then some (fun t => t.map (2 * ·)) else none,
   by rw [exG_sources]; decide +kernel, rfl, by
     have h : exG.A.nrows = 1 := by decide +kernel
     rw [h]; simp [reshape2, flatOf, List.range_succ]⟩

/-- … and a dict without the source's function aborts with `KeyError` (second conjunct of `C12_gen_solver_call`) -/
example (lsim : SolverCall ℚ → List ℚ × IVal ℚ × IVal ℚ) :
    transientInit exG lsim (fun _ => none) [0, 1] = .error .keyError :=
  (C12_gen_solver_call exG lsim (fun _ => none) [0, 1]).2.1 _ (by rw [exG_sources]; rfl)

end CC
