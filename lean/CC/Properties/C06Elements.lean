/-
  Property C06 — "follows jwL and 1/(jwC) over frequency, and obeys series/parallel composition": the element clause
  of the property text.  The closed forms are proved for `PortZ` on explicit one- and two-branch networks (existence
  and value), carried to the model of `open_circuit_impedance` by `C06_model_value_of_portZ` (whatever number the
  function returns is the Spec's), and to components through the records the generated translators of
  Circuit/transformers.py write (`C07_faithful_*`).  The wrappers of Circuit/impedance.py (`sweep`, `dcResistance` of
  CC/Model/Port.lean) are characterised entry by entry.
-/
import CC.Properties.C07
import CC.Proofs.ExceptLemmas
import CC.Properties.C06Prune
set_option linter.unusedSectionVars false
set_option linter.unusedVariables false

namespace CC
section spec
variable {L K : Type} [DecidableEq L] [LabelOrd L] [Field K] [DecidableEq K]

/-- **C06 (the impedance of a single element).**  The network that consists of ONE branch from `a` to `b` (any record
that is not an ideal current source / open circuit; any reference node `g`; a source's value is irrelevant — it is
deactivated — and its internal impedance is kept) has a port impedance between `a` and `b`, and it is the element's
impedance `Zfin`: `Z` for an impedance record `(Z, V)`, `1/Y` for an admittance record `(Y, I)`.  With the records the
translators write (`C06_capacitor_impedance`, `C06_inductance_impedance`, `C06_resistor_impedance`) this is
"an inductor contributes `jwL`, a capacitor `1/(jwC)`". -/
theorem C06_single_element_impedance (g a b : L) (id ty pid : String) (e : Elem K)
    (hcs : e.isIdealCS = false) (hab : a ≠ b) (hpid : pid ≠ id) :
    PortZ (⟨[⟨a, b, id, ty, e⟩], g⟩ : Net L K) pid a b e.Zfin := by
  rw [portZ_iff_portLine _ pid (by simp [Net.ids, hpid])]
  exact PortLine.single g a b hab id ty e hcs

/-- **C06 (series composition of two branches).**  Two branches in series, `a — m — b` (neither an ideal current
source / open circuit; any reference node): the port impedance between `a` and `b` exists and is `Z₁ + Z₂`. -/
theorem C06_portZ_series (g a m b : L) (id1 ty1 id2 ty2 pid : String) (e1 e2 : Elem K)
    (h1 : e1.isIdealCS = false) (h2 : e2.isIdealCS = false) (hab : a ≠ b) (ham : a ≠ m) (hmb : m ≠ b)
    (hid : id1 ≠ id2) (hp1 : pid ≠ id1) (hp2 : pid ≠ id2) :
    PortZ (⟨[⟨a, m, id1, ty1, e1⟩, ⟨m, b, id2, ty2, e2⟩], g⟩ : Net L K) pid a b (e1.Zfin + e2.Zfin) := by
  have := (PortLine.single g m b hmb id2 ty2 e2 h2).series (c := a) (by simp [ham.symm, hab.symm]) ham hab
    id1 ty1 e1 h1 (by simp [hid])
  rw [add_comm] at this
  exact (C06_port_invariant_perm (⟨[⟨a, m, id1, ty1, e1⟩, ⟨m, b, id2, ty2, e2⟩], g⟩ : Net L K)
    ⟨[⟨m, b, id2, ty2, e2⟩, ⟨a, m, id1, ty1, e1⟩], g⟩ rfl (List.Perm.swap _ _ _) pid a b _).mpr
    ((portZ_iff_portLine _ pid (by simp [Net.ids, hp1, hp2]) a b _).mpr this)

/-- **C06 (parallel composition of two branches).**  Two branches from `a` to `b` (neither an ideal current source /
open circuit; any reference node) with `Z₁ + Z₂ ≠ 0`: the port impedance exists and is `Z₁·Z₂/(Z₁ + Z₂)`.  (For
`Z₁ + Z₂ = 0` with non-zero `Z₁` — exact resonance of a loss-free pair — the unit current has no solution.) -/
theorem C06_portZ_parallel (g a b : L) (id1 ty1 id2 ty2 pid : String) (e1 e2 : Elem K)
    (h1 : e1.isIdealCS = false) (h2 : e2.isIdealCS = false) (hab : a ≠ b)
    (hid : id1 ≠ id2) (hp1 : pid ≠ id1) (hp2 : pid ≠ id2) (hD : e1.Zfin + e2.Zfin ≠ 0) :
    PortZ (⟨[⟨a, b, id1, ty1, e1⟩, ⟨a, b, id2, ty2, e2⟩], g⟩ : Net L K) pid a b
      (e1.Zfin * e2.Zfin / (e1.Zfin + e2.Zfin)) := by
  rw [portZ_iff_portLine _ pid (by simp [Net.ids, hp1, hp2])]
  exact (PortLine.single g a b hab id1 ty1 e1 h1).parallel id2 ty2 e2 h2 (by simp [hid.symm]) hD

/-- the parallel value as the harmonic sum: `1/Z = 1/Z₁ + 1/Z₂` for non-zero `Z₁`, `Z₂`, `Z₁ + Z₂` -/
theorem C06_portZ_parallel_harmonic (Z1 Z2 : K) (h1 : Z1 ≠ 0) (h2 : Z2 ≠ 0) (hD : Z1 + Z2 ≠ 0) :
    1 / (Z1 * Z2 / (Z1 + Z2)) = 1 / Z1 + 1 / Z2 := by
  field_simp; ring

theorem portZ_value_unique (N : Net L K) (pid : String) (a b : L) (z z' : K)
    (h : PortZ N pid a b z) (h' : PortZ N pid a b z') : z = z' := by
  obtain ⟨⟨R, hR⟩, hall⟩ := h
  rw [← hall R hR, h'.2 R hR]

/-- **C06 (model: whenever `open_circuit_impedance` returns a number and the Spec impedance is `z'`, the number is
`z'`).**  `C06_impl_eq_spec_pruned` plus uniqueness of `PortZ`. -/
theorem C06_model_value_of_portZ (N : Net L K) (solve : List (List K) → List K → Option (List K))
    (pid : String) (n1 n2 : L) (z z' : K) (hp : pid ∉ N.ids) (hsolve : SolveOK solve) (hids : N.ids.Nodup)
    (hsl : ∀ b ∈ N.branches, b.n1 ≠ b.n2) (hdef : PortZ N pid n1 n2 z')
    (h : N.openCircuitImpedance solve n1 n2 = .ok z) : z = z' :=
  portZ_value_unique N pid n1 n2 z z' (C06_impl_eq_spec_pruned N solve pid n1 n2 z z' hp hsolve hids hsl hdef h) hdef

/-- **C06 (model, single element).**  Whatever number the model of `open_circuit_impedance` returns for the one-branch
network between the branch's terminals is the element's impedance. -/
theorem C06_single_element_model (solve : List (List K) → List K → Option (List K)) (hsolve : SolveOK solve)
    (g a b : L) (id ty : String) (e : Elem K) (hcs : e.isIdealCS = false) (hab : a ≠ b) (z : K)
    (h : (⟨[⟨a, b, id, ty, e⟩], g⟩ : Net L K).openCircuitImpedance solve a b = .ok z) : z = e.Zfin := by
  have hne : id ++ "'" ≠ id := by
    intro h; have := congrArg String.length h; simp at this
  exact C06_model_value_of_portZ _ solve (id ++ "'") a b z _ (by simp [Net.ids, hne]) hsolve (by simp [Net.ids])
    (by intro br hbr; simp only [List.mem_singleton] at hbr; subst hbr; exact hab)
    (C06_single_element_impedance g a b id ty _ e hcs hab hne) h

theorem C06_series_model (solve : List (List K) → List K → Option (List K)) (hsolve : SolveOK solve)
    (g a m b : L) (id1 ty1 id2 ty2 pid : String) (e1 e2 : Elem K)
    (h1 : e1.isIdealCS = false) (h2 : e2.isIdealCS = false) (hab : a ≠ b) (ham : a ≠ m) (hmb : m ≠ b)
    (hid : id1 ≠ id2) (hp1 : pid ≠ id1) (hp2 : pid ≠ id2) (z : K)
    (h : (⟨[⟨a, m, id1, ty1, e1⟩, ⟨m, b, id2, ty2, e2⟩], g⟩ : Net L K).openCircuitImpedance solve a b = .ok z) :
    z = e1.Zfin + e2.Zfin :=
  C06_model_value_of_portZ _ solve pid a b z _ (by simp [Net.ids, hp1, hp2]) hsolve (by simp [Net.ids, hid])
    (by intro br hbr
        simp only [List.mem_cons, List.not_mem_nil, or_false] at hbr
        rcases hbr with rfl | rfl <;> assumption)
    (C06_portZ_series g a m b id1 ty1 id2 ty2 pid e1 e2 h1 h2 hab ham hmb hid hp1 hp2) h

theorem C06_parallel_model (solve : List (List K) → List K → Option (List K)) (hsolve : SolveOK solve)
    (g a b : L) (id1 ty1 id2 ty2 pid : String) (e1 e2 : Elem K)
    (h1 : e1.isIdealCS = false) (h2 : e2.isIdealCS = false) (hab : a ≠ b)
    (hid : id1 ≠ id2) (hp1 : pid ≠ id1) (hp2 : pid ≠ id2) (hD : e1.Zfin + e2.Zfin ≠ 0) (z : K)
    (h : (⟨[⟨a, b, id1, ty1, e1⟩, ⟨a, b, id2, ty2, e2⟩], g⟩ : Net L K).openCircuitImpedance solve a b = .ok z) :
    z = e1.Zfin * e2.Zfin / (e1.Zfin + e2.Zfin) :=
  C06_model_value_of_portZ _ solve pid a b z _ (by simp [Net.ids, hp1, hp2]) hsolve (by simp [Net.ids, hid])
    (by intro br hbr
        simp only [List.mem_cons, List.not_mem_nil, or_false] at hbr
        rcases hbr with rfl | rfl <;> assumption)
    (C06_portZ_parallel g a b id1 ty1 id2 ty2 pid e1 e2 h1 h2 hab hid hp1 hp2 hD) h

/-- **C06 (an open branch has no port impedance).**  One branch that is an ideal current source / open circuit
(`Y = 0`: a capacitor at `w = 0`): the unit test current has no path — the probe network has no solution, `PortZ` is
undefined for every value (the code returns `np.inf`: `C06_isolated_port`). -/
theorem C06_single_open_no_impedance (g a b : L) (id ty pid : String) (I : K) (hab : a ≠ b) (z : K) :
    ¬ PortZ (⟨[⟨a, b, id, ty, .thevenin 0 I⟩], g⟩ : Net L K) pid a b z := by
  rintro ⟨⟨R, hR⟩, _⟩
  have h : EqsInj (zs ([] ++ [⟨a, b, id, ty, .thevenin 0 I⟩])) g R (injAB a b 1) := probe_eqsInj hR
  rw [zs_append_singleton, eqsInj_append_iff] at h
  obtain ⟨h2, _, hl⟩ := h
  -- Kirchhoff at `a` wants the unit current through the branch, its law allows none
  have ka := h2.kcl a
  rw [law_zs_thevenin] at hl
  simp only [zs, List.map_nil, List.sum_nil, zs_not_lossy, injAB, incidence, if_true, hab.symm, if_false] at ka hl
  rw [hl] at ka
  simp at ka

end spec

section wrappers
variable {K α : Type}

/-- entry-by-entry meaning of a sweep result: a number is `f`'s number, `none` is `f`'s `np.inf` -/
def SweepEntry (f : α → Except Err K) (n : α) (z : Option K) : Prop :=
  match z with
  | some v => f n = .ok v
  | none => f n = .error (.other "Infinite")

def sweepEntry : Except Err K → Except Err (Option K)
  | .ok z => .ok (some z)
  | .error (.other "Infinite") => .ok none
  | .error e => .error e

/-- the one place where the three cases of `f n` are looked at -/
theorem sweep_eq_mapM (f : α → Except Err K) (ns : List α) :
    sweep f ns = ns.mapM fun n => sweepEntry (f n) := by
  induction ns with
  | nil => rfl
  | cons n ns ih =>
    rw [sweep, List.mapM_cons, ← ih]
    generalize f n = r
    split
    · rw [sweepEntry.eq_2]; cases sweep f ns <;> rfl
    · rename_i he; rw [sweepEntry.eq_3 _ he]; rfl
    · rw [sweepEntry.eq_1]; cases sweep f ns <;> rfl

theorem sweepEntry_ok (f : α → Except Err K) (n : α) (z : Option K) :
    sweepEntry (f n) = .ok z ↔ SweepEntry f n z := by
  unfold SweepEntry sweepEntry
  generalize f n = r
  split <;> cases z <;> simp_all

theorem sweepEntry_error {r : Except Err K} {e : Err} :
    sweepEntry r = .error e ↔ r = .error e ∧ e ≠ .other "Infinite" := by
  unfold sweepEntry
  split
  · exact ⟨nofun, fun h => nomatch h.1⟩
  · exact ⟨nofun, fun h => absurd (Except.error.inj h.1).symm h.2⟩
  · rename_i he; exact ⟨fun h => by cases h; exact ⟨rfl, he⟩, fun h => by rw [Except.error.inj h.1]⟩

/-- **C06 (`sweep` = the single-frequency function mapped over the list).**  `sweep f nets` returns the list `zs` iff
`zs` has one entry per network and every entry is what `f` gives for that network (`none` standing for `np.inf`, an
isolated port node).  `sweep` models `np.array([f(net) for net in nets])`. -/
theorem C06_sweep_pointwise (f : α → Except Err K) (ns : List α) (zs : List (Option K)) :
    sweep f ns = .ok zs ↔ List.Forall₂ (SweepEntry f) ns zs := by
  simp only [sweep_eq_mapM, mapM_eq_ok, sweepEntry_ok]

theorem C06_sweep_map (f : α → Except Err K) (g : α → K) (ns : List α) (h : ∀ n ∈ ns, f n = .ok (g n)) :
    sweep f ns = .ok (ns.map fun n => some (g n)) := by
  rw [sweep_eq_mapM]
  exact mapM_pointwise _ fun n hn => by rw [h n hn]; rfl

/-- **C06 (`sweep` raises iff the function raises — other than `np.inf` — on some network).** -/
theorem C06_sweep_error (f : α → Except Err K) (ns : List α) :
    (∃ e, sweep f ns = .error e) ↔ ∃ n ∈ ns, ∃ e, f n = .error e ∧ e ≠ .other "Infinite" := by
  rw [sweep_eq_mapM]
  constructor
  · rintro ⟨e, h⟩
    obtain ⟨pre, a, post, rfl, _, ha⟩ := mapM_eq_error.1 h
    exact ⟨a, List.mem_append_right _ List.mem_cons_self, e, sweepEntry_error.1 ha⟩
  · rintro ⟨n, hn, e, he⟩
    exact mapM_error_of_mem _ ns n hn e (sweepEntry_error.2 he)

/-- **C06 (`open_circuit_dc_resistance` / `element_dc_resistance`).**  `dcResistance re f net₀` — the one-entry sweep
at the `w = 0` network, real part — returns `r` iff `f net₀` returns some `z` with `r = re z`. -/
theorem C06_dcResistance_eq (re : K → K) (f : α → Except Err K) (n0 : α) (r : K) :
    dcResistance re f n0 = .ok r ↔ ∃ z, f n0 = .ok z ∧ r = re z := by
  unfold dcResistance
  rw [bind_eq_ok]
  constructor
  · rintro ⟨l, hl, h⟩
    obtain ⟨z, _, hz, hnil, rfl⟩ := List.forall₂_cons_left_iff.1 ((C06_sweep_pointwise f _ _).1 hl)
    cases z with
    | none => cases h
    | some v => exact ⟨v, hz, (Except.ok.inj h).symm⟩
  · rintro ⟨z, hz, rfl⟩
    exact ⟨[some z], (C06_sweep_pointwise f _ _).2 (.cons hz .nil), rfl⟩

end wrappers

section circuit
variable (trig : Trig) (harm : Harm) (c : Component) (w wres : Rat) (a b : String)

theorem gq_jw (w X : Rat) : GQ.j * GQ.ofRat w * GQ.ofRat X = (⟨0, w * X⟩ : GQ) := by
  ext <;> simp [GQ.j, GQ.ofRat]

theorem gq_im_ne_zero (x : Rat) (h : x ≠ 0) : (⟨0, x⟩ : GQ) ≠ 0 := by
  intro e
  have := congrArg GQ.im e
  simp at this
  exact h this

/-- the branch a capacitor component becomes at frequency `w` (`C07_faithful_capacitor`) -/
def capBranch (id a b : String) (w C : Rat) : Branch String GQ :=
  { n1 := a, n2 := b, id := id, ty := "admittance", e := .thevenin ⟨0, w * C⟩ 0 }

/-- the branch an inductance component becomes at frequency `w` (`C07_faithful_inductance`) -/
def indBranch (id a b : String) (w L : Rat) : Branch String GQ :=
  { n1 := a, n2 := b, id := id, ty := "impedance", e := .norton ⟨0, w * L⟩ 0 }

/-- the branch a resistor component becomes (`C07_faithful_resistor`) -/
def resBranch (id a b : String) (R : Rat) : Branch String GQ :=
  { n1 := a, n2 := b, id := id, ty := "resistor", e := .norton ⟨R, 0⟩ 0 }

theorem capElem {w C : Rat} (hw : w ≠ 0) (hC : C ≠ 0) :
    (Elem.thevenin (⟨0, w * C⟩ : GQ) 0).isIdealCS = false ∧
    (Elem.thevenin (⟨0, w * C⟩ : GQ) 0).Zfin = 1 / (GQ.j * GQ.ofRat w * GQ.ofRat C) := by
  have hne : (⟨0, w * C⟩ : GQ) ≠ 0 := gq_im_ne_zero _ (mul_ne_zero hw hC)
  exact ⟨by simp [Elem.isIdealCS, hne], by simp only [Elem.Zfin, hne, if_false, gq_jw]⟩

/-- **C06 (a capacitor contributes `1/(jwC)`).**  A `capacitor` component with value `C ≠ 0` between `a ≠ b`, translated
at `w ≠ 0` by the generated translator table (the Python source of Circuit/transformers.py), becomes a branch whose
one-branch network has the port impedance `1/(j·w·C)` between its terminals (Spec: existence and value, any reference
node), and whatever number the model of `open_circuit_impedance` returns for that network is `1/(j·w·C)`. -/
theorem C06_capacitor_impedance (C : Rat) (hk : c.kind = "capacitor") (hn : c.nodes = [a, b])
    (hC : c.value.lookup "C" = some (.num C)) (hw : w ≠ 0) (hC0 : C ≠ 0) (hab : a ≠ b)
    (g pid : String) (hpid : pid ≠ c.id) :
    transformComponent Gen.tables trig harm c w wres = some (.ok (capBranch c.id a b w C)) ∧
    PortZ (⟨[capBranch c.id a b w C], g⟩ : Net String GQ) pid a b (1 / (GQ.j * GQ.ofRat w * GQ.ofRat C)) ∧
    ∀ solve, SolveOK solve → ∀ z,
      (⟨[capBranch c.id a b w C], g⟩ : Net String GQ).openCircuitImpedance solve a b = .ok z →
        z = 1 / (GQ.j * GQ.ofRat w * GQ.ofRat C) := by
  obtain ⟨hcs, hZ⟩ := capElem hw hC0
  refine ⟨(C07_faithful_capacitor trig harm c w wres a b C hk hn hC).1, ?_, fun solve hs z h => ?_⟩
  · rw [← hZ]; exact C06_single_element_impedance g a b c.id "admittance" pid _ hcs hab hpid
  · rw [← hZ]; exact C06_single_element_model solve hs g a b c.id "admittance" _ hcs hab z h

/-- **C06 (an inductor contributes `jwL`).**  An `inductance` component, translated at any `w`: port impedance `j·w·L`
(at `w = 0` that is `0`: the branch is a short circuit). -/
theorem C06_inductance_impedance (L : Rat) (hk : c.kind = "inductance") (hn : c.nodes = [a, b])
    (hL : c.value.lookup "L" = some (.num L)) (hab : a ≠ b) (g pid : String) (hpid : pid ≠ c.id) :
    transformComponent Gen.tables trig harm c w wres = some (.ok (indBranch c.id a b w L)) ∧
    PortZ (⟨[indBranch c.id a b w L], g⟩ : Net String GQ) pid a b (GQ.j * GQ.ofRat w * GQ.ofRat L) ∧
    ∀ solve, SolveOK solve → ∀ z,
      (⟨[indBranch c.id a b w L], g⟩ : Net String GQ).openCircuitImpedance solve a b = .ok z →
        z = GQ.j * GQ.ofRat w * GQ.ofRat L := by
  have hZ : (Elem.norton (⟨0, w * L⟩ : GQ) 0).Zfin = GQ.j * GQ.ofRat w * GQ.ofRat L := by
    rw [gq_jw]; rfl
  refine ⟨(C07_faithful_inductance trig harm c w wres a b L hk hn hL).1, ?_, fun solve hs z h => ?_⟩
  · rw [← hZ]; exact C06_single_element_impedance g a b c.id "impedance" pid _ rfl hab hpid
  · rw [← hZ]; exact C06_single_element_model solve hs g a b c.id "impedance" _ rfl hab z h

/-- **C06 (a resistor contributes `R`)**, at every frequency. -/
theorem C06_resistor_impedance (R : Rat) (hk : c.kind = "resistor") (hn : c.nodes = [a, b])
    (hR : c.value.lookup "R" = some (.num R)) (hab : a ≠ b) (g pid : String) (hpid : pid ≠ c.id) :
    transformComponent Gen.tables trig harm c w wres = some (.ok (resBranch c.id a b R)) ∧
    PortZ (⟨[resBranch c.id a b R], g⟩ : Net String GQ) pid a b (GQ.ofRat R) ∧
    ∀ solve, SolveOK solve → ∀ z,
      (⟨[resBranch c.id a b R], g⟩ : Net String GQ).openCircuitImpedance solve a b = .ok z → z = GQ.ofRat R := by
  refine ⟨(C07_faithful_resistor trig harm c w wres a b R hk hn hR).1, ?_, fun solve hs z h => ?_⟩
  · exact C06_single_element_impedance g a b c.id "resistor" pid _ rfl hab hpid
  · exact C06_single_element_model solve hs g a b c.id "resistor" _ rfl hab z h

/-- **C06 (a capacitor at `w = 0` is open: no port impedance).**  The translated branch has `Y = j·0·C = 0`; the unit
test current has no path, `PortZ` is undefined for every value (the code answers `np.inf`). -/
theorem C06_capacitor_dc_open (C : Rat) (hab : a ≠ b) (g pid id : String) (z : GQ) :
    ¬ PortZ (⟨[capBranch id a b 0 C], g⟩ : Net String GQ) pid a b z := by
  have : capBranch id a b 0 C = ⟨a, b, id, "admittance", .thevenin 0 0⟩ := by
    simp [capBranch, GQ.zero_def]
  rw [this]
  exact C06_single_open_no_impedance g a b id "admittance" pid 0 hab z

/-- **C06 (series R–L–C closed form, two at a time).**  `R` in series with `L` between `a — m — b` at frequency `w`:
`R + j·w·L`; an inductor in series with a capacitor: `j·w·L + 1/(j·w·C)`. -/
theorem C06_series_RL (R L : Rat) (g a m b id1 id2 pid : String) (hab : a ≠ b) (ham : a ≠ m) (hmb : m ≠ b)
    (hid : id1 ≠ id2) (hp1 : pid ≠ id1) (hp2 : pid ≠ id2) :
    PortZ (⟨[resBranch id1 a m R, indBranch id2 m b w L], g⟩ : Net String GQ) pid a b
      (GQ.ofRat R + GQ.j * GQ.ofRat w * GQ.ofRat L) := by
  have := C06_portZ_series g a m b id1 "resistor" id2 "impedance" pid (Elem.norton (⟨R, 0⟩ : GQ) 0)
    (Elem.norton (⟨0, w * L⟩ : GQ) 0) rfl rfl hab ham hmb hid hp1 hp2
  rw [gq_jw]; exact this

theorem C06_series_LC (L C : Rat) (hw : w ≠ 0) (hC0 : C ≠ 0) (g a m b id1 id2 pid : String)
    (hab : a ≠ b) (ham : a ≠ m) (hmb : m ≠ b) (hid : id1 ≠ id2) (hp1 : pid ≠ id1) (hp2 : pid ≠ id2) :
    PortZ (⟨[indBranch id1 a m w L, capBranch id2 m b w C], g⟩ : Net String GQ) pid a b
      (GQ.j * GQ.ofRat w * GQ.ofRat L + 1 / (GQ.j * GQ.ofRat w * GQ.ofRat C)) := by
  obtain ⟨hcs, hZ⟩ := capElem hw hC0
  have := C06_portZ_series g a m b id1 "impedance" id2 "admittance" pid (Elem.norton (⟨0, w * L⟩ : GQ) 0)
    (Elem.thevenin (⟨0, w * C⟩ : GQ) 0) rfl hcs hab ham hmb hid hp1 hp2
  rw [hZ] at this
  rw [gq_jw]; exact this

/-- **C06 (the sweep of a single capacitor).**  `open_circuit_impedance` swept over the per-frequency networks of a
one-capacitor circuit (frequencies `ws`, all non-zero): every number in the result array is `1/(j·w·C)` of its own
frequency, and the array has one entry per frequency.  (No concrete example of the hypothesis `h` is given: the model is
not evaluated here on a `GQ` network with string labels; its ingredients `C06_sweep_pointwise` and
`C06_single_element_model` are exhibited separately, the latter on `exOne`.) -/
theorem C06_capacitor_sweep (solve : List (List GQ) → List GQ → Option (List GQ)) (hs : SolveOK solve)
    (C : Rat) (hC0 : C ≠ 0) (ws : List Rat) (hws : ∀ w ∈ ws, w ≠ 0) (hab : a ≠ b) (g id : String)
    (zs : List (Option GQ))
    (h : sweep (fun N : Net String GQ => N.openCircuitImpedance solve a b)
      (ws.map fun w => (⟨[capBranch id a b w C], g⟩ : Net String GQ)) = .ok zs) :
    List.Forall₂ (fun w z => ∀ v, z = some v → v = 1 / (GQ.j * GQ.ofRat w * GQ.ofRat C)) ws zs := by
  rw [C06_sweep_pointwise, List.forall₂_map_left_iff] at h
  refine List.Forall₂.imp (fun w z ⟨hw, hz⟩ v hv => ?_) ((List.forall₂_and_left _ _).mpr ⟨hws, h⟩)
  subst hv
  obtain ⟨hcs, hZ⟩ := capElem hw hC0
  exact (C06_single_element_model solve hs g a b id "admittance" _ hcs hab v hz).trans hZ

end circuit

namespace C06ex
def exOne : Net Nat ℚ := ⟨[⟨1, 0, "R", "", .norton 5 7⟩], 0⟩
def solveT : List (List ℚ) → List ℚ → Option (List ℚ) := fun A b =>
  if A = [[1/5]] ∧ b = [1] then some [5] else none

theorem solveT_ok : SolveOK solveT := solveOK_entry rfl (by decide +kernel) solveOK_none

theorem exOne_model_value : exOne.openCircuitImpedance solveT 1 0 = .ok 5 := by
  simp only [Net.openCircuitImpedance, Net.portPre, Net.isolated, Net.switchGround, Net.check, Net.portSys, Net.mnaA,
    Net.nodes, Net.nodeLabels, Net.vsSorted, Net.vsIds, sortL_nat]
  decide +kernel

def exPar : Net Nat ℚ := ⟨[⟨1, 0, "R1", "", .norton 6 0⟩, ⟨1, 0, "R2", "", .norton 3 0⟩], 0⟩
def solveP2 : List (List ℚ) → List ℚ → Option (List ℚ) := fun A b =>
  if A = [[1/2]] ∧ b = [1] then some [2] else none

theorem solveP2_ok : SolveOK solveP2 := solveOK_entry rfl (by decide +kernel) solveOK_none

theorem exPar_model_value : exPar.openCircuitImpedance solveP2 1 0 = .ok 2 := by
  simp only [Net.openCircuitImpedance, Net.portPre, Net.isolated, Net.switchGround, Net.check, Net.portSys, Net.mnaA,
    Net.nodes, Net.nodeLabels, Net.vsSorted, Net.vsIds, sortL_nat]
  decide +kernel

def exSer : Net Nat ℚ := ⟨[⟨2, 1, "R1", "", .norton 2 0⟩, ⟨1, 0, "R2", "", .norton 4 0⟩], 0⟩
def ASer : List (List ℚ) := [[3/4, -1/2], [-1/2, 1/2]]
def solveS : List (List ℚ) → List ℚ → Option (List ℚ) := fun A b =>
  if A = ASer ∧ b = [0, 1] then some [4, 6] else none

theorem solveS_ok : SolveOK solveS := solveOK_entry rfl (by decide +kernel) solveOK_none

theorem exSer_model_value : exSer.openCircuitImpedance solveS 2 0 = .ok 6 := by
  simp only [Net.openCircuitImpedance, Net.portPre, Net.isolated, Net.switchGround, Net.check, Net.portSys, Net.mnaA,
    Net.nodes, Net.nodeLabels, Net.vsSorted, Net.vsIds, sortL_nat]
  decide +kernel

end C06ex

/-- non-vacuity of `C06_single_element_impedance`, `C06_single_element_model`, `C06_model_value_of_portZ`: a lossy source
(`7 V` behind `5 Ω`) between node `1` and the reference: `PortZ = 5`, the model returns `5`. -/
example : PortZ C06ex.exOne "p" 1 0 5 ∧ SolveOK C06ex.solveT ∧
    C06ex.exOne.openCircuitImpedance C06ex.solveT 1 0 = .ok 5 :=
  ⟨C06_single_element_impedance 0 1 0 "R" "" "p" (.norton 5 7) rfl (by decide) (by decide), C06ex.solveT_ok,
    C06ex.exOne_model_value⟩

/-- non-vacuity of `C06_portZ_series`, `C06_series_model`: `2 Ω` (as an impedance) in series with `1/4 S` (as an
admittance): `2 + 4`; for the all-impedance variant `exSer` the model returns `6`. -/
example : PortZ (⟨[⟨2, 1, "R1", "", .norton 2 0⟩, ⟨1, 0, "G2", "", .thevenin (1/4) 0⟩], 0⟩ : Net Nat ℚ) "p" 2 0 (2 + 4) ∧
    PortZ C06ex.exSer "p" 2 0 (2 + 4) ∧ SolveOK C06ex.solveS ∧
    C06ex.exSer.openCircuitImpedance C06ex.solveS 2 0 = .ok 6 := by
  refine ⟨?_, C06_portZ_series 0 2 1 0 "R1" "" "R2" "" "p" (.norton 2 0) (.norton 4 0) rfl rfl (by decide) (by decide)
    (by decide) (by decide) (by decide) (by decide), C06ex.solveS_ok, C06ex.exSer_model_value⟩
  have := C06_portZ_series 0 2 1 0 "R1" "" "G2" "" "p" (.norton (2 : ℚ) 0) (.thevenin (1/4) 0) rfl
    (by simp [Elem.isIdealCS]) (by decide) (by decide) (by decide) (by decide) (by decide) (by decide)
  simpa [Elem.Zfin] using this

/-- non-vacuity of `C06_portZ_parallel`, `C06_parallel_model`, `C06_portZ_parallel_harmonic`: `6 Ω ∥ 3 Ω = 2 Ω`. -/
example : PortZ C06ex.exPar "p" 1 0 (6 * 3 / (6 + 3)) ∧ SolveOK C06ex.solveP2 ∧
    C06ex.exPar.openCircuitImpedance C06ex.solveP2 1 0 = .ok 2 ∧ (6 * 3 / (6 + 3) : ℚ) = 2 ∧
    (1 / (6 * 3 / (6 + 3)) : ℚ) = 1 / 6 + 1 / 3 :=
  ⟨C06_portZ_parallel 0 1 0 "R1" "" "R2" "" "p" (.norton 6 0) (.norton 3 0) rfl rfl (by decide) (by decide) (by decide)
    (by decide) (by simp [Elem.Zfin]; norm_num), C06ex.solveP2_ok, C06ex.exPar_model_value, by norm_num,
    C06_portZ_parallel_harmonic 6 3 (by norm_num) (by norm_num) (by norm_num)⟩

/-- non-vacuity of `C06_single_open_no_impedance`: an ideal current source alone has no port impedance -/
example : ¬ PortZ (⟨[⟨1, 0, "I", "", .thevenin 0 3⟩], 0⟩ : Net Nat ℚ) "p" 1 0 7 :=
  C06_single_open_no_impedance 0 1 0 "I" "" "p" 3 (by decide) 7

/-- non-vacuity of `C06_capacitor_impedance`, `C06_inductance_impedance`, `C06_resistor_impedance`: components as
`Circuit/components.py` builds them (`C = 4 F` at `w = 2`, `L = 3 H`, `R = 5 Ω`, nodes `"1"`, `"0"`). -/
example := C06_capacitor_impedance (fun _ => (1, 0)) (fun _ _ _ _ => (0, 0))
  ⟨"capacitor", "C", ["1", "0"], [("C", .num 4)]⟩ 2 0 "1" "0" 4 rfl rfl rfl (by decide) (by decide) (by decide) "0" "p"
  (by decide)
example := C06_inductance_impedance (fun _ => (1, 0)) (fun _ _ _ _ => (0, 0))
  ⟨"inductance", "L", ["1", "0"], [("L", .num 3)]⟩ 2 0 "1" "0" 3 rfl rfl rfl (by decide) "0" "p" (by decide)
example := C06_resistor_impedance (fun _ => (1, 0)) (fun _ _ _ _ => (0, 0))
  ⟨"resistor", "R", ["1", "0"], [("R", .num 5)]⟩ 2 0 "1" "0" 5 rfl rfl rfl (by decide) "0" "p" (by decide)

/-- the value at `C = 4 F`, `w = 2`: `1/(j·8) = −j/8` -/
example : (1 / (GQ.j * GQ.ofRat 2 * GQ.ofRat 4) : GQ) = ⟨0, -1/8⟩ := by
  rw [gq_jw, one_div]
  ext <;> simp [GQ.normSq]
  norm_num

/-- non-vacuity of `C06_sweep_pointwise`, `C06_sweep_map`, `C06_sweep_error`, `C06_dcResistance_eq`: a three-entry sweep with
one `np.inf`, one that raises, and the DC resistance of a number. -/
example : sweep (fun n : Nat => if n = 0 then (.error (.other "Infinite") : Except Err ℚ) else .ok (n : ℚ)) [1, 0, 2]
      = .ok [some 1, none, some 2] ∧
    sweep (fun n : Nat => (.ok (2 * n) : Except Err ℚ)) [1, 2, 3] = .ok ([1, 2, 3].map fun n : Nat => some (2 * (n : ℚ))) ∧
    (∃ e, sweep (fun n : Nat => if n = 0 then (.error .singular : Except Err ℚ) else .ok (n : ℚ)) [1, 0, 2] = .error e) ∧
    dcResistance (fun z : ℚ => z) (fun n : Nat => (.ok (n : ℚ) : Except Err ℚ)) 7 = .ok 7 := by
  refine ⟨?_, C06_sweep_map _ (fun n : Nat => 2 * (n : ℚ)) [1, 2, 3] (fun n _ => rfl), ?_, ?_⟩
  · rw [C06_sweep_pointwise]
    exact List.Forall₂.cons (by simp [SweepEntry]) (List.Forall₂.cons (by simp [SweepEntry])
      (List.Forall₂.cons (by simp [SweepEntry]) List.Forall₂.nil))
  · rw [C06_sweep_error]
    exact ⟨0, by simp, .singular, by simp, by simp⟩
  · rw [C06_dcResistance_eq]
    exact ⟨7, rfl, rfl⟩

end CC
