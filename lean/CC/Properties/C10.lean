/-
  C10 — the state-space model is an exact realisation of the circuit.

  Every field, every size.  Matrix algebra from the two certificate equations, the symmetry of Ã and Λ·Λ⁻¹ = 1
  (`C10_sample_system`, `C10_realisation`, `C10_dc_gain`; CC/Proofs/StateAlgebra.lean) gives the same for the matrices
  the executable model CC/Model/StateSpace.lean returns (`C10_model_realisation`).  Every solution y of
  (Ã − s·DQ Λ DQᵀ) y = QS u reports a solution of the circuit equations of the phasor network at s (capacitor Y = sC,
  inductor Z = sL): `C10_augmented_is_circuit`, via the network with the reactive elements replaced by sources, the soundness
  of the nodal analysis (`sound_all`, as in `C01_sound`) and the right-hand-side identity of CC/Proofs/StateRhs.lean.  Hence the model's outputs for x = (s − A)⁻¹ B u ARE the
  phasor solution, for a well-posed phasor network the unique one (`C10_transfer`, `C10_transfer_unique`).
  These theorems speak about the Spec-side report `(sampleNet …).reportOf y` read from the output VECTOR y = C x + D u;
  that the model's potential, voltage and current OUTPUT ROWS (`NSSM.cRowVoltage / cRowCurrent / dRowVoltage /
  dRowCurrent`, i.e. c_row_voltage, c_row_current, d_row_*) applied to (x, u) give exactly that report is stated below
  (`C10_output_rows_statement`) and proved in CC/Properties/C10Rows.lean (`C10_output_rows`).
-/
import CC.Properties.C01
import CC.Proofs.StateModel
import CC.Spec.StateSpace
import CC.Proofs.StatePhasor
import Mathlib.LinearAlgebra.Matrix.Notation
import Mathlib.Tactic.NormNum

set_option linter.unusedSectionVars false

namespace CC
open Matrix Mx StateAlg

section algebra
variable {K : Type} [Field K]
variable {n p q : Type} [Fintype n] [Fintype p] [Fintype q] [DecidableEq n] [DecidableEq p] [DecidableEq q]
variable {At Ainv : Matrix n n K} {DQ : Matrix n p K} {QS : Matrix n q K} {Lam Li S : Matrix p p K}

/-- For EVERY state `x` and input `u`: `y = C x + D u` solves the nodal system in which the
reactive elements are replaced by sources of strength `Λ·(A x + B u)`, and `x = DQᵀ y`. -/
theorem C10_sample_system (hA : At * Ainv = 1) (hs : Atᵀ = At) (hS : (DQᵀ * Ainv * DQ) * S = 1)
    (hL : Lam * Li = 1) (x : p → K) (u : q → K) :
    At *ᵥ (ssC DQ Ainv S *ᵥ x + ssD DQ QS Ainv S *ᵥ u)
        = QS *ᵥ u + DQ *ᵥ (Lam *ᵥ (ssA Li S *ᵥ x + ssB DQ QS Ainv Li S *ᵥ u))
    ∧ DQᵀ *ᵥ (ssC DQ Ainv S *ᵥ x + ssD DQ QS Ainv S *ᵥ u) = x :=
  sample_system hA hs hS hL x u

/-- With `x = (s − A)⁻¹ B u` (written `s·x = A x + B u`), `y = C x + D u` satisfies
`(Ã − s·DQ Λ DQᵀ) y = QS u` and `x = DQᵀ y`. -/
theorem C10_realisation (hA : At * Ainv = 1) (hs : Atᵀ = At) (hS : (DQᵀ * Ainv * DQ) * S = 1)
    (hL : Lam * Li = 1) (s : K) (x : p → K) (u : q → K)
    (hx : s • x = ssA Li S *ᵥ x + ssB DQ QS Ainv Li S *ᵥ u) :
    (At - s • (DQ * Lam * DQᵀ)) *ᵥ (ssC DQ Ainv S *ᵥ x + ssD DQ QS Ainv S *ᵥ u) = QS *ᵥ u
    ∧ DQᵀ *ᵥ (ssC DQ Ainv S *ᵥ x + ssD DQ QS Ainv S *ᵥ u) = x :=
  realisation hA hs hS hL s x u hx

/-- the resolvent form: `x = R (B u)` with `(s·1 − A) R = 1` meets the hypothesis of `C10_realisation` -/
theorem C10_resolvent {A R : Matrix p p K} (s : K) (hR : (s • (1 : Matrix p p K) - A) * R = 1) (b : p → K) :
    s • (R *ᵥ b) = A *ᵥ (R *ᵥ b) + b := by
  have := congrArg (· *ᵥ b) hR
  simp only [one_mulVec, ← mulVec_mulVec, sub_mulVec, smul_mulVec, one_mulVec] at this
  rw [sub_eq_iff_eq_add] at this
  exact this.trans (add_comm _ _)

/-- DC gain: at a rest point (`A x + B u = 0`, i.e. `s = 0`) the outputs are the DC solution. -/
theorem C10_dc_gain (hA : At * Ainv = 1) (hs : Atᵀ = At) (hS : (DQᵀ * Ainv * DQ) * S = 1)
    (hL : Lam * Li = 1) (x : p → K) (u : q → K)
    (hx : ssA Li S *ᵥ x + ssB DQ QS Ainv Li S *ᵥ u = 0) :
    ssC DQ Ainv S *ᵥ x + ssD DQ QS Ainv S *ᵥ u = Ainv *ᵥ (QS *ᵥ u) :=
  dc_gain hA hs hS hL x u hx

end algebra

/-- non-vacuity: the series circuit `V(1,0) – R=1 (1,2) – C=1 (2,0)`; unknowns `(φ₁, φ₂, i_V)` -/
example :
    let At : Matrix (Fin 3) (Fin 3) ℚ := !![1, -1, 1; -1, 1, 0; 1, 0, 0]
    let Ainv : Matrix (Fin 3) (Fin 3) ℚ := !![0, 0, 1; 0, 1, 1; 1, 1, 0]
    let DQ : Matrix (Fin 3) (Fin 1) ℚ := !![0; 1; 0]
    let S : Matrix (Fin 1) (Fin 1) ℚ := !![1]
    let Lam : Matrix (Fin 1) (Fin 1) ℚ := !![-1]
    At * Ainv = 1 ∧ Atᵀ = At ∧ (DQᵀ * Ainv * DQ) * S = 1 ∧ Lam * Lam = 1
      ∧ ssA Lam S = !![-1] := by
  decide +kernel

section model
variable {L K : Type} [DecidableEq L] [LabelOrd L] [Field K] [DecidableEq K]

/-- **Realisation, for the executable model.**  Whenever `stateSpaceMatrices` succeeds on
arguments that satisfy the certificate equations (`ModelCert`: `Ã·Ainv = 1`,
`(DQᵀ Ainv DQ)·S = 1`, no zero capacitance / inductance, `re 0 = 0`; the symmetry of `Ã` is proved,
not assumed), the returned `A, B, C, D` realise the
augmented nodal system built from the model's own `Ã`, `DQ`, `QS`, `Λ` at every `s`. -/
theorem C10_model_realisation (re : K → K) {N : Net L K} {cvals lvals : ValDict K}
    {Ainv S Delta : List (List K)} {m : SSMats K} (hD : ssDelta N cvals = .ok Delta)
    (hm : stateSpaceMatrices N cvals lvals Ainv S = .ok m)
    (hc : ModelCert re N cvals lvals Ainv S Delta)
    (s : K) (x : Fin (ssNStates N cvals lvals) → K) (u : Fin (ssNInputs N lvals) → K)
    (hx : s • x = toM _ _ m.A *ᵥ x + toM _ _ m.B *ᵥ u) :
    let ny := N.nY; let ns := ssNStates N cvals lvals; let nu := ssNInputs N lvals
    let y := toM ny ns m.C *ᵥ x + toM ny nu m.D *ᵥ u
    let DQ := toM ny ns (ssDQ N cvals lvals Delta)
    (toM ny ny (ssAtilde re N)
        - s • (DQ * (diagonal fun i : Fin ns => (ssLambda cvals lvals).getD i 0) * DQᵀ)) *ᵥ y
      = toM ny nu (ssQS N lvals) *ᵥ u
    ∧ DQᵀ *ᵥ y = x := by
  obtain ⟨h1, h2⟩ := model_sample_system re hD hm hc x u
  exact ⟨(augmented_iff_sample _ _ s).mpr (by rw [h2, hx]; exact h1), h2⟩

/-- what the driver checks with the model's own product is the certificate equation -/
theorem C10_certificate_check {n : Nat} {A B : List (List K)} (h : Mx.mul n n n A B = Mx.one n) :
    toM n n A * toM n n B = 1 := toM_mul_eq_one h

/-- state dimension = #capacitors + #inductors (the lengths of the two dictionaries); shapes of
the four matrices -/
theorem C10_dims {N : Net L K} {cvals lvals : ValDict K} {Ainv S : List (List K)} {m : SSMats K}
    (hm : stateSpaceMatrices N cvals lvals Ainv S = .ok m) :
    let ns := cvals.length + lvals.length
    let nu := ssNInputs N lvals
    IsShape m.A ns ns ∧ IsShape m.B ns nu ∧ IsShape m.C N.nY ns ∧ IsShape m.D N.nY nu :=
  model_dims hm

theorem C10_sources_length (N : Net L K) (lvals : ValDict K) :
    ssNInputs N lvals = (ssSources N lvals).length := sources_length N lvals

/-- the container's five checks accept exactly the consistent shapes -/
theorem C10_container (a b c d : Nat × Nat) :
    containerCheck a b c d = .ok () ↔ (a.1 = a.2 ∧ b.1 = a.1 ∧ c.2 = a.1 ∧ d.1 = c.1 ∧ d.2 = b.2) := by
  simp only [containerCheck, ite_error_eq_ok, ne_eq, not_not, and_true]

/-- output rows for node ids outside the node map (since fix f9f472e): the reference node gets a
ZERO row, any other unmapped id is a `KeyError` — so `TransientSolution.get_potential('unknown')`
raises instead of answering with a series of zeros -/
theorem C10_unknown_node_zero_row (m : NSSM L K) :
    (m.cRowPotential m.net.zero = .ok (Mx.zeroVec m.nStates)
      ∧ m.dRowPotential m.net.zero = .ok (Mx.zeroVec m.nInputs))
    ∧ ∀ node : L, idxOf? node m.net.nodes = none → node ≠ m.net.zero →
        m.cRowPotential node = .error .keyError ∧ m.dRowPotential node = .error .keyError :=
  ⟨⟨rowForPotential_reference m _ _, rowForPotential_reference m _ _⟩,
   fun node h hz => ⟨rowForPotential_unknown m node _ _ h hz, rowForPotential_unknown m node _ _ h hz⟩⟩

/-- **input columns follow the published source order, inductor columns the dictionary** — for
every network with distinct ids, every dictionary whose keys are ideal voltage sources
(short circuits) of the network; no hypothesis on names or on the listing order -/
theorem C10_columns_follow_sources (N : Net L K) (lvals : ValDict K) (hids : N.ids.Nodup)
    (hkeys : ∀ id ∈ lvals.keys, id ∈ N.vsIds) :
    ssColsS N lvals = specColsS N lvals ∧ ssColsL N lvals = specColsL N lvals :=
  cols_follow_sources N lvals hids hkeys

end model

def netRC : Net String ℚ := { zero := "0", branches := [
  { n1 := "1", n2 := "0", id := "V", e := .norton 0 1 },
  { n1 := "1", n2 := "2", id := "R", e := .norton 1 0 },
  { n1 := "2", n2 := "0", id := "C", e := .thevenin 0 0 }] }

/- The kernel evaluates everything about the concrete networks below once the label sort is rewritten to insertion
sort (`sortL_string`); `netRC_nodes` does that once for the facts that follow. -/
theorem netRC_nodes : netRC.nodes = ["1", "2"] := by
  simp only [Net.nodes, Net.nodeLabels, sortL_string]; decide +kernel
theorem netRC_srcIds : netRC.srcIds = ["V"] := by decide +kernel

theorem netRC_Delta : ssDelta netRC [("C", 1)] = .ok [[0, 1, 0]] := by
  simp only [ssDelta, ssDeltaRow, netRC_nodes]
  decide +kernel

theorem netRC_colsS : ssColsS netRC [] = [0] := by decide +kernel

/-- the two certificates for the RC circuit, as the driver finds them -/
def rcAinv : List (List ℚ) := [[0, 0, 1], [0, 1, 1], [1, 1, 0]]
def rcS : List (List ℚ) := [[1]]

/-- non-vacuity of `ModelCert` (the hypotheses of `C10_model_realisation`, `C12_*`): the series
circuit `V(1,0) – R=1 (1,2) – C=1 (2,0)` with the two inverses the driver finds -/
theorem netRC_cert : ModelCert id netRC [("C", 1)] [] rcAinv rcS [[0, 1, 0]] := by
  refine .of_checks rfl ?_ ?_ (by decide +kernel)
  · simp only [Net.nY, Net.nN, ssAtilde, Net.mnaA, netRC_nodes]
    decide +kernel
  · simp only [ssM, ssDQ, ssQL, ssQ, ssNStates, Net.nY, Net.nN, netRC_nodes]
    decide +kernel

/-- the four matrices of the series circuit `V(1,0) – R=1 (1,2) – C=1 (2,0)`: `v̇_C = −v_C + u`;
`y = (φ₁, φ₂, i_V) = (u, x, x − u)` -/
theorem netRC_mats : stateSpaceMatrices netRC [("C", 1)] [] rcAinv rcS
    = .ok ⟨[[-1]], [[1]], [[0], [1], [1]], [[1], [0], [-1]]⟩ := by
  rw [stateSpaceMatrices_eq_ok netRC_Delta rfl]
  simp only [ssCore, ssDQ, ssQL, ssQS, ssQ, ssNStates, Net.nY, Net.nN, netRC_nodes, Except.ok.injEq, SSMats.mk.injEq]
  decide +kernel

example : ∃ m, stateSpaceMatrices netRC [("C", 1)] [] rcAinv rcS = .ok m := ⟨_, netRC_mats⟩

/-! ### the two inputs on which the code before fix 3361ab5 selected wrong columns -/

/-- voltage source 'A', inductor 'M', current source 'Z' -/
def netAMZ : Net String ℚ := { zero := "0", branches := [
  { n1 := "1", n2 := "0", id := "A", e := .norton 0 1 },
  { n1 := "1", n2 := "2", id := "R1", e := .norton 2 0 },
  { n1 := "2", n2 := "3", id := "M", e := .norton 0 0 },
  { n1 := "3", n2 := "0", id := "R2", e := .norton 4 0 },
  { n1 := "0", n2 := "3", id := "Z", e := .thevenin 0 1 }] }

/-- two inductors 'L1', 'L2' and a voltage source 'Vq' -/
def netL12 : Net String ℚ := { zero := "0", branches := [
  { n1 := "1", n2 := "0", id := "Vq", e := .norton 0 1 },
  { n1 := "1", n2 := "2", id := "R1", e := .norton 2 0 },
  { n1 := "2", n2 := "3", id := "L1", e := .norton 0 0 },
  { n1 := "3", n2 := "0", id := "R2", e := .norton 4 0 },
  { n1 := "3", n2 := "0", id := "L2", e := .norton 0 0 }] }

theorem netAMZ_csIds : netAMZ.csIds = ["Z"] := by decide +kernel
theorem netAMZ_vsIds : netAMZ.vsIds = ["A", "M"] := by rw [Net.vsIds, sortL_string]; decide +kernel

/-- interleaved names: columns of `Q` are Z | A, M; the inductor 'M' gets its own column 2, the
inputs are `sources = [Z, A]` at columns 0, 1 (before the fix: `QL = [1]`, `QS = [0, 2]`) -/
example : ssColsL netAMZ [("M", 1/2)] = [2] ∧ ssColsS netAMZ [("M", 1/2)] = [0, 1]
    ∧ ssSources netAMZ [("M", 1/2)] = ["Z", "A"] := by
  simp only [ssColsL, ssColsS, ssSources, Net.nC, netAMZ_csIds, netAMZ_vsIds]
  decide +kernel

theorem netL12_csIds : netL12.csIds = [] := by decide +kernel
theorem netL12_vsIds : netL12.vsIds = ["L1", "L2", "Vq"] := by rw [Net.vsIds, sortL_string]; decide +kernel

/-- inductors listed as L2, L1: the columns of `QL` come in that order (before the fix: `[0, 1]`) -/
example : ssColsL netL12 [("L2", 1/4), ("L1", 1/8)] = [1, 0] := by
  simp only [ssColsL, Net.nC, netL12_csIds, netL12_vsIds]
  decide +kernel

section circuit
variable {L K : Type} [DecidableEq L] [LabelOrd L] [Field K] [DecidableEq K]

/-- **The augmented nodal system is the circuit.**  For the `w = 0` network of an RLC + ideal-source
circuit (`RLC`: distinct ids, no self-loops, capacitors open, inductors shorted, no lossy element):
every solution `y` of `(Ã − s·DQ Λ DQᵀ) y = QS u` reports a solution of the circuit equations of the
phasor network at complex frequency `s` driven by `u` (capacitor `Y = s·C`, inductor `Z = s·L`).  The
report is the accessor report of the substituted network: potentials and voltage-source / inductor
currents from `y`, capacitor currents `C·s·v_C`, every other current by the branch law. -/
theorem C10_augmented_is_circuit {N : Net L K} {cvals lvals : ValDict K} {Delta : List (List K)}
    (h : RLC N cvals lvals) (hD : ssDelta N cvals = .ok Delta) (s : K)
    (y : Fin N.nY → K) (u : Fin (ssNInputs N lvals) → K)
    (hsys : (toM N.nY N.nY N.mnaA
              - s • (toM N.nY (ssNStates N cvals lvals) (ssDQ N cvals lvals Delta)
                  * (diagonal fun i : Fin (ssNStates N cvals lvals) => (ssLambda cvals lvals).getD i 0)
                  * (toM N.nY (ssNStates N cvals lvals) (ssDQ N cvals lvals Delta))ᵀ)) *ᵥ y
            = toM N.nY (ssNInputs N lvals) (ssQS N lvals) *ᵥ u) :
    let x := (toM N.nY (ssNStates N cvals lvals) (ssDQ N cvals lvals Delta))ᵀ *ᵥ y
    let P := sampleNet N cvals lvals (ssSources N lvals) (List.ofFn u) (List.ofFn (s • x))
    CircuitEqs (phasorNet N cvals lvals (ssSources N lvals) (List.ofFn u) s) (P.reportOf (List.ofFn y)) :=
  augmented_is_circuit h hD s y u hsys

/-- **Transfer behaviour.**  With `x = (s − A)⁻¹ B u` the outputs `y = C x + D u` of the executable
model solve the phasor network at `s` with the sources at amplitudes `u` — every potential, every
element's voltage and current. -/
theorem C10_transfer {N : Net L K} {cvals lvals : ValDict K} {Ainv S Delta : List (List K)}
    {m : SSMats K} (h : RLC N cvals lvals) (hD : ssDelta N cvals = .ok Delta)
    (hm : stateSpaceMatrices N cvals lvals Ainv S = .ok m)
    (hc : ModelCert id N cvals lvals Ainv S Delta)
    (s : K) (x : Fin (ssNStates N cvals lvals) → K) (u : Fin (ssNInputs N lvals) → K)
    (hx : s • x = toM _ _ m.A *ᵥ x + toM _ _ m.B *ᵥ u) :
    let y := toM N.nY (ssNStates N cvals lvals) m.C *ᵥ x + toM N.nY (ssNInputs N lvals) m.D *ᵥ u
    let P := sampleNet N cvals lvals (ssSources N lvals) (List.ofFn u) (List.ofFn (s • x))
    CircuitEqs (phasorNet N cvals lvals (ssSources N lvals) (List.ofFn u) s) (P.reportOf (List.ofFn y)) :=
  model_transfer h hD hm hc s x u hx

/-- … and when the phasor network is well-posed they are THE phasor solution: they agree with every
solution of its circuit equations (in particular with the one the phasor engine reports, C01/C02). -/
theorem C10_transfer_unique {N : Net L K} {cvals lvals : ValDict K} {Ainv S Delta : List (List K)}
    {m : SSMats K} (h : RLC N cvals lvals) (hD : ssDelta N cvals = .ok Delta)
    (hm : stateSpaceMatrices N cvals lvals Ainv S = .ok m)
    (hc : ModelCert id N cvals lvals Ainv S Delta)
    (s : K) (x : Fin (ssNStates N cvals lvals) → K) (u : Fin (ssNInputs N lvals) → K)
    (hx : s • x = toM _ _ m.A *ᵥ x + toM _ _ m.B *ᵥ u)
    (hw : WellPosed (phasorNet N cvals lvals (ssSources N lvals) (List.ofFn u) s))
    (R : Report L K) (hR : CircuitEqs (phasorNet N cvals lvals (ssSources N lvals) (List.ofFn u) s) R) :
    let y := toM N.nY (ssNStates N cvals lvals) m.C *ᵥ x + toM N.nY (ssNInputs N lvals) m.D *ᵥ u
    let P := sampleNet N cvals lvals (ssSources N lvals) (List.ofFn u) (List.ofFn (s • x))
    (P.reportOf (List.ofFn y)).AgreeOn (phasorNet N cvals lvals (ssSources N lvals) (List.ofFn u) s) R :=
  C01_unique _ (by rw [phasorNet_eq, mapElems_ids]; exact h.wf.ids_nodup) hw _ _ (model_transfer h hD hm hc s x u hx) hR

end circuit

/-- non-vacuity of `RLC`: the series circuit `V(1,0) – R=1 (1,2) – C=1 (2,0)` -/
theorem netRC_rlc : RLC netRC [("C", 1)] [] := by decide +kernel

/-- The OUTPUT ROWS deliver the report: for every state `x` and input `u`, the potential / voltage / current rows
of the model (`c_row_for_potential`, `c_row_voltage`, `c_row_current` and their `d_row_*` partners) applied to `(x, u)` are
the potential of the node / the voltage and the current of the branch in the report `(sampleNet …).reportOf y` that
`C10_transfer`, `C12_sample_circuit` … speak about (`y = C x + D u`, `ẋ = A x + B u`).  The statement only; it is
proved as `C10_output_rows` (CC/Properties/C10Rows.lean).  Without it a change of `cRowVoltage` to a sum or a sign flip
of the capacitor row would leave every other theorem of C10–C12 intact. -/
def C10_output_rows_statement : Prop :=
  ∀ (K : Type) [Field K] [DecidableEq K] (N : Net String K) (cvals lvals : ValDict K)
    (Ainv S Delta : List (List K)) (m : NSSM String K) (x u : List K),
    RLC N cvals lvals → ssDelta N cvals = .ok Delta →
    nodalStateSpaceModel N cvals lvals Ainv S = .ok m → ModelCert id N cvals lvals Ainv S Delta →
    x.length = ssNStates N cvals lvals → u.length = ssNInputs N lvals →
    let y := Mx.vecAdd (matVec m.mats.C x) (matVec m.mats.D u)
    let xdot := Mx.vecAdd (matVec m.mats.A x) (matVec m.mats.B u)
    let R := (sampleNet N cvals lvals (ssSources N lvals) u xdot).reportOf y
    (∀ n ∈ N.nodeLabels, ∃ rc rd, m.cRowPotential n = .ok rc ∧ m.dRowPotential n = .ok rd ∧ dotL rc x + dotL rd u = R.pot n)
    ∧ (∀ b ∈ N.branches, ∃ rc rd, m.cRowVoltage b.id = .ok rc ∧ m.dRowVoltage b.id = .ok rd ∧ dotL rc x + dotL rd u = R.v b.id)
    ∧ (∀ b ∈ N.branches, ∃ rc rd, m.cRowCurrent b.id = .ok rc ∧ m.dRowCurrent b.id = .ok rd ∧ dotL rc x + dotL rd u = R.i b.id)

end CC
