/-
  C10 / C11 (translator tie, circuit-level wrapper) — `Circuit/state_space_model.py::state_space_model`
  as harness/extract_statewrap.py regenerates it on every run (CC/Gen/StateWrap.lean) equals the hand-written
  model: the value dictionaries (with the `float(...)` cast as the explicit node `Py.toFloat`), the call
  `nodal_state_space_model(network=transform_circuit(circuit, w=0), c_values=…, l_values=…)` on the component
  model of CC/Model/Circuit.lean, and the stacking of the requested output rows.

  `np.linalg.inv` is an arbitrary shape-preserving function `inv`, `.real` is `re`; `T`, `trig`, `harm`, `wres`
  are the parameters of `transformCircuit` (tables generated from the sources, numpy's cos/sin, the periodic
  source spectrum, the default `w_resolution`).
-/
import CC.Gen.StateWrap
import CC.Properties.C10Gen
import CC.Proofs.NetBasics
import CC.Proofs.GQField

namespace CC
open CC.Gen.Core CC.Gen.State CC.Gen.StateWrap CC.Py

/-- hand-written model of one value dictionary of the circuit-level callers: the components of type `ty` in
listing order, `id ↦ float(value[key])` (`Component.float`, CC/Model/Circuit.lean — the reading the circuit
translators use), as a number among the complex network entries -/
def wrapValues (C : Circuit) (ty key : String) : Except Err (ValDict GQ) :=
  (C.components.filter fun c => decide (c.kind = ty)).mapM fun c => do
    let q ← c.float key
    pure (c.id, GQ.ofRat q)

theorem Wrap.float_eq (c : Component) (k : String) :
    (do let raw ← Py.compValue c k; Py.toFloat raw) = c.float k := by
  unfold Py.compValue Component.float Component.get?
  cases h : c.value.lookup k with
  | none => rfl
  | some v => cases v <;> rfl

theorem Wrap.entry_eq (c : Component) (k : String) :
    (do let raw ← Py.compValue c k
        let x ← Py.toFloat raw
        pure (c.id, Py.promote x) : Except Err (String × GQ))
      = (do let q ← c.float k; pure (c.id, GQ.ofRat q)) := by
  rw [← Wrap.float_eq]
  cases Py.compValue c k with
  | error e => rfl
  | ok v => rfl

/-- **The generated dictionaries are the model's** — `c_values` / `l_values` of
`Circuit/state_space_model.py::state_space_model` as translated from the source (filter on `type`, key `id`,
value `float(value['C'])` resp. `float(value['L'])`, listing order, first failing component decides the error)
equal `wrapValues`.  A source that drops the `float(...)` cast generates `Py.noCast` instead of `Py.toFloat`
and this proof fails (a string value is then no `ValueError` at this place).  Not covered: the dtype of the
resulting numpy arrays (an `int` value stays an integer entry without the cast) — exact numbers have no dtype. -/
theorem C10_gen_wrapper_values (C : Circuit) :
    wrapper_c_values C = wrapValues C "capacitor" "C"
    ∧ wrapper_l_values C = wrapValues C "inductance" "L" := by
  unfold wrapper_c_values wrapper_l_values wrapValues
  constructor
  · congr 1; funext c; exact Wrap.entry_eq c "C"
  · congr 1; funext c; exact Wrap.entry_eq c "L"

/-- what a successful dictionary contains: one entry per component of the type, in listing order, keyed by the
component id, holding the component's value -/
theorem C10_gen_wrapper_values_ok (C : Circuit) (ty key : String) (d : ValDict GQ) :
    wrapValues C ty key = .ok d ↔
      List.Forall₂ (fun c e => ∃ q, c.float key = .ok q ∧ e = (c.id, GQ.ofRat q))
        (C.components.filter fun c => decide (c.kind = ty)) d := by
  unfold wrapValues
  rw [mapM_eq_ok]
  constructor <;> intro h <;> refine h.imp ?_
  · intro c e he
    obtain ⟨q, hq, he⟩ := bind_eq_ok.1 he
    exact ⟨q, hq, (Except.ok.inj he).symm⟩
  · rintro c e ⟨q, hq, rfl⟩
    rw [hq]; rfl

/-- link to `reactiveValues` (CC/Model/StateSpace.lean — the `cvals` / `lvals` of the C10 theorems): when every
component of the type has a readable value `v c`, the dictionary is `reactiveValues` of the component list -/
theorem C10_gen_wrapper_values_reactive (C : Circuit) (ty key : String) (v : Component → Rat)
    (h : ∀ c ∈ C.components, c.kind = ty → c.float key = .ok (v c)) :
    wrapValues C ty key
      = .ok (reactiveValues (C.components.map fun c => (c.kind, c.id, GQ.ofRat (v c))) ty) := by
  rw [C10_gen_wrapper_values_ok]
  unfold reactiveValues
  rw [List.filter_map, List.map_map, List.forall₂_map_right_iff]
  exact List.forall₂_same.2 fun c hc =>
    ⟨v c, h c (List.mem_filter.mp hc).1 (of_decide_eq_true (List.mem_filter.mp hc).2), rfl⟩

/-- hand-written model of the first statement of the wrapper: the DC network of the circuit
(`transformCircuit … 0`), the two dictionaries, and `nodalStateSpaceModel` fed with the two inverses that
`inv` delivers -/
def wrapperModel (T : Tables) (trig : Trig) (harm : Harm) (wres : Rat) (inv : Py.Mat GQ → Py.Mat GQ)
    (re : GQ → GQ) (C : Circuit) : Except Err (NSSM String GQ) := do
  let N ← transformCircuit T trig harm C 0 wres
  let cv ← wrapValues C "capacitor" "C"
  let lv ← wrapValues C "inductance" "L"
  let Delta ← ssDelta N cv
  let Ainv := (inv ⟨N.nY, N.nY, ssAtilde re N⟩).rows
  let S := (inv ⟨ssNStates N cv lv, ssNStates N cv lv, ssM N cv lv Delta Ainv⟩).rows
  nodalStateSpaceModel N cv lv Ainv S

theorem Wrap.transform_ids {T : Tables} {trig : Trig} {harm : Harm} {C : Circuit} {w wres : Rat}
    {N : Net String GQ} (h : transformCircuit T trig harm C w wres = .ok N) : N.ids.Nodup := by
  unfold transformCircuit at h
  obtain ⟨bs, _, h⟩ := bind_eq_ok.1 h
  obtain ⟨u, hc, h⟩ := bind_eq_ok.1 h
  cases h
  exact ((Net.check_ok_iff _).1 hc).2

theorem Wrap.model_ok {T : Tables} {trig : Trig} {harm : Harm} {wres : Rat} {inv : Py.Mat GQ → Py.Mat GQ}
    {re : GQ → GQ} {C : Circuit} {m : NSSM String GQ} (h : wrapperModel T trig harm wres inv re C = .ok m) :
    transformCircuit T trig harm C 0 wres = .ok m.net
    ∧ wrapValues C "capacitor" "C" = .ok m.cvals ∧ wrapValues C "inductance" "L" = .ok m.lvals
    ∧ m.net.ids.Nodup ∧ SSRel (ssToGen m.net m.cvals m.lvals m.mats) m
    ∧ ∃ Ainv S, nodalStateSpaceModel m.net m.cvals m.lvals Ainv S = .ok m := by
  unfold wrapperModel at h
  obtain ⟨N, hN, h⟩ := bind_eq_ok.1 h
  obtain ⟨cv, hc, h⟩ := bind_eq_ok.1 h
  obtain ⟨lv, hl, h⟩ := bind_eq_ok.1 h
  obtain ⟨Delta, hD, h⟩ := bind_eq_ok.1 h
  obtain ⟨mats, hm, rfl⟩ := rows_model_ok h
  exact ⟨hN, hc, hl, Wrap.transform_ids hN, C10_gen_rel N (Wrap.transform_ids hN) cv lv _ _ mats hm, _, _, h⟩

/-- **The model object the wrapper builds** — the generated first statement
`ssm = nodal_state_space_model(network=transform_circuit(circuit, w=0), c_values=…, l_values=…)` equals
`wrapperModel`: `nodalStateSpaceModel` of `transformCircuit circuit 0` with the dictionaries of
`C10_gen_wrapper_values` (same errors in the same order: network, then `c_values`, then `l_values`, then the
builder).  So `C10_transfer`, `C10_output_rows`, the C11 theorems … apply to the object the wrapper uses.
Hypothesis: `inv` preserves shapes (numpy's does).  A source with another frequency literal (`w=1`) generates
another term and this proof fails. -/
theorem C10_gen_wrapper_model (T : Tables) (trig : Trig) (harm : Harm) (wres : Rat)
    (inv : Py.Mat GQ → Py.Mat GQ) (re : GQ → GQ) (C : Circuit)
    (hinv : ∀ M : Py.Mat GQ, (inv M).nrows = M.nrows ∧ (inv M).ncols = M.ncols) :
    wrapper_ssm T trig harm wres inv re C
      = (do let m ← wrapperModel T trig harm wres inv re C
            pure (ssToGen m.net m.cvals m.lvals m.mats)) := by
  unfold wrapper_ssm wrapperModel
  rw [(C10_gen_wrapper_values C).1, (C10_gen_wrapper_values C).2]
  cases hN : transformCircuit T trig harm C 0 wres with
  | error e => rfl
  | ok N =>
    simp only [ok_bind, fun cv lv => C10_gen_model inv re N (Wrap.transform_ids hN) cv lv hinv,
      nodalStateSpaceModel, bind_assoc, pure_bind]

inductive OutReq where
  | potential (node : String)
  | voltage (id : String)
  | current (id : String)
deriving DecidableEq, Repr

/-- the requests in the order the wrapper stacks them: potentials, then voltages, then currents -/
def outReqs (pots volts curs : List String) : List OutReq :=
  pots.map .potential ++ volts.map .voltage ++ curs.map .current

def NSSM.cRowOf (m : NSSM String GQ) : OutReq → Except Err (List GQ)
  | .potential n => m.cRowPotential n
  | .voltage i => m.cRowVoltage i
  | .current i => m.cRowCurrent i

def NSSM.dRowOf (m : NSSM String GQ) : OutReq → Except Err (List GQ)
  | .potential n => m.dRowPotential n
  | .voltage i => m.dRowVoltage i
  | .current i => m.dRowCurrent i

theorem Wrap.stack_eq (f : OutReq → Except Err (List GQ)) (pots volts curs : List String) :
    (do let p ← pots.mapM (fun n => f (.potential n))
        let v ← volts.mapM (fun i => f (.voltage i))
        let c ← curs.mapM (fun i => f (.current i))
        pure (p ++ v ++ c) : Except Err (List (List GQ)))
      = (outReqs pots volts curs).mapM f := by
  unfold outReqs
  rw [List.mapM_append, List.mapM_append, List.mapM_map, List.mapM_map, List.mapM_map]
  simp only [bind_assoc, pure_bind, Function.comp_def]

/-- **The generated wrapper is the model's, and row `k` is the accessor of request `k`.**
(1) The whole generated `state_space_model` equals: build `wrapperModel`, stack with `NSSM.circuitModel`
(all C rows, then all D rows), return `A`, `B` of the model object.
(2) Whenever it returns `(A, B, Cm, Dm)`: there is the model object `m` (`wrapperModel … = .ok m`) with
`Cm`/`Dm` of one row per request, and row `k` of `Cm` (`Dm`) is `c_row_*` (`d_row_*`) of the `k`-th request in
the order potentials, voltages, currents.  With `C10_output_rows` (CC/Properties/C10Rows.lean) these rows applied
to `(x, u)` are the requested entries of the circuit's report.  A source that stacks the blocks in another order
generates another term and this proof fails.  Not covered: the column count `numpy` keeps for an EMPTY request
list (`wrapper_widths` records what the source writes), and the `StateSpaceModel.__post_init__` shape checks
(`C10_gen_container`). -/
theorem C10_gen_wrapper_outputs (T : Tables) (trig : Trig) (harm : Harm) (wres : Rat)
    (inv : Py.Mat GQ → Py.Mat GQ) (re : GQ → GQ) (C : Circuit)
    (hinv : ∀ M : Py.Mat GQ, (inv M).nrows = M.nrows ∧ (inv M).ncols = M.ncols)
    (pots volts curs : List String) :
    state_space_model T trig harm wres inv re C pots volts curs
      = (do let m ← wrapperModel T trig harm wres inv re C
            let r ← m.circuitModel pots volts curs
            let g := ssToGen m.net m.cvals m.lvals m.mats
            pure (g.A, g.B, r.C, r.D))
    ∧ ∀ A B Cm Dm, state_space_model T trig harm wres inv re C pots volts curs = .ok (A, B, Cm, Dm) →
        ∃ m, wrapperModel T trig harm wres inv re C = .ok m
          ∧ A.rows = m.mats.A ∧ B.rows = m.mats.B
          ∧ Cm.length = (outReqs pots volts curs).length ∧ Dm.length = (outReqs pots volts curs).length
          ∧ ∀ k (hk : k < (outReqs pots volts curs).length) (hc : k < Cm.length) (hd : k < Dm.length),
              m.cRowOf ((outReqs pots volts curs)[k]) = .ok (Cm[k])
              ∧ m.dRowOf ((outReqs pots volts curs)[k]) = .ok (Dm[k]) := by
  -- the second part is read off the first
  refine (and_iff_left_of_imp fun h1 A B Cm Dm hok => ?_).2 ?_
  · rw [h1] at hok
    obtain ⟨m, hm, hok⟩ := bind_eq_ok.1 hok
    obtain ⟨r, hr, hok⟩ := bind_eq_ok.1 hok
    cases hok
    unfold NSSM.circuitModel at hr
    obtain ⟨Cr, hc, hr⟩ := bind_eq_ok.1 hr
    obtain ⟨Dr, hd, hr⟩ := bind_eq_ok.1 hr
    cases hr
    have fc := mapM_eq_ok.1 ((Wrap.stack_eq m.cRowOf pots volts curs).symm.trans hc)
    have fd := mapM_eq_ok.1 ((Wrap.stack_eq m.dRowOf pots volts curs).symm.trans hd)
    exact ⟨m, hm, rfl, rfl, fc.length_eq.symm, fd.length_eq.symm, fun k hk hc' hd' => ⟨fc.get hk hc', fd.get hk hd'⟩⟩
  · unfold state_space_model
    rw [C10_gen_wrapper_model T trig harm wres inv re C hinv]
    cases hm : wrapperModel T trig harm wres inv re C with
    | error e => rfl
    | ok m =>
      obtain ⟨_, _, _, hids, hrel, _⟩ := Wrap.model_ok hm
      exact C10_gen_wrapper hrel hids pots volts curs

/-! non-vacuity: the generated dictionaries of a circuit with two capacitors and one inductance succeed, in listing
order; the order of four requests -/

def wrapDemo : Circuit :=
  ⟨[⟨"resistor", "R", ["1", "0"], [("R", .num 2)]⟩,
    ⟨"capacitor", "C1", ["1", "0"], [("C", .num 3)]⟩,
    ⟨"inductance", "L1", ["1", "2"], [("L", .num 7)]⟩,
    ⟨"capacitor", "C2", ["2", "0"], [("C", .num 5)]⟩], "0"⟩

example : wrapper_c_values wrapDemo = .ok [("C1", GQ.ofRat 3), ("C2", GQ.ofRat 5)]
    ∧ wrapper_l_values wrapDemo = .ok [("L1", GQ.ofRat 7)] := by
  decide +kernel

example : outReqs ["1"] ["R"] ["C1", "L1"] = [.potential "1", .voltage "R", .current "C1", .current "L1"] := rfl

end CC
