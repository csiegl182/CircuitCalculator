/-
  Property C19 — malformed circuits are rejected, not reinterpreted: `Network(...)` is `Net.check`,
  `Circuit(...)` is `Circuit.mk?`, a component constructor is `CtorSpec.construct` on a row of the
  generated constructor table; the loaders are `generateComponent` / `undictifyCircuit`.
  Every "wherever in the list" clause is a statement over all lists and all positions.
-/
import CC.Properties.C07
import CC.Proofs.NetBasics
import CC.Proofs.GQField
import CC.Gen.Solution
import CC.Proofs.FourierAlg
namespace CC
open Gen

/-- **C19 (duplicate ids, networks).**  A network whose branch identifiers are not pairwise
distinct is rejected — `FloatingGroundNode` if the reference node is missing as well,
`AmbiguousBranchIDs` otherwise. -/
theorem C19_dup_id_network (N : Net String GQ) (h : ¬ N.ids.Nodup) :
    N.check = .error .floatingGround ∨ N.check = .error .ambiguousIds := by
  unfold Net.check
  by_cases h1 : N.zero ∈ N.nodeLabels
  · right
    have hl : N.branches.length = N.ids.length := by simp [Net.ids]
    have : (dedupL N.ids).length ≠ N.branches.length := by
      intro he; exact h ((dedupL_length_eq_iff _).mp (hl ▸ he))
    simp [h1, this]
  · left; simp [h1]

theorem Component.node_zero_ok (c : Component) (h : c.nodes ≠ []) : ∃ n, c.node 0 = .ok n := by
  cases hcn : c.nodes with
  | nil => exact absurd hcn h
  | cons n _ => exact ⟨n, by simp [Component.node, hcn]⟩

theorem groundNodes_ok (cs : List Component) (hnodes : ∀ c ∈ cs, c.kind = "ground" → c.nodes ≠ []) :
    ∃ gs, (cs.filter (fun c => decide (c.kind = "ground"))).mapM (fun c => c.node 0) = .ok gs ∧
      gs.length = (cs.filter (fun c => decide (c.kind = "ground"))).length := by
  obtain ⟨gs, hgs⟩ := (mapM_isOk (f := fun c : Component => c.node 0)
    (l := cs.filter fun c => decide (c.kind = "ground"))).2 fun c hc =>
    c.node_zero_ok (hnodes c (List.mem_filter.mp hc).1 (by simpa using (List.mem_filter.mp hc).2))
  exact ⟨gs, hgs, (mapM_eq_ok.1 hgs).length_eq.symm⟩

theorem Circuit.mk?_of_grounds (c0 : Component) (rest : List Component) (gs : List String)
    (hgs : ((c0 :: rest).filter (fun c => decide (c.kind = "ground"))).mapM (fun c => c.node 0) = .ok gs) :
    Circuit.mk? (c0 :: rest) =
      if gs.length > 1 then .error .multipleGrounds
      else match pickGround c0 gs with
        | .error e => .error e
        | .ok g => if ((c0 :: rest).map (·.id)).Nodup then .ok ⟨c0 :: rest, g⟩ else .error .ambiguousIds := by
  have hn : ((dedupL ((c0 :: rest).map (·.id))).length ≠ (c0 :: rest).length) = ¬ ((c0 :: rest).map (·.id)).Nodup := by
    rw [← dedupL_length_eq_iff, List.length_map]
  simp only [Circuit.mk?, hgs, bind, Except.bind, hn, ite_not]
  split
  · rfl
  · cases pickGround c0 gs <;> rfl

theorem Circuit.mk?_of_grounds_error (c0 : Component) (rest : List Component) (e : Err)
    (hgs : ((c0 :: rest).filter (fun c => decide (c.kind = "ground"))).mapM (fun c => c.node 0) = .error e) :
    Circuit.mk? (c0 :: rest) = .error e := by
  simp only [Circuit.mk?, hgs, bind, Except.bind]

/-- **C19 (duplicate ids, circuits).**  A component list whose identifiers are not pairwise
distinct is rejected by `Circuit(...)`, whatever else it contains. -/
theorem C19_dup_id (cs : List Component) (h : ¬ (cs.map (·.id)).Nodup) :
    ∃ e, Circuit.mk? cs = .error e := by
  cases cs with
  | nil => simp at h
  | cons c0 rest =>
    cases hgs : ((c0 :: rest).filter (fun c => decide (c.kind = "ground"))).mapM (fun c => c.node 0) with
    | error e => exact ⟨e, Circuit.mk?_of_grounds_error c0 rest e hgs⟩
    | ok gs =>
      simp only [Circuit.mk?_of_grounds c0 rest gs hgs, if_neg h]
      split
      · exact ⟨_, rfl⟩
      · cases pickGround c0 gs <;> exact ⟨_, rfl⟩

/-- … in particular for every pair of positions carrying the same identifier -/
theorem C19_dup_id_positions (cs : List Component) (i j : Nat) (hij : i < j) (hj : j < cs.length)
    (h : (cs[i]'(Nat.lt_trans hij hj)).id = (cs[j]'hj).id) : ∃ e, Circuit.mk? cs = .error e :=
  C19_dup_id cs (not_nodup_map_of_getElem_eq _ cs i j hij hj h)

theorem Circuit.mk?_of_le_one_ground (c0 : Component) (rest : List Component)
    (hg : ((c0 :: rest).filter (fun c => decide (c.kind = "ground"))).length ≤ 1)
    (hnodes : ∀ c ∈ c0 :: rest, c.nodes ≠ []) :
    ∃ g, Circuit.mk? (c0 :: rest) =
      if ((c0 :: rest).map (·.id)).Nodup then .ok ⟨c0 :: rest, g⟩ else .error .ambiguousIds := by
  obtain ⟨gs, hgs, hlen⟩ := groundNodes_ok (c0 :: rest) (fun c hc _ => hnodes c hc)
  obtain ⟨g, hg'⟩ : ∃ g, pickGround c0 gs = .ok g := by
    cases gs with
    | nil => exact c0.node_zero_ok (hnodes c0 (List.mem_cons_self ..))
    | cons g _ => exact ⟨g, rfl⟩
  refine ⟨g, ?_⟩
  rw [Circuit.mk?_of_grounds c0 rest gs hgs, if_neg (by omega), hg']

/-- the precise exception when nothing else is wrong: at most one ground, every component has
a terminal (`Circuit(...)` reads those of the grounds and of the first component) -/
theorem C19_dup_id_exception (cs : List Component)
    (hg : (cs.filter (fun c => decide (c.kind = "ground"))).length ≤ 1)
    (hnodes : ∀ c ∈ cs, c.nodes ≠ []) (hne : cs ≠ []) (h : ¬ (cs.map (·.id)).Nodup) :
    Circuit.mk? cs = .error .ambiguousIds := by
  cases cs with
  | nil => exact absurd rfl hne
  | cons c0 rest =>
    obtain ⟨g, hm⟩ := Circuit.mk?_of_le_one_ground c0 rest hg hnodes
    rw [hm, if_neg h]

/-- **C19 (floating ground).**  A non-empty network none of whose branches touches the
reference node is rejected with `FloatingGroundNode`. -/
theorem C19_floating_ground (N : Net String GQ) (hne : N.branches ≠ [])
    (h : ∀ b ∈ N.branches, b.n1 ≠ N.zero ∧ b.n2 ≠ N.zero) : N.check = .error .floatingGround := by
  have : N.zero ∉ N.nodeLabels := by
    rw [mem_nodeLabels]
    rintro (⟨he, _⟩ | ⟨b, hb, hb'⟩)
    · exact hne he
    · rcases hb' with hb' | hb'
      · exact (h b hb).1 hb'
      · exact (h b hb).2 hb'
  simp [Net.check, this]

/-- the same at circuit level: when no translated component touches the ground node, the
conversion (and with it every solution class) raises `FloatingGroundNode` -/
theorem C19_floating_ground_circuit (T : Tables) (trig : Trig) (harm : Harm) (C : Circuit) (w wres : Rat)
    (bs : List (Branch String GQ)) (hbs : transformBranches T trig harm C.components w wres = .ok bs)
    (hne : bs ≠ []) (h : ∀ b ∈ bs, b.n1 ≠ C.ground ∧ b.n2 ≠ C.ground) :
    transformCircuit T trig harm C w wres = .error .floatingGround := by
  have := C19_floating_ground { branches := bs, zero := C.ground } hne h
  simp [transformCircuit, hbs, this, bind, Except.bind]

/-- **C19 (multiple grounds).**  Two or more ground components are rejected, wherever they
stand in the list. -/
theorem C19_multi_ground (cs : List Component)
    (h : 1 < (cs.filter (fun c => decide (c.kind = "ground"))).length) : ∃ e, Circuit.mk? cs = .error e := by
  cases cs with
  | nil => simp at h
  | cons c0 rest =>
    cases hgs : ((c0 :: rest).filter (fun c => decide (c.kind = "ground"))).mapM (fun c => c.node 0) with
    | error e => exact ⟨e, Circuit.mk?_of_grounds_error c0 rest e hgs⟩
    | ok gs =>
      have hlen := (mapM_eq_ok.1 hgs).length_eq
      exact ⟨.multipleGrounds, by rw [Circuit.mk?_of_grounds c0 rest gs hgs, if_pos (by omega)]⟩

/-- with the precise exception, when every ground has its node -/
theorem C19_multi_ground_exception (cs : List Component)
    (h : 1 < (cs.filter (fun c => decide (c.kind = "ground"))).length)
    (hnodes : ∀ c ∈ cs, c.kind = "ground" → c.nodes ≠ []) : Circuit.mk? cs = .error .multipleGrounds := by
  cases cs with
  | nil => simp at h
  | cons c0 rest =>
    obtain ⟨gs, hgs, hlen⟩ := groundNodes_ok (c0 :: rest) hnodes
    rw [Circuit.mk?_of_grounds c0 rest gs hgs, if_pos (by omega)]

/-- **C19 (acceptance).**  `Circuit(...)` does not reject more than it must: a component list
with pairwise distinct identifiers, at most one ground and a terminal on every component is
accepted and stored as given (without this, a constructor that rejects every non-empty list
would satisfy all rejection theorems above). -/
theorem C19_mk_accepts (cs : List Component)
    (hg : (cs.filter (fun c => decide (c.kind = "ground"))).length ≤ 1)
    (hnodes : ∀ c ∈ cs, c.nodes ≠ []) (h : (cs.map (·.id)).Nodup) :
    ∃ g, Circuit.mk? cs = .ok ⟨cs, g⟩ := by
  cases cs with
  | nil => exact ⟨"", rfl⟩
  | cons c0 rest =>
    obtain ⟨g, hm⟩ := Circuit.mk?_of_le_one_ground c0 rest hg hnodes
    exact ⟨g, by rw [hm, if_pos h]⟩

/-- the parameters property C19 names: resistance, conductance, capacitance, inductance,
frequency, rated power, rated voltage -/
def namedParams : List String := ["R", "G", "C", "L", "w", "P", "V_ref"]

def hasSignGuard (s : CtorSpec) (p : String) : Bool :=
  s.guards.any fun g => g.param == p && (g.cmp == Cmp.lt || g.cmp == Cmp.le) && g.bound == 0 && g.exc == "ValueError"

/-- every constructor guards every named parameter it takes with `if p < 0: raise ValueError`
(or the stricter `if p <= 0`) -/
def C19_negative_table_statement : Prop :=
  ∀ s ∈ ctorSpecs, ∀ p ∈ s.params, p.1 ∈ namedParams → hasSignGuard s p.1 = true

/-- **C19 (negative, table).**  (Until fix 286e6a4 `periodic_current_source` guarded neither `w`
nor `G`.) -/
theorem C19_negative_table : C19_negative_table_statement := by
  unfold C19_negative_table_statement; decide +kernel

/-- the only guards in the module are sign guards `< 0` or `<= 0` raising `ValueError` -/
theorem C19_guards_are_sign_guards :
    ∀ s ∈ ctorSpecs, ∀ g ∈ s.guards, (g.cmp = Cmp.lt ∨ g.cmp = Cmp.le) ∧ g.bound = 0 ∧ g.exc = "ValueError" := by decide +kernel

/-- **C19 (rated voltage).**  A rated voltage must be positive: every constructor that takes
`V_ref` (lamp, resistive_load) guards it with `if V_ref <= 0: raise ValueError` — a load with
`V_ref = 0` has no finite admittance `P / V_ref²` and cannot be translated.  (Until fix e174570
the guard was `< 0`: `V_ref = 0` was accepted and `elements.load` raised when the circuit was
transformed.) -/
theorem C19_rated_voltage_positive :
    ∀ s ∈ ctorSpecs, ∀ p ∈ s.params, p.1 = "V_ref" → (⟨"V_ref", Cmp.le, 0, "ValueError"⟩ : Guard) ∈ s.guards := by
  decide +kernel

/-- **C19 (fundamental of a periodic source).**  A periodic source needs a finite period: every
constructor that takes a `wavetype` guards `w` with `if w <= 0: raise ValueError`.  (Until fix
149a545 `w = 0` was accepted and the component could not be analysed.) -/
theorem C19_fundamental_positive :
    ∀ s ∈ ctorSpecs, ("wavetype", PTy.str, none) ∈ s.params → (⟨"w", Cmp.le, 0, "ValueError"⟩ : Guard) ∈ s.guards :=
  C07_periodic_fundamental_guarded

/-- … and `<= 0` is used for nothing else: 0 is a fault only for a rated voltage and for the
fundamental of a periodic source; for every other parameter — the frequency of a DC / AC source
included — the value 0 is legal -/
theorem C19_only_rated_voltage_strict :
    ∀ s ∈ ctorSpecs, ∀ g ∈ s.guards, g.cmp = Cmp.le →
      g.param = "V_ref" ∨ (g.param = "w" ∧ ("wavetype", PTy.str, none) ∈ s.params) := by decide +kernel

/-- **C19 (negative).**  A constructor call whose arguments bind, and in which some guard
`if p <cmp> bound: raise` is met by the value of `p`, raises — whatever the other arguments,
the identifier and the terminals are.  (With `C19_negative_table`: a negative
resistance, conductance, capacitance, inductance, frequency, rated power or rated voltage is
rejected by every constructor.) -/
theorem C19_negative (s : CtorSpec) (id : String) (nodes : List String) (args env : List (String × Val))
    (henv : bindParams s.params args = .ok env) (g : Guard) (hg : g ∈ s.guards) (q : Rat)
    (hq : env.lookup g.param = some (.num q)) (hfire : g.cmp.holds q g.bound = true) :
    ∃ e, s.construct (some id) (some nodes) args = .error e := by
  have hge : g.check env = .error (errOfExc g.exc) := (Guard.check_num hq).trans (if_pos hfire)
  obtain ⟨e, he⟩ := forM_error_of_mem (fun g : Guard => g.check env) s.guards g hg _ hge
  exact ⟨e, CtorSpec.construct_guard_error henv he⟩

/-- the exception is `ValueError` when every guard before the fired one passes (whatever the
later ones would do) -/
theorem C19_negative_first (s : CtorSpec) (id : String) (nodes : List String) (args env : List (String × Val))
    (henv : bindParams s.params args = .ok env) (pre post : List Guard) (g : Guard)
    (hsplit : s.guards = pre ++ g :: post) (hpre : ∀ g' ∈ pre, g'.check env = .ok ())
    (q : Rat) (hq : env.lookup g.param = some (.num q)) (hfire : g.cmp.holds q g.bound = true)
    (hexc : g.exc = "ValueError") :
    s.construct (some id) (some nodes) args = .error .valueError := by
  have hge : g.check env = .error .valueError := by rw [Guard.check_num hq, if_pos hfire, hexc]; rfl
  exact CtorSpec.construct_guard_error henv (forM_eq_error.2 ⟨pre, g, post, hsplit, hpre, hge⟩)

/-- the sign guards let the boundary value through: when every parameter guarded by `< 0` is
bound to a non-negative number (and the rated voltage, guarded by `<= 0`, to a positive one), no
guard fires -/
theorem C19_zero_passes_guards (s : CtorSpec) (hs : s ∈ ctorSpecs) (env : List (String × Val))
    (h : ∀ g ∈ s.guards, ∃ q : Rat, env.lookup g.param = some (.num q) ∧ 0 ≤ q ∧ (g.cmp = Cmp.le → 0 < q)) :
    forM s.guards (fun g : Guard => g.check env) = (Except.ok () : Except Err Unit) := by
  apply forM_eq_ok.2
  intro g hg
  obtain ⟨q, hq, hpos, hstrict⟩ := h g hg
  obtain ⟨hc, hb, _⟩ := C19_guards_are_sign_guards s hs g hg
  rcases hc with hc | hc
  · have : ¬ q < 0 := by grind
    simp [Guard.check, hq, hc, hb, Cmp.holds, this]
  · have := hstrict hc
    have : ¬ q ≤ 0 := by grind
    simp [Guard.check, hq, hc, hb, Cmp.holds, this]

/-- the rated voltage and the fundamental of a periodic source are the two parameters guarded by
`<= 0` (`C19_only_rated_voltage_strict`): they are set to 1, every other real parameter to 0 -/
def zeroArgs (s : CtorSpec) : List (String × Val) :=
  s.params.map fun p => (p.1, match p.2.1 with
    | .real => if p.1 = "V_ref" ∨ (p.1 = "w" ∧ ("wavetype", PTy.str, none) ∈ s.params) then Val.num 1 else Val.num 0
    | .cplx => Val.cplx 0 0
    | .str => Val.str "cos")

/-- **C19 (boundary).**  The value exactly 0 is accepted by every constructor for every
parameter other than the rated voltage and the fundamental of a periodic source. -/
theorem C19_zero_accepted :
    ∀ s ∈ ctorSpecs, (s.construct (some "x") (some ["a", "b"]) (zeroArgs s)).toOption.isSome = true := by
  decide +kernel

/-- **C19 (list).**  If any entry of a description fails to load, the whole description is
rejected, at whatever position the entry stands. -/
theorem C19_any_bad_entry_rejects (T : Tables) (ds : List Desc) (d : Desc) (hd : d ∈ ds) (e : Err)
    (h : generateComponent T d = .error e) : ∃ e', undictifyCircuit T ds = .error e' := by
  obtain ⟨e', he'⟩ := mapM_error_of_mem (generateComponent T) ds d hd e h
  exact ⟨e', by simp [undictifyCircuit, he', bind, Except.bind]⟩

/-- … and the exception is that of the first bad entry -/
theorem C19_first_bad_entry (T : Tables) (pre post : List Desc) (d : Desc) (e : Err)
    (hpre : ∀ x ∈ pre, ∃ c, generateComponent T x = .ok c) (h : generateComponent T d = .error e) :
    undictifyCircuit T (pre ++ d :: post) = .error e := by
  simp [undictifyCircuit, mapM_eq_error.2 ⟨pre, d, post, rfl, hpre, h⟩, bind, Except.bind]

/-- **C19 (unknown kind).**  An entry whose type string is no key of the loader table raises
`UnknownCircuitComponent` (given it has an id, a value and nodes). -/
theorem C19_unknown_kind (T : Tables) (id ty : String) (nodes : List String) (value : List (String × Val))
    (h : T.loaders.lookup ty = none) :
    generateComponent T ⟨some id, some ty, some nodes, some value⟩ = .error .unknownKind := by
  simp [generateComponent, h, bind, Except.bind, pure, Except.pure, throw, throwThe, MonadExceptOf.throw]

/-- **C19 (missing field).**  An entry lacking its id, value, type or nodes is rejected with
the loader's typed exception, in the order the loader looks for them. -/
theorem C19_missing_field (T : Tables) (d : Desc) :
    (d.id = none → generateComponent T d = .error (.other "UnidentifiedComponent")) ∧
    (d.id ≠ none → (d.value = none ∨ d.type = none ∨ d.nodes = none) →
      generateComponent T d = .error (.other "IncorrectComponentInformation")) := by
  constructor
  · intro h
    simp [generateComponent, h, bind, Except.bind, throw, throwThe, MonadExceptOf.throw]
  · intro hid h
    cases hi : d.id with
    | none => exact absurd hi hid
    | some i =>
      cases hv : d.value with
      | none => simp [generateComponent, hi, hv, bind, Except.bind, pure, Except.pure, throw, throwThe, MonadExceptOf.throw]
      | some v =>
        cases ht : d.type with
        | none => simp [generateComponent, hi, hv, ht, bind, Except.bind, pure, Except.pure, throw, throwThe, MonadExceptOf.throw]
        | some t =>
          cases hn : d.nodes with
          | none => simp [generateComponent, hi, hv, ht, hn, bind, Except.bind, pure, Except.pure, throw, throwThe, MonadExceptOf.throw]
          | some n => rcases h with h | h | h <;> simp_all

/-- a missing required value key (or an unexpected one) is a Python `TypeError` inside the
constructor call, which the loader reports as `IncorrectComponentInformation` -/
theorem C19_missing_value_key (T : Tables) (id ty fn : String) (nodes : List String) (value : List (String × Val))
    (cs : CtorSpec) (hl : T.loaders.lookup ty = some fn) (hc : T.ctor? fn = some cs)
    (h : bindParams cs.params value = .error .typeError) :
    generateComponent T ⟨some id, some ty, some nodes, some value⟩ = .error (.other "IncorrectComponentInformation") := by
  have : cs.construct (some id) (some nodes) value = .error .typeError := by
    rw [CtorSpec.construct_some, h, error_bind]
  simp [generateComponent, hl, hc, this, bind, Except.bind, pure, Except.pure, throw, throwThe, MonadExceptOf.throw]

def bindOne (args : List (String × Val)) (p : String × PTy × Option Val) : Except Err (String × Val) :=
  match args.lookup p.1 with
  | some v => .ok (p.1, v)
  | none => match p.2.2 with
    | some v => .ok (p.1, v)
    | none => .error .typeError

theorem bindParams_eq_mapM (ps : List (String × PTy × Option Val)) (args : List (String × Val)) :
    CC.bindParams ps args =
      if args.any (fun a => !(ps.any (fun p => p.1 == a.1))) then .error .typeError
      else ps.mapM (bindOne args) := rfl

def boundVal (args : List (String × Val)) (p : String × PTy × Option Val) : Option Val := (args.lookup p.1).or p.2.2

/-- what the parameters are bound to when each of them has a value (`.num 0` is a filler for the other case) -/
def boundBy (ps : List (String × PTy × Option Val)) (args : List (String × Val)) : List (String × Val) :=
  ps.map fun p => (p.1, (boundVal args p).getD (.num 0))

/-- Python's keyword binding in closed form: an unexpected keyword, or a missing one without default, is a `TypeError`. -/
theorem bindParams_eq (ps : List (String × PTy × Option Val)) (args : List (String × Val)) :
    CC.bindParams ps args =
      if args.all (fun a => ps.any fun p => p.1 == a.1) && ps.all (fun p => (boundVal args p).isSome)
      then .ok (boundBy ps args) else .error .typeError := by
  have h : ∀ p : String × PTy × Option Val, bindOne args p =
      if (boundVal args p).isSome then .ok (p.1, (boundVal args p).getD (.num 0)) else .error .typeError := by
    intro p; unfold bindOne boundVal
    cases args.lookup p.1 <;> cases p.2.2 <;> rfl
  rw [bindParams_eq_mapM, mapM_ite h, List.any_eq_not_all_not]
  simp only [Bool.not_not]
  cases args.all (fun a => ps.any fun p => p.1 == a.1) <;> rfl

theorem bindParams_missing (params : List (String × PTy × Option Val)) (args : List (String × Val))
    (p : String × PTy × Option Val) (hp : p ∈ params) (hreq : p.2.2 = none) (hmiss : args.lookup p.1 = none) :
    bindParams params args = .error .typeError := by
  have : params.all (fun p => (boundVal args p).isSome) = false :=
    List.all_eq_false.2 ⟨p, hp, by simp [boundVal, hmiss, hreq]⟩
  rw [bindParams_eq, this, Bool.and_false]; rfl

theorem bindParams_lookup (params : List (String × PTy × Option Val)) (args env : List (String × Val))
    (h : bindParams params args = .ok env) (p : String × PTy × Option Val) (hp : p ∈ params) (v : Val)
    (hv : args.lookup p.1 = some v) : env.lookup p.1 = some v := by
  rw [bindParams_eq] at h
  split at h <;> cases h
  -- the first parameter of that name is bound to the argument of that name
  obtain ⟨q, hq⟩ := Option.isSome_iff_exists.1
    (List.find?_isSome (p := fun x : String × PTy × Option Val => p.1 == x.1).2 ⟨p, hp, beq_self_eq_true p.1⟩)
  have hk : q.1 = p.1 :=
    (beq_iff_eq.1 (List.find?_some (p := fun x : String × PTy × Option Val => p.1 == x.1) hq)).symm
  rw [boundBy, lookup_map_key, hq, Option.map_some, boundVal, hk, hv]; rfl

/-- **C19 (unknown waveform, lookup — model level).**  The hand-written `periodicFunction` of
CC/Model/Circuit.lean (a membership test; tied to the code by the `cc_periodic_function`
correspondence) raises `UnknownWavetype` for every name outside the given list.  The statement
about the *generated* lookup of `periodic_functions.py` is `C08_lookup`; `C19_unknown_wave_generated`
below links the two lists. -/
theorem C19_unknown_wave (waves : List String) (name : String) (h : name ∉ waves) :
    periodicFunction waves name = .error (.other "UnknownWavetype") := by
  simp [periodicFunction, h]

/-- the wavetype list the constructors check against (generated by extract_circuit.py) is the
list of the generated lookup of property C08 (extract_fourier.py), for which `C08_lookup` proves
that every other name raises `UnknownWavetype` -/
theorem C19_unknown_wave_generated (s : String) (h : s ∉ Gen.waveTypes) :
    Gen.waveTypes = ["const", "cos", "sin", "rect", "tri", "saw"] ∧
    Gen.Fourier.periodicFunction s = .error "UnknownWavetype" :=
  ⟨by decide +kernel, Fourier.periodicFunction_unknown s h⟩

/-- every constructor that takes a `wavetype` validates it with `periodic_function` -/
theorem C19_wave_checked :
    ∀ s ∈ ctorSpecs, ("wavetype", PTy.str, none) ∈ s.params → ("wavetype", Gen.waveTypes) ∈ s.waveChecks := by
  decide +kernel

/-- unknown waveform types are rejected when the component is constructed -/
def C19_unknown_wave_statement : Prop :=
  ∀ s ∈ ctorSpecs, ∀ (id : String) (nodes : List String) (args : List (String × Val)) (wt : String),
    args.lookup "wavetype" = some (.str wt) → wt ∉ Gen.waveTypes → ("wavetype", PTy.str, none) ∈ s.params →
    ∃ e, s.construct (some id) (some nodes) args = .error e

/-- **C19 (unknown waveform, construction).**  (Until fix 5ae07b1 the constructors accepted any
string and `UnknownWavetype` surfaced only at analysis.) -/
theorem C19_unknown_wave_construct : C19_unknown_wave_statement := by
  intro s hs id nodes args wt hwt hnot hp
  cases hc : s.construct (some id) (some nodes) args with
  | error e => exact ⟨e, rfl⟩
  | ok c =>
    -- a successful call has passed the wave check of its `wavetype` parameter
    obtain ⟨env, _, henv, _, hw, _⟩ := CtorSpec.construct_eq_ok.1 hc
    have := forM_eq_ok.1 hw _ (C19_wave_checked s hs hp)
    simp [waveCheck, bindParams_lookup s.params args env henv _ hp _ hwt, hnot] at this

/-- **C19 (unknown query).**  Asking the network solution for the voltage, current or power of
an identifier that is no branch, or for the potential of a label that is no node, raises
`KeyError`; it never returns a value.  The DC and complex wrappers pass the exception on. -/
theorem C19_unknown_query (N : Net String GQ) (x : List GQ) (id : String) (hid : id ∉ N.ids) :
    N.voltage x id = .error .keyError ∧ N.current x id = .error .keyError ∧
    N.power GQ.conj x id = .error .keyError := by
  have hg := get?_none N id hid
  have hv : N.voltage x id = .error .keyError := by simp [Net.voltage, hg]
  have hvs : idxOf? id N.vsIds = none := idxOf?_none_of_not_mem (fun h => hid (sorted_filter_ids_subset N _ h))
  have hc : N.current x id = .error .keyError := by simp [Net.current, hvs, hg]
  exact ⟨hv, hc, by simp [Net.power, hv, bind, Except.bind]⟩

theorem C19_unknown_query_potential (N : Net String GQ) (x : List GQ) (n : String)
    (hn : n ∉ N.nodeLabels) (hz : n ≠ N.zero) : N.potential x n = .error .keyError := by
  have : idxOf? n N.nodes = none := idxOf?_none_of_not_mem (fun h => hn ((mem_nodes_iff N n).mp h).1)
  simp [Net.potential, hz, this]

/-- the wrappers of `DCSolution` and `ComplexSolution` never turn an exception into a value -/
theorem C19_unknown_query_wrappers (N : Net String GQ) (x : List GQ) (q : Quantity) (id : String) (e : Err)
    (h : N.quantity x q id = .error e) (peak : Bool) (r2 : Rat) :
    dcGet N x q id = .error e ∧ cxGet peak r2 N x q id = .error e := by
  simp [dcGet, cxGet, h, bind, Except.bind]

def getterKind (m : String) : String := if m = "get_potential" then "node" else "component"

/-- **C19 (unknown query, time / frequency domain).**  Every getter of `TimeDomainSolution` and
`FrequencyDomainSolution` validates its identifier first (generated table; `get_power` of the
time-domain class through `get_voltage`); conjuncts 3–4 are about the hand-written copies
`requireComponent` / `requireNode` of CC/Model/Circuit.lean (their source text is compared verbatim
by the translator) — so an unknown id raises `KeyError` whatever the list of frequency components is, the
empty list (passive circuit, complex sources only, `w_max` below the fundamental) included.
(Until fix 38fda4c the getters summed over zero solutions and returned 0 / empty arrays.) -/
theorem C19_unknown_query_guarded :
    (∀ cls ∈ ["TimeDomainSolution", "FrequencyDomainSolution"],
      ∀ m ∈ ["get_voltage", "get_current", "get_potential", "get_power"],
        (cls, m, getterKind m) ∈ Gen.Sol.requireTable) ∧
    Gen.Sol.requireDefined = ["_require_component", "_require_node"] ∧
    (∀ (cs : List Component) (id : String), id ∉ (Spec.nonGround cs).map (·.id) →
      requireComponent cs id = .error .keyError) ∧
    (∀ (cs : List Component) (n : String), (∀ c ∈ cs, n ∉ c.nodes) → requireNode cs n = .error .keyError) := by
  refine ⟨by decide +kernel, by decide +kernel, ?_, ?_⟩
  · intro cs id h
    have : id ∉ (cs.filter (fun c => decide (c.kind ≠ "ground"))).map (·.id) := h
    unfold requireComponent
    rw [if_neg this]
  · intro cs n h
    have : n ∉ cs.flatMap (·.nodes) := by
      simp only [List.mem_flatMap, not_exists, not_and]
      exact h
    simp [requireNode, this]

/-- **C19 (stored unaltered).**  `Circuit(...)` keeps the component list it was given;
a constructor stores the identifier, the terminals and the kind it was called with and writes
exactly the keys of its value dictionary (a plain parameter is stored as given: `C19_param_stored`). -/
theorem C19_stored_unaltered :
    (∀ cs C, Circuit.mk? cs = .ok C → C.components = cs) ∧
    (∀ (s : CtorSpec) id nodes args c, s.construct (some id) (some nodes) args = .ok c →
      c.id = id ∧ c.nodes = nodes ∧ c.kind = s.kind ∧ c.value.map (·.1) = s.values.map (·.1)) := by
  constructor
  · intro cs C h
    cases cs with
    | nil => simp [Circuit.mk?] at h; rw [← h]
    | cons c0 rest => exact (C07_ground _ C (by simp) h).2
  · intro s id nodes args c h
    obtain ⟨env, value, _, _, _, hval, rfl⟩ := CtorSpec.construct_eq_ok.1 h
    refine ⟨rfl, rfl, rfl, forall₂_map_eq (fun kv b hb => ?_) (mapM_eq_ok.1 hval)⟩
    obtain ⟨v, _, hv⟩ := bind_eq_ok.mp hb
    cases hv; rfl

/-- a value written as a plain parameter is the argument itself -/
theorem C19_param_stored (env : List (String × Val)) (p : String) (v : Val) (h : env.lookup p = some v) :
    (VE.param p).eval env = .ok v := by
  simp [VE.eval, h]

example : ∃ e, Circuit.mk? [⟨"resistor", "R", ["1", "0"], []⟩, ⟨"capacitor", "C", ["1", "0"], []⟩,
    ⟨"resistor", "R", ["2", "0"], []⟩] = .error e :=
  C19_dup_id_positions _ 0 2 (by decide +kernel) (by decide +kernel) rfl

/-- hypotheses of `C19_negative`: `resistor(R = -1)` -/
example : ∃ e, (⟨"resistor", "resistor", none, none, [("R", .real, none)], [⟨"R", .lt, 0, "ValueError"⟩],
    [("R", .param "R")], []⟩ : CtorSpec).construct (some "R1") (some ["1", "0"]) [("R", .num (-1))] = .error e :=
  C19_negative _ "R1" ["1", "0"] [("R", .num (-1))] [("R", .num (-1))] (by decide +kernel) ⟨"R", .lt, 0, "ValueError"⟩
    (List.mem_cons_self ..) (-1) rfl (by decide +kernel)

example : (Circuit.mk? [⟨"ground", "g1", ["0"], []⟩, ⟨"resistor", "R", ["1", "0"], []⟩, ⟨"ground", "g2", ["1"], []⟩])
    = .error .multipleGrounds :=
  C19_multi_ground_exception _ (by decide +kernel) (by decide +kernel)

end CC
