/-
  Property C01 — the steady-state solution obeys Kirchhoff's laws and every element law.

  Model: CC/Model/{Net,MNA}.lean (mirrors node_analysis.py, bias_point_analysis.py,
  solution.py, label_mapping.py, network.py, elements.py).  Spec: CC/Spec/Circuit.lean.
  All theorems hold for every network (any number of nodes and branches, parallel branches,
  either terminal order, any reference node, any labels and any label order `LabelOrd`),
  over every field `K` — in particular ℂ and the driver's Gaussian rationals.
  `numpy.linalg.solve` is a parameter: `x` is any vector with `A·x = b`.
-/
import CC.Proofs.Complete
import Mathlib.Algebra.Order.Field.Rat

namespace CC
variable {L K : Type} [DecidableEq L] [LabelOrd L] [Field K] [DecidableEq K]

theorem kclResidual_report (N : Net L K) (x : List K) (wf : N.WF) (n : L) :
    kclResidual N (N.reportOf x) n
      = (N.branches.map fun b => b.dir n * N.J (N.solOf x) b).sum :=
  kclResidual_report_all N x wf.ids_nodup n

/-- **C01 (soundness).**  Whatever vector satisfies the matrix equation the code builds,
the accessors never fail on the network's own labels and ids, and what they report solves
the circuit: reference at zero, voltages are potential differences, every element law
holds in the library's reference direction, and Kirchhoff's current law holds at every
node — the reference node included. -/
theorem C01_sound (N : Net L K) (x : List K) (wf : N.WF)
    (hx : x.length = N.nodes.length + N.vsIds.length)
    (h : matVec N.mnaA x = N.mnaB) :
    (∀ n ∈ N.allLabels, N.potential x n = .ok ((N.reportOf x).pot n)) ∧
    (∀ b ∈ N.branches, N.voltage x b.id = .ok ((N.reportOf x).v b.id) ∧
                        N.current x b.id = .ok ((N.reportOf x).i b.id)) ∧
    CircuitEqs N (N.reportOf x) :=
  sound_all N x wf.ids_nodup wf.zero_mem hx h

/-- **C01 (reference node).**  Currents balance at the reference node although it has no
row in the matrix: its balance is minus the sum of all other rows. -/
theorem C01_kcl_reference (N : Net L K) (x : List K) (wf : N.WF)
    (hx : x.length = N.nodes.length + N.vsIds.length)
    (h : matVec N.mnaA x = N.mnaB) :
    kclResidual N (N.reportOf x) N.zero = 0 :=
  (C01_sound N x wf hx h).2.2.kcl N.zero (zero_mem_allLabels N)

/-- **C01 (the four current cases).**  The per-kind relation between reported voltage and
reported current, written out: an ideal voltage source fixes the voltage, an impedance
obeys `v = Z·i`, an admittance `i = Y·v`, an ideal current source fixes the current, and a
linear source reports its current in generator direction, `i = −(I_N + Y·v)`. -/
theorem C01_current_cases (N : Net L K) (x : List K) (wf : N.WF)
    (hx : x.length = N.nodes.length + N.vsIds.length)
    (h : matVec N.mnaA x = N.mnaB) (b : Branch L K) (hb : b ∈ N.branches) :
    let v := (N.reportOf x).v b.id
    let i := (N.reportOf x).i b.id
    match b.e with
    | .norton Z V => if Z = 0 then v = V else if V = 0 then v = Z * i else i = -(V / Z + v / Z)
    | .thevenin Y I => if Y = 0 then i = I else if I = 0 then i = Y * v else i = -(I + Y * v) := by
  have hlaw := (C01_sound N x wf hx h).2.2.law b hb
  intro v i
  cases he : b.e with
  | norton Z V =>
    rw [he] at hlaw
    by_cases hZ : Z = 0
    · simp only [Elem.lawResidual, hZ, if_true] at hlaw ⊢; exact sub_eq_zero.mp hlaw
    · by_cases hV : V = 0
      · simp only [Elem.lawResidual, hZ, hV, if_true, if_false] at hlaw ⊢; exact sub_eq_zero.mp hlaw
      · simp only [Elem.lawResidual, hZ, hV, if_false, div_eq_mul_one_div V Z, div_eq_mul_one_div v Z] at hlaw ⊢
        linear_combination (1 / Z) * hlaw - i * mul_one_div_cancel hZ
  | thevenin Y I =>
    rw [he] at hlaw
    by_cases hY : Y = 0
    · simp only [Elem.lawResidual, hY, if_true] at hlaw ⊢; exact sub_eq_zero.mp hlaw
    · by_cases hI : I = 0
      · simp only [Elem.lawResidual, hY, hI, if_true, if_false] at hlaw ⊢; exact sub_eq_zero.mp hlaw
      · simp only [Elem.lawResidual, hY, hI, if_false] at hlaw ⊢
        linear_combination hlaw

/-- **C01 (power).**  Reported power is `V · conj(I)` of the reported voltage and current. -/
theorem C01_power (conj : K → K) (N : Net L K) (x : List K) (wf : N.WF) (b : Branch L K)
    (hb : b ∈ N.branches) :
    N.power conj x b.id = .ok ((N.reportOf x).v b.id * conj ((N.reportOf x).i b.id)) := by
  unfold Net.power
  rw [voltage_ok N x wf.ids_nodup b hb, current_ok N x wf.ids_nodup b hb,
    reportOf_v N x wf.ids_nodup hb, reportOf_i N x wf.ids_nodup hb]
  rfl

/-- **C01 (completeness).**  Every solution of the circuit equations, packed through the
alphabetic index maps, satisfies the matrix equation the code solves: the voltage-source
rows and the index maps lose nothing. -/
theorem C01_complete (N : Net L K) (R : Report L K) (wf : N.WF) (hR : CircuitEqs N R) :
    matVec N.mnaA (N.pack R.toSol) = N.mnaB :=
  complete_rows_all N R wf.ids_nodup wf.zero_mem hR

/-- **C01 (uniqueness).**  For a well-posed network (the source-free circuit has only the
zero solution) any two solutions of the circuit equations agree on every node potential,
branch voltage and branch current: the reported quantities are *the* solution. -/
theorem C01_unique (N : Net L K) (hids : N.ids.Nodup) (hw : WellPosed N)
    (R S : Report L K) (hR : CircuitEqs N R) (hS : CircuitEqs N S) : R.AgreeOn N S := by
  -- the difference of the two solutions solves the source-free circuit: the equations are linear
  have hD : CircuitEqs N.zeroSources (Report.diff N R S) :=
    hR.comb hS (fun e1 e2 => show R.pot N.zero - S.pot N.zero = 0 by rw [e1, e2, sub_self])
      fun b hb => combines_diff N hids R S hb
  have hz := hw _ hD
  constructor
  · exact fun n hn => sub_eq_zero.mp (hz.1 n hn)
  · intro b hb
    obtain ⟨hv, hi⟩ := hz.2 b hb
    simp only [Report.diff, Report.zeroRep, get?_of_mem N hids hb] at hv hi
    exact ⟨sub_eq_zero.mp hv, physCurrent_inj b.e (sub_eq_zero.mp hi)⟩

theorem matrix_unique_all (N : Net L K) (hids : N.ids.Nodup) (hzm : N.zero ∈ N.nodeLabels)
    (hw : WellPosed N) (x y : List K)
    (hx : x.length = N.nodes.length + N.vsIds.length)
    (hy : y.length = N.nodes.length + N.vsIds.length)
    (h1 : matVec N.mnaA x = N.mnaB) (h2 : matVec N.mnaA y = N.mnaB) : x = y := by
  rw [← pack_reportOf N hids x hx, ← pack_reportOf N hids y hy]
  exact pack_congr N hids hzm
    (C01_unique N hids hw _ _ (sound_all N x hids hzm hx h1).2.2 (sound_all N y hids hzm hy h2).2.2)

/-- **C01 (the matrix equation of a well-posed network has at most one solution).** -/
theorem C01_matrix_unique (N : Net L K) (wf : N.WF) (hw : WellPosed N) (x y : List K)
    (hx : x.length = N.nodes.length + N.vsIds.length)
    (hy : y.length = N.nodes.length + N.vsIds.length)
    (h1 : matVec N.mnaA x = N.mnaB) (h2 : matVec N.mnaA y = N.mnaB) : x = y :=
  matrix_unique_all N wf.ids_nodup wf.zero_mem hw x y hx hy h1 h2

/-- **C01 (the reported quantities are *the* solution).**  For a well-posed network, whatever
vector satisfies the matrix equation, the accessors report exactly the values of any
solution `R` of the circuit equations.  This is the lemma through which every Spec-level
invariance (C03), linearity (C04) and rewrite (C16) theorem becomes a statement about the
numbers the code reports. -/
theorem C01_reported_is_the_solution (N : Net L K) (wf : N.WF) (hw : WellPosed N) (x : List K)
    (hx : x.length = N.nodes.length + N.vsIds.length) (h : matVec N.mnaA x = N.mnaB)
    (R : Report L K) (hR : CircuitEqs N R) : (N.reportOf x).AgreeOn N R :=
  C01_unique N wf.ids_nodup hw _ _ (C01_sound N x wf hx h).2.2 hR

theorem accessors_eq_solution (N : Net L K) (wf : N.WF) (hw : WellPosed N) (x : List K)
    (hx : x.length = N.nodes.length + N.vsIds.length) (h : matVec N.mnaA x = N.mnaB)
    (S : Report L K) (hS : CircuitEqs N S) :
    (∀ n ∈ N.allLabels, N.potential x n = .ok (S.pot n)) ∧
    (∀ b ∈ N.branches, N.voltage x b.id = .ok (S.v b.id) ∧ N.current x b.id = .ok (S.i b.id)) := by
  obtain ⟨ap, ab⟩ := C01_reported_is_the_solution N wf hw x hx h S hS
  obtain ⟨sp, sb, _⟩ := C01_sound N x wf hx h
  exact ⟨fun n hn => by rw [sp n hn, ap n hn],
    fun b hb => ⟨by rw [(sb b hb).1, (ab b hb).1], by rw [(sb b hb).2, (ab b hb).2]⟩⟩

/- Non-singularity of the matrix of a well-posed network (`C01_solvable`, kernel form) and
   squareness (`C01_square`) are proved in CC/Proofs/Solvable.lean. -/

/-- `V(1,0) = 10 V`, `R1(1,2) = 5 Ω`, `R2(2,0) = 1/5 S` with reference node `0` -/
def exampleNet : Net String ℚ :=
  { zero := "0",
    branches := [
      { n1 := "1", n2 := "0", id := "V", e := .norton 0 10 },
      { n1 := "1", n2 := "2", id := "R1", e := .norton 5 0 },
      { n1 := "2", n2 := "0", id := "R2", e := .thevenin (1/5) 0 } ] }

theorem exampleNet_wf : exampleNet.WF := by decide +kernel

/-- its solution: φ₁ = 10, φ₂ = 5, 1 A through the resistors, −1 A through the source -/
def exampleReport : Report String ℚ :=
  { pot := fun n => if n = "1" then 10 else if n = "2" then 5 else 0
    v := fun id => if id = "V" then 10 else 5
    i := fun id => if id = "V" then -1 else 1 }

theorem exampleReport_solves : CircuitEqs exampleNet exampleReport := by decide +kernel

/-- the hypotheses of `C01_sound` are satisfiable: the example network has a solution vector -/
example : ∃ x : List ℚ, x.length = exampleNet.nodes.length + exampleNet.vsIds.length ∧
    matVec exampleNet.mnaA x = exampleNet.mnaB :=
  ⟨exampleNet.pack exampleReport.toSol, pack_length _ exampleNet_wf.ids_nodup _,
    C01_complete _ _ exampleNet_wf exampleReport_solves⟩

end CC
