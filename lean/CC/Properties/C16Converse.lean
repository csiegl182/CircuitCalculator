/-
  C16 — converse direction for open-circuit removal:
  every solution of the simplified network extends to a solution of the original network that
  agrees with it on everything that survives.  Together with `C16_open` the two networks have
  the same solutions on the surviving part — an electrical identity in both directions, with no
  well-posedness hypothesis.  The extension (`Report.withOpens`) gives an open branch current 0 and the voltage
  `φ(n1) − φ(n2)`; the list-level statement `eqsInj_filter_open_converse`, under an external injection, also serves
  the probe network of a port.
-/
import CC.Properties.C16
import CC.Proofs.Linear

set_option linter.unusedSectionVars false

namespace CC
variable {L K : Type} [DecidableEq L] [LabelOrd L] [Field K] [DecidableEq K]

/-- extend a report of the simplified network to the removed open branches -/
def Report.withOpens (R : Report L K) (N : Net L K) : Report L K :=
  { pot := R.pot
    v := fun id => match N.get? id with
      | some b => if b.e.isOpen then R.pot b.n1 - R.pot b.n2 else R.v id
      | none => R.v id
    i := fun id => match N.get? id with
      | some b => if b.e.isOpen then 0 else R.i id
      | none => R.i id }

/-- `Report.withOpens` at list level -/
def openExt (cs : List (Branch L K)) (R : Report L K) : Report L K where
  pot := R.pot
  v := fun id => match findId cs id with
    | some c => if c.e.isOpen then R.pot c.n1 - R.pot c.n2 else R.v id
    | none => R.v id
  i := fun id => match findId cs id with
    | some c => if c.e.isOpen then 0 else R.i id
    | none => R.i id

theorem withOpens_eq (R : Report L K) (N : Net L K) : R.withOpens N = openExt N.branches R := rfl

theorem openExt_v {cs : List (Branch L K)} (hid : (cs.map (·.id)).Nodup) (R : Report L K) {c : Branch L K}
    (hc : c ∈ cs) : (openExt cs R).v c.id = if c.e.isOpen then R.pot c.n1 - R.pot c.n2 else R.v c.id := by
  simp only [openExt, findId_of_mem hid hc]

theorem openExt_i {cs : List (Branch L K)} (hid : (cs.map (·.id)).Nodup) (R : Report L K) {c : Branch L K}
    (hc : c ∈ cs) : (openExt cs R).i c.id = if c.e.isOpen then 0 else R.i c.id := by
  simp only [openExt, findId_of_mem hid hc]

/-- converse of `EqsInj.filter_open` -/
theorem eqsInj_filter_open_converse {α : Type} (l : List α) (g : α → Branch L K) (q : α → Bool)
    (hid : ((l.map g).map (·.id)).Nodup)
    (hq : ∀ x ∈ l, q x = false → (g x).e.isOpen = true) (z : L) (R : Report L K) (inj : L → K)
    (h : EqsInj ((l.filter q).map g) z R inj) : EqsInj (l.map g) z (openExt (l.map g) R) inj := by
  have hsub : ∀ c ∈ (l.filter q).map g, c ∈ l.map g := fun _ hc => (List.filter_sublist.map g).subset hc
  -- on a branch that was kept the extension changes nothing: if it is open its own equations give it these values already
  refine EqsInj.unfilter (h.congr rfl fun c hc => ⟨rfl, rfl, ?_, ?_⟩) fun x hx hqx => ?_
  · rw [openExt_v hid R (hsub c hc)]
    split
    · exact (sub_eq_zero.mp (h.volt c hc)).symm
    · rfl
  · rw [openExt_i hid R (hsub c hc)]
    split
    · next ho => exact (open_law_current ho (h.law c hc)).symm
    · rfl
  · have hc := List.mem_map_of_mem (f := g) hx
    have ho := hq x hx hqx
    unfold voltResidual
    rw [openExt_v hid R hc, openExt_i hid R hc, if_pos ho, if_pos ho, isOpen_eq ho]
    exact ⟨sub_self _, by simp only [Elem.lawResidual, if_true, sub_zero], fun n => by rw [physCurrent_zero, mul_zero]⟩

theorem circuitEqsAll_filter_open_converse {α : Type} (l : List α) (g : α → Branch L K) (q : α → Bool)
    (hid : ((l.map g).map (·.id)).Nodup)
    (hq : ∀ x ∈ l, q x = false → (g x).e.isOpen = true) (z : L) (R : Report L K)
    (h : CircuitEqsAll ((l.filter q).map g) z R) : CircuitEqsAll (l.map g) z (openExt (l.map g) R) :=
  (eqsInj_filter_open_converse l g q hid hq z R _ h.eqsInj).circuitEqsAll

theorem withOpens_kept (R : Report L K) {N : Net L K} (hid : N.ids.Nodup) {b : Branch L K}
    (hb : b ∈ N.branches.filter fun b => !b.e.isOpen) :
    (R.withOpens N).v b.id = R.v b.id ∧ (R.withOpens N).i b.id = R.i b.id := by
  obtain ⟨hbm, ho⟩ := List.mem_filter.mp hb
  have ho' : ¬ b.e.isOpen = true := by simpa using ho
  rw [withOpens_eq, openExt_v hid R hbm, openExt_i hid R hbm, if_neg ho', if_neg ho']
  exact ⟨rfl, rfl⟩

/-- **C16 (open removal, converse).**  Every solution of the network without its open branches
extends — current 0 and voltage `φ(n1) − φ(n2)` on each removed branch, everything else unchanged —
to a solution of the original network. -/
theorem C16_open_converse (N N' : Net L K) (R : Report L K) (hid : N.ids.Nodup)
    (hr : removeOpen N = .ok N') (h : CircuitEqs N' R) :
    CircuitEqs N (R.withOpens N) ∧
      (∀ n, (R.withOpens N).pot n = R.pot n) ∧
      (∀ b ∈ N'.branches, (R.withOpens N).v b.id = R.v b.id ∧ (R.withOpens N).i b.id = R.i b.id) := by
  have hN' := mk?_ok hr
  subst hN'
  have hid' : ((N.branches.map id).map (·.id)).Nodup := by rw [List.map_id]; exact hid
  have hA : CircuitEqsAll ((N.branches.filter fun b => !b.e.isOpen).map id) N.zero R := by
    rw [List.map_id]; exact (circuitEqsAll_iff _ R).mpr h
  have hR := circuitEqsAll_filter_open_converse N.branches id (fun b => !b.e.isOpen) hid'
    (fun b _ hb => by simpa using hb) N.zero R hA
  rw [List.map_id] at hR
  exact ⟨(circuitEqsAll_iff N _).mp hR, fun _ => rfl, fun b hb => withOpens_kept R hid hb⟩

/-- **C16 (open removal is an identity on solutions).**  A report solves the simplified network
iff its extension solves the original one. -/
theorem C16_open_iff (N N' : Net L K) (R : Report L K) (hid : N.ids.Nodup)
    (hr : removeOpen N = .ok N') :
    CircuitEqs N' R ↔ CircuitEqs N (R.withOpens N) := by
  constructor
  · exact fun h => (C16_open_converse N N' R hid hr h).1
  · intro h
    -- the extension agrees with `R` on all survivors, and the equations of `N'` only read survivors
    obtain ⟨h1, _, hbr⟩ := C16_open N N' _ hr h
    exact circuitEqs_of_agreeOn N' (R.withOpens N) R
      ⟨fun _ _ => rfl, fun b hb => withOpens_kept R hid (hbr ▸ hb)⟩ h1

end CC
