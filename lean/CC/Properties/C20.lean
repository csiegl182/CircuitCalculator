/-
  C20 — analyses are pure, repeatable functions of the circuit description.

  Model:  CC/Model/Effects.lean — a heap-passing state machine over the pool of argument
          objects; the write set of an operation comes from the *generated* effect summary
          CC/Gen/Effects.lean (regenerated from the Python AST on every run).
  What is proved here is about that summary and about every semantics that respects it
  (`Machine.Sound`).  That the real functions respect it is validated dynamically on every
  run (harness/props/c20.py) and proved for the loader model (`C20_loaders_sound`).
-/
import CC.Model.Effects
import CC.Proofs.LoadLemmas
import CC.Proofs.EffectsMore
import CC.Properties.C17
namespace CC
open CC.Load CC.Gen.Effects

/-- every row of the scope: empty write set, or a named exception (generated table,
checked by evaluation) -/
theorem C20_frame_rows :
    (scopeRows.all fun fw => fw.2.isEmpty || frameExceptions.contains fw.1) = true := by
  decide +kernel

theorem scopeRows_pure : ∀ r ∈ scopeRows, r.2 = [] := by
  intro r hr
  simpa [frameExceptions] using List.all_eq_true.1 C20_frame_rows r hr

/-- closes a goal `names <+ table` (`List.Sublist`) for two literal lists by walking the table: a row
either carries the name at the head of `names` — the same literal, `Sublist.cons_cons` — or is skipped,
`Sublist.cons`; when the names are used up, `nil_sublist`. -/
macro "walk_table" : tactic =>
  `(tactic| repeat first | exact List.nil_sublist _ | apply List.Sublist.cons_cons | apply List.Sublist.cons)

/-- **Frame.**  Every function of the modules in scope — public functions, methods, nested
functions, table lambdas, `functools.partial` bindings — has an *empty* write set, except the
ones listed by name in `frameExceptions`. -/
theorem C20_frame : ∀ f ∈ inScope, f ∉ frameExceptions → writeRoots f = some [] := by
  intro f hf hne
  simp only [inScope, List.mem_map] at hf
  obtain ⟨r, hr, hrf⟩ := hf
  have hsome : (scopeRows.find? (fun p => p.1 == f)).isSome := by
    rw [List.find?_isSome]; exact ⟨r, hr, by simp [hrf]⟩
  unfold writeRoots effects
  rw [List.find?_append]
  cases hfind : scopeRows.find? (fun p => p.1 == f) with
  | none => simp [hfind] at hsome
  | some r' =>
    have hmem := List.mem_of_find?_eq_some hfind
    have hname : r'.1 = f := by simpa using List.find?_some hfind
    have hrow := List.all_eq_true.1 C20_frame_rows r' hmem
    simp only [Bool.or_eq_true, List.isEmpty_iff, List.contains_iff_mem, hname] at hrow
    rcases hrow with h | h
    · simp [h]
    · exact absurd h hne

/-- The exception list is empty: no function in scope may write an argument.
`frameExceptions` is a hand-written constant of CC/Model/Effects.lean, so this is `rfl` on a
literal `[]` — a registration that the list is empty, not a fact about the code; the fact about
the code is `C20_frame_rows` / `C20_frame_all` (`decide` over the generated table). -/
theorem C20_frame_exceptions_exact : frameExceptions = [] := rfl

theorem C20_frame_all : ∀ f ∈ inScope, writeRoots f = some [] := by
  intro f hf
  exact C20_frame f hf (by simp [frameExceptions])

/-- **Defaults.**  No parameter with a mutable default value (`keep=[]`, `c_values={}`,
`l_values={}`, `w=[0]`, `w=np.array([0])`, `potential_nodes=[]`, …) is in the write set of
its function — so no call can change what a later call sees as default. -/
theorem C20_defaults :
    (mutableDefaults.all fun d =>
      match effects[d.1]? with
      | some (f, ws) => f == d.2.1 && d.2.2.all (fun p => !ws.contains p)   -- the row of that function
      | none => false) = true := by
  -- `rfl`: each row is found by its index and carries the same name literal as `mutableDefaults`
  have h : mutableDefaults.map (fun d => effects[d.1]?) = mutableDefaults.map fun d => some (d.2.1, []) := rfl
  rw [List.all_eq_true]
  intro d hd
  simp [List.map_inj_left.1 h d hd]

/-- No function in the summary writes a module-level object (dispatch tables, codec tables). -/
theorem C20_no_global_writes : globalWrites = [] := by
  decide +kernel

/-- No callee outside the analysed modules and outside the allow-list receives an aliased
argument (nothing had to be classified "may write its arguments"). -/
theorem C20_no_unknown_callee : unknownCalls = [] := by
  decide +kernel

/-- No function of the analysed modules is wrapped by a decorator the translator does not know (or
re-bound at module level): the summary is about the callables themselves, none keeps state. -/
theorem C20_no_unknown_decorator : unknownDecorators = [] := by
  decide +kernel

theorem Load.Machine.run_eq_of_sound {V O : Type} (M : Machine V O) (hs : M.Sound) (op : Op) (h : List V)
    (hw : op.writeCells = []) : (M.run op h).2 = h := by
  obtain ⟨hl, hf⟩ := hs op h
  apply List.ext_getElem? 
  intro i
  exact hf i (by simp [hw])

/-- **History.**  If every operation of a finite history has an empty write set, then under
every semantics that respects the summary the heap after the history is the initial heap,
and every output equals the output of the same operation run alone on the initial heap:
repeating, interleaving or sharing argument objects cannot change an answer. -/
theorem C20_history {V O : Type} (M : Machine V O) (hs : M.Sound) (ops : List Op) (h : List V)
    (hp : ∀ op ∈ ops, op.writeCells = []) :
    (M.runAll ops h).2 = h ∧ (M.runAll ops h).1 = ops.map (fun op => (M.run op h).1) :=
  M.runAll_of_fixed ops h fun op ho => M.run_eq_of_sound hs op h (hp op ho)

/-- Frame for arbitrary histories: a cell that is in no operation's write set has its
initial value after the history (whatever the mutating operations do to the other cells). -/
theorem C20_history_frame {V O : Type} (M : Machine V O) (hs : M.Sound) (ops : List Op) (h : List V) (i : Nat)
    (hi : ∀ op ∈ ops, i ∉ op.writeCells) : (M.runAll ops h).2[i]? = h[i]? := by
  induction ops generalizing h with
  | nil => simp [Machine.runAll]
  | cons op r ih =>
    have h1 := (hs op h).2 i (hi op (by simp))
    have h2 := ih (M.run op h).2 (fun q hq => hi q (by simp [hq]))
    simp only [Machine.runAll, h2, h1]

@[reducible] def Load.Op.inFrame (op : Op) : Prop := op.fn ∈ inScope ∧ op.fn ∉ frameExceptions

theorem Load.Op.writeCells_of_inFrame (op : Op) (h : op.inFrame) : op.writeCells = [] := by
  have := C20_frame op.fn h.1 h.2
  simp [Op.writeCells, this]

/-- **C20.**  Any finite sequence of operations drawn from the functions in scope (none is excepted:
`C20_frame_exceptions_exact`), over any pool of shared argument objects: the pool is
unchanged and every result is the result of the isolated call. -/
theorem C20_pure_history {V O : Type} (M : Machine V O) (hs : M.Sound) (ops : List Op) (h : List V)
    (hp : ∀ op ∈ ops, op.inFrame) :
    (M.runAll ops h).2 = h ∧ (M.runAll ops h).1 = ops.map (fun op => (M.run op h).1) :=
  C20_history M hs ops h (fun op ho => op.writeCells_of_inFrame (hp op ho))

/-- non-vacuity: a history over shared cells that meets the hypothesis -/
example : ∀ op ∈ [({ fn := "Network.transformers.passive_network", args := [("network", 0), ("keep", 1)] } : Op),
                  { fn := "Network.NodalAnalysis.bias_point_analysis.nodal_analysis_bias_point_solver", args := [("network", 0)] },
                  { fn := "Network.transformers.remove_short_circuit_elements", args := [("network", 0), ("keep", 1)] },
                  { fn := "Circuit.dump_load.undictify_circuit", args := [("circuit", 2)] }], op.inFrame := by
  intro op hop
  simp only [List.mem_cons, List.not_mem_nil, or_false] at hop
  refine ⟨List.singleton_sublist.1 ?_, List.not_mem_nil⟩
  rcases hop with rfl | rfl | rfl | rfl <;> (unfold inScope scopeRows; walk_table)

/-- one branch of the `if … then some … else …` chain of `loadSem`; `loadSem_post` applies it once per branch -/
theorem Load.post_of_ite {c : Prop} [Decidable c] {x : J × LoadOut} {rest : Option (J × LoadOut)}
    {v v' : J} {out : LoadOut} (h : (if c then some x else rest) = some (v', out)) (hx : x.1 = v)
    (hrest : rest = some (v', out) → v' = v) : v' = v := by
  by_cases hc : c
  · rw [if_pos hc] at h; cases h; exact hx
  · rw [if_neg hc] at h; exact hrest h

theorem Load.loadSem_post (T : Trig) (fn : String) (flag : Bool) (v v' : J) (out : LoadOut)
    (h : loadSem T fn flag v = some (v', out)) : v' = v := by
  unfold loadSem at h
  refine post_of_ite h (C17_toComplex_pure T v flag) fun h => ?_
  refine post_of_ite h (C17_pure.1 T v) fun h => ?_
  refine post_of_ite h (C17_circuit_pure v).1 fun h => ?_
  refine post_of_ite h (C17_circuit_pure v).2 fun h => ?_
  -- the four `dump_load` conversions hand the cell back
  refine post_of_ite h rfl fun h => ?_
  refine post_of_ite h rfl fun h => ?_
  refine post_of_ite h rfl fun h => ?_
  refine post_of_ite h rfl fun h => ?_
  cases h

/-- the one cell a step sets receives the value it held (`loadSem_post`) -/
theorem Load.loadStep_pool (T : Trig) (h : List J) (op : LoadOp) : (loadStep T h op).1 = h := by
  unfold loadStep
  split
  · rename_i p i hargs
    split
    · rename_i v fn q hv hq
      by_cases hpq : p = q
      · simp only [hpq, if_true]
        cases hsem : loadSem T op.fn op.flag v with
        | none => rfl
        | some r =>
          obtain ⟨v', out⟩ := r
          cases loadSem_post T _ _ _ _ _ hsem
          obtain ⟨hi, rfl⟩ := List.getElem?_eq_some_iff.1 hv
          exact List.set_getElem_self hi
      · simp [hpq]
    · rfl
  · rfl

/-- The loader model of C17, run as a machine over a pool of description objects, writes
nothing — whatever the summary says it may write (it says: nothing).
Scope of this theorem: for `to_complex`, `load_network`, `generate_component`, `undictify_circuit`
the post-state is *computed* by the model (it follows the generated flags `degreeInPlace`,
`entryCopied`, `componentCopied`) and its equality with the argument is `C17_pure` /
`C17_circuit_pure`.  For the four `dump_load.*` conversions `loadSem` returns the cell unchanged
*by construction* (the model of these functions has no post-state at all), so
for them the statement is definitional: their purity rests on the generated effect summary
(`C20_frame_all`) and the snapshot oracle, not on this theorem. -/
theorem C20_loaders_sound (T : Trig) : (loadMachine T).Sound := fun op h => by
  rw [show ((loadMachine T).run op h).2 = h from loadStep_pool T h op]
  exact ⟨rfl, fun _ _ => rfl⟩

/-- …hence on the loader machine itself: after any history of loader operations inside the frame
(`hp`) the pool of descriptions is unchanged and each output is the output of the isolated call. -/
theorem C20_loader_histories (T : Trig) (ops : List Op) (h : List J) (hp : ∀ op ∈ ops, op.inFrame) :
    ((loadMachine T).runAll ops h).2 = h ∧
    ((loadMachine T).runAll ops h).1 = ops.map (fun op => ((loadMachine T).run op h).1) :=
  C20_pure_history (loadMachine T) (C20_loaders_sound T) ops h hp

end CC
