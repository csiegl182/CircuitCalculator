/-
  Property C05 — power is conserved and has the physically right sign.

  `C05_tellegen` holds for every network, every solution of the circuit equations and
  every field with a ring endomorphism `conj` (complex conjugation on ℂ and on the
  driver's Gaussian rationals; the identity for DC).  The sign facts are stated over ℂ.
-/
import CC.Proofs.NetBasics
import CC.Proofs.SpecLemmas
import Mathlib.Data.Complex.Basic
import Mathlib.Tactic.Linarith
set_option linter.unusedSectionVars false

namespace CC
variable {L K : Type} [DecidableEq L] [Field K] [DecidableEq K]

/-- Tellegen's theorem needs only Kirchhoff's two laws (no element law): in every report that
satisfies the voltage law and the current law the complex powers of all elements sum to
zero, in the sign conventions of `C05_tellegen`. -/
theorem tellegen_of_kvl_kcl (conj : K →+* K) (N : Net L K) (R : Report L K)
    (hvolt : ∀ b ∈ N.branches, voltResidual R b = 0) (hkcl : ∀ n, kclResidual N R n = 0) :
    (N.branches.map fun b => R.v b.id * conj (b.e.physCurrent (R.i b.id))).sum = 0 := by
  rw [List.map_congr_left fun b hb => by rw [sub_eq_zero.mp (hvolt b hb)]]
  refine kcl_test N.branches (fun b => conj (b.e.physCurrent (R.i b.id))) (fun n => ?_) R.pot
  -- the conjugate currents balance because the currents do: the incidence numbers are 0, ±1
  have : (N.branches.map fun b => incidence b n * conj (b.e.physCurrent (R.i b.id))).sum
      = conj (kclResidual N R n) := by
    rw [kclResidual, map_list_sum, List.map_map]
    exact congrArg List.sum (List.map_congr_left fun b _ => incidence_mul_hom b n conj.toAddMonoidHom _)
  rw [this, hkcl n, map_zero]

/-- **C05 (Tellegen).**  In every solved circuit the complex powers of all elements sum to
zero: ideal sources and passive elements in the passive sign convention, linear (lossy)
sources counted as delivered power (their reported current is in generator direction). -/
theorem C05_tellegen (conj : K →+* K) (N : Net L K) (R : Report L K) (h : CircuitEqs N R) :
    (N.branches.map fun b => R.v b.id * conj (b.e.physCurrent (R.i b.id))).sum = 0 :=
  tellegen_of_kvl_kcl conj N R h.volt h.kcl_all

/-- **C05 (instantaneous and per-sample power balance).**  Time-domain and transient results
report `p(t) = v(t)·i(t)`; whenever the instantaneous values satisfy Kirchhoff's voltage and
current laws at an instant / sample (C09 `C09_kcl_instant`, C12 `C12_kcl_sample`), the
instantaneous powers sum to zero at that instant — Tellegen with the identity in place of
conjugation, over any field (ℝ for waveforms). -/
theorem C05_instant (N : Net L K) (R : Report L K)
    (hvolt : ∀ b ∈ N.branches, voltResidual R b = 0) (hkcl : ∀ n, kclResidual N R n = 0) :
    (N.branches.map fun b => R.v b.id * b.e.physCurrent (R.i b.id)).sum = 0 := by
  simpa using tellegen_of_kvl_kcl (RingHom.id K) N R hvolt hkcl

/-- reported power of a branch: `V · conj(I)` of the reported values; for a linear source
this is the *delivered* power, i.e. minus the power in the passive convention -/
theorem C05_power_sign (conj : K →+* K) (e : Elem K) (v i : K) :
    v * conj (e.physCurrent i) = if e.isLossy then -(v * conj i) else v * conj i := by
  unfold Elem.physCurrent
  by_cases h : e.isLossy = true <;> simp [h]

open Complex in
/-- **C05 (resistor).**  `P = R·|I|²`: real and non-negative. -/
theorem C05_resistor (R : ℝ) (hR : 0 ≤ R) (i : ℂ) :
    ((R : ℂ) * i) * (starRingEnd ℂ) i = ((R * normSq i : ℝ) : ℂ) ∧
    (((R : ℂ) * i) * (starRingEnd ℂ) i).im = 0 ∧ 0 ≤ (((R : ℂ) * i) * (starRingEnd ℂ) i).re := by
  have h : ((R : ℂ) * i) * (starRingEnd ℂ) i = ((R * normSq i : ℝ) : ℂ) := by
    rw [mul_assoc, mul_conj]; push_cast; ring
  refine ⟨h, ?_, ?_⟩
  · rw [h]; exact ofReal_im _
  · rw [h, ofReal_re]; exact mul_nonneg hR (normSq_nonneg i)

open Complex in
/-- **C05 (inductor).**  `Z = jωL`: the power is purely reactive with `Q = ωL·|I|² ≥ 0`. -/
theorem C05_inductor (w Lv : ℝ) (hw : 0 ≤ w) (hL : 0 ≤ Lv) (i : ℂ) :
    let P := ((⟨0, w * Lv⟩ : ℂ) * i) * (starRingEnd ℂ) i
    P.re = 0 ∧ P.im = w * Lv * normSq i ∧ 0 ≤ P.im := by
  have h : ((⟨0, w * Lv⟩ : ℂ) * i) * (starRingEnd ℂ) i = (⟨0, w * Lv⟩ : ℂ) * ((normSq i : ℝ) : ℂ) := by
    rw [mul_assoc, mul_conj]
  simp only [h]
  refine ⟨by simp, by simp, ?_⟩
  simp only [mul_im, ofReal_re, ofReal_im, mul_zero, zero_add]
  exact mul_nonneg (mul_nonneg hw hL) (normSq_nonneg i)

open Complex in
/-- **C05 (capacitor).**  `Y = jωC`, `I = Y·V`: purely reactive with `Q = −ωC·|V|² ≤ 0`. -/
theorem C05_capacitor (w C : ℝ) (hw : 0 ≤ w) (hC : 0 ≤ C) (v : ℂ) :
    let P := v * (starRingEnd ℂ) ((⟨0, w * C⟩ : ℂ) * v)
    P.re = 0 ∧ P.im = -(w * C * normSq v) ∧ P.im ≤ 0 := by
  have h : v * (starRingEnd ℂ) ((⟨0, w * C⟩ : ℂ) * v) = (⟨0, -(w * C)⟩ : ℂ) * ((normSq v : ℝ) : ℂ) := by
    rw [map_mul, ← mul_assoc, mul_comm v, mul_assoc, mul_conj]
    congr 1
  simp only [h]
  refine ⟨by simp, by simp, ?_⟩
  simp only [mul_im, ofReal_re, ofReal_im, mul_zero, zero_add]
  rw [neg_mul]
  exact neg_nonpos.mpr (mul_nonneg (mul_nonneg hw hC) (normSq_nonneg v))

/-- **C05 (peak vs RMS).**  With `r2·r2 = 2` real (`conj r2 = r2`): the RMS phasors are the
peak phasors divided by `r2`, and `V_rms·conj(I_rms) = ½·V_peak·conj(I_peak)`: both modes
report the same power. -/
theorem C05_modes (conj : K →+* K) (r2 : K) (h2 : r2 * r2 = 2) (hc : conj r2 = r2) (v i : K) :
    (v / r2) * conj (i / r2) = 1 / 2 * (v * conj i) := by
  rw [map_div₀, hc, div_mul_div_comm, h2, one_div, inv_mul_eq_div]

end CC
