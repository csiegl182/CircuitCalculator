/-
  C20 — the purity / repeatability statements made explicit per analysis, and tied
  to the generated effect summary group by group.

  The executable models CC/Model/{Transform, MNA, StateSpace, MultiFreq, Fmt}.lean are run as
  machines over a pool of shared argument objects (`Sig.machine` of CC/Proofs/EffectsMore.lean).
  The model functions are Lean functions, so "the model does not write its arguments" holds by
  construction; the content of the theorems about these machines is the explicit dispatch
  real qualified function name + real parameter names ↦ model function  and the resulting
  closed form of any history.  The fact about the *code* is in the `C20_effects_*` theorems:
  it is checked on the table that harness/extract_load.py regenerates from the Python AST on
  every run (the write sets by `C20_frame_rows`, the names of each group here), and it gives the
  same conclusion for *any* sound machine whose operations carry these function names
  (`C20_…_any_machine`).  What the table carries per function is the list of parameters (including
  `self`) through which the function may write a caller-visible object, plus the tables
  `globalWrites`, `unknownCalls`, `unknownDecorators`, `mutableDefaults`.  It carries *no* information about the returned value (the analysis computes
  the may-alias set of the result but does not emit it), so "returns a fresh object" is not
  provable from it — that part stays with the snapshot / identity oracle of harness/props/c20.py.
-/
import CC.Properties.C20
import CC.Proofs.EffectsMore
import CC.Model.Transform
import CC.Model.MNA
import CC.Model.StateSpace
import CC.Model.MultiFreq
import CC.Model.Fmt
set_option linter.unusedSectionVars false
namespace CC
open CC.Load CC.Gen.Effects

/-- A history cut in two: the second part answers as it would *on the initial pool* — what ran before
does not matter.  (The hypothesis holds of the functions in scope: `C20_frame_all`.) -/
theorem C20_history_append {V O : Type} (M : Machine V O) (hs : M.Sound) (ops₁ ops₂ : List Op) (h : List V)
    (hp : ∀ op ∈ ops₁ ++ ops₂, op.writeCells = []) :
    (M.runAll (ops₁ ++ ops₂) h).1 = (M.runAll ops₁ h).1 ++ (M.runAll ops₂ h).1 := by
  have h12 := (C20_history M hs (ops₁ ++ ops₂) h hp).2
  have h1 := (C20_history M hs ops₁ h (fun op ho => hp op (List.mem_append_left _ ho))).2
  have h2 := (C20_history M hs ops₂ h (fun op ho => hp op (List.mem_append_right _ ho))).2
  rw [h12, h1, h2, List.map_append]

/-- The order of the calls is irrelevant: a permuted history leaves the same pool and gives
a permutation of the outputs. -/
theorem C20_history_perm {V O : Type} (M : Machine V O) (hs : M.Sound) (ops ops' : List Op) (h : List V)
    (hperm : ops.Perm ops') (hp : ∀ op ∈ ops, op.writeCells = []) :
    (M.runAll ops' h).2 = (M.runAll ops h).2 ∧ ((M.runAll ops h).1).Perm ((M.runAll ops' h).1) := by
  have hp' : ∀ op ∈ ops', op.writeCells = [] := fun op ho => hp op (hperm.mem_iff.2 ho)
  have a := C20_history M hs ops h hp
  have b := C20_history M hs ops' h hp'
  rw [a.1, a.2, b.1, b.2]
  exact ⟨rfl, hperm.map _⟩

/-- Two neighbouring calls exchanged: their two outputs are exchanged, every other output is
the same. -/
theorem C20_history_swap {V O : Type} (M : Machine V O) (hs : M.Sound) (a b : Op) (pre post : List Op) (h : List V)
    (hp : ∀ op ∈ pre ++ a :: b :: post, op.writeCells = []) :
    ∃ xs oa ob ys, (M.runAll (pre ++ a :: b :: post) h).1 = xs ++ oa :: ob :: ys ∧
      (M.runAll (pre ++ b :: a :: post) h).1 = xs ++ ob :: oa :: ys ∧ xs.length = pre.length := by
  have hp' : ∀ op ∈ pre ++ b :: a :: post, op.writeCells = [] := fun op ho =>
    hp op (((List.Perm.swap a b post).append_left pre).mem_iff.1 ho)
  refine ⟨pre.map fun op => (M.run op h).1, (M.run a h).1, (M.run b h).1, post.map fun op => (M.run op h).1, ?_, ?_, by simp⟩
  · rw [(C20_history M hs _ h hp).2]; simp
  · rw [(C20_history M hs _ h hp').2]; simp

/-- non-vacuity of the hypothesis of the three theorems above (operations of the generated table, sharing cell 0) -/
example : ∀ op ∈ [({ fn := "Network.transformers.passive_network", args := [("network", 0), ("keep", 1)] } : Op)]
      ++ [{ fn := "Network.transformers.remove_open_circuit_elements", args := [("network", 0)] }],
    op.writeCells = [] := by
  intro op ho
  simp only [List.cons_append, List.nil_append, List.mem_cons, List.not_mem_nil, or_false] at ho
  refine Op.writeCells_of_inFrame op ⟨List.singleton_sublist.1 ?_, List.not_mem_nil⟩
  rcases ho with rfl | rfl <;> (unfold inScope scopeRows; walk_table)

/-- No row of the scope has a write set (`C20_frame_rows`) and the three tables of the summary are empty,
so what is left to check of a group is that the listed names are selected and are rows, in table order. -/
theorem scope_groupCheck {sel : String → Bool} {names : List String}
    (hsel : ∀ f ∈ names, sel f = true) (hsub : names.Sublist inScope) : groupCheck sel scopeRows names = true := by
  simp [groupCheck, scanGroup_of_sublist sel scopeRows names scopeRows_pure hsel hsub, C20_no_global_writes,
    C20_no_unknown_callee, C20_no_unknown_decorator]

/-- the qualified names of Network/transformers.py -/
def isTransformerFn (f : String) : Bool := pfx "Network.transformers." f

/-- the transformers `transformMachine` dispatches on (every public function of the file) -/
def transformerFns : List String := [
  "Network.transformers.switch_ground_node", "Network.transformers.remove_element",
  "Network.transformers.remove_open_circuit_elements", "Network.transformers.remove_short_circuit_elements",
  "Network.transformers.short_circuitify_voltage_sources", "Network.transformers.open_circuitify_current_sources",
  "Network.transformers.remove_ideal_current_sources", "Network.transformers.remove_ideal_voltage_sources",
  "Network.transformers.passive_network"]

/-- the qualified names of Network/NodalAnalysis/{solution, bias_point_analysis, node_analysis}.py -/
def isMnaFn (f : String) : Bool :=
  pfx "Network.NodalAnalysis." f && !pfx "Network.NodalAnalysis.state_space_model." f

/-- the functions `mnaMachine` dispatches on (in table order) -/
def mnaFns : List String := [
  "Network.NodalAnalysis.solution.NodalAnalysisSolution.get_voltage",
  "Network.NodalAnalysis.solution.NodalAnalysisSolution.get_power",
  "Network.NodalAnalysis.bias_point_analysis.NodalAnalysisBiasPointSolution.get_potential",
  "Network.NodalAnalysis.bias_point_analysis.NodalAnalysisBiasPointSolution.get_current",
  "Network.NodalAnalysis.bias_point_analysis.nodal_analysis_bias_point_solver",
  "Network.NodalAnalysis.node_analysis.nodal_analysis_coefficient_matrix",
  "Network.NodalAnalysis.node_analysis.nodal_analysis_constants_vector"]

/-- the qualified names of Network/NodalAnalysis/state_space_model.py -/
def isStateFn (f : String) : Bool := pfx "Network.NodalAnalysis.state_space_model." f

/-- the functions `stateMachine` dispatches on (in table order) -/
def stateFns : List String := [
  "Network.NodalAnalysis.state_space_model.state_space_matrices",
  "Network.NodalAnalysis.state_space_model.NodalStateSpaceModel.c_row_for_potential",
  "Network.NodalAnalysis.state_space_model.NodalStateSpaceModel.c_row_voltage",
  "Network.NodalAnalysis.state_space_model.NodalStateSpaceModel.c_row_current",
  "Network.NodalAnalysis.state_space_model.NodalStateSpaceModel.d_row_for_potential",
  "Network.NodalAnalysis.state_space_model.NodalStateSpaceModel.d_row_voltage",
  "Network.NodalAnalysis.state_space_model.NodalStateSpaceModel.d_row_current",
  "Network.NodalAnalysis.state_space_model.NodalStateSpaceModel.sources",
  "Network.NodalAnalysis.state_space_model.nodal_state_space_model"]

/-- the qualified names of the multi-frequency code: `frequency_components` (Circuit/circuit.py) with its
nested function, `TimeDomainSolution.*` and `FrequencyDomainSolution.*` (Circuit/solution.py) -/
def isMultiFreqFn (f : String) : Bool :=
  pfx "Circuit.solution.TimeDomainSolution." f || pfx "Circuit.solution.FrequencyDomainSolution." f
    || pfx "Circuit.circuit.frequency_components" f

/-- the functions `multiFreqMachine` dispatches on (in table order) -/
def multiFreqFns : List String := [
  "Circuit.solution.TimeDomainSolution.get_voltage", "Circuit.solution.TimeDomainSolution.get_current",
  "Circuit.solution.TimeDomainSolution.get_potential", "Circuit.solution.FrequencyDomainSolution._series",
  "Circuit.circuit.frequency_components"]

/-- the four lists in the order in which their rows stand in the table, so that one walk over the table serves the
four checks below -/
theorem machineFns_sublist : (transformerFns ++ (stateFns ++ (mnaFns ++ multiFreqFns))).Sublist inScope := by
  unfold transformerFns stateFns mnaFns multiFreqFns inScope scopeRows
  simp only [List.cons_append, List.nil_append]
  walk_table

theorem C20_effects_transformers_check : groupCheck isTransformerFn scopeRows transformerFns = true :=
  scope_groupCheck (hsel := by simp only [isTransformerFn, pfx_eq_bytePfx]; decide +kernel)
    (hsub := (List.sublist_append_left _ _).trans machineFns_sublist)

/-- **Transformers.**  Every row of the generated summary whose name starts with
`Network.transformers.` — the nine public functions of `transformerFns` and the
four nested helpers `zero_in_voltage`, `is_intended_voltage_source`, `zero_in_current`,
`is_intended_current_source` — has an EMPTY write set (neither `network` nor `keep` nor anything
reachable from them may be written), writes no module-level object, passes no aliased argument to
an unclassified callee, and carries no unknown decorator; and the nine functions are rows of the
table.  An edit that makes e.g. `remove_short_circuit_elements` rename nodes on the caller's branch
list or append to `keep` changes the generated row and breaks this theorem.
Not said: that the returned network shares nothing with the argument (the table has no such column). -/
theorem C20_effects_transformers_pure : GroupPure isTransformerFn scopeRows transformerFns :=
  groupCheck_spec C20_effects_transformers_check

theorem C20_effects_mna_check : groupCheck isMnaFn scopeRows mnaFns = true :=
  scope_groupCheck (hsel := by simp only [isMnaFn, pfx_eq_bytePfx]; decide +kernel)
    (hsub := ((List.sublist_append_left _ _).trans ((List.sublist_append_right _ _).trans
      (List.sublist_append_right _ _))).trans machineFns_sublist)

/-- **Nodal analysis.**  Every row of `Network.NodalAnalysis.solution.*`, `.bias_point_analysis.*`,
`.node_analysis.*` (31 rows: matrix and right-hand-side builders with their
nested helpers, `open_circuit_impedance`, `element_impedance`, the solver, `__post_init__` and every
accessor of the solution classes): empty write set — in particular no accessor writes `self` —,
no module-level write, no unclassified callee, no unknown decorator; the seven functions of
`mnaFns` are among them. -/
theorem C20_effects_mna_pure : GroupPure isMnaFn scopeRows mnaFns :=
  groupCheck_spec C20_effects_mna_check

theorem C20_effects_state_check : groupCheck isStateFn scopeRows stateFns = true :=
  scope_groupCheck (hsel := by simp only [isStateFn, pfx_eq_bytePfx]; decide +kernel)
    (hsub := ((List.sublist_append_left _ _).trans (List.sublist_append_right _ _)).trans machineFns_sublist)

/-- **Nodal state-space model.**  Every row of `Network.NodalAnalysis.state_space_model.*` (14 rows:
`state_space_matrices` with its three nested builders, `nodal_state_space_model`, the row accessors
`_row_for_potential`, `c_/d_row_for_potential`, `c_/d_row_voltage`, `c_/d_row_current`, `_one_vector`,
`sources`): empty write set — no row accessor writes `self` (a `c_row -= …`
on a view of `self.C` would make the row `["self"]`), the builders write neither `network` nor `c_values`
nor `l_values` —, no module-level write, no unclassified callee, no unknown decorator. -/
theorem C20_effects_state_pure : GroupPure isStateFn scopeRows stateFns :=
  groupCheck_spec C20_effects_state_check

theorem C20_effects_multifreq_check : groupCheck isMultiFreqFn scopeRows multiFreqFns = true :=
  scope_groupCheck (hsel := by simp only [isMultiFreqFn, pfx_eq_bytePfx]; decide +kernel)
    (hsub := ((List.sublist_append_right _ _).trans ((List.sublist_append_right _ _).trans
      (List.sublist_append_right _ _))).trans machineFns_sublist)

/-- **Multi-frequency solutions.**  `frequency_components`, its nested `frequencies`, and every method
of `TimeDomainSolution` / `FrequencyDomainSolution` (`__post_init__`, `_series`, `get_voltage`,
`get_current`, `get_potential`, `get_power`; 13 rows): empty write set (no getter writes `self`, the
constructors do not write `circuit`), no module-level write, no unclassified callee, no unknown
decorator.  Not covered by the table: a generator stored in `self` that a getter *consumes*
is not a write in the sense of the analysis — that one is caught by the
object-level oracle only. -/
theorem C20_effects_multifreq_pure : GroupPure isMultiFreqFn scopeRows multiFreqFns :=
  groupCheck_spec C20_effects_multifreq_check

/-- **Support table.**  `C20_frame_rows` is about the rows of the anchor files only.  The rows of the
modules they call into (`Network/network.py`, `Network/elements.py`, `label_mapping.py`,
`Network/solution.py`, `Circuit/components.py`, `Circuit/transformers.py`, `SignalProcessing/*`) with a
NON-empty write set are exactly these three: `phi *= np.pi/180` / `X *= np.sqrt(2)` on a parameter, which
the conservative analysis classes as a possible in-place write (it is one if the caller passes a numpy
array).  They are value helpers of the element / component constructors; none of the predicates,
`Network.*` methods and index mappers that CC/Model/Net.lean mirrors is among them. -/
theorem C20_effects_support_rows :
    (supportRows.filter fun r => !r.2.isEmpty) =
      [("Network.elements.impedance_value", ["phi"]), ("Network.elements.admittance_value", ["phi"]),
       ("Network.elements.complex_value", ["X"])] := by
  decide +kernel

theorem C20_effects_support_pure : ∀ r ∈ supportRows,
    r.1 ∉ ["Network.elements.impedance_value", "Network.elements.admittance_value", "Network.elements.complex_value"] →
    r.2 = [] := by
  intro r hr hn
  by_cases he : r.2 = []
  · exact he
  · have hm : r ∈ supportRows.filter fun r => !r.2.isEmpty :=
      List.mem_filter.2 ⟨hr, by simpa using he⟩
    rw [C20_effects_support_rows] at hm
    simp only [List.mem_cons, List.not_mem_nil, or_false] at hm hn
    rcases hm with rfl | rfl | rfl <;> simp at hn

/-- the qualified names the formatter (`Utils.py`, `SimpleCircuit/Display.py`) would have -/
def isFmtFn (f : String) : Bool := pfx "Utils." f || pfx "SimpleCircuit." f

theorem C20_effects_fmt_absent_scope : (scopeRows.all fun r => !isFmtFn r.1) = true := by
  simp only [isFmtFn, pfx_eq_bytePfx]; decide +kernel
theorem C20_effects_fmt_absent_support : (supportRows.all fun r => !isFmtFn r.1) = true := by
  simp only [isFmtFn, pfx_eq_bytePfx]; decide +kernel

/-- **Formatter: not in the summary.**  The generated table has no row for `Utils.py` or
`SimpleCircuit/Display.py` (they are not among the files the effect analysis is run on), so for every
formatter function the summary is silent (`writeRoots = none`, which `Op.writeCells` reads as "may write
every argument").  Consequently nothing about the formatter's *code* is proved in this file; the
`C20_fmt_*` theorems are about the formatter *model* only.  (If the files are added to the analysis this
theorem breaks.) -/
theorem C20_effects_fmt_absent (fn : String) (hf : isFmtFn fn = true) : writeRoots fn = none := by
  apply writeRoots_none_of_absent isFmtFn _ fn hf
  unfold effects
  rw [List.all_append, C20_effects_fmt_absent_scope, C20_effects_fmt_absent_support]; rfl

theorem C20_group_history {sel : String → Bool} {names : List String} (hg : GroupPure sel scopeRows names)
    {V O : Type} (M : Machine V O) (hs : M.Sound) (ops : List Op) (h : List V)
    (hp : ∀ op ∈ ops, op.fn ∈ names) :
    (M.runAll ops h).2 = h ∧ (M.runAll ops h).1 = ops.map (fun op => (M.run op h).1) :=
  C20_pure_history M hs ops h fun op ho =>
    ⟨List.mem_map.2 ⟨_, (hg.listed _ (hp op ho)).2, rfl⟩, by simp [frameExceptions]⟩

theorem C20_transformers_any_machine {V O : Type} (M : Machine V O) (hs : M.Sound) (ops : List Op) (h : List V)
    (hp : ∀ op ∈ ops, op.fn ∈ transformerFns) :
    (M.runAll ops h).2 = h ∧ (M.runAll ops h).1 = ops.map (fun op => (M.run op h).1) :=
  C20_group_history C20_effects_transformers_pure M hs ops h hp

theorem C20_mna_any_machine {V O : Type} (M : Machine V O) (hs : M.Sound) (ops : List Op) (h : List V)
    (hp : ∀ op ∈ ops, op.fn ∈ mnaFns) :
    (M.runAll ops h).2 = h ∧ (M.runAll ops h).1 = ops.map (fun op => (M.run op h).1) :=
  C20_group_history C20_effects_mna_pure M hs ops h hp

theorem C20_state_any_machine {V O : Type} (M : Machine V O) (hs : M.Sound) (ops : List Op) (h : List V)
    (hp : ∀ op ∈ ops, op.fn ∈ stateFns) :
    (M.runAll ops h).2 = h ∧ (M.runAll ops h).1 = ops.map (fun op => (M.run op h).1) :=
  C20_group_history C20_effects_state_pure M hs ops h hp

theorem C20_multifreq_any_machine {V O : Type} (M : Machine V O) (hs : M.Sound) (ops : List Op) (h : List V)
    (hp : ∀ op ∈ ops, op.fn ∈ multiFreqFns) :
    (M.runAll ops h).2 = h ∧ (M.runAll ops h).1 = ops.map (fun op => (M.run op h).1) :=
  C20_group_history C20_effects_multifreq_pure M hs ops h hp

section
variable {L K : Type} [DecidableEq L] [LabelOrd L]
variable [Zero K] [One K] [Add K] [Mul K] [Neg K] [Sub K] [Inv K] [Div K] [DecidableEq K]

/-- the objects of a pool of network-level arguments -/
inductive NVal (L K : Type) where
  | net (N : Net L K)
  /-- an exemption list (`keep`) -/
  | keep (k : List (ElemKey K))
  | label (l : L)
  | id (s : String)
  /-- a solution object: the network it was built from and the solution vector it stores -/
  | sol (N : Net L K) (x : List K)

/-- the real parameter names (Network/transformers.py:4-62) -/
def transformParams : List (String × List String) := [
  ("Network.transformers.switch_ground_node", ["network", "new_ground"]),
  ("Network.transformers.remove_element", ["network", "element"]),
  ("Network.transformers.remove_open_circuit_elements", ["network"]),
  ("Network.transformers.remove_short_circuit_elements", ["network", "keep"]),
  ("Network.transformers.short_circuitify_voltage_sources", ["network", "keep"]),
  ("Network.transformers.open_circuitify_current_sources", ["network", "keep"]),
  ("Network.transformers.remove_ideal_current_sources", ["network", "keep"]),
  ("Network.transformers.remove_ideal_voltage_sources", ["network", "keep"]),
  ("Network.transformers.passive_network", ["network", "keep"])]

/-- function name ↦ model function of CC/Model/Transform.lean (`keep` must be bound: the shared
default `keep=[]` is the subject of `C20_defaults`) -/
def transformSem (fn : String) (_flag : Bool) (vs : List (NVal L K)) : Option (Except Err (Net L K)) :=
  match vs with
  | [.net N, .label g] => if fn = "Network.transformers.switch_ground_node" then some (switchGround N g) else none
  | [.net N, .id s] => if fn = "Network.transformers.remove_element" then some (removeElement N s) else none
  | [.net N] => if fn = "Network.transformers.remove_open_circuit_elements" then some (removeOpen N) else none
  | [.net N, .keep k] =>
    if fn = "Network.transformers.remove_short_circuit_elements" then some (removeShort N k)
    else if fn = "Network.transformers.short_circuitify_voltage_sources" then some (shortCircuitifyVS N k)
    else if fn = "Network.transformers.open_circuitify_current_sources" then some (openCircuitifyCS N k)
    else if fn = "Network.transformers.remove_ideal_current_sources" then some (removeIdealCS N k)
    else if fn = "Network.transformers.remove_ideal_voltage_sources" then some (removeIdealVS N k)
    else if fn = "Network.transformers.passive_network" then some (passiveNetwork N k)
    else none
  | _ => none

def transformSig : Sig (NVal L K) (Option (Except Err (Net L K))) :=
  { params := transformParams, sem := transformSem, bad := none }

def transformMachine : Machine (NVal L K) (Option (Except Err (Net L K))) :=
  (transformSig (L := L) (K := K)).machine

/-- The transformer machine respects the effect summary (by construction: see the header). -/
theorem C20_transformers_sound : (transformMachine (L := L) (K := K)).Sound := Sig.machine_sound _

/-- **Transformers, any history.**  After any finite sequence of transformer calls on shared networks
and shared exemption lists the pool is what it was (the input network and `keep` are returned
unchanged), and the k-th result is the model transformer applied to the objects the k-th call's
parameters name in the INITIAL pool — it does not depend on what ran before or on how often. -/
theorem C20_transformers_histories (ops : List Op) (h : List (NVal L K)) :
    (transformMachine.runAll ops h).2 = h ∧
    (transformMachine.runAll ops h).1 = ops.map fun op => (transformSig (L := L) (K := K)).eval op h :=
  (transformSig (L := L) (K := K)).machine_histories ops h

/-- the closed form of one call; the other eight are alike -/
theorem C20_transformers_call_removeShort (op : Op) (h : List (NVal L K)) (N : Net L K) (k : List (ElemKey K))
    (hf : op.fn = "Network.transformers.remove_short_circuit_elements")
    (hn : op.arg? "network" h = some (.net N)) (hk : op.arg? "keep" h = some (.keep k)) :
    (transformSig (L := L) (K := K)).eval op h = some (removeShort N k) := by
  have hp : (transformParams.find? fun q => q.1 == "Network.transformers.remove_short_circuit_elements").map (·.2)
      = some ["network", "keep"] := by decide +kernel
  rw [Sig.eval_of (transformSig (L := L) (K := K)) op h hf hp (Op.argVals_cons hn (Op.argVals_cons hk (Op.argVals_nil op h)))]
  simp [transformSig, transformSem]

theorem C20_transformers_call_passive (op : Op) (h : List (NVal L K)) (N : Net L K) (k : List (ElemKey K))
    (hf : op.fn = "Network.transformers.passive_network")
    (hn : op.arg? "network" h = some (.net N)) (hk : op.arg? "keep" h = some (.keep k)) :
    (transformSig (L := L) (K := K)).eval op h = some (passiveNetwork N k) := by
  have hp : (transformParams.find? fun q => q.1 == "Network.transformers.passive_network").map (·.2)
      = some ["network", "keep"] := by decide +kernel
  rw [Sig.eval_of (transformSig (L := L) (K := K)) op h hf hp (Op.argVals_cons hn (Op.argVals_cons hk (Op.argVals_nil op h)))]
  simp [transformSig, transformSem]

/-- **Equal descriptions, equal networks.**  Two transformer calls (same function) whose parameters are
bound to equal values — different cells, different pools, different moments of different histories —
return the same result. -/
theorem C20_transformers_same_description (op op' : Op) (h h' : List (NVal L K))
    (hf : op.fn = op'.fn) (ha : ∀ p, op.arg? p h = op'.arg? p h') :
    (transformSig (L := L) (K := K)).eval op h = (transformSig (L := L) (K := K)).eval op' h' :=
  (transformSig (L := L) (K := K)).eval_congr_sem op op' h h' hf (fun _ => rfl) ha

inductive MOut (K : Type) where
  | mat (A : List (List K))
  | vec (b : List K)
  | asm (r : Except Err (List (List K) × List K))
  | scal (r : Except Err K)
  | badOp

/-- the real parameter names (node_analysis.py:44,71; bias_point_analysis.py:29,34,57; solution.py:34,39) -/
def mnaParams : List (String × List String) := [
  ("Network.NodalAnalysis.node_analysis.nodal_analysis_coefficient_matrix", ["network"]),
  ("Network.NodalAnalysis.node_analysis.nodal_analysis_constants_vector", ["network"]),
  ("Network.NodalAnalysis.bias_point_analysis.nodal_analysis_bias_point_solver", ["network"]),
  ("Network.NodalAnalysis.bias_point_analysis.NodalAnalysisBiasPointSolution.get_potential", ["self", "node_id"]),
  ("Network.NodalAnalysis.bias_point_analysis.NodalAnalysisBiasPointSolution.get_current", ["self", "branch_id"]),
  ("Network.NodalAnalysis.solution.NodalAnalysisSolution.get_voltage", ["self", "branch_id"]),
  ("Network.NodalAnalysis.solution.NodalAnalysisSolution.get_power", ["self", "branch_id"])]

/-- function name ↦ model function of CC/Model/MNA.lean.  The solver's answer is `Net.assemble`
(everything `__post_init__` does before `numpy.linalg.solve`); a solution object is the pair
(network, stored solution vector); `conj` is complex conjugation of the number type. -/
def mnaSem (conj : K → K) (fn : String) (_flag : Bool) (vs : List (NVal L K)) : MOut K :=
  match vs with
  | [.net N] =>
    if fn = "Network.NodalAnalysis.node_analysis.nodal_analysis_coefficient_matrix" then .mat N.mnaA
    else if fn = "Network.NodalAnalysis.node_analysis.nodal_analysis_constants_vector" then .vec N.mnaB
    else if fn = "Network.NodalAnalysis.bias_point_analysis.nodal_analysis_bias_point_solver" then .asm N.assemble
    else .badOp
  | [.sol N x, .label n] =>
    if fn = "Network.NodalAnalysis.bias_point_analysis.NodalAnalysisBiasPointSolution.get_potential" then .scal (N.potential x n)
    else .badOp
  | [.sol N x, .id s] =>
    if fn = "Network.NodalAnalysis.bias_point_analysis.NodalAnalysisBiasPointSolution.get_current" then .scal (N.current x s)
    else if fn = "Network.NodalAnalysis.solution.NodalAnalysisSolution.get_voltage" then .scal (N.voltage x s)
    else if fn = "Network.NodalAnalysis.solution.NodalAnalysisSolution.get_power" then .scal (N.power conj x s)
    else .badOp
  | _ => .badOp

def mnaSig (conj : K → K) : Sig (NVal L K) (MOut K) :=
  { params := mnaParams, sem := mnaSem conj, bad := .badOp }

def mnaMachine (conj : K → K) : Machine (NVal L K) (MOut K) := (mnaSig (L := L) conj).machine

theorem C20_mna_sound (conj : K → K) : (mnaMachine (L := L) conj).Sound := Sig.machine_sound _

/-- **Nodal analysis, any history.**  Matrix, right-hand side, assembly and the four accessors, called
in any order and any number of times on shared networks / solution objects: the pool (network and stored
solution vector included) is unchanged and each answer is the model function on the initial objects —
an accessor's answer does not depend on which accessors were asked before. -/
theorem C20_mna_histories (conj : K → K) (ops : List Op) (h : List (NVal L K)) :
    ((mnaMachine conj).runAll ops h).2 = h ∧
    ((mnaMachine conj).runAll ops h).1 = ops.map fun op => (mnaSig (L := L) conj).eval op h :=
  (mnaSig (L := L) conj).machine_histories ops h

theorem C20_mna_call_voltage (conj : K → K) (op : Op) (h : List (NVal L K)) (N : Net L K) (x : List K) (s : String)
    (hf : op.fn = "Network.NodalAnalysis.solution.NodalAnalysisSolution.get_voltage")
    (hn : op.arg? "self" h = some (.sol N x)) (hk : op.arg? "branch_id" h = some (.id s)) :
    (mnaSig (L := L) conj).eval op h = .scal (N.voltage x s) := by
  have hp : (mnaParams.find? fun q => q.1 == "Network.NodalAnalysis.solution.NodalAnalysisSolution.get_voltage").map (·.2)
      = some ["self", "branch_id"] := by decide +kernel
  rw [Sig.eval_of (mnaSig (L := L) conj) op h hf hp (Op.argVals_cons hn (Op.argVals_cons hk (Op.argVals_nil op h)))]
  simp [mnaSig, mnaSem]

/-- two solution objects built from equal (network, vector) answer every query alike -/
theorem C20_mna_same_description (conj : K → K) (op op' : Op) (h h' : List (NVal L K))
    (hf : op.fn = op'.fn) (ha : ∀ p, op.arg? p h = op'.arg? p h') :
    (mnaSig (L := L) conj).eval op h = (mnaSig (L := L) conj).eval op' h' :=
  (mnaSig (L := L) conj).eval_congr_sem op op' h h' hf (fun _ => rfl) ha

inductive SVal (L K : Type) where
  | net (N : Net L K)
  /-- a value dictionary (`c_values`, `l_values`) -/
  | dict (d : ValDict K)
  /-- a `NodalStateSpaceModel` object -/
  | model (m : NSSM L K)
  | label (l : L)
  | id (s : String)

inductive SOut (L K : Type) where
  | mats (r : Except Err (SSMats K))
  | model (r : Except Err (NSSM L K))
  | row (r : Except Err (List K))
  | names (l : List String)
  | badOp

/-- the real parameter names (state_space_model.py:10,67-132) -/
def stateParams : List (String × List String) := [
  ("Network.NodalAnalysis.state_space_model.state_space_matrices", ["network", "c_values", "l_values"]),
  ("Network.NodalAnalysis.state_space_model.nodal_state_space_model", ["network", "c_values", "l_values"]),
  ("Network.NodalAnalysis.state_space_model.NodalStateSpaceModel.c_row_for_potential", ["self", "node_id"]),
  ("Network.NodalAnalysis.state_space_model.NodalStateSpaceModel.d_row_for_potential", ["self", "node_id"]),
  ("Network.NodalAnalysis.state_space_model.NodalStateSpaceModel.c_row_voltage", ["self", "branch_id"]),
  ("Network.NodalAnalysis.state_space_model.NodalStateSpaceModel.c_row_current", ["self", "branch_id"]),
  ("Network.NodalAnalysis.state_space_model.NodalStateSpaceModel.d_row_voltage", ["self", "branch_id"]),
  ("Network.NodalAnalysis.state_space_model.NodalStateSpaceModel.d_row_current", ["self", "branch_id"]),
  ("Network.NodalAnalysis.state_space_model.NodalStateSpaceModel.sources", ["self"])]

/-- function name ↦ model function of CC/Model/StateSpace.lean.  `inv` stands for the two
`numpy.linalg.inv` calls (the certificates `Ainv`, `S` of the model) as a function of the description —
assumed to be one (a deterministic library routine; interpreter-level state is outside the model). -/
def stateSem (inv : Net L K → ValDict K → ValDict K → List (List K) × List (List K))
    (fn : String) (_flag : Bool) (vs : List (SVal L K)) : SOut L K :=
  match vs with
  | [.net N, .dict c, .dict l] =>
    if fn = "Network.NodalAnalysis.state_space_model.state_space_matrices" then
      .mats (stateSpaceMatrices N c l (inv N c l).1 (inv N c l).2)
    else if fn = "Network.NodalAnalysis.state_space_model.nodal_state_space_model" then
      .model (nodalStateSpaceModel N c l (inv N c l).1 (inv N c l).2)
    else .badOp
  | [.model m, .label n] =>
    if fn = "Network.NodalAnalysis.state_space_model.NodalStateSpaceModel.c_row_for_potential" then .row (m.cRowPotential n)
    else if fn = "Network.NodalAnalysis.state_space_model.NodalStateSpaceModel.d_row_for_potential" then .row (m.dRowPotential n)
    else .badOp
  | [.model m, .id s] =>
    if fn = "Network.NodalAnalysis.state_space_model.NodalStateSpaceModel.c_row_voltage" then .row (m.cRowVoltage s)
    else if fn = "Network.NodalAnalysis.state_space_model.NodalStateSpaceModel.c_row_current" then .row (m.cRowCurrent s)
    else if fn = "Network.NodalAnalysis.state_space_model.NodalStateSpaceModel.d_row_voltage" then .row (m.dRowVoltage s)
    else if fn = "Network.NodalAnalysis.state_space_model.NodalStateSpaceModel.d_row_current" then .row (m.dRowCurrent s)
    else .badOp
  | [.model m] =>
    if fn = "Network.NodalAnalysis.state_space_model.NodalStateSpaceModel.sources" then .names m.sources else .badOp
  | _ => .badOp

def stateSig (inv : Net L K → ValDict K → ValDict K → List (List K) × List (List K)) : Sig (SVal L K) (SOut L K) :=
  { params := stateParams, sem := stateSem inv, bad := .badOp }

def stateMachine (inv : Net L K → ValDict K → ValDict K → List (List K) × List (List K)) :
    Machine (SVal L K) (SOut L K) := (stateSig inv).machine

theorem C20_state_sound (inv : Net L K → ValDict K → ValDict K → List (List K) × List (List K)) :
    (stateMachine inv).Sound := Sig.machine_sound _

/-- **State-space model, any history.**  Builders and row accessors in any order, any number of times,
on shared networks / value dictionaries / model objects: the pool — the network, `c_values`, `l_values`,
and the matrices A, B, C, D a model object stores — is unchanged, and every row is the model row of the
initial object (asking `c_row_voltage` before or after `c_row_for_potential` makes no difference). -/
theorem C20_state_histories (inv : Net L K → ValDict K → ValDict K → List (List K) × List (List K))
    (ops : List Op) (h : List (SVal L K)) :
    ((stateMachine inv).runAll ops h).2 = h ∧
    ((stateMachine inv).runAll ops h).1 = ops.map fun op => (stateSig inv).eval op h :=
  (stateSig inv).machine_histories ops h

theorem C20_state_call_cRowVoltage (inv : Net L K → ValDict K → ValDict K → List (List K) × List (List K))
    (op : Op) (h : List (SVal L K)) (m : NSSM L K) (s : String)
    (hf : op.fn = "Network.NodalAnalysis.state_space_model.NodalStateSpaceModel.c_row_voltage")
    (hn : op.arg? "self" h = some (.model m)) (hk : op.arg? "branch_id" h = some (.id s)) :
    (stateSig inv).eval op h = .row (m.cRowVoltage s) := by
  have hp : (stateParams.find? fun q => q.1 == "Network.NodalAnalysis.state_space_model.NodalStateSpaceModel.c_row_voltage").map (·.2)
      = some ["self", "branch_id"] := by decide +kernel
  rw [Sig.eval_of (stateSig inv) op h hf hp (Op.argVals_cons hn (Op.argVals_cons hk (Op.argVals_nil op h)))]
  simp [stateSig, stateSem]

/-- two models built from equal descriptions are equal, and answer every row query alike -/
theorem C20_state_same_description (inv : Net L K → ValDict K → ValDict K → List (List K) × List (List K))
    (op op' : Op) (h h' : List (SVal L K)) (hf : op.fn = op'.fn) (ha : ∀ p, op.arg? p h = op'.arg? p h') :
    (stateSig inv).eval op h = (stateSig inv).eval op' h' :=
  (stateSig inv).eval_congr_sem op op' h h' hf (fun _ => rfl) ha

/-- **The model object keeps its description.**  A successfully built `NodalStateSpaceModel` stores the
network and the two value dictionaries it was given, unchanged, and its matrices are those of
`state_space_matrices` on that description; every row accessor is a function of these four fields. -/
theorem C20_state_builder_keeps_description (N : Net L K) (c l : ValDict K) (Ainv S : List (List K))
    (m : NSSM L K) (hm : nodalStateSpaceModel N c l Ainv S = .ok m) :
    m.net = N ∧ m.cvals = c ∧ m.lvals = l ∧ stateSpaceMatrices N c l Ainv S = .ok m.mats := by
  unfold nodalStateSpaceModel at hm
  cases hs : stateSpaceMatrices N c l Ainv S with
  | error e => rw [hs] at hm; cases hm
  | ok mats =>
    rw [hs] at hm
    have : (⟨mats, N, c, l⟩ : NSSM L K) = m := by
      simpa [bind, Except.bind, pure, Except.pure] using hm
    subst this
    exact ⟨rfl, rfl, rfl, rfl⟩

end

inductive FVal where
  /-- what `frequency_components` reads of the circuit -/
  | comps (cs : List FComp)
  | rat (q : Rat)
  /-- the frequency list a solution object stores (`self.w`) -/
  | freqs (ws : List Rat)
  | phasors (X : List GQ)
  /-- a `TimeDomainSolution` at one instant, for one queried quantity: per listed frequency the phasor
  and `cos(w t)`, `sin(w t)` -/
  | lines (l : List (GQ × Rat × Rat))

inductive FOut where
  | freqs (r : Except Err (List Rat))
  | series (s : List Rat × List GQ)
  | value (v : Rat)
  | badOp

/-- the real parameter names (circuit.py:45, solution.py:103-113,135); for the time-domain getters `self`
is bound to the `lines` the object holds for the queried quantity -/
def multiFreqParams : List (String × List String) := [
  ("Circuit.circuit.frequency_components", ["circuit", "w_max", "w_resolution"]),
  ("Circuit.solution.FrequencyDomainSolution._series", ["self", "values"]),
  ("Circuit.solution.TimeDomainSolution.get_voltage", ["self"]),
  ("Circuit.solution.TimeDomainSolution.get_current", ["self"]),
  ("Circuit.solution.TimeDomainSolution.get_potential", ["self"])]

/-- function name ↦ model function of CC/Model/MultiFreq.lean; `flag` is `self.one_sided` -/
def multiFreqSem (fn : String) (flag : Bool) (vs : List FVal) : FOut :=
  match vs with
  | [.comps cs, .rat wmax, .rat wres] =>
    if fn = "Circuit.circuit.frequency_components" then .freqs (frequencyComponents cs wmax wres) else .badOp
  | [.freqs ws, .phasors X] =>
    if fn = "Circuit.solution.FrequencyDomainSolution._series" then .series (series flag ws X) else .badOp
  | [.lines l] =>
    if fn = "Circuit.solution.TimeDomainSolution.get_voltage" ∨ fn = "Circuit.solution.TimeDomainSolution.get_current"
        ∨ fn = "Circuit.solution.TimeDomainSolution.get_potential" then .value (timeValue l) else .badOp
  | _ => .badOp

def multiFreqSig : Sig FVal FOut := { params := multiFreqParams, sem := multiFreqSem, bad := .badOp }
def multiFreqMachine : Machine FVal FOut := multiFreqSig.machine

theorem C20_multifreq_sound : multiFreqMachine.Sound := Sig.machine_sound _

/-- **Multi-frequency bookkeeping, any history.**  The frequency list, the (mirrored) spectrum and the
sum of lines, asked in any order and any number of times on shared objects: the pool (the component list,
the stored frequency list, the phasors) is unchanged and each answer is the model function on the initial
objects — a second `_series` on the same object gives the first answer again. -/
theorem C20_multifreq_histories (ops : List Op) (h : List FVal) :
    (multiFreqMachine.runAll ops h).2 = h ∧
    (multiFreqMachine.runAll ops h).1 = ops.map fun op => multiFreqSig.eval op h :=
  multiFreqSig.machine_histories ops h

theorem C20_multifreq_call_series (op : Op) (h : List FVal) (ws : List Rat) (X : List GQ)
    (hf : op.fn = "Circuit.solution.FrequencyDomainSolution._series")
    (hn : op.arg? "self" h = some (.freqs ws)) (hk : op.arg? "values" h = some (.phasors X)) :
    multiFreqSig.eval op h = .series (series op.flag ws X) := by
  have hp : multiFreqSig.paramsOf "Circuit.solution.FrequencyDomainSolution._series" = some ["self", "values"] := by
    decide +kernel
  rw [Sig.eval_of _ op h hf hp (Op.argVals_cons hn (Op.argVals_cons hk (Op.argVals_nil op h)))]
  simp [multiFreqSig, multiFreqSem]

theorem C20_multifreq_same_description (op op' : Op) (h h' : List FVal)
    (hf : op.fn = op'.fn) (hfl : op.flag = op'.flag) (ha : ∀ p, op.arg? p h = op'.arg? p h') :
    multiFreqSig.eval op h = multiFreqSig.eval op' h' :=
  multiFreqSig.eval_congr_sem op op' h h' hf (fun _ => by rw [hfl]) ha

inductive PVal where
  | rat (q : Rat)
  | nat (n : Nat)
  | chars (u : List Char)
  | bool (b : Bool)
  /-- a complex argument with the libm values the model takes as parameters: `abs`, `angle` -/
  | cx (re im absV angle : Rat)
  /-- a `ScientificFloat` object: its configuration and its value -/
  | sf (c : Fmt.SFCfg) (v : Rat)

/-- the real parameter names (SimpleCircuit/Display.py:9-65, Utils.py:107) -/
def fmtParams : List (String × List String) := [
  ("SimpleCircuit.Display.print_real", ["value", "unit", "precision"]),
  ("SimpleCircuit.Display.print_abs", ["value", "unit", "precision"]),
  ("SimpleCircuit.Display.print_complex", ["value", "unit", "precision", "polar", "deg"]),
  ("SimpleCircuit.Display.print_active_power", ["value", "precision"]),
  ("SimpleCircuit.Display.print_active_reactive_power", ["value", "precision"]),
  ("Utils.ScientificFloat.__str__", ["self"])]

/-- function name ↦ model function of CC/Model/Fmt.lean -/
def fmtSem (fn : String) (_flag : Bool) (vs : List PVal) : Option (List Char) :=
  match vs with
  | [.rat v, .chars u, .nat p] =>
    if fn = "SimpleCircuit.Display.print_real" then some (Fmt.printReal v u p)
    else if fn = "SimpleCircuit.Display.print_abs" then some (Fmt.printAbs v u p)
    else none
  | [.cx re im a ang, .chars u, .nat p, .bool polar, .bool deg] =>
    if fn = "SimpleCircuit.Display.print_complex" then some (Fmt.printComplex re im a ang u p polar deg) else none
  | [.rat v, .nat p] =>
    if fn = "SimpleCircuit.Display.print_active_power" then some (Fmt.printActivePower v p) else none
  | [.cx re im _ _, .nat p] =>
    if fn = "SimpleCircuit.Display.print_active_reactive_power" then some (Fmt.printActiveReactivePower re im p) else none
  | [.sf c v] => if fn = "Utils.ScientificFloat.__str__" then some (c.str v) else none
  | _ => none

def fmtSig : Sig PVal (Option (List Char)) := { params := fmtParams, sem := fmtSem, bad := none }
def fmtMachine : Machine PVal (Option (List Char)) := fmtSig.machine

theorem C20_fmt_sound : fmtMachine.Sound := Sig.machine_sound _

/-- **Formatter model, any history.**  Any sequence of formatting calls on shared values / shared
`ScientificFloat` objects: the pool is unchanged and each string is the model string of the initial
objects (formatting a value twice, or after other values, prints the same text).  This is about the
MODEL: the formatter's code is not in the generated effect summary (`C20_effects_fmt_absent`), so — unlike
the four machines above — there is no `…_any_machine` counterpart; for the code, repeatability of the printed text is
observed by the C18 / C14 correspondence runs only. -/
theorem C20_fmt_histories (ops : List Op) (h : List PVal) :
    (fmtMachine.runAll ops h).2 = h ∧
    (fmtMachine.runAll ops h).1 = ops.map fun op => fmtSig.eval op h :=
  fmtSig.machine_histories ops h

theorem C20_fmt_call_str (op : Op) (h : List PVal) (c : Fmt.SFCfg) (v : Rat)
    (hf : op.fn = "Utils.ScientificFloat.__str__") (hn : op.arg? "self" h = some (.sf c v)) :
    fmtSig.eval op h = some (c.str v) := by
  have hp : fmtSig.paramsOf "Utils.ScientificFloat.__str__" = some ["self"] := by decide +kernel
  rw [Sig.eval_of _ op h hf hp (Op.argVals_cons hn (Op.argVals_nil op h))]
  simp [fmtSig, fmtSem]

theorem C20_fmt_same_description (op op' : Op) (h h' : List PVal)
    (hf : op.fn = op'.fn) (ha : ∀ p, op.arg? p h = op'.arg? p h') :
    fmtSig.eval op h = fmtSig.eval op' h' :=
  fmtSig.eval_congr_sem op op' h h' hf (fun _ => rfl) ha

/-- every formatter operation is outside the summary: the generic `Machine.Sound` theorems give nothing
for it (its write set is "every argument") -/
theorem C20_fmt_not_in_summary : ∀ q ∈ fmtParams, writeRoots q.1 = none := by
  intro q hq
  apply C20_effects_fmt_absent
  revert q
  simp only [isFmtFn, pfx_eq_bytePfx]; decide +kernel

def exN : Net String Rat :=
  ⟨[⟨"1", "0", "V", "voltage_source", .norton 0 5⟩, ⟨"1", "2", "S", "short_circuit", .norton 0 0⟩,
    ⟨"2", "0", "R", "resistor", .norton 2 0⟩], "0"⟩
def exPool : List (NVal String Rat) := [.net exN, .keep [], .net exN, .sol exN [5, 5, -5/2], .id "R"]
def exOpA : Op := { fn := "Network.transformers.remove_short_circuit_elements", args := [("network", 0), ("keep", 1)] }
def exOpB : Op := { fn := "Network.transformers.remove_short_circuit_elements", args := [("network", 2), ("keep", 1)] }
def exOpV : Op := { fn := "Network.NodalAnalysis.solution.NodalAnalysisSolution.get_voltage", args := [("self", 3), ("branch_id", 4)] }

/-- the hypotheses of `C20_transformers_call_removeShort` are met … -/
example : exOpA.arg? "network" exPool = some (.net exN) ∧ exOpA.arg? "keep" exPool = some (.keep []) := ⟨rfl, rfl⟩
/-- … the call is not a `badOp`, and the model has a short circuit to contract (node 1 into node 2) -/
example : (transformSig (L := String) (K := Rat)).eval exOpA exPool = some (removeShort exN []) :=
  C20_transformers_call_removeShort exOpA exPool exN [] rfl rfl rfl
example : shortPairs exN [] = [("1", "2")] := by decide +kernel
/-- the hypothesis of `…_same_description`: two different cells holding equal networks -/
example : ∀ p, exOpA.arg? p exPool = exOpB.arg? p exPool := by
  intro p
  simp only [Op.arg?, exOpA, exOpB, List.find?]
  split <;> (try split) <;> rfl
/-- the hypothesis of `C20_transformers_any_machine` / `C20_mna_any_machine` -/
theorem exOps_transformers : ∀ op ∈ [exOpA, exOpB, exOpA], op.fn ∈ transformerFns := by
  intro op hop
  simp only [List.mem_cons, List.not_mem_nil, or_false] at hop
  rcases hop with rfl | rfl | rfl <;> exact List.singleton_sublist.1 (by unfold transformerFns; walk_table)
example : ∀ op ∈ [exOpA, exOpB, exOpA], op.fn ∈ transformerFns := exOps_transformers
example : ∀ op ∈ [exOpV, exOpV], op.fn ∈ mnaFns := by
  intro op hop
  simp only [List.mem_cons, List.not_mem_nil, or_false] at hop
  rcases hop with rfl | rfl <;> exact List.singleton_sublist.1 (by unfold mnaFns; walk_table)
/-- …applied to a concrete sound machine -/
example := C20_transformers_any_machine (transformMachine (L := String) (K := Rat)) C20_transformers_sound
  [exOpA, exOpB, exOpA] exPool exOps_transformers
/-- the accessor hypotheses are met, and the queried branch exists in the stored network -/
example : (mnaSig (L := String) (K := Rat) id).eval exOpV exPool = .scal (exN.voltage [5, 5, -5/2] "R") :=
  C20_mna_call_voltage id exOpV exPool exN _ "R" rfl rfl rfl
example : (exN.get? "R").map (fun b => (b.n1, b.n2)) = some ("2", "0") := by decide +kernel

/-- the hypothesis of `C20_state_builder_keeps_description` is satisfiable: the builder succeeds on a
network without reactive elements (empty value dictionaries; a model with zero states) -/
def exRC : Net String Rat :=
  ⟨[⟨"1", "0", "V", "voltage_source", .norton 0 1⟩, ⟨"1", "2", "R", "resistor", .norton 2 0⟩,
    ⟨"2", "0", "G", "resistor", .norton 3 0⟩], "0"⟩
example : ∃ m, nodalStateSpaceModel exRC [] [] [] [] = .ok m :=
  ⟨⟨ssCore exRC.nY (ssNStates exRC [] []) (ssNInputs exRC []) (ssInvLambda ([] : ValDict Rat) [])
    (ssDQ exRC [] [] []) (ssQS exRC []) [] [], exRC, [], []⟩, rfl⟩
/-- a row query on a model object that is not a `badOp` -/
example (m : NSSM String Rat) :
    (stateSig (L := String) (K := Rat) fun _ _ _ => ([], [])).eval
      { fn := "Network.NodalAnalysis.state_space_model.NodalStateSpaceModel.c_row_voltage", args := [("self", 0), ("branch_id", 1)] }
      [.model m, .id "R"] = .row (m.cRowVoltage "R") :=
  C20_state_call_cRowVoltage _ _ _ m "R" rfl rfl rfl

/-- multi-frequency and formatter calls that are not `badOp` -/
example : multiFreqSig.eval { fn := "Circuit.solution.FrequencyDomainSolution._series", args := [("self", 0), ("values", 1)] }
    [.freqs [0, 2], .phasors [GQ.ofRat 1, GQ.ofRat 3]] = .series (series false [0, 2] [GQ.ofRat 1, GQ.ofRat 3]) :=
  C20_multifreq_call_series _ _ _ _ rfl rfl rfl
example : (mirrorW [0, 2]) = [-2, 0, 2] := by decide +kernel
example : fmtSig.eval { fn := "Utils.ScientificFloat.__str__", args := [("self", 0)] } [.sf {} (3/2)] = some (({} : Fmt.SFCfg).str (3/2)) :=
  C20_fmt_call_str _ _ _ _ rfl rfl

end CC
