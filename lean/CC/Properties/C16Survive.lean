/-
  C16 — WHICH branches survive `remove_short_circuit_elements` (and what happens to them).

  `C16_short`, `C16_short_no_new_branch`, `C16_short_complete` (CC/Properties/C16.lean) say that what
  is left is right; a model discarding every branch would satisfy them.  This file characterises
  the result completely.  With
      σ = shortSigma N keep = sigmaAll N.zero (shortPairs N keep)        (CC/Proofs/ContractShape.lean)
  the node renaming composed from the per-step renamings `an → rn` of the loop, the function returns
  `Network(B, N.zero)` where `B` is the input branch list renamed by σ, minus — if anything is contracted — the
  branches whose renamed terminals coincide (`C16_short_shape`, an equation between returned values, exceptions
  included); σ a = σ b iff `a` and `b` are joined by non-exempt shorts (`C16_short_sigma_eq_iff`).  Membership in
  the result, which identifiers disappear, what happens to exempt elements and the order follow from these two.
-/
import CC.Proofs.ContractShape
import CC.Properties.C16
set_option linter.unusedSectionVars false

namespace CC
variable {L K : Type} [DecidableEq L] [LabelOrd L] [Field K] [DecidableEq K]

/-- the node renaming performed by `remove_short_circuit_elements(N, keep)` -/
def shortSigma (N : Net L K) (keep : List (ElemKey K)) : L → L := sigmaAll N.zero (shortPairs N keep)

def ShortBetween (N : Net L K) (keep : List (ElemKey K)) (a b : L) : Prop :=
  ∃ s ∈ N.branches, s.e.isShort = true ∧ keep.contains s.key = false ∧ s.n1 = a ∧ s.n2 = b

/-- `a` and `b` are joined by non-exempt short circuits of `N`: equivalence closure of
`ShortBetween` (any chain / star / cycle of such shorts, in any orientation; `a = b` included) -/
def ShortJoined (N : Net L K) (keep : List (ElemKey K)) : L → L → Prop :=
  Relation.EqvGen (ShortBetween N keep)

def HasShort (N : Net L K) (keep : List (ElemKey K)) : Prop :=
  ∃ s ∈ N.branches, s.e.isShort = true ∧ keep.contains s.key = false

/-- **C16 (shape of the contraction loop).**  `contractAll_eq` under the property's name.  Says nothing about
the `Network` constructor (see `C16_short_shape`). -/
theorem C16_contract_shape (z : L) (ps : List (L × L)) (bs : List (Branch L K)) :
    contractAll z ps bs =
      (bs.map (Branch.mapNodes (sigmaAll z ps))).filter fun b => ps.isEmpty || decide (b.n1 ≠ b.n2) :=
  contractAll_eq z ps bs

/-- **C16 (shape of `remove_short_circuit_elements`).**  An equation between returned values, valid
for every network and exemption list, exceptions of the `Network` constructor included: the
function returns `Network(B, N.zero)` where `B` is the input branch list renamed by
`shortSigma N keep` and filtered as in `C16_contract_shape`. -/
theorem C16_short_shape (N : Net L K) (keep : List (ElemKey K)) :
    removeShort N keep =
      Net.mk? ((N.branches.map (Branch.mapNodes (shortSigma N keep))).filter
        fun b => (shortPairs N keep).isEmpty || decide (b.n1 ≠ b.n2)) N.zero := by
  unfold removeShort shortSigma
  rw [contractAll_eq]

theorem C16_short_branches (N N' : Net L K) (keep : List (ElemKey K))
    (hr : removeShort N keep = .ok N') :
    N'.zero = N.zero ∧
    N'.branches = (N.branches.map (Branch.mapNodes (shortSigma N keep))).filter
        fun b => (shortPairs N keep).isEmpty || decide (b.n1 ≠ b.n2) := by
  rw [C16_short_shape] at hr
  have := mk?_ok hr
  subst this
  exact ⟨rfl, rfl⟩

theorem shortPairs_isEmpty_iff (N : Net L K) (keep : List (ElemKey K)) :
    (shortPairs N keep).isEmpty = true ↔ ¬ HasShort N keep := by
  unfold shortPairs HasShort
  rw [List.isEmpty_iff, List.map_eq_nil_iff, List.filter_eq_nil_iff]
  constructor
  · rintro h ⟨s, hs, h1, h2⟩
    exact h s hs (by rw [h1, h2]; rfl)
  · intro h s hs hc
    simp only [Bool.and_eq_true, Bool.not_eq_true'] at hc
    exact h ⟨s, hs, hc.1, hc.2⟩

/-- nothing to contract: the branch list comes back as it is -/
theorem C16_short_no_shorts (N N' : Net L K) (keep : List (ElemKey K))
    (hr : removeShort N keep = .ok N') (h : ¬ HasShort N keep) : N' = N := by
  have he : shortPairs N keep = [] := List.isEmpty_iff.mp ((shortPairs_isEmpty_iff N keep).mpr h)
  unfold removeShort at hr
  rw [he, contractAll_nil] at hr
  have := mk?_ok hr
  subst this; rfl

theorem pairJoined_shortPairs_iff (N : Net L K) (keep : List (ElemKey K)) (a b : L) :
    PairJoined (shortPairs N keep) a b ↔ ShortJoined N keep a b :=
  ⟨eqvGen_of_or_symm fun _ _ h =>
      let ⟨s, hs, h1, h2, hsn⟩ := mem_shortPairs h
      hsn.imp (fun e => ⟨s, hs, h1, h2, e.1, e.2⟩) fun e => ⟨s, hs, h1, h2, e.1, e.2⟩,
    eqvGen_of_or_symm fun _ _ ⟨_, hs, h1, h2, e1, e2⟩ => e1 ▸ e2 ▸ mem_shortPairs_of_short hs h1 h2⟩

/-- **C16 (σ identifies exactly the nodes joined by non-exempt shorts).** -/
theorem C16_short_sigma_eq_iff (N : Net L K) (keep : List (ElemKey K)) (a b : L) :
    shortSigma N keep a = shortSigma N keep b ↔ ShortJoined N keep a b := by
  unfold shortSigma
  rw [sigmaAll_eq_iff, pairJoined_shortPairs_iff]

/-- **C16 (the reference node keeps its name).** -/
theorem C16_short_sigma_zero (N : Net L K) (keep : List (ElemKey K)) :
    shortSigma N keep N.zero = N.zero := sigmaAll_zero _ _

theorem isPairTerm_shortPairs {N : Net L K} {keep : List (ElemKey K)} {x : L}
    (h : IsPairTerm (shortPairs N keep) x) :
    ∃ s ∈ N.branches, s.e.isShort = true ∧ keep.contains s.key = false ∧ (x = s.n1 ∨ x = s.n2) := by
  obtain ⟨p, hp, hxp⟩ := h
  obtain ⟨s, hs, h1, h2, hsn⟩ := mem_shortPairs hp
  refine ⟨s, hs, h1, h2, ?_⟩
  rcases hsn with ⟨e1, e2⟩ | ⟨e1, e2⟩ <;> rw [e1, e2]
  · exact hxp
  · exact hxp.symm

/-- **C16 (σ moves only terminals of contracted shorts).**  A node that is not a terminal of a
non-exempt short circuit of `N` keeps its name. -/
theorem C16_short_sigma_fix (N : Net L K) (keep : List (ElemKey K)) (x : L)
    (h : ∀ s ∈ N.branches, s.e.isShort = true → keep.contains s.key = false → x ≠ s.n1 ∧ x ≠ s.n2) :
    shortSigma N keep x = x := by
  refine sigmaAll_fix_nonterm _ _ x fun ht => ?_
  obtain ⟨s, hs, h1, h2, hx⟩ := isPairTerm_shortPairs ht
  rcases hx with rfl | rfl
  · exact (h s hs h1 h2).1 rfl
  · exact (h s hs h1 h2).2 rfl

/-- **C16 (absorbed nodes are gone).**  σ maps no node to an absorbed node, every node that is
never absorbed keeps its name, hence σ ∘ σ = σ; absorbed nodes are terminals of non-exempt shorts
and never the reference node (`zero_not_absorbed`). -/
theorem C16_short_sigma_absorbed (N : Net L K) (keep : List (ElemKey K)) :
    (∀ x, shortSigma N keep x ∉ absorbedAll N.zero (shortPairs N keep)) ∧
    (∀ x, x ∉ absorbedAll N.zero (shortPairs N keep) → shortSigma N keep x = x) ∧
    (∀ x, shortSigma N keep (shortSigma N keep x) = shortSigma N keep x) ∧
    N.zero ∉ absorbedAll N.zero (shortPairs N keep) :=
  ⟨sigmaAll_not_absorbed _ _, sigmaAll_fix _ _, sigmaAll_idem _ _, zero_not_absorbed _ _⟩

theorem mem_removeShort {N N' : Net L K} {keep : List (ElemKey K)} (hr : removeShort N keep = .ok N')
    {b' : Branch L K} (hb' : b' ∈ N'.branches) : ∃ b ∈ N.branches, b' = b.mapNodes (shortSigma N keep) := by
  have := mk?_ok hr
  subst this
  exact mem_contractAll hb'

theorem shortSigma_fix_result {N N' : Net L K} {keep : List (ElemKey K)} (hr : removeShort N keep = .ok N') :
    ∀ n ∈ N'.allLabels, shortSigma N keep n = n := by
  intro n hn
  simp only [Net.allLabels, List.mem_cons, List.mem_append, List.mem_map] at hn
  rcases hn with rfl | ⟨c, hc, rfl⟩ | ⟨c, hc, rfl⟩
  · rw [(C16_short_branches N N' keep hr).1]; exact C16_short_sigma_zero N keep
  · obtain ⟨b, _, rfl⟩ := mem_removeShort hr hc
    exact sigmaAll_idem _ _ _
  · obtain ⟨b, _, rfl⟩ := mem_removeShort hr hc
    exact sigmaAll_idem _ _ _

/-- no terminal of a branch of the result is an absorbed node -/
theorem C16_short_no_absorbed_terminal (N N' : Net L K) (keep : List (ElemKey K))
    (hr : removeShort N keep = .ok N') :
    ∀ b' ∈ N'.branches, b'.n1 ∉ absorbedAll N.zero (shortPairs N keep) ∧
      b'.n2 ∉ absorbedAll N.zero (shortPairs N keep) := by
  intro b' hb'
  obtain ⟨b, _, rfl⟩ := mem_removeShort hr hb'
  exact ⟨sigmaAll_not_absorbed _ _ _, sigmaAll_not_absorbed _ _ _⟩

theorem C16_short_survives_iff (N N' : Net L K) (keep : List (ElemKey K))
    (hr : removeShort N keep = .ok N') (b : Branch L K) (hb : b ∈ N.branches) :
    b.mapNodes (shortSigma N keep) ∈ N'.branches ↔
      (¬ HasShort N keep ∨ ¬ ShortJoined N keep b.n1 b.n2) := by
  rw [(C16_short_branches N N' keep hr).2, List.mem_filter, Bool.or_eq_true, shortPairs_isEmpty_iff,
    decide_eq_true_eq, ← C16_short_sigma_eq_iff]
  exact and_iff_right (List.mem_map.mpr ⟨b, hb, rfl⟩)

/-- **C16 (membership in the result, exactly).**  `b'` is a branch of the result iff it is a branch
`b` of the input with its terminals renamed by σ (everything else identical), and either nothing
was contracted or the terminals of `b` are not joined by non-exempt shorts. -/
theorem C16_short_survivors_iff (N N' : Net L K) (keep : List (ElemKey K))
    (hr : removeShort N keep = .ok N') (b' : Branch L K) :
    b' ∈ N'.branches ↔ ∃ b ∈ N.branches, b' = b.mapNodes (shortSigma N keep) ∧
      (¬ HasShort N keep ∨ ¬ ShortJoined N keep b.n1 b.n2) := by
  constructor
  · intro h
    obtain ⟨b, hb, rfl⟩ := mem_removeShort hr h
    exact ⟨b, hb, rfl, (C16_short_survives_iff N N' keep hr b hb).mp h⟩
  · rintro ⟨b, hb, rfl, hc⟩
    exact (C16_short_survives_iff N N' keep hr b hb).mpr hc

/-- **C16 (what is not contracted survives).**  Every branch of the input — a short or not, exempt
or not — whose terminals are not joined by non-exempt short circuits is in the result, with its
identifier, type, record and orientation, its terminals renamed by σ. -/
theorem C16_short_survives (N N' : Net L K) (keep : List (ElemKey K))
    (hr : removeShort N keep = .ok N') (b : Branch L K) (hb : b ∈ N.branches)
    (h : ¬ ShortJoined N keep b.n1 b.n2) : b.mapNodes (shortSigma N keep) ∈ N'.branches :=
  (C16_short_survivors_iff N N' keep hr _).mpr ⟨b, hb, rfl, Or.inr h⟩

/-- the same with the renaming itself: a branch whose renamed terminals differ is in the result -/
theorem C16_short_survives_sigma (N N' : Net L K) (keep : List (ElemKey K))
    (hr : removeShort N keep = .ok N') (b : Branch L K) (hb : b ∈ N.branches)
    (h : shortSigma N keep b.n1 ≠ shortSigma N keep b.n2) : b.mapNodes (shortSigma N keep) ∈ N'.branches :=
  C16_short_survives N N' keep hr b hb fun hj => h ((C16_short_sigma_eq_iff N keep _ _).mpr hj)

/-- every absorbed node is a terminal of a non-exempt short circuit of the input -/
theorem C16_short_absorbed_is_short_terminal (N : Net L K) (keep : List (ElemKey K)) (x : L)
    (hx : x ∈ absorbedAll N.zero (shortPairs N keep)) :
    ∃ s ∈ N.branches, s.e.isShort = true ∧ keep.contains s.key = false ∧ (x = s.n1 ∨ x = s.n2) :=
  isPairTerm_shortPairs (absorbed_isTerm _ _ x hx)

/-- **C16 (the contracted shorts are dropped).**  The renamed terminals of a non-exempt short
coincide, so it fails the filter of `C16_short_shape`; no branch of the result is a renamed copy of
it. -/
theorem C16_short_contracted_dropped (N N' : Net L K) (keep : List (ElemKey K))
    (hr : removeShort N keep = .ok N') (s : Branch L K) (hs : s ∈ N.branches)
    (h1 : s.e.isShort = true) (h2 : keep.contains s.key = false) :
    shortSigma N keep s.n1 = shortSigma N keep s.n2 ∧ s.mapNodes (shortSigma N keep) ∉ N'.branches := by
  have hj : ShortJoined N keep s.n1 s.n2 := .rel _ _ ⟨s, hs, h1, h2, rfl, rfl⟩
  refine ⟨(C16_short_sigma_eq_iff N keep _ _).mpr hj, ?_⟩
  rw [C16_short_survives_iff N N' keep hr s hs]
  rintro (h | h)
  · exact h ⟨s, hs, h1, h2⟩
  · exact h hj

/-- **C16 (an exempt element disappears only as a self-loop).**  If no branch of the result carries
the identifier of a branch `b` of the input (exempt or not), then a non-exempt short was contracted
and the two terminals of `b` are joined by non-exempt short circuits.  No hypothesis on identifiers. -/
theorem C16_exempt_dropped_only_if_joined (N N' : Net L K) (keep : List (ElemKey K))
    (hr : removeShort N keep = .ok N') (b : Branch L K) (hb : b ∈ N.branches)
    (h : ∀ b' ∈ N'.branches, b'.id ≠ b.id) : HasShort N keep ∧ ShortJoined N keep b.n1 b.n2 := by
  by_contra hc
  exact h _ ((C16_short_survives_iff N N' keep hr b hb).mpr (not_and_or.mp hc)) rfl

/-- **C16 (which identifiers disappear).**  For a network with distinct identifiers: the identifier
of a branch `b` of the input is missing from the result iff at least one short was contracted and
the terminals of `b` are joined by non-exempt shorts (`b` is such a short, or lies parallel to a
chain of them — it became a self-loop). -/
theorem C16_short_dropped_iff (N N' : Net L K) (keep : List (ElemKey K))
    (hr : removeShort N keep = .ok N') (hid : N.ids.Nodup) (b : Branch L K) (hb : b ∈ N.branches) :
    (∀ b' ∈ N'.branches, b'.id ≠ b.id) ↔ (HasShort N keep ∧ ShortJoined N keep b.n1 b.n2) := by
  constructor
  · exact C16_exempt_dropped_only_if_joined N N' keep hr b hb
  · rintro ⟨h1, h2⟩ b' hb' hid'
    obtain ⟨b0, hb0, rfl, hc⟩ := (C16_short_survivors_iff N N' keep hr b').mp hb'
    have : b0 = b := List.inj_on_of_nodup_map hid hb0 hb hid'
    subst this
    rcases hc with hc | hc
    · exact hc h1
    · exact hc h2

/-- **C16 (exempt elements survive).**  An exempt element whose terminals are not joined by
non-exempt shorts is in the result with the same `(name, type, record)` — still exempt — between
the renamed terminals.  (`C16_short_survives` read for an exempt element; the exemption itself is not used.) -/
theorem C16_exempt_survives (N N' : Net L K) (keep : List (ElemKey K))
    (hr : removeShort N keep = .ok N') (b : Branch L K) (hb : b ∈ N.branches)
    (_hk : keep.contains b.key = true) (h : ¬ ShortJoined N keep b.n1 b.n2) :
    ∃ b' ∈ N'.branches, b'.key = b.key ∧ b'.n1 = shortSigma N keep b.n1 ∧ b'.n2 = shortSigma N keep b.n2 :=
  ⟨_, C16_short_survives N N' keep hr b hb h, rfl, rfl, rfl⟩

/-- **C16 (order and multiplicity).**  The list of `(name, type, record)` of the result is a sublist
of the input's: nothing is reordered, duplicated or invented. -/
theorem C16_short_order (N N' : Net L K) (keep : List (ElemKey K))
    (hr : removeShort N keep = .ok N') :
    (N'.branches.map Branch.key).Sublist (N.branches.map Branch.key) := by
  rw [(C16_short_branches N N' keep hr).2]
  have h1 := (List.filter_sublist (l := N.branches.map (Branch.mapNodes (shortSigma N keep)))
    (p := fun b => (shortPairs N keep).isEmpty || decide (b.n1 ≠ b.n2))).map Branch.key
  have h2 : (N.branches.map (Branch.mapNodes (shortSigma N keep))).map Branch.key = N.branches.map Branch.key := by
    rw [List.map_map]; rfl
  rw [h2] at h1; exact h1

/-! ### the hypotheses are satisfiable: a network with a chain of two shorts (the second one listed
against the first: `S2 (c,a)` after `S1 (a,b)`), a resistor parallel to the chain, an exempt short on
the reference node and untouched branches -/

namespace C16ex
def exN : Net String ℚ :=
  ⟨[⟨"a", "z", "R1", "resistor", .norton 2 0⟩, ⟨"a", "b", "S1", "short_circuit", .norton 0 0⟩,
    ⟨"c", "a", "S2", "short_circuit", .norton 0 0⟩, ⟨"c", "z", "R2", "resistor", .norton 4 0⟩,
    ⟨"b", "c", "R3", "resistor", .norton 1 0⟩, ⟨"d", "z", "K", "short_circuit", .norton 0 0⟩,
    ⟨"d", "a", "R4", "resistor", .norton 3 0⟩], "z"⟩
def exKeep : List (ElemKey ℚ) := [⟨"K", "short_circuit", .norton 0 0⟩]
/-- what `remove_short_circuit_elements(exN, keep=[K])` returns: `S1`, `S2` contracted, `R3` (parallel to
the chain) dropped as a self-loop, the exempt short `K` kept, `a` and `c` renamed to `b` -/
def exN' : Net String ℚ :=
  ⟨[⟨"b", "z", "R1", "resistor", .norton 2 0⟩, ⟨"b", "z", "R2", "resistor", .norton 4 0⟩,
    ⟨"d", "z", "K", "short_circuit", .norton 0 0⟩, ⟨"d", "b", "R4", "resistor", .norton 3 0⟩], "z"⟩

theorem exPairs : shortPairs exN exKeep = [("a", "b"), ("c", "a")] := by decide +kernel

theorem C16ex_mk_ok {bs bs' : List (Branch String ℚ)} {z : String} (e : bs = bs')
    (h1 : ∃ b ∈ bs', b.n1 = z ∨ b.n2 = z) (h2 : (bs'.map (·.id)).Nodup) : Net.mk? bs z = .ok ⟨bs', z⟩ :=
  e ▸ (mk?_eq_ok_iff bs' z _).mpr ⟨rfl, (mem_nodeLabels _ _).mpr (Or.inr h1), h2⟩

theorem exShort : removeShort exN exKeep = .ok exN' := by
  refine C16ex_mk_ok ?_ (by decide +kernel) (by decide +kernel)
  rw [exPairs, contractAll_cons, List.map_cons, List.map_nil, contractAll_cons, List.map_nil, contractAll_nil]
  decide +kernel

theorem exSigma (x : String) :
    shortSigma exN exKeep x = if x = "a" then "b" else if x = "c" then "b" else x := by
  unfold shortSigma
  rw [exPairs, show exN.zero = "z" from rfl, sigmaAll_cons, List.map_cons, List.map_nil, sigmaAll_cons,
    List.map_nil, sigmaAll_nil]
  have h1 : orient "z" (("a", "b") : String × String) = ("a", "b") := by decide +kernel
  have h2 : renPair "a" "b" (("c", "a") : String × String) = ("c", "b") := by decide +kernel
  have h3 : orient "z" (("c", "b") : String × String) = ("c", "b") := by decide +kernel
  rw [h1]; simp only; rw [h2, h3]; simp only
  unfold renNode
  by_cases ha : x = "a"
  · subst ha; decide +kernel
  · by_cases hc : x = "c"
    · subst hc; decide +kernel
    · simp [ha, hc]

/-- `hr` of every theorem above is met -/
example : ∃ N', removeShort exN exKeep = .ok N' := ⟨_, exShort⟩
/-- something is contracted -/
theorem exHasShort : HasShort exN exKeep :=
  ⟨⟨"a", "b", "S1", "short_circuit", .norton 0 0⟩, List.mem_of_getElem? (i := 1) rfl, by decide +kernel, by decide +kernel⟩
/-- `C16_short_survives` / `C16_exempt_survives`: the terminals of `R1 (a,z)` and of the exempt short
`K (d,z)` are not joined -/
theorem exR1_not_joined : ¬ ShortJoined exN exKeep "a" "z" := by
  rw [← C16_short_sigma_eq_iff, exSigma, exSigma]; decide +kernel
theorem exK_not_joined : ¬ ShortJoined exN exKeep "d" "z" := by
  rw [← C16_short_sigma_eq_iff, exSigma, exSigma]; decide +kernel
example : (⟨"b", "z", "R1", "resistor", .norton 2 0⟩ : Branch String ℚ) ∈ exN'.branches :=
  List.mem_of_getElem? (i := 0) rfl
example : ∃ b' ∈ exN'.branches, b'.key = ⟨"K", "short_circuit", .norton 0 0⟩ :=
  ⟨_, List.mem_of_getElem? (i := 2) rfl, rfl⟩
/-- `C16_short_dropped_iff`: distinct ids; `R3 (b,c)` is parallel to the chain `S1`, `S2` -/
example : exN.ids.Nodup := by decide +kernel
theorem exR3_joined : ShortJoined exN exKeep "b" "c" := by
  rw [← C16_short_sigma_eq_iff, exSigma, exSigma]; decide +kernel
example : ∀ b' ∈ exN'.branches, b'.id ≠ "R3" := by decide +kernel
/-- `C16_short_sigma_fix`: `d` is not a terminal of a non-exempt short (it is one of the exempt `K`) -/
example : ∀ s ∈ exN.branches, s.e.isShort = true → exKeep.contains s.key = false → "d" ≠ s.n1 ∧ "d" ≠ s.n2 := by
  decide +kernel
/-- `C16_short_no_shorts`: the result has no non-exempt short left, and contracting it again returns it -/
theorem exNoShort : ¬ HasShort exN' exKeep := by unfold HasShort; decide +kernel
example : removeShort exN' exKeep = .ok exN' := by
  refine C16ex_mk_ok ?_ (by decide +kernel) (by decide +kernel)
  rw [show shortPairs exN' exKeep = [] from by decide +kernel, contractAll_nil]
  rfl
end C16ex

end CC
