/-
  C11 — what the ACCESSOR ROWS report stays bounded after the sources have returned to zero.

  `C11_model_output_bounded` (CC/Properties/C11Flow.lean) bounds the rows of the model's `C` matrix (the nodal
  unknowns `y = C x + D u`).  `TransientSolution` does not read `y`: it evaluates
  `c_row_*(·)·x(t) + d_row_*(·)·u(t)` with the rows the accessors `c_row_for_potential / c_row_voltage /
  c_row_current` (and `d_row_*`) return — differences of rows of `C`, scaled rows of `A`, unit rows ….
  `C10_rows_potential / _voltage / _current` (CC/Properties/C10Rows.lean) say these numbers ARE the report of the
  per-sample network.  This file composes the two, with Cauchy–Schwarz for a list row (`C11_row_sq_le`):
  `C11_reported_bounded_after_sources`, and `C11_reported_rest` for a circuit whose stored energy is 0.

  Same scope as C11Flow.lean: exact solutions of `ẋ = A x + B u(t)` with the model's `A`, `B` over ℝ; `lsim` and
  binary64 are not modelled.
-/
import CC.Properties.C11Flow
import CC.Properties.C10Rows


namespace CC
open Matrix Mx StateFlow

theorem C11_sumsq_nonneg (r : List ℝ) : 0 ≤ (r.map (· ^ 2)).sum :=
  List.sum_nonneg (List.forall_mem_map.mpr fun a _ => sq_nonneg a)

/-- **Cauchy–Schwarz for a list row** (the form in which the accessors return their rows): for lists of any
lengths (`dotL` truncates to the shorter) `(row·x)² ≤ (Σ_j row_j²)·(Σ_j x_j²)`. -/
theorem C11_row_sq_le (r x : List ℝ) : dotL r x ^ 2 ≤ (r.map (· ^ 2)).sum * (x.map (· ^ 2)).sum := by
  -- both lists padded with zeros to a common length: the inequality for finite sums
  rw [dotL_eq_sum r x (max r.length x.length) (le_trans (min_le_left _ _) (le_max_left _ _)),
    sum_map_eq_sum_getD (· ^ 2) (zero_pow two_ne_zero) r _ (le_max_left _ _),
    sum_map_eq_sum_getD (· ^ 2) (zero_pow two_ne_zero) x _ (le_max_right _ _)]
  exact Finset.sum_mul_sq_le_sq_mul_sq _ _ _

theorem dotL_ofFn_zero (r : List ℝ) (n : Nat) : dotL r (List.ofFn (0 : Fin n → ℝ)) = 0 :=
  dotL_right_zero r _ fun v hv => by obtain ⟨_, rfl⟩ := (List.mem_ofFn' _ _).mp hv; rfl

theorem sumsq_ofFn {n : Nat} (v : Fin n → ℝ) : ((List.ofFn v).map (· ^ 2)).sum = v ⬝ᵥ v := by
  rw [List.map_ofFn, List.sum_ofFn]
  unfold dotProduct
  exact Finset.sum_congr rfl fun j _ => pow_two _

theorem exists_rows_imp {ρ : Type} {p q : ρ → Prop} {r s : ρ → ρ → Prop} (h : ∃ rc rd, p rc ∧ q rd ∧ r rc rd)
    (hrs : ∀ rc rd, r rc rd → s rc rd) : ∃ rc rd, p rc ∧ q rd ∧ s rc rd :=
  let ⟨rc, rd, a, b, e⟩ := h
  ⟨rc, rd, a, b, hrs rc rd e⟩

section model
variable {L : Type} [DecidableEq L] [LabelOrd L]

/-- **the state norm after the sources have returned to zero**: hypotheses of `C11_model_output_bounded`
(`0 < λ ≤` every C, L); for `t ≥ t₁`: `x(t)ᵀx(t) ≤ 2·E(t₁)/λ`. -/
theorem C11_model_state_norm_bounded {N : Net L ℝ} {cvals lvals : ValDict ℝ} {Ainv S Delta : List (List ℝ)}
    {m : SSMats ℝ}
    (h : RLC N cvals lvals) (hD : ssDelta N cvals = .ok Delta)
    (hm : stateSpaceMatrices N cvals lvals Ainv S = .ok m)
    (hc : ModelCert id N cvals lvals Ainv S Delta)
    (hpos : ∀ b ∈ N.branches, 0 ≤ b.e.Yfin)
    {lam : ℝ} (hlam : 0 < lam)
    (hval : ∀ k : Fin (ssNStates N cvals lvals), lam ≤ (cvals.vals ++ lvals.vals).getD k 0)
    {x : ℝ → Fin (ssNStates N cvals lvals) → ℝ} {u : ℝ → Fin (ssNInputs N lvals) → ℝ} {t1 : ℝ}
    (hx : ∀ t, HasDerivAt x
      (toM (ssNStates N cvals lvals) (ssNStates N cvals lvals) m.A *ᵥ x t
        + toM (ssNStates N cvals lvals) (ssNInputs N lvals) m.B *ᵥ u t) t)
    (hu : ∀ t, t1 ≤ t → u t = 0) (t : ℝ) (ht : t1 ≤ t) :
    x t ⬝ᵥ x t ≤ 2 * ((1 / 2) * ∑ k : Fin (ssNStates N cvals lvals),
      (cvals.vals ++ lvals.vals).getD k 0 * x t1 k ^ 2) / lam :=
  norm_bounded_after_sources _ _ _ (fun x => C11_model_lyapunov h hD hm hc hpos x) hlam hval hx hu ht

/-- **C11 — the reported quantities stay bounded after the sources have returned to zero.**
`N` the `w = 0` network (over ℝ) of an RLC + ideal-source circuit without negative conductances, `M` the object
`nodal_state_space_model` returns for any certificates, `0 < λ ≤` every capacitance and inductance.  `x` solves
`ẋ = A x + B u(t)` at all times (any input before `t₁`), `u(t) = 0` for `t ≥ t₁`.  Then for every `t ≥ t₁`:
* for every node label `n` the rows `c_row_for_potential(n)`, `d_row_for_potential(n)` exist, the number
  `row_c·x(t) + row_d·u(t)` that `TransientSolution.get_potential` evaluates IS the potential of `n` in the report
  of the per-sample network (`C10_rows_potential`), and its square is at most `(Σ_j row_c[j]²)·(2/λ)·E(t₁)`,
  `E(t₁) = ½ΣC v² + ½ΣL i²` at `t₁`;
* the same for the voltage rows and for the current rows of every branch.
The constant depends only on the row and on `λ`; it does not depend on `t`, on the input before `t₁` or on `d_row`.
Exact flow of the ODE; `lsim` is not modelled. -/
theorem C11_reported_bounded_after_sources {N : Net L ℝ} {cvals lvals : ValDict ℝ}
    {Ainv S Delta : List (List ℝ)} {M : NSSM L ℝ}
    (h : RLC N cvals lvals) (hD : ssDelta N cvals = .ok Delta)
    (hM : nodalStateSpaceModel N cvals lvals Ainv S = .ok M)
    (hc : ModelCert id N cvals lvals Ainv S Delta)
    (hpos : ∀ b ∈ N.branches, 0 ≤ b.e.Yfin)
    {lam : ℝ} (hlam : 0 < lam)
    (hval : ∀ k : Fin (ssNStates N cvals lvals), lam ≤ (cvals.vals ++ lvals.vals).getD k 0)
    {x : ℝ → Fin (ssNStates N cvals lvals) → ℝ} {u : ℝ → Fin (ssNInputs N lvals) → ℝ} {t1 : ℝ}
    (hx : ∀ t, HasDerivAt x
      (toM (ssNStates N cvals lvals) (ssNStates N cvals lvals) M.mats.A *ᵥ x t
        + toM (ssNStates N cvals lvals) (ssNInputs N lvals) M.mats.B *ᵥ u t) t)
    (hu : ∀ t, t1 ≤ t → u t = 0) (t : ℝ) (ht : t1 ≤ t) :
    let E1 := (1 / 2) * ∑ k : Fin (ssNStates N cvals lvals), (cvals.vals ++ lvals.vals).getD k 0 * x t1 k ^ 2
    let y := toM N.nY (ssNStates N cvals lvals) M.mats.C *ᵥ x t + toM N.nY (ssNInputs N lvals) M.mats.D *ᵥ u t
    let xdot := toM (ssNStates N cvals lvals) (ssNStates N cvals lvals) M.mats.A *ᵥ x t
                + toM (ssNStates N cvals lvals) (ssNInputs N lvals) M.mats.B *ᵥ u t
    let R := (sampleNet N cvals lvals (ssSources N lvals) (List.ofFn (u t)) (List.ofFn xdot)).reportOf (List.ofFn y)
    (∀ n ∈ N.nodeLabels, ∃ rc rd, M.cRowPotential n = .ok rc ∧ M.dRowPotential n = .ok rd
        ∧ dotL rc (List.ofFn (x t)) + dotL rd (List.ofFn (u t)) = R.pot n
        ∧ (dotL rc (List.ofFn (x t)) + dotL rd (List.ofFn (u t))) ^ 2 ≤ (rc.map (· ^ 2)).sum * (2 * E1 / lam))
    ∧ (∀ b ∈ N.branches, ∃ rc rd, M.cRowVoltage b.id = .ok rc ∧ M.dRowVoltage b.id = .ok rd
        ∧ dotL rc (List.ofFn (x t)) + dotL rd (List.ofFn (u t)) = R.v b.id
        ∧ (dotL rc (List.ofFn (x t)) + dotL rd (List.ofFn (u t))) ^ 2 ≤ (rc.map (· ^ 2)).sum * (2 * E1 / lam))
    ∧ (∀ b ∈ N.branches, ∃ rc rd, M.cRowCurrent b.id = .ok rc ∧ M.dRowCurrent b.id = .ok rd
        ∧ dotL rc (List.ofFn (x t)) + dotL rd (List.ofFn (u t)) = R.i b.id
        ∧ (dotL rc (List.ofFn (x t)) + dotL rd (List.ofFn (u t))) ^ 2 ≤ (rc.map (· ^ 2)).sum * (2 * E1 / lam)) := by
  intro E1 y xdot R
  have hn := C11_model_state_norm_bounded h hD (nodalStateSpaceModel_mats hM) hc hpos hlam hval hx hu t ht
  have bound : ∀ rc rd : List ℝ,
      (dotL rc (List.ofFn (x t)) + dotL rd (List.ofFn (u t))) ^ 2 ≤ (rc.map (· ^ 2)).sum * (2 * E1 / lam) := by
    intro rc rd
    rw [hu t ht, dotL_ofFn_zero, add_zero]
    exact (C11_row_sq_le rc _).trans
      (mul_le_mul_of_nonneg_left ((sumsq_ofFn (x t)).trans_le hn) (C11_sumsq_nonneg rc))
  obtain ⟨h1, h2, h3⟩ := C10_rows_report h hM (x t) (u t)
  exact ⟨fun n hn' => exists_rows_imp (h1 n hn') fun rc rd e => ⟨e, bound rc rd⟩,
    fun b hb => exists_rows_imp (h2 b hb) fun rc rd e => ⟨e, bound rc rd⟩,
    fun b hb => exists_rows_imp (h3 b hb) fun rc rd e => ⟨e, bound rc rd⟩⟩

/-- **C11 — a circuit at rest stays at rest.**  Hypotheses of `C11_model_bounded` (positive C, L).  If the stored
energy `½ΣC v² + ½ΣL i²` is 0 at `t₁` and all sources are zero on `[t₁, ∞)`, then for every `t ≥ t₁` every number
the accessor rows report — `row_c·x(t) + row_d·u(t)` for the potential of every node label, the voltage and the
current of every branch — is exactly 0 (and so is the corresponding entry of the per-sample report). -/
theorem C11_reported_rest {N : Net L ℝ} {cvals lvals : ValDict ℝ}
    {Ainv S Delta : List (List ℝ)} {M : NSSM L ℝ}
    (h : RLC N cvals lvals) (hD : ssDelta N cvals = .ok Delta)
    (hM : nodalStateSpaceModel N cvals lvals Ainv S = .ok M)
    (hc : ModelCert id N cvals lvals Ainv S Delta)
    (hpos : ∀ b ∈ N.branches, 0 ≤ b.e.Yfin)
    (hval : ∀ k : Fin (ssNStates N cvals lvals), 0 < (cvals.vals ++ lvals.vals).getD k 0)
    {x : ℝ → Fin (ssNStates N cvals lvals) → ℝ} {u : ℝ → Fin (ssNInputs N lvals) → ℝ} {t1 : ℝ}
    (hx : ∀ t, HasDerivAt x
      (toM (ssNStates N cvals lvals) (ssNStates N cvals lvals) M.mats.A *ᵥ x t
        + toM (ssNStates N cvals lvals) (ssNInputs N lvals) M.mats.B *ᵥ u t) t)
    (hu : ∀ t, t1 ≤ t → u t = 0)
    (hE : (1 / 2) * ∑ k : Fin (ssNStates N cvals lvals), (cvals.vals ++ lvals.vals).getD k 0 * x t1 k ^ 2 = 0)
    (t : ℝ) (ht : t1 ≤ t) :
    let y := toM N.nY (ssNStates N cvals lvals) M.mats.C *ᵥ x t + toM N.nY (ssNInputs N lvals) M.mats.D *ᵥ u t
    let xdot := toM (ssNStates N cvals lvals) (ssNStates N cvals lvals) M.mats.A *ᵥ x t
                + toM (ssNStates N cvals lvals) (ssNInputs N lvals) M.mats.B *ᵥ u t
    let R := (sampleNet N cvals lvals (ssSources N lvals) (List.ofFn (u t)) (List.ofFn xdot)).reportOf (List.ofFn y)
    x t = 0
    ∧ (∀ n ∈ N.nodeLabels, ∃ rc rd, M.cRowPotential n = .ok rc ∧ M.dRowPotential n = .ok rd
        ∧ dotL rc (List.ofFn (x t)) + dotL rd (List.ofFn (u t)) = 0 ∧ R.pot n = 0)
    ∧ (∀ b ∈ N.branches, ∃ rc rd, M.cRowVoltage b.id = .ok rc ∧ M.dRowVoltage b.id = .ok rd
        ∧ dotL rc (List.ofFn (x t)) + dotL rd (List.ofFn (u t)) = 0 ∧ R.v b.id = 0)
    ∧ (∀ b ∈ N.branches, ∃ rc rd, M.cRowCurrent b.id = .ok rc ∧ M.dRowCurrent b.id = .ok rd
        ∧ dotL rc (List.ofFn (x t)) + dotL rd (List.ofFn (u t)) = 0 ∧ R.i b.id = 0) := by
  intro y xdot R
  have hx0 : x t = 0 := funext fun k => by
    have := (C11_model_bounded h hD (nodalStateSpaceModel_mats hM) hc hpos hval hx hu).2 t ht k
    simp only [hE, mul_zero, zero_div] at this
    exact (sq_nonpos_iff _).mp this
  have zero : ∀ rc rd : List ℝ, dotL rc (List.ofFn (x t)) + dotL rd (List.ofFn (u t)) = 0 := by
    intro rc rd
    rw [hu t ht, hx0, dotL_ofFn_zero, dotL_ofFn_zero, add_zero]
  obtain ⟨h1, h2, h3⟩ := C10_rows_report h hM (x t) (u t)
  exact ⟨hx0, fun n hn' => exists_rows_imp (h1 n hn') fun rc rd e => ⟨zero rc rd, e ▸ zero rc rd⟩,
    fun b hb => exists_rows_imp (h2 b hb) fun rc rd e => ⟨zero rc rd, e ▸ zero rc rd⟩,
    fun b hb => exists_rows_imp (h3 b hb) fun rc rd e => ⟨zero rc rd, e ▸ zero rc rd⟩⟩

end model

theorem netRCr_model : ∃ M, nodalStateSpaceModel netRCr [("C", 1)] [] rcAinvR rcSR = .ok M := by
  obtain ⟨m, hm⟩ := netRCr_ssm
  exact ⟨⟨m, netRCr, [("C", 1)], []⟩, by simp [nodalStateSpaceModel, hm, bind, Except.bind, pure, Except.pure]⟩

/-- every hypothesis of `C11_reported_bounded_after_sources` / `C11_reported_rest` is met by the series circuit
`V(1,0) – R=1 (1,2) – C=1 (2,0)` over ℝ with `λ = 1`, the free response `x(t) = exp(tA)·x₀` from ANY initial
state (`x₀ = 0` for the rest case) and the input `u = 0`; the theorem applied gives the bound for every `t ≥ 0` -/
example : ∃ M, nodalStateSpaceModel netRCr [("C", 1)] [] rcAinvR rcSR = .ok M ∧
    ∀ x0 : Fin (ssNStates netRCr [("C", 1)] []) → ℝ, ∃ x : ℝ → Fin (ssNStates netRCr [("C", 1)] []) → ℝ,
      x 0 = x0 ∧
      (∀ t, HasDerivAt x
        (toM (ssNStates netRCr [("C", 1)] []) (ssNStates netRCr [("C", 1)] []) M.mats.A *ᵥ x t + toM (ssNStates netRCr [("C", 1)] []) (ssNInputs netRCr []) M.mats.B *ᵥ (0 : Fin (ssNInputs netRCr []) → ℝ)) t) ∧
      ∀ t, 0 ≤ t → ∀ b ∈ netRCr.branches, ∃ rc rd, M.cRowCurrent b.id = .ok rc ∧ M.dRowCurrent b.id = .ok rd
        ∧ (dotL rc (List.ofFn (x t)) + dotL rd (List.ofFn (0 : Fin (ssNInputs netRCr []) → ℝ))) ^ 2
            ≤ (rc.map (· ^ 2)).sum * (2 * ((1 / 2) * ∑ k : Fin (ssNStates netRCr [("C", 1)] []),
                (ValDict.vals [("C", (1 : ℝ))] ++ ValDict.vals []).getD k 0 * x 0 k ^ 2) / 1) := by
  obtain ⟨M, hM⟩ := netRCr_model
  refine ⟨M, hM, fun x0 => ⟨_, exp_zero_mulVec _ x0, hasDerivAt_exp_mulVec_zero_input _ _ x0, fun t ht b hb => ?_⟩⟩
  obtain ⟨rc, rd, a, b', _, e⟩ := (C11_reported_bounded_after_sources netRCr_rlc netRCr_Delta hM netRCr_cert netRCr_pos
    one_pos (by rw [netRCr_ns]; intro k; rw [Fin.fin_one_eq_zero k]; exact le_refl _) (u := fun _ => 0) (t1 := 0)
    (hasDerivAt_exp_mulVec_zero_input _ _ x0) (fun _ _ => rfl) t ht).2.2 b hb
  exact ⟨rc, rd, a, b', e⟩

/-- the hypotheses of `C11_reported_rest` are satisfiable: the RC circuit at rest (`x = 0`, `u = 0`, energy 0) -/
example : ∃ M, nodalStateSpaceModel netRCr [("C", 1)] [] rcAinvR rcSR = .ok M ∧
    ∀ t, (0 : ℝ) ≤ t → ∀ b ∈ netRCr.branches, ∃ rc rd, M.cRowCurrent b.id = .ok rc ∧ M.dRowCurrent b.id = .ok rd
      ∧ dotL rc (List.ofFn (0 : Fin (ssNStates netRCr [("C", 1)] []) → ℝ))
          + dotL rd (List.ofFn (0 : Fin (ssNInputs netRCr []) → ℝ)) = 0 := by
  obtain ⟨M, hM⟩ := netRCr_model
  refine ⟨M, hM, fun t ht b hb => ?_⟩
  obtain ⟨rc, rd, a, b', e, _⟩ := (C11_reported_rest netRCr_rlc netRCr_Delta hM netRCr_cert netRCr_pos netRCr_val
    (x := fun _ => 0) (u := fun _ => 0) (t1 := 0)
    (fun t => by rw [mulVec_zero, mulVec_zero, add_zero]; exact hasDerivAt_const t _) (fun _ _ => rfl)
    (mul_eq_zero_of_right _ (Finset.sum_eq_zero fun k _ => mul_eq_zero_of_right _ (zero_pow two_ne_zero))) t ht).2.2.2 b hb
  exact ⟨rc, rd, a, b', e⟩

end CC
