/-
  C16 — solution-level soundness of the three composed transformers `remove_ideal_current_sources`,
  `remove_ideal_voltage_sources`, `passive_network` as one theorem each.

  "The source-zeroed network" is the input's skeleton with the value of every non-exempt (current / voltage /
  any) source set to 0: `zeroWhere (selCS keep)`, `zeroWhere (selVS keep)`, `zeroWhere (selSrc keep)` of
  CC/Properties/C04Zeroing.lean — record class, immittance, terminals, identifier and order untouched.  The
  theorems say: every solution (potentials, voltages, reported currents) of the circuit equations of that
  network is a solution of the circuit equations of the returned network, and every branch of the result is a
  branch of the input (same identifier, the zeroed record) whose terminals moved only between nodes that the
  solution holds at the same potential.

  For a well-posed result the values the solver reports are those of any solution of the source-zeroed input
  (`C16_passive_reported`, through C01).

  Proof: `passive_chain` (from `C16_passive_shape`, the chain N → N1 → N2 → N3 → N'), the record-class lemmas of C04Zeroing
  (`C04_zero_current_solutions`, `C04_zero_voltage_solutions`, `C04_zeroed_branch_both`), `C16_open`, `C16_short`.
-/
import CC.Properties.C04Zeroing
set_option linter.unusedSectionVars false

namespace CC
variable {L K : Type} [DecidableEq L] [LabelOrd L] [Field K] [DecidableEq K]

/-- **C16 (`remove_ideal_current_sources`, solutions).**  Every solution of the input with its non-exempt
current sources set to 0 solves the returned network (the zeroed ideal current sources, now open circuits, and
the open circuits of the input are gone; everything else is in place). -/
theorem C16_removeIdealCS_sound (N N' : Net L K) (keep : List (ElemKey K)) (R : Report L K)
    (hr : removeIdealCS N keep = .ok N')
    (h : CircuitEqs ⟨N.branches.map (zeroWhere (selCS keep)), N.zero⟩ R) :
    CircuitEqs N' R ∧ N'.zero = N.zero ∧
      N'.branches = (N.branches.map (zeroCS keep)).filter fun b => !b.e.isOpen := by
  obtain ⟨⟨N1, h1, h2⟩, hz, hb⟩ := C16_removeIdealCS_shape N N' keep hr
  have e1 : CircuitEqs N1 R := (C04_zero_current_solutions N N1 keep h1 R).mpr h
  exact ⟨(C16_open N1 N' R h2 e1).1, hz, hb⟩

/-- **C16 (`remove_ideal_voltage_sources`, solutions).**  Every solution of the input with its non-exempt
voltage sources set to 0 solves the returned network; every branch of the result is a branch of the input with
the same identifier and the record `short_circuitify_voltage_sources` gives it, its terminals moved only between
nodes at the same potential (the ends of contracted shorts: original ones and zeroed ideal voltage sources). -/
theorem C16_removeIdealVS_sound (N N' : Net L K) (keep : List (ElemKey K)) (R : Report L K)
    (hr : removeIdealVS N keep = .ok N')
    (h : CircuitEqs ⟨N.branches.map (zeroWhere (selVS keep)), N.zero⟩ R) :
    CircuitEqs N' R ∧ N'.zero = N.zero ∧
    ∀ b' ∈ N'.branches, ∃ b ∈ N.branches, b'.id = b.id ∧ b'.ty = (zeroVS keep b).ty ∧ b'.e = (zeroVS keep b).e ∧
      R.pot b'.n1 = R.pot b.n1 ∧ R.pot b'.n2 = R.pot b.n2 := by
  obtain ⟨N1, h1, h2, z1, b1, hz, _⟩ := C16_removeIdealVS_shape N N' keep hr
  have e1 : CircuitEqs N1 R := (C04_zero_voltage_solutions N N1 keep h1 R).mpr h
  obtain ⟨e2, _, hs⟩ := C16_short N1 N' keep R h2 e1
  refine ⟨e2, hz, fun b' hb' => ?_⟩
  obtain ⟨c, hc, i1, i2, i3, i4, i5⟩ := hs b' hb'
  rw [b1] at hc
  obtain ⟨b, hb, rfl⟩ := List.mem_map.mp hc
  exact ⟨b, hb, i1.trans (zeroVS_nodes keep b).2.2, i2, i3,
    i4.trans (by rw [(zeroVS_nodes keep b).1]), i5.trans (by rw [(zeroVS_nodes keep b).2.1])⟩

/-- the network `passive_network` hands to `remove_short_circuit_elements`: current sources zeroed, open
circuits removed, voltage sources zeroed (`N3` of `C16_passive_shape`) -/
def passiveStage (N : Net L K) (keep : List (ElemKey K)) : Net L K :=
  ⟨((N.branches.map (zeroCS keep)).filter fun b => !b.e.isOpen).map (zeroVS keep), N.zero⟩

/-- `zeroVS` does not touch openness, so the open circuits may be removed after both zeroing maps -/
theorem passiveStage_branches (N : Net L K) (keep : List (ElemKey K)) :
    (passiveStage N keep).branches =
      (N.branches.map fun b => zeroVS keep (zeroCS keep b)).filter fun b => !b.e.isOpen := by
  show ((N.branches.map (zeroCS keep)).filter fun b => !b.e.isOpen).map (zeroVS keep) = _
  rw [show (N.branches.map fun b => zeroVS keep (zeroCS keep b)) = (N.branches.map (zeroCS keep)).map (zeroVS keep)
    from (List.map_map (g := zeroVS keep) (f := zeroCS keep)).symm, List.filter_map (f := zeroVS keep)]
  congr 1
  apply List.filter_congr
  intro c _
  simp only [Function.comp_apply, isOpen_zeroVS]

theorem mem_passiveStage {N : Net L K} {keep : List (ElemKey K)} {c : Branch L K}
    (hc : c ∈ (passiveStage N keep).branches) : ∃ b ∈ N.branches, c = zeroVS keep (zeroCS keep b) := by
  rw [passiveStage_branches] at hc
  obtain ⟨b, hb, rfl⟩ := List.mem_map.mp (List.mem_filter.mp hc).1
  exact ⟨b, hb, rfl⟩

/-- **`passive_network`'s chain as its two solution-level stages**: open removal after both zeroing maps, then contraction.
The first conjunct is what a successful run says of the input — its first stage went through the `Network` constructor, and
zeroing keeps the identifiers —; the converses (`C16_open_converse`, `C16_short_converse`) ask it of their inputs. -/
theorem passive_chain (N N' : Net L K) (keep : List (ElemKey K)) (hr : passiveNetwork N keep = .ok N') :
    N.ids.Nodup ∧
    removeOpen ⟨N.branches.map fun b => zeroVS keep (zeroCS keep b), N.zero⟩ = .ok (passiveStage N keep) ∧
    removeShort (passiveStage N keep) keep = .ok N' := by
  obtain ⟨N1, N2, N3, h1, _, h3, h4, z3, b3, _, _⟩ := C16_passive_shape N N' keep hr
  have e3 : N3 = passiveStage N keep := by
    cases N3 with
    | mk br z => simp only at z3 b3; subst z3; subst b3; rfl
  subst e3
  refine ⟨?_, ?_, h4⟩
  · have h1 : Net.mk? (N.branches.map (zeroCS keep)) N.zero = .ok N1 := h1
    have := mk?_ids_nodup h1
    rwa [mk?_ok h1, ids_map N _ fun b _ => (zeroCS_nodes keep b).2.2] at this
  · rw [C16_open_shape, ← passiveStage_branches]
    exact mk?_self_of_ok (show Net.mk? _ _ = .ok (passiveStage N keep) from h3)

/-- **C16 (`passive_network`, solutions).**  For every network `N`, exemption list
`keep` and report `R`: if `passive_network(N, keep)` returns `N'` and `R` solves the circuit equations of the
source-zeroed input (skeleton of `N`, every non-exempt active source set to 0), then `R` solves the circuit
equations of `N'`; the reference label is unchanged; and every branch of `N'` is a branch of `N` — same
identifier, the record the two zeroing operations give it — whose terminals moved only between nodes that `R`
holds at the same potential.  So on surviving nodes and branches the source-zeroed input and the passive
network have the same potentials, voltages and reported currents; if `N'` is well-posed they are *the*
solution of `N'` (`C16_passive_reported`).

Composition, stage by stage (`passive_chain`): skeleton ≃ `zeroVS ∘ zeroCS` applied branch-wise
(`C04_zeroed_branch_both`, record-class change is electrically invisible) → open circuits removed (`C16_open`)
→ shorts contracted (`C16_short`).

Not covered here: the converse (`C16_passive_converse`); which branches survive
(`C16_passive_survivors_iff`); the link model ↔ Python (`C16_gen_passiveNetwork` + structural correspondence). -/
theorem C16_passive_sound (N N' : Net L K) (keep : List (ElemKey K)) (R : Report L K)
    (hr : passiveNetwork N keep = .ok N')
    (h : CircuitEqs ⟨N.branches.map (zeroWhere (selSrc keep)), N.zero⟩ R) :
    CircuitEqs N' R ∧ N'.zero = N.zero ∧
    ∀ b' ∈ N'.branches, ∃ b ∈ N.branches, b'.id = b.id ∧
      b'.ty = (zeroVS keep (zeroCS keep b)).ty ∧ b'.e = (zeroVS keep (zeroCS keep b)).e ∧
      R.pot b'.n1 = R.pot b.n1 ∧ R.pot b'.n2 = R.pot b.n2 := by
  obtain ⟨_, hopen, h4⟩ := passive_chain N N' keep hr
  have eM : CircuitEqs ⟨N.branches.map fun b => zeroVS keep (zeroCS keep b), N.zero⟩ R := by
    rw [← circuitEqsAll_iff] at h ⊢
    exact (circuitEqsAll_map_elecEq N.branches _ _ (fun b _ => (C04_zeroed_branch_both keep b).2) N.zero R).mpr h
  obtain ⟨e4, hz, hs⟩ := C16_short _ N' keep R h4 (C16_open _ _ R hopen eM).1
  refine ⟨e4, hz, fun b' hb' => ?_⟩
  obtain ⟨c, hc, i1, i2, i3, i4, i5⟩ := hs b' hb'
  obtain ⟨b, hb, rfl⟩ := mem_passiveStage hc
  obtain ⟨e1, e2, e3⟩ := zeroVS_zeroCS_nodes keep b
  exact ⟨b, hb, i1.trans e3, i2, i3, i4.trans (congrArg R.pot e1), i5.trans (congrArg R.pot e2)⟩

/-- **C16 (`passive_network`, reported values).**  If the returned network is valid and well-posed, then
whatever vector satisfies the matrix equation the code builds for it, the accessors report — on every node
label and branch of the passive network — the values of ANY solution `R` of the source-zeroed input. -/
theorem C16_passive_reported (N N' : Net L K) (keep : List (ElemKey K)) (R : Report L K)
    (hr : passiveNetwork N keep = .ok N')
    (h : CircuitEqs ⟨N.branches.map (zeroWhere (selSrc keep)), N.zero⟩ R)
    (wf' : N'.WF) (hw' : WellPosed N') (x' : List K)
    (hx' : x'.length = N'.nodes.length + N'.vsIds.length) (h' : matVec N'.mnaA x' = N'.mnaB) :
    (N'.reportOf x').AgreeOn N' R :=
  C01_reported_is_the_solution N' wf' hw' x' hx' h' R (C16_passive_sound N N' keep R hr h).1

/-! ### the hypotheses are satisfiable -/

namespace C16ex
/-- exemption list: the voltage source of `exP` stays active -/
def keepV : List (ElemKey ℚ) := [⟨"V", "voltage_source", .norton 0 5⟩]
def exQ2 : List (Branch String ℚ) :=
  [⟨"a", "z", "V", "voltage_source", .norton 0 5⟩, ⟨"a", "b", "R1", "resistor", .norton 2 0⟩,
    ⟨"b", "z", "R2", "resistor", .norton 4 0⟩]
theorem exQ_passive : passiveNetwork exP keepV = .ok ⟨exQ2, "z"⟩ :=
  passiveNetwork_ok (N1 := ⟨exP1, "z"⟩) (N2 := ⟨exQ2, "z"⟩) (N3 := ⟨exQ2, "z"⟩)
    (C16ex_mk_ok (by decide +kernel) (by decide +kernel) (by decide +kernel))
    exP_open
    (C16ex_mk_ok (by decide +kernel) (by decide +kernel) (by decide +kernel))
    (by
      refine C16ex_mk_ok ?_ (by decide +kernel) (by decide +kernel)
      rw [show shortPairs (⟨exQ2, "z"⟩ : Net String ℚ) keepV = [] from by decide +kernel, contractAll_nil])

/-- the (non-zero) solution of `exP` with its current source set to 0 and its voltage source active -/
def exQR : Report String ℚ :=
  { pot := fun n => if n = "a" then 5 else if n = "b" then 10/3 else 0,
    v := fun id => if id = "V" then 5 else if id = "R1" then 5/3 else 10/3,
    i := fun id => if id = "V" then -5/6 else if id = "I" then 0 else 5/6 }

theorem exQR_solves : CircuitEqs ⟨exP.branches.map (zeroWhere (selSrc keepV)), exP.zero⟩ exQR := by decide +kernel

/-- `C16_passive_sound` on a non-trivial input: `passive_network(exP, keep=[V])` returns `[V, R1, R2]`, the
source-zeroed input (current source set to 0, `V = 5` active) has the non-zero solution `exQR`, and that
solution solves the returned network -/
example : CircuitEqs (⟨exQ2, "z"⟩ : Net String ℚ) exQR :=
  (C16_passive_sound exP ⟨exQ2, "z"⟩ keepV exQR exQ_passive exQR_solves).1
/-- … and with the empty exemption list (everything deactivated; the zero report solves) -/
example : ∃ R : Report String ℚ,
    CircuitEqs ⟨exP.branches.map (zeroWhere (selSrc [])), exP.zero⟩ R ∧ passiveNetwork exP [] = .ok ⟨exP4, "z"⟩ :=
  ⟨Report.zeroRep, by decide +kernel, exP_passive⟩
end C16ex

end CC
