/-
  C16 — `passive_network` and the port impedance of the Spec (`PortZ`, CC/Spec/Port.lean).

  `C16_passive_probe_sound`: every solution of the probe network of `N` (all sources of `N` zeroed, unit test
  current between `a` and `b`) solves the probe network of `passive_network(N, keep)`, for two nodes that the
  contraction does not rename (`PassiveKeepsNode`).  From it the two conditional transfers of `PortZ`
  (`C16_passive_port_mpr` under solvability of the probe network of `N`, `C16_passive_port_mp` under
  well-posedness of the probe network of `N'`) and their conjunction `C16_passive_port`.  The unconditional
  equality, which needs the converse of the contraction, is `C16_passive_port_iff` (CC/Properties/C16Converse2.lean).
-/
import CC.Properties.C16Passive
import CC.Proofs.PortLemmas
set_option linter.unusedSectionVars false

namespace CC
variable {L K : Type} [DecidableEq L] [LabelOrd L] [Field K] [DecidableEq K]

/-- node `x` keeps its name in `passive_network(N, keep)`: the contraction's renaming fixes it -/
def PassiveKeepsNode (N : Net L K) (keep : List (ElemKey K)) (x : L) : Prop :=
  shortSigma (passiveStage N keep) keep x = x

/-- the reference node always keeps its name -/
theorem passiveKeepsNode_zero (N : Net L K) (keep : List (ElemKey K)) : PassiveKeepsNode N keep N.zero :=
  C16_short_sigma_zero (passiveStage N keep) keep

/-- a node that is not a terminal of a non-exempt short circuit of the stage network (an original short
or a zeroed ideal voltage source) keeps its name -/
theorem passiveKeepsNode_of_not_short_terminal (N : Net L K) (keep : List (ElemKey K)) (x : L)
    (h : ∀ s ∈ (passiveStage N keep).branches, s.e.isShort = true → keep.contains s.key = false →
      x ≠ s.n1 ∧ x ≠ s.n2) : PassiveKeepsNode N keep x :=
  C16_short_sigma_fix (passiveStage N keep) keep x h

/-- a branch with its source set to zero (the element map of `Net.zeroSources`) -/
def zsB (b : Branch L K) : Branch L K := { b with e := b.e.zeroSources }

theorem zs_eq_map (bs : List (Branch L K)) : zs bs = bs.map zsB := rfl

/-- the record the two zeroing operations write, with its source zeroed, is electrically the original record
with its source zeroed — whether or not the branch was exempted -/
theorem elecEq_zsB_zeroed (keep : List (ElemKey K)) (b : Branch L K) :
    Branch.ElecEq (zsB b) (zsB (zeroVS keep (zeroCS keep b))) := by
  rw [zeroVS_zeroCS]
  have hz : zsB b = ({ b with e := b.e.setSrc 0 } : Branch L K) := by
    unfold zsB; rw [zeroSources_eq_setSrc]
  by_cases hk : keep.contains b.key = true
  · rw [if_pos hk]; exact Branch.ElecEq.rfl' _
  · rw [if_neg hk]
    by_cases hc : b.e.isCS = true
    · rw [if_pos hc, hz]
      have : zsB (zeroInCurrent b) = zeroInCurrent b := rfl
      rw [this]; exact elecEq_zeroInCurrent b hc
    · rw [if_neg hc]
      by_cases hv : b.e.isVSrc = true
      · rw [if_pos hv, hz]
        have : zsB (zeroInVoltage b) = zeroInVoltage b := rfl
        rw [this]; exact elecEq_zeroInVoltage b hv
      · rw [if_neg hv]; exact Branch.ElecEq.rfl' _

theorem passive_stage_eq (N N' : Net L K) (keep : List (ElemKey K)) (hr : passiveNetwork N keep = .ok N') :
    removeShort (passiveStage N keep) keep = .ok N' :=
  (passive_chain N N' keep hr).2.2

/-! ### `passive_network` seen from outside

The probe network of `N` is `N` with its sources zeroed under a current injected at `a` and drawn from `b`
(`probe_iff`, CC/Proofs/PortLemmas.lean).  Each stage of `passive_network` keeps the solutions under any injection at
labels the contraction does not rename: a change of record class (`elecEq_zsB_zeroed`), dropping open circuits,
contracting shorts. -/

theorem zs_passiveStage (N : Net L K) (keep : List (ElemKey K)) :
    zs (passiveStage N keep).branches =
      (N.branches.filter fun c => !(zeroCS keep c).e.isOpen).map fun c => zsB (zeroVS keep (zeroCS keep c)) := by
  simp only [passiveStage, zs_eq_map, List.filter_map, List.map_map]
  rfl

/-- zeroing the sources commutes with the contraction -/
theorem zs_contract_shape (N N' : Net L K) (keep : List (ElemKey K)) (hr : passiveNetwork N keep = .ok N') :
    N'.zero = N.zero ∧
    zs N'.branches = contractAll N.zero (shortPairs (passiveStage N keep) keep) (zs (passiveStage N keep).branches) := by
  obtain ⟨hz, hb⟩ := C16_short_branches _ N' keep (passive_stage_eq N N' keep hr)
  refine ⟨hz, ?_⟩
  rw [C16_contract_shape, hb]
  simp only [zs_eq_map, List.map_map, List.filter_map]
  rfl

theorem isOpen_zsB_zeroed (keep : List (ElemKey K)) (c : Branch L K) (hq : (!(zeroCS keep c).e.isOpen) = false) :
    (zsB (zeroVS keep (zeroCS keep c))).e.isOpen = true := by
  have hc : (zeroVS keep (zeroCS keep c)).e.isOpen = true := by rw [isOpen_zeroVS]; simpa using hq
  show (zeroVS keep (zeroCS keep c)).e.zeroSources.isOpen = true
  rw [isOpen_eq hc]; simp [Elem.zeroSources, Elem.isOpen]

theorem pairShort_zs_stage (N : Net L K) (keep : List (ElemKey K)) :
    ∀ pr ∈ shortPairs (passiveStage N keep) keep, PairShort (zs (passiveStage N keep).branches) pr :=
  fun pr hpr => (pairShort_shortPairs _ keep pr hpr).imp id fun ⟨s, hs, hse, hsn⟩ =>
    ⟨zsB s, List.mem_map.mpr ⟨s, hs, rfl⟩, by show s.e.zeroSources = _; rw [hse]; rfl, hsn⟩

theorem passive_inj_sound (N N' : Net L K) (keep : List (ElemKey K)) (hr : passiveNetwork N keep = .ok N')
    (inj : L → K) (hinj : ∀ m, shortSigma (passiveStage N keep) keep m ≠ m → inj m = 0) (R : Report L K)
    (h : EqsInj (zs N.branches) N.zero R inj) : EqsInj (zs N'.branches) N'.zero R inj := by
  -- record classes, then open circuits: the stage network with its sources zeroed
  have s2 := (EqsInj.map (f := zsB) h id fun c _ => (elecEq_zsB_zeroed keep c).carries R).filter_open
    (fun c => !(zeroCS keep c).e.isOpen) fun c _ hq => isOpen_zsB_zeroed keep c hq
  rw [← zs_passiveStage] at s2
  -- then the contraction: the ends of every contracted short are equipotential
  obtain ⟨hz, hb⟩ := zs_contract_shape N N' keep hr
  rw [hz, hb]
  exact s2.contractAll _ (fun pr hpr => (pairShort_zs_stage N keep pr hpr).pot s2.volt s2.law) hinj

set_option linter.unusedVariables false in
/-- **C16 (`passive_network` and the probe network).**  `N'` = `passive_network(N, keep)`, `a ≠ b` two nodes
that the contraction does not rename.  Every solution of the circuit equations of the probe network of `N`
(`N` with ALL its sources set to zero in the sense of the Spec — `Net.zeroSources` — plus a test source of value
`J` injecting into `a`, returning from `b`) solves the probe network of `N'`.  For an exemption list that is
not empty the exempted sources stay in `N'` but are zeroed by the Spec's probe network all the same. -/
theorem C16_passive_probe_sound (N N' : Net L K) (keep : List (ElemKey K))
    (hr : passiveNetwork N keep = .ok N') (pid : String) (a b : L) (hab : a ≠ b)
    (ha : PassiveKeepsNode N keep a) (hb : PassiveKeepsNode N keep b) (J : K) (R : Report L K)
    (h : CircuitEqs (probeNet N pid a b J) R) : CircuitEqs (probeNet N' pid a b J) R := by
  rw [probe_iff] at h ⊢
  refine ⟨passive_inj_sound N N' keep hr _ (fun m hm => ?_) R h.1, h.2⟩
  have h1 : a ≠ m := fun e => hm (e ▸ ha)
  have h2 : b ≠ m := fun e => hm (e ▸ hb)
  simp only [injAB, if_neg h1, if_neg h2, sub_self]

/-- **C16 (port impedance, from the passive network back to the input).**  If the probe network of `N` is
solvable at all, the port impedance of `passive_network(N, keep)` between two nodes that keep their names is
the port impedance of `N`. -/
theorem C16_passive_port_mpr (N N' : Net L K) (keep : List (ElemKey K))
    (hr : passiveNetwork N keep = .ok N') (pid : String) (a b : L) (hab : a ≠ b)
    (ha : PassiveKeepsNode N keep a) (hb : PassiveKeepsNode N keep b) (z : K)
    (hex : ∃ R : Report L K, CircuitEqs (probeNet N pid a b 1) R)
    (hz : PortZ N' pid a b z) : PortZ N pid a b z :=
  ⟨hex, fun R hR => hz.2 R (C16_passive_probe_sound N N' keep hr pid a b hab ha hb 1 R hR)⟩

/-- **C16 (port impedance, from the input to the passive network).**  If the probe network of the result is
well-posed (its source-free version has only the zero solution), the port impedance of `N` between two nodes
that keep their names is the port impedance of `passive_network(N, keep)`. -/
theorem C16_passive_port_mp (N N' : Net L K) (keep : List (ElemKey K))
    (hr : passiveNetwork N keep = .ok N') (pid : String) (hpid : pid ∉ N'.ids) (a b : L) (hab : a ≠ b)
    (ha : PassiveKeepsNode N keep a) (hb : PassiveKeepsNode N keep b) (z : K)
    (hw : WellPosed (probeNet N' pid a b 1))
    (hz : PortZ N pid a b z) : PortZ N' pid a b z := by
  obtain ⟨⟨R, hR⟩, hall⟩ := hz
  have hR' := C16_passive_probe_sound N N' keep hr pid a b hab ha hb 1 R hR
  refine ⟨⟨R, hR'⟩, fun S hS => ?_⟩
  rw [port_unique N' pid hpid a b hw 1 S R (probe_eqsInj hS) (probe_eqsInj hR')]
  exact hall R hR

/-- **C16 (`passive_network` keeps the port impedance, under two extra hypotheses).**  `N'` =
`passive_network(N, keep)`; `a ≠ b` two nodes that keep their names (`PassiveKeepsNode`: e.g. the reference node,
or any node that is not a terminal of a contracted short / zeroed ideal voltage source); the test source's
identifier is not one of `N'`.  If the probe network of `N` has a solution and the probe network of `N'` is
well-posed, then for every `z`: `z` is the Spec's port impedance of `N` between `a` and `b` iff it is that of `N'`.

`C16_passive_port_iff` (CC/Properties/C16Converse2.lean) needs neither hypothesis; it uses the converse of the
contraction.  Not covered: ports at nodes that are renamed (state the theorem at the renamed labels — needs
`pot (σ x) = pot x`).  The hypothesis `hab` is in the statement and is only handed on (as in `C16_passive_port_mp`,
`C16_passive_port_mpr`) to `C16_passive_probe_sound`, whose proof does not use it. -/
theorem C16_passive_port (N N' : Net L K) (keep : List (ElemKey K))
    (hr : passiveNetwork N keep = .ok N') (pid : String) (hpid : pid ∉ N'.ids) (a b : L) (hab : a ≠ b)
    (ha : PassiveKeepsNode N keep a) (hb : PassiveKeepsNode N keep b)
    (hex : ∃ R : Report L K, CircuitEqs (probeNet N pid a b 1) R)
    (hw : WellPosed (probeNet N' pid a b 1)) (z : K) :
    PortZ N pid a b z ↔ PortZ N' pid a b z :=
  ⟨C16_passive_port_mp N N' keep hr pid hpid a b hab ha hb z hw,
   C16_passive_port_mpr N N' keep hr pid a b hab ha hb z hex⟩

/-! ### the hypotheses are satisfiable -/

namespace C16ex

theorem exP_keeps_b : PassiveKeepsNode exP [] "b" :=
  passiveKeepsNode_of_not_short_terminal _ _ _ (by decide +kernel)

/-- a solution of the probe network of `exP` (unit current into `b`, out of the reference node) -/
def exPR : Report String ℚ :=
  { pot := fun n => if n = "b" then 4/3 else 0,
    v := fun id => if id = "V" then 0 else if id = "R1" then -4/3 else if id = "p" then -4/3 else 4/3,
    i := fun id => if id = "V" then 2/3 else if id = "R1" then -2/3 else if id = "I" then 0
      else if id = "R2" then 1/3 else 1 }

theorem exPR_solves : CircuitEqs (probeNet exP "p" "b" "z" (1 : ℚ)) exPR := by decide +kernel

/-- two resistors (2 Ω, 4 Ω) and the test source between `b` and the reference: the matrix is the single entry `3/4` -/
theorem exP4_probe_wellPosed : WellPosed (probeNet (⟨exP4, "z"⟩ : Net String ℚ) "p" "b" "z" 1) :=
  wellPosed_of_matrix (by decide +kernel) (A := [[3/4]])
    (by simp only [Net.mnaA, Net.nodes, Net.nodeLabels, sortL_string]; decide +kernel) (by decide +kernel)

/-- every hypothesis of `C16_passive_port` holds for `passive_network(exP)` seen between `b` and the reference
node: for every `z`, `PortZ` of the input and of the passive network are the same statement -/
example (z : ℚ) : PortZ exP "p" "b" "z" z ↔ PortZ (⟨exP4, "z"⟩ : Net String ℚ) "p" "b" "z" z :=
  C16_passive_port exP ⟨exP4, "z"⟩ [] exP_passive "p" (by decide +kernel) "b" "z" (by decide +kernel) exP_keeps_b
    (passiveKeepsNode_zero exP []) ⟨exPR, exPR_solves⟩ exP4_probe_wellPosed z
end C16ex

end CC
