/-
  Property C09 — multi-frequency steady state is the superposition of single-frequency solutions.
  Model: CC/Model/MultiFreq.lean (frequency list, source gates, line sums, spectrum mirror).

  Three kinds of statement.  About the list of analysed frequencies (`frequencyComponents`): separation, content, and
  the finding that a source can be active at two analysed frequencies (`C09_once_counterexample`).  Identities over ℂ
  and list algebra in which no term of the model occurs (time function, KCL and superposition of summed lines), and the
  two-sided spectrum of `_series`.  Two compositions that speak of reported values: `C09_kcl_instant_circuit` (the
  networks of `transformCircuit`; with C01, C07) and `C09_superpose_sources_reported` (networks in skeleton form
  `withSrc bs s` over any label type; with C01, C04).
-/
import CC.Proofs.MultiFreqLemmas
import CC.Properties.C07
import CC.Properties.C04
import CC.Proofs.GQField
import Mathlib.Analysis.SpecialFunctions.Complex.Arg
import Mathlib.Tactic.NormNum

namespace CC

theorem mem_frequencies {wmax : ℚ} {c : FComp} {lc : List ℚ} (h : c.frequencies wmax = .ok lc) (w : ℚ) :
    w ∈ lc ↔ ∃ w0, c.w = some w0 ∧
      ((c.isPeriodic = false ∧ w = w0) ∨
       (c.isPeriodic = true ∧ ∃ k : ℕ, (k : ℤ) ≤ (wmax / w0).floor ∧ w = w0 * (k : ℚ))) := by
  unfold FComp.frequencies at h
  cases hcw : c.w with
  | none => rw [hcw] at h; cases h; simp
  | some w0 =>
    rw [hcw] at h
    simp only [Option.some.injEq, exists_eq_left']
    by_cases hp : c.isPeriodic = true
    · simp only [hp, if_true] at h
      split at h
      · cases h
      · cases h
        simp [hp, mem_harmonicList]
    · simp only [hp] at h
      cases h
      simp [hp]

/-- `f` is a frequency the sources contain.  For a periodic source `k = 0` counts, and `k ≤ ⌊w_max/w0⌋` is
`k·w0 ≤ w_max` when `w0 > 0` (`harmonic_le_iff`). -/
def IsSourceFrequency (cs : List FComp) (wmax f : ℚ) : Prop :=
  ∃ c ∈ cs, ∃ w0, c.w = some w0 ∧
    ((c.isPeriodic = false ∧ f = w0) ∨
     (c.isPeriodic = true ∧ ∃ k : ℕ, (k : ℤ) ≤ (wmax / w0).floor ∧ f = w0 * (k : ℚ)))

theorem mem_all_iff {wmax : ℚ} {cs : List FComp} {l : List ℚ} (hl : allFrequencies wmax cs = .ok l) (f : ℚ) :
    f ∈ l ↔ IsSourceFrequency cs wmax f := by
  induction cs generalizing l with
  | nil => cases hl; exact ⟨nofun, fun ⟨_, hc, _⟩ => nomatch hc⟩
  | cons c cs ih =>
    unfold allFrequencies at hl
    split at hl
    · cases hl
    · rename_i lc hc
      split at hl
      · cases hl
      · rename_i r hr
        cases hl
        simp only [IsSourceFrequency, List.mem_append, mem_frequencies hc, ih hr, List.mem_cons, exists_eq_or_imp]

theorem frequencyComponents_ok {cs : List FComp} {wmax wres : ℚ} {ws : List ℚ}
    (h : frequencyComponents cs wmax wres = .ok ws) :
    ∃ l, allFrequencies wmax cs = .ok l ∧ ws = mergeRes wres (sortQ l) := by
  unfold frequencyComponents at h
  split at h
  · cases h
  · rename_i l hl
    cases h
    exact ⟨l, hl, rfl⟩

/-- **C09 (frequency list, order and separation).**  For a resolution `w_res ≥ 0` any two analysed
frequencies are more than `w_res` apart, in increasing order — in particular the list is
strictly increasing and no physical frequency is analysed twice. -/
theorem C09_freqs_sorted (cs : List FComp) (wmax wres : ℚ) (hres : 0 ≤ wres) (ws : List ℚ)
    (h : frequencyComponents cs wmax wres = .ok ws) : ws.Pairwise (fun a b => wres < b - a) := by
  obtain ⟨l, _, rfl⟩ := frequencyComponents_ok h
  exact mergeRes_separated wres hres _

/-- **C09 (frequency list, content).**  Every analysed frequency is a source frequency (k = 0 of a
periodic source included), and every source frequency `f` is represented by an analysed frequency
`k ≤ f` with `f − k ≤ w_res`. -/
theorem C09_freqs_mem (cs : List FComp) (wmax wres : ℚ) (hres : 0 ≤ wres) (ws : List ℚ)
    (h : frequencyComponents cs wmax wres = .ok ws) :
    (∀ w ∈ ws, IsSourceFrequency cs wmax w) ∧
    (∀ f, IsSourceFrequency cs wmax f → ∃ k ∈ ws, k ≤ f ∧ f - k ≤ wres) := by
  obtain ⟨l, hl, rfl⟩ := frequencyComponents_ok h
  exact ⟨fun w hw => (mem_all_iff hl w).mp (mem_sortQ.mp (mem_mergeRes hw)),
    fun f hf => mergeRes_covers wres hres (sortQ_sorted l) f (mem_sortQ.mpr ((mem_all_iff hl f).mpr hf))⟩

/-- **C09 (once), full statement.**  No source contributes the same harmonic at two different
analysed frequencies (a single-frequency source is active at one analysed frequency only). -/
def C09_once_statement : Prop :=
  ∀ (cs : List FComp) (wmax wres : ℚ) (ws : List ℚ), 0 ≤ wres →
    frequencyComponents cs wmax wres = .ok ws →
    ∀ c ∈ cs, ∀ s, c.toSrc? = some s → ∀ w1 ∈ ws, ∀ w2 ∈ ws, ∀ n,
      s.activeIndex w1 wres = some n → s.activeIndex w2 wres = some n → w1 = w2

/-- **C09 (residual finding after fix 6e56e9e: chains).**  Sources at `0`, `0.0009` and `0.0011` with
resolution `0.001`: the merge keeps `0` and `0.0011` (they are more than the resolution apart), and
the source at `0.0009` lies within the resolution of *both* — it is active at both analysed
frequencies and its response is still counted twice. -/
theorem C09_once_counterexample : ¬ C09_once_statement := by
  intro h
  let c2 : FComp := ⟨"ac_voltage_source", some (9 / 10000)⟩
  let cs : List FComp := [⟨"ac_voltage_source", some 0⟩, c2, ⟨"ac_voltage_source", some (11 / 10000)⟩]
  have ev : (0 : ℚ) ≤ 1 / 1000 ∧ frequencyComponents cs 10 (1 / 1000) = .ok [0, 11 / 10000] ∧ c2 ∈ cs ∧
      c2.toSrc? = some ⟨false, 9 / 10000⟩ ∧ (0 : ℚ) ∈ [0, 11 / 10000] ∧ (11 / 10000 : ℚ) ∈ [0, 11 / 10000] ∧
      (⟨false, 9 / 10000⟩ : Src).activeIndex 0 (1 / 1000) = some 0 ∧
      (⟨false, 9 / 10000⟩ : Src).activeIndex (11 / 10000) (1 / 1000) = some 0 ∧ (0 : ℚ) ≠ 11 / 10000 := by
    decide +kernel
  obtain ⟨hres, hws, hc2, hsrc, m1, m2, a1, a2, hne⟩ := ev
  exact hne (h cs 10 (1 / 1000) _ hres hws c2 hc2 _ hsrc 0 m1 (11 / 10000) m2 0 a1 a2)

theorem harmonicIndex_eq_roundHalfEven (w w0 : ℚ) : harmonicIndex w w0 = roundHalfEven (w / w0) := rfl

/-- the gate of the multi-frequency model is the gate of the translator model (C07) -/
theorem gatePeriodic_iff (w w0 wres : ℚ) : gatePeriodic w w0 wres = true ↔ ¬ periodicOff w w0 wres := by
  simp only [gatePeriodic, periodicOff, Bool.not_eq_true', decide_eq_false_iff_not, mfAbsQ_eq_abs, absQ_eq_abs,
    harmonicIndex_eq_roundHalfEven, gt_iff_lt]

theorem activeIndex_le {wres : ℚ} {s : Src} (hs : s.periodic = true → 0 < s.w) {w : ℚ} {n : ℤ}
    (h : s.activeIndex w wres = some n) : |w - (if s.periodic = true then (n : ℚ) * s.w else s.w)| ≤ wres := by
  unfold Src.activeIndex at h
  by_cases hp : s.periodic = true
  · rw [if_pos hp] at h ⊢
    split at h
    · rename_i g
      cases h
      exact dist_eq_abs _ _ ▸ C07_harmonic_sound w s.w wres (hs hp) ((gatePeriodic_iff _ _ _).mp g)
    · cases h
  · rw [if_neg hp] at h ⊢
    split at h
    · rename_i g
      exact (gateSingle_iff _ _ _).mp g
    · cases h

theorem activeIndex_close {wres : ℚ} {s : Src} (hs : s.periodic = true → 0 < s.w) {w1 w2 : ℚ} {n : ℤ}
    (a1 : s.activeIndex w1 wres = some n) (a2 : s.activeIndex w2 wres = some n) : |w1 - w2| ≤ 2 * wres := by
  have e1 := activeIndex_le hs a1
  have e2 := activeIndex_le hs a2
  rw [abs_sub_comm] at e2
  calc |w1 - w2| ≤ _ := abs_sub_le w1 _ w2
    _ ≤ wres + wres := add_le_add e1 e2
    _ = 2 * wres := (two_mul wres).symm

set_option linter.unusedVariables false in -- `hres` is not needed
/-- **C09 (once), the part that holds.**  If any two *different* analysed frequencies are more
than `2·w_res` apart, no source contributes the same harmonic at two of them. -/
theorem C09_once_partial (ws : List ℚ) (wres : ℚ) (hres : 0 ≤ wres)
    (sep : ∀ w1 ∈ ws, ∀ w2 ∈ ws, w1 ≠ w2 → 2 * wres < |w1 - w2|)
    (s : Src) (hs : s.periodic = true → 0 < s.w) (w1 w2 : ℚ) (h1 : w1 ∈ ws) (h2 : w2 ∈ ws) (n : ℤ)
    (a1 : s.activeIndex w1 wres = some n) (a2 : s.activeIndex w2 wres = some n) : w1 = w2 := by
  by_contra hne
  exact absurd (activeIndex_close hs a1 a2) (not_le.mpr (sep w1 h1 w2 h2 hne))

/-- **C09 (line) — bookkeeping only.**  `oneSided` passes the frequency axis and the list of line values
through unchanged, position by position (`rfl`; true for any list `X`).  That the `k`-th value handed to it
IS the peak phasor of C02 at `w_k` is `C09_line_phasor` (CC/Properties/C09Line.lean) for the transcription of
`FrequencyDomainSolution` (`ComplexSolution(w_k, peak_values=True)`), and is checked against the code by the
correspondence / oracle of `harness/props/c09.py` (line vs `ComplexSolution`, harmonic lines vs `fourier_series`). -/
theorem C09_line (ws : List ℚ) (X : List GQ) (k : ℕ) :
    (oneSided ws X).1[k]? = ws[k]? ∧ (oneSided ws X).2[k]? = X[k]? := ⟨rfl, rfl⟩

open Complex in
/-- **C09 (a periodic source's own line) — the one-term identity only.**  A line `A·e^{jφ}` with *real*
amplitude `A` of either sign contributes `A·cos(θ + φ)` to a time function.  No sum over harmonics, no
truncation bound and no term of the model occur in this statement: that the source's lines are the harmonics
`amplitude(k)·e^{j·phase(k)}` of C08 for `k ≤ ⌊w_max/w0⌋` is `C09_periodic_own_line` / `C09_periodic_time_value`,
and that the reconstructed waveform approaches the source's waveform up to the truncation (Parseval tail) is
`C09_truncated_fourier` / `C09_reconstruction_mean_square` (CC/Properties/C09Line.lean); the oracle of
`harness/props/c09.py` checks both against the code (`check_harmonic_lines`, `check_reconstruction`). -/
theorem C09_source_reconstruction (A φ θ : ℝ) :
    ((A : ℂ) * exp (φ * I) * exp (θ * I)).re = A * Real.cos (θ + φ) := by
  rw [mul_assoc, ← Complex.exp_add, ← add_mul, ← ofReal_add, re_ofReal_mul, exp_ofReal_mul_I_re, add_comm]

open Complex in
/-- the same term with the coefficients `a = A cos φ`, `b = −A sin φ` of periodic_functions.py -/
theorem re_harmonic_term (A φ θ : ℝ) :
    ((A : ℂ) * exp (φ * I) * exp (θ * I)).re = (A * Real.cos φ) * Real.cos θ + (-A * Real.sin φ) * Real.sin θ := by
  rw [C09_source_reconstruction, Real.cos_add]; ring

open Complex in
/-- **C09 (time function).**  `|X|·cos(θ + arg X) = Re(X·e^{jθ})` for every complex `X` and real `θ`
(also for `X = 0`, where numpy's `angle` returns 0). -/
theorem C09_time_function (X : ℂ) (θ : ℝ) :
    ‖X‖ * Real.cos (θ + arg X) = (X * exp (θ * I)).re := by
  rw [← C09_source_reconstruction, norm_mul_exp_arg_mul_I]

open Complex in
/-- **C09 (what the executable model sums).**  `Re(X·e^{jθ}) = X.re·cos θ − X.im·sin θ`:
the expression `lineValue` evaluates from `c = cos θ`, `s = sin θ`. -/
theorem C09_time_value (X : ℂ) (θ : ℝ) :
    ‖X‖ * Real.cos (θ + arg X) = X.re * Real.cos θ - X.im * Real.sin θ := by
  rw [C09_time_function, mul_re, exp_ofReal_mul_I_re, exp_ofReal_mul_I_im]

theorem lineValue_eq (X : GQ) (c s : ℚ) : lineValue X c s = X.re * c - X.im * s := rfl

theorem re_list_sum (l : List ℂ) : l.sum.re = (l.map Complex.re).sum :=
  map_list_sum Complex.reAddGroupHom l

/-- **C09 (Kirchhoff's current law at every instant) — list algebra, no model term.**  (The statement about the
networks of `transformCircuit` and the reported currents is `C09_kcl_instant_circuit`.)  `lines` lists the analysed
frequencies: for each, the unit `u = e^{j w t}` and the physical branch currents `J b` of that
frequency's solution.  If Kirchhoff's current law holds at node `n` in every single-frequency
solution (C01), it holds for the time functions `i_b(t) = Σ_k Re(J_k b · u_k)` — for every
choice of the units, i.e. at every instant `t`.  `inc b` is the incidence (+1, −1, 0) of
branch `b` at the node. -/
theorem C09_kcl_instant {B : Type} (branches : List B) (inc : B → ℝ) (lines : List (ℂ × (B → ℂ)))
    (hk : ∀ l ∈ lines, (branches.map fun b => (inc b : ℂ) * l.2 b).sum = 0) :
    (branches.map fun b => inc b * (lines.map fun l => (l.2 b * l.1).re).sum).sum = 0 := by
  -- `inc b` into the inner sums, exchange the sums: one term per frequency
  simp only [← List.sum_map_mul_left]
  rw [sum_map_comm]
  apply List.sum_eq_zero
  intro x hx
  obtain ⟨l, hl, rfl⟩ := List.mem_map.mp hx
  -- that term is `Re((Σ_b inc b · J b) · u)`
  have h := congrArg (fun z => (z * l.1).re) (hk l hl)
  simp only [zero_mul, Complex.zero_re, ← List.sum_map_mul_right, re_list_sum, List.map_map, Function.comp_def,
    mul_assoc, Complex.re_ofReal_mul] at h
  exact h

/-- **C09 (superposition of sources) — list algebra, no model term.**  (The statement composed with C01/C04 is
`C09_superpose_sources_reported`: potentials and voltages only, for per-frequency networks given in skeleton form
`withSrc bs s`; that the code's networks for "each source alone" have that form is not proved.)
If at every analysed frequency the line is the sum of the
lines obtained with each source alone (C04 at that frequency — which requires that no other
frequency within the resolution is analysed separately, `C09_once_partial`), the time function
is the sum of the time functions with each source alone. -/
theorem C09_superpose_sources {S : Type} (sources : List S) (lines : List (ℂ × ℂ × (S → ℂ)))
    (hl : ∀ l ∈ lines, l.2.1 = (sources.map l.2.2).sum) :
    (lines.map fun l => (l.2.1 * l.1).re).sum
      = (sources.map fun s => (lines.map fun l => (l.2.2 s * l.1).re).sum).sum := by
  induction lines with
  | nil => simp
  | cons l ls ih =>
    have ih' := ih (fun l hl' => hl l (List.mem_cons_of_mem _ hl'))
    simp only [List.map_cons, List.sum_cons, List.sum_map_add]
    rw [ih', hl l (by simp), ← List.sum_map_mul_right, re_list_sum, List.map_map]
    rfl

def linesOf (ws : List ℚ) (X : List GQ) : List (ℚ × GQ) := ws.zip X

def halfOf (z : GQ) : GQ := GQ.ofRat (1/2) * z

theorem dcCount_le (ws : List ℚ) : dcCount ws ≤ ws.length := by
  cases ws with
  | nil => exact Nat.le_refl 0
  | cons w t =>
    rw [dcCount]
    split
    · exact Nat.succ_le_succ (Nat.zero_le _)
    · exact Nat.zero_le _

/-- **C09 (two-sided spectrum).**  `_series` of solution.py (after fix 0a2e57e) on line values: the
two-sided series consists of `(−w_k, conj X_k / 2)` for the AC lines in decreasing order, the DC line
`(0, X₀)` *unchanged* when one is listed, and `(w_k, X_k / 2)` for the AC lines.  (`d = dcCount ws`
is 1 when the first analysed frequency is 0, else 0 — then the lowest line is mirrored too.) -/
theorem C09_two_sided (ws : List ℚ) (X : List GQ) (hlen : ws.length = X.length) :
    (mirrorW ws).zip (mirrorX ws X)
      = (((linesOf ws X).drop (dcCount ws)).reverse.map fun p => (-p.1, halfOf (GQ.conj p.2)))
        ++ (linesOf ws X).take (dcCount ws)
        ++ ((linesOf ws X).drop (dcCount ws)).map fun p => (p.1, halfOf p.2) := by
  have hd := dcCount_le ws
  set d := dcCount ws with hdd
  have htake : ws.length - (ws.drop d).length = d := by rw [List.length_drop]; omega
  have hdz : (ws.drop d).zip (X.drop d) = (ws.zip X).drop d := by
    unfold List.zip; exact List.drop_zipWith.symm
  have htz : (ws.take d).zip (X.take d) = (ws.zip X).take d := by
    unfold List.zip; exact List.take_zipWith.symm
  have e1 : mirrorW ws = ((ws.drop d).reverse.map fun w => -w) ++ (ws.take d ++ ws.drop d) := by
    simp only [mirrorW, ← hdd, List.take_append_drop]
  have e2 : mirrorX ws X = ((X.drop d).reverse.map fun z => GQ.ofRat (1/2) * GQ.conj z)
      ++ (X.take d ++ (X.drop d).map fun z => GQ.ofRat (1/2) * z) := by
    simp only [mirrorX, ← hdd, htake, List.append_assoc]
  rw [e1, e2, List.zip_append (by simp only [List.length_map, List.length_reverse, List.length_drop, hlen]),
    List.zip_append (by simp only [List.length_take, hlen])]
  unfold linesOf
  rw [← hdz, ← htz, List.append_assoc]
  congr 1
  · rw [List.zip_map, List.zip, ← List.reverse_zipWith (by simp only [List.length_drop, hlen])]
    rfl
  · congr 1
    rw [← List.map_id (ws.drop d), List.zip_map, List.map_id]
    rfl

/-- **C09 (two-sided, DC).**  When a DC line is listed it is reported unchanged: `c(0) = X₀`. -/
theorem C09_two_sided_dc (ws : List ℚ) (X : List GQ) (x0 : GQ) (hlen : ws.length = X.length) :
    ((0 : ℚ), x0) ∈ (mirrorW (0 :: ws)).zip (mirrorX (0 :: ws) (x0 :: X)) := by
  have hd : dcCount ((0 : ℚ) :: ws) = 1 := by rw [dcCount, if_pos rfl]
  rw [C09_two_sided (0 :: ws) (x0 :: X) (by rw [List.length_cons, List.length_cons, hlen]), hd]
  exact List.mem_append_left _ (List.mem_append_right _ (List.mem_cons_self ..))

/-- **C09 (two-sided, AC lines).**  Every AC line `(w, x)` appears as `c(w) = x/2` and `c(−w) = conj x / 2`. -/
theorem C09_two_sided_lines (ws : List ℚ) (X : List GQ) (hlen : ws.length = X.length) (w : ℚ) (x : GQ)
    (h : (w, x) ∈ (linesOf ws X).drop (dcCount ws)) :
    (w, halfOf x) ∈ (mirrorW ws).zip (mirrorX ws X) ∧
    (-w, halfOf (GQ.conj x)) ∈ (mirrorW ws).zip (mirrorX ws X) := by
  rw [C09_two_sided ws X hlen]
  constructor
  · apply List.mem_append_right
    exact List.mem_map.mpr ⟨(w, x), h, rfl⟩
  · apply List.mem_append_left
    apply List.mem_append_left
    exact List.mem_map.mpr ⟨(w, x), List.mem_reverse.mpr h, rfl⟩

/-- non-vacuity: the separation hypothesis of `C09_once_partial` is met by the dyadic list `[0, 1/2, 1]`
with the default resolution -/
example : ∀ w1 ∈ ([0, 1/2, 1] : List ℚ), ∀ w2 ∈ ([0, 1/2, 1] : List ℚ), w1 ≠ w2 →
    2 * (1/1000 : ℚ) < |w1 - w2| := by
  decide +kernel

theorem lineValue_add (X Y : GQ) (c s : ℚ) : lineValue (X + Y) c s = lineValue X c s + lineValue Y c s := by
  simp only [lineValue, GQ.re_add, GQ.im_add]; ring

theorem timeValue_add {α : Type} {lines : List α} {X X1 X2 : α → GQ} {c s : α → ℚ}
    (h : ∀ l ∈ lines, X l = X1 l + X2 l) :
    timeValue (lines.map fun l => (X l, c l, s l))
      = timeValue (lines.map fun l => (X1 l, c l, s l)) + timeValue (lines.map fun l => (X2 l, c l, s l)) := by
  simp only [timeValue, List.map_map, Function.comp_def]
  rw [← List.sum_map_add]
  apply congrArg
  apply List.map_congr_left
  intro l hl
  rw [h l hl, lineValue_add]

theorem lineValue_zero (c s : ℚ) : lineValue 0 c s = 0 := by simp [lineValue, GQ.re_zero, GQ.im_zero]

theorem lineValue_smul (r : ℚ) (X : GQ) (c s : ℚ) : lineValue (GQ.ofRat r * X) c s = r * lineValue X c s := by
  simp only [lineValue, GQ.ofRat, GQ.re_mul, GQ.im_mul]; ring

theorem lineValue_neg (X : GQ) (c s : ℚ) : lineValue (-X) c s = -lineValue X c s := by
  simp only [lineValue, GQ.re_neg, GQ.im_neg]; ring

theorem lineValue_sum {α : Type} (l : List α) (f : α → GQ) (c s : ℚ) :
    lineValue (l.map f).sum c s = (l.map fun a => lineValue (f a) c s).sum := by
  induction l with
  | nil => simp [lineValue_zero]
  | cons a l ih => simp [lineValue_add, ih]

/-- incidence of a component at node `n`, read from the component's own node list
(+1 first terminal, −1 second terminal) -/
def compInc (c : Component) (n : String) : ℚ :=
  (if c.nodes[0]? = some n then 1 else 0) - (if c.nodes[1]? = some n then 1 else 0)

/-- physical first→second current phasor of the branch with identifier `id`, from the values
the accessors report for the certificate `x` (`physCurrent` undoes the generator direction in
which a linear source reports its current) -/
def physOf (N : Net String GQ) (x : List GQ) (id : String) : GQ :=
  match N.get? id with
  | some b => b.e.physCurrent ((N.reportOf x).i id)
  | none => 0

theorem kcl_components (trig : Trig) (harm : Harm) (C : Circuit) (w wres : ℚ) (N : Net String GQ)
    (hN : transformCircuit Gen.tables trig harm C w wres = .ok N)
    (hsl : ∀ b ∈ N.branches, b.n1 ≠ b.n2) (x : List GQ)
    (hx : x.length = N.nodes.length + N.vsIds.length) (hsol : matVec N.mnaA x = N.mnaB) (n : String) :
    ((translated Gen.tables C.components).map fun c => GQ.ofRat (compInc c n) * physOf N x c.id).sum = 0 := by
  obtain ⟨hzero, hids⟩ := (Net.check_ok_iff N).mp (transformCircuit_check hN)
  have wf : N.WF := ⟨hids, hzero, hsl⟩
  have hkcl := (C01_sound N x wf hx hsol).2.2.kcl_all n
  unfold kclResidual at hkcl
  rw [← hkcl]
  have hf := (C07_position_independent Gen.tables trig harm C w wres N hN).1
  have hmap : (N.branches.map fun b => incidence b n * b.e.physCurrent ((N.reportOf x).i b.id))
      = (translated Gen.tables C.components).map fun c => GQ.ofRat (compInc c n) * physOf N x c.id := by
    refine forall₂_map_eq_mem hf ?_
    intro c b _ hb hcb
    obtain ⟨hid, h0, h1⟩ := C07_branch_id_terminals Gen.tables C07_table_wellformed trig harm c w wres b hcb
    have hget : N.get? c.id = some b := by rw [← hid]; exact get?_of_mem N hids hb
    have hinc : incidence b n = GQ.ofRat (compInc c n) := by
      unfold incidence compInc
      rw [h0, h1]
      by_cases e1 : b.n1 = n <;> by_cases e2 : b.n2 = n <;>
        simp [e1, e2, GQ.ofRat] <;> apply GQ.ext' <;> simp
    simp only [physOf, hget, hinc, hid]
  rw [hmap]

/-- one analysed frequency of a time-domain solution: the frequency, the unit `(c, s) = (cos w t, sin w t)`
of the instant considered, the network `transform_circuit` produced and a solution vector -/
structure FreqLine where
  w : ℚ
  c : ℚ
  s : ℚ
  N : Net String GQ
  x : List GQ

/-- the time function `Σ_k |J_k|·cos(w_k t + arg J_k)` of the physical current of component `id` -/
def currentAt (lines : List FreqLine) (id : String) : ℚ :=
  timeValue (lines.map fun l => (physOf l.N l.x id, l.c, l.s))

theorem currentAt_eq (lines : List FreqLine) (id : String) :
    currentAt lines id = (lines.map fun l => lineValue (physOf l.N l.x id) l.c l.s).sum := by
  simp [currentAt, timeValue, List.map_map, Function.comp_def]

/-- **C09 (Kirchhoff's current law at every instant), composed with C01 and C07.**  Take any circuit,
any list of analysed frequencies, and for each of them the network the model of `transform_circuit`
produces (without self-loop branch) and *any* vector solving the matrix equation the code builds
for it (whatever `numpy.linalg.solve` returns).  Then at every node `n` the time functions of the
physical branch currents — built from the currents the accessors report — sum to zero, for every
choice of the units `(c, s)`, i.e. at every instant.  (The physical current of a linear source is
minus its reported current at the frequencies where it is active: the time function of the
*reported* current of such a source mixes the two directions — DESIGN §10.2, C04 / C09-4.) -/
theorem C09_kcl_instant_circuit (trig : Trig) (harm : Harm) (C : Circuit) (wres : ℚ) (lines : List FreqLine)
    (hl : ∀ l ∈ lines, transformCircuit Gen.tables trig harm C l.w wres = .ok l.N ∧
      (∀ b ∈ l.N.branches, b.n1 ≠ b.n2) ∧ l.x.length = l.N.nodes.length + l.N.vsIds.length ∧
      matVec l.N.mnaA l.x = l.N.mnaB) (n : String) :
    ((translated Gen.tables C.components).map fun c => compInc c n * currentAt lines c.id).sum = 0 := by
  -- the incidence into the lines, then one term per frequency
  simp only [currentAt_eq, ← List.sum_map_mul_left, ← lineValue_smul]
  rw [sum_map_comm]
  apply List.sum_eq_zero
  intro y hy
  obtain ⟨l, hlm, rfl⟩ := List.mem_map.mp hy
  obtain ⟨hN, hsl, hx, hsol⟩ := hl l hlm
  rw [← lineValue_sum, kcl_components trig harm C l.w wres l.N hN hsl l.x hx hsol n, lineValue_zero]

/-- one analysed frequency of a two-source decomposition in skeleton form (C04): the skeleton
`bs` (topology, ids, immittances at this frequency), the source assignments `s1`, `s2` of the two
parts, and solution vectors of the three systems the code builds -/
structure SuperLine (L : Type) where
  c : ℚ
  s : ℚ
  bs : List (Branch L GQ)
  z : L
  s1 : String → GQ
  s2 : String → GQ
  x1 : List GQ
  x2 : List GQ
  x : List GQ

namespace SuperLine
variable {L : Type} (l : SuperLine L)
def N1 : Net L GQ := ⟨withSrc l.bs l.s1, l.z⟩
def N2 : Net L GQ := ⟨withSrc l.bs l.s2, l.z⟩
def N : Net L GQ := ⟨withSrc l.bs fun id => l.s1 id + l.s2 id, l.z⟩
end SuperLine

/-- **C09 (superposition of sources), composed with C01 and C04.**  If at every analysed frequency
the three matrix equations (part 1, part 2, both) are solved by the given vectors and the full
network is well-posed, then the time function of every node potential and of every branch voltage
of the full circuit is the sum of the time functions of the two parts — at every instant. -/
theorem C09_superpose_sources_reported {L : Type} [DecidableEq L] [LabelOrd L] (lines : List (SuperLine L))
    (hl : ∀ l ∈ lines, l.N1.WF ∧ l.N2.WF ∧ l.N.WF ∧ WellPosed l.N ∧
      l.x1.length = l.N1.nodes.length + l.N1.vsIds.length ∧
      l.x2.length = l.N2.nodes.length + l.N2.vsIds.length ∧
      l.x.length = l.N.nodes.length + l.N.vsIds.length ∧
      matVec l.N1.mnaA l.x1 = l.N1.mnaB ∧ matVec l.N2.mnaA l.x2 = l.N2.mnaB ∧
      matVec l.N.mnaA l.x = l.N.mnaB) :
    (∀ n, (∀ l ∈ lines, n ∈ l.N.allLabels) →
      timeValue (lines.map fun l => ((l.N.reportOf l.x).pot n, l.c, l.s))
        = timeValue (lines.map fun l => ((l.N1.reportOf l.x1).pot n, l.c, l.s))
          + timeValue (lines.map fun l => ((l.N2.reportOf l.x2).pot n, l.c, l.s))) ∧
    (∀ id, (∀ l ∈ lines, ∃ b ∈ l.N.branches, b.id = id) →
      timeValue (lines.map fun l => ((l.N.reportOf l.x).v id, l.c, l.s))
        = timeValue (lines.map fun l => ((l.N1.reportOf l.x1).v id, l.c, l.s))
          + timeValue (lines.map fun l => ((l.N2.reportOf l.x2).v id, l.c, l.s))) := by
  have key := fun (l : SuperLine L) (hlm : l ∈ lines) =>
    have ⟨w1, w2, w, hw, h1, h2, h3, e1, e2, e3⟩ := hl l hlm
    C04_reported_superpose l.bs l.z l.s1 l.s2 w1 w2 w hw l.x1 l.x2 l.x h1 h2 h3 e1 e2 e3
  constructor
  · intro n hn
    exact timeValue_add fun l hlm => (key l hlm).1 n (hn l hlm)
  · intro id hid
    refine timeValue_add fun l hlm => ?_
    obtain ⟨b, hb, rfl⟩ := hid l hlm
    exact (key l hlm).2 b hb

end CC
