/-
  Property C06 — port behaviour: driving-point impedance and Thevenin/Norton equivalents.

  First the statements about `PortZ` (CC/Spec/Port.lean) alone, independent of how the code computes: every
  network, every field, any labels.  Then the model of `open_circuit_impedance` (CC/Model/Port.lean; the Python
  function after its fixes e030c44 and aab1640) against `PortZ`, on networks in which no unknown is pruned — the
  pruning path is the subject of C06Prune and C06PruneReg.  Completeness of the function does not hold, and the
  file says so: `C06_floating_island_counterexample` (a floating group of nodes leaves the solved matrix singular
  although `PortZ` is defined).
-/
import CC.Proofs.PortPrune
import CC.Properties.C01Det
import CC.Properties.C03
import CC.Model.Port
import CC.Gen.PortImports
import Mathlib.Algebra.Order.Field.Rat
set_option linter.unusedSectionVars false
set_option linter.unusedVariables false

namespace CC
variable {L K : Type} [DecidableEq L] [LabelOrd L] [Field K] [DecidableEq K]

/-- **C06 (the port impedance is well defined).**  In a well-posed probe network any two
solutions have the same port voltage; hence any one solution determines `PortZ`. -/
theorem C06_unique (N : Net L K) (pid : String) (hp : pid ∉ N.ids) (a b : L)
    (hw : WellPosed (probeNet N pid a b 1)) (R : Report L K)
    (hR : CircuitEqs (probeNet N pid a b 1) R) : PortZ N pid a b (R.pot a - R.pot b) := by
  exact ⟨⟨R, hR⟩, fun S hS => port_unique N pid hp a b hw 1 S R (probe_eqsInj hS) (probe_eqsInj hR)⟩

/-- **C06 (symmetry).**  The impedance between `a` and `b` is the impedance between `b` and `a`. -/
theorem C06_symm (N : Net L K) (pid : String) (hp : pid ∉ N.ids) (a b : L) (z : K)
    (h : PortZ N pid a b z) : PortZ N pid b a z := by
  rw [portZ_iff_portLine N pid hp] at h ⊢
  exact h.symm

/-- **C06 (independence of the reference node).**  Choosing another reference node does not
change the impedance between `a` and `b`. -/
theorem C06_ref_indep (N : Net L K) (pid : String) (a b g : L) (z : K)
    (h : PortZ N pid a b z) : PortZ { N with zero := g } pid a b z := by
  refine h.transport (fun R hR => ⟨_, hR.reref (M' := probeNet { N with zero := g } pid a b 1) rfl⟩) fun S hS =>
    ⟨_, hS.reref (M' := probeNet N pid a b 1) rfl, ?_⟩
  simp only [Report.shift]
  ring

/-- **C06 (identical nodes).**  The impedance between a node and itself is zero. -/
theorem C06_same_node_zero (N : Net L K) (pid : String) (hp : pid ∉ N.ids) (a : L) :
    PortZ N pid a a 0 := by
  rw [portZ_iff_portLine N pid hp]
  exact PortLine.same_node _ _ a

/-- **C06 (across an ideal voltage source).**  If an ideal voltage source of the network lies
directly between `a` and `b`, every solution of the probe network has port voltage zero;
with solvability, `PortZ = 0`. -/
theorem C06_across_ideal_vs_zero (N : Net L K) (pid : String) (a b : L) (x : Branch L K)
    (hx : x ∈ N.branches) (hvs : x.e.isIdealVS = true)
    (hab : (x.n1 = a ∧ x.n2 = b) ∨ (x.n1 = b ∧ x.n2 = a))
    (hex : ∃ R : Report L K, CircuitEqs (probeNet N pid a b 1) R) : PortZ N pid a b 0 := by
  refine ⟨hex, fun R hR => ?_⟩
  have h1 := probe_eqsInj hR
  have hmem : ({ x with e := x.e.zeroSources } : Branch L K) ∈ zs N.branches :=
    List.mem_map.mpr ⟨x, hx, rfl⟩
  have hv := h1.volt _ hmem
  have hl := h1.law _ hmem
  unfold voltResidual at hv
  cases he : x.e with
  | thevenin Y I => rw [he] at hvs; simp [Elem.isIdealVS] at hvs
  | norton Z V =>
    rw [he] at hvs hl
    have hZ : Z = 0 := by simpa [Elem.isIdealVS] using hvs
    simp only [Elem.zeroSources, Elem.lawResidual, hZ, if_true, sub_zero] at hl
    simp only at hv
    rcases hab with ⟨e1, e2⟩ | ⟨e1, e2⟩
    · rw [e1, e2] at hv; linear_combination hl - hv
    · rw [e1, e2] at hv; linear_combination -(hl - hv)

/-- **C06 (the port equation: Thevenin's theorem in full generality).**  Attach *any* branch
`x` from `a` to `b` to a network `N` (with all its sources).  If `J` is the physical current
through `x` from `a` to `b`, the port voltage of the loaded network is
`V = Voc − Zth·J`, where `Voc` is the open-circuit port voltage of `N` and `Zth` the port
voltage of the probe network (`PortZ`). -/
theorem C06_port_equation (N : Net L K) (hids : N.ids.Nodup) (pid : String) (hp : pid ∉ N.ids)
    (a b : L) (hw : WellPosed (probeNet N pid a b 1)) (x : Branch L K) (hx1 : x.n1 = a) (hx2 : x.n2 = b)
    (Roc Rl Rz : Report L K) (hoc : CircuitEqs N Roc) (hl : CircuitEqs (N.attach x) Rl)
    (hz : CircuitEqs (probeNet N pid a b 1) Rz) :
    Rl.pot a - Rl.pot b
      = (Roc.pot a - Roc.pot b) - (Rz.pot a - Rz.pot b) * x.e.physCurrent (Rl.i x.id) := by
  have hZ := (C06_unique N pid hp a b hw Rz hz).line hp
  rw [hZ.port_equation hids x hx1 hx2 hoc hl]

/-- **C06 (Thevenin).**  A load impedance `Z_L ≠ 0` attached between `a` and `b` sees
`V·(Zth + Z_L) = Voc·Z_L`, i.e. `V = Voc·Z_L/(Zth+Z_L)` whenever `Zth + Z_L ≠ 0`. -/
theorem C06_thevenin (N : Net L K) (hids : N.ids.Nodup) (pid : String) (hp : pid ∉ N.ids)
    (a b : L) (hw : WellPosed (probeNet N pid a b 1)) (lid ty : String) (ZL : K) (hZL : ZL ≠ 0)
    (Roc Rl : Report L K) (Zth : K) (hoc : CircuitEqs N Roc)
    (hl : CircuitEqs (N.attach ⟨a, b, lid, ty, .norton ZL 0⟩) Rl) (hz : PortZ N pid a b Zth) :
    (Rl.pot a - Rl.pot b) * (Zth + ZL) = (Roc.pot a - Roc.pot b) * ZL := by
  have key := (hz.line hp).port_equation hids ⟨a, b, lid, ty, .norton ZL 0⟩
    rfl rfl hoc hl
  obtain ⟨_, hv, hlaw⟩ := (attach_iff N _ Rl).mp hl
  rw [law_norton_zero] at hlaw
  unfold voltResidual at hv
  simp only at key hv hlaw
  rw [phys_norton_zero] at key
  -- V = Voc − Zth·i,  V = Z_L·i
  have hV : Rl.pot a - Rl.pot b = ZL * Rl.i lid := by linear_combination hlaw - hv
  linear_combination Zth * hV + ZL * key

/-- **C06 (Norton).**  The current through a short circuit attached from `a` to `b` satisfies
`Isc·Zth = Voc`, i.e. `Isc = Voc/Zth` whenever `Zth ≠ 0`. -/
theorem C06_norton (N : Net L K) (hids : N.ids.Nodup) (pid : String) (hp : pid ∉ N.ids)
    (a b : L) (hw : WellPosed (probeNet N pid a b 1)) (sid ty : String)
    (Roc Rs : Report L K) (Zth : K) (hoc : CircuitEqs N Roc)
    (hs : CircuitEqs (N.attach ⟨a, b, sid, ty, .norton 0 0⟩) Rs) (hz : PortZ N pid a b Zth) :
    Rs.i sid * Zth = Roc.pot a - Roc.pot b := by
  have key := (hz.line hp).port_equation hids ⟨a, b, sid, ty, .norton 0 0⟩
    rfl rfl hoc hs
  obtain ⟨_, hv, hlaw⟩ := (attach_iff N _ Rs).mp hs
  rw [law_norton_zero] at hlaw
  unfold voltResidual at hv
  simp only at key hv hlaw
  rw [phys_norton_zero] at key
  linear_combination key - hlaw + hv

/-- **C06 (parallel composition).**  An impedance `Z₂ ≠ 0` connected between `a` and `b` in
parallel to the network changes the port impedance `Z` into `Z'` with `Z'·(Z + Z₂) = Z·Z₂`. -/
theorem C06_parallel (N : Net L K) (pid : String) (hp : pid ∉ N.ids) (a b : L)
    (hw : WellPosed (probeNet N pid a b 1)) (yid ty : String) (Z2 : K) (hZ2 : Z2 ≠ 0) (Z Z' : K)
    (hz : PortZ N pid a b Z) (hz' : PortZ (N.attach ⟨a, b, yid, ty, .norton Z2 0⟩) pid a b Z') :
    Z' * (Z + Z2) = Z * Z2 := by
  obtain ⟨⟨R, hR⟩, hall'⟩ := hz'
  rw [← hall' R hR]
  exact (hz.line hp).parallel_value yid ty (.norton Z2 0) rfl (probe_eqsInj hR)

/-- **C06 (series composition).**  An impedance `Z₁ ≠ 0` from a new node `c` to `a` puts `Z₁`
in series: the impedance between `c` and `b` is `Z + Z₁`. -/
theorem C06_series (N : Net L K) (pid : String) (hp : pid ∉ N.ids) (a b c : L)
    (hc : c ∉ N.allLabels) (hca : c ≠ a) (hcb : c ≠ b)
    (hw : WellPosed (probeNet N pid a b 1)) (yid ty : String) (Z1 : K) (hZ1 : Z1 ≠ 0) (Z Z' : K)
    (hz : PortZ N pid a b Z) (hz' : PortZ (N.attach ⟨c, a, yid, ty, .norton Z1 0⟩) pid c b Z') :
    Z' = Z + Z1 := by
  obtain ⟨⟨R, hR⟩, hall'⟩ := hz'
  rw [← hall' R hR]
  refine (hz.line hp).series_value (fun x hx => ?_) hca hcb yid ty (.norton Z1 0) rfl
    (probe_eqsInj hR)
  exact ⟨fun e => hc (mem_allLabels_of_incident N hx (.inl e)), fun e => hc (mem_allLabels_of_incident N hx (.inr e))⟩

/-- The early returns are right: when `open_circuit_impedance` returns through one of its
two `return 0` statements (identical nodes, or an ideal voltage source directly between the
nodes) and the probe network is solvable, `0` is the port impedance. -/
theorem C06_impl_early_correct (solve : List (List K) → List K → Option (List K)) (N : Net L K)
    (pid : String) (hp : pid ∉ N.ids) (n1 n2 : L) (hearly : N.portIsEarly n1 n2 = true)
    (hex : ∃ R : Report L K, CircuitEqs (probeNet N pid n1 n2 1) R) :
    N.openCircuitImpedance solve n1 n2 = .ok 0 ∧ PortZ N pid n1 n2 0 := by
  unfold Net.portIsEarly at hearly
  by_cases h12 : n1 = n2
  · subst h12
    exact ⟨by simp [Net.openCircuitImpedance, Net.portPre], C06_same_node_zero N pid hp n1⟩
  · simp only [h12, decide_false, Bool.false_or] at hearly
    refine ⟨by simp [Net.openCircuitImpedance, Net.portPre, h12, hearly], ?_⟩
    obtain ⟨x, hx, hvs⟩ := List.any_eq_true.mp hearly
    obtain ⟨hxm, hab⟩ := List.mem_filter.mp hx
    exact C06_across_ideal_vs_zero N pid n1 n2 x hxm hvs (by simpa using hab) hex

theorem zero_mem_probe (N : Net L K) (pid : String) (a b : L) (hz : N.zero ∈ N.nodeLabels)
    (hne : N.branches ≠ []) : N.zero ∈ (probeNet N pid a b (1 : K)).nodeLabels := by
  rw [mem_nodeLabels] at hz ⊢
  rcases hz with ⟨h, _⟩ | ⟨x, hx, hxz⟩
  · exact absurd h hne
  · refine Or.inr ⟨{ x with e := x.e.zeroSources }, ?_, hxz⟩
    exact List.mem_append_left _ (List.mem_map.mpr ⟨x, hx, rfl⟩)

/-- **C06 (existence).**  A well-posed probe network of a valid network (distinct ids, no self-loop,
reference node among the probe network's labels — `zero_mem_probe` — ) between two different nodes has a
solution: `PortZ` is defined.
(`exists_all`: the MNA matrix of the probe network is square with trivial kernel, hence surjective, and
soundness turns the solution vector into a solution of the circuit equations.) -/
theorem C06_exists (N : Net L K) (pid : String) (a b : L) (hp : pid ∉ N.ids) (hids : N.ids.Nodup)
    (hsl : ∀ x ∈ N.branches, x.n1 ≠ x.n2) (hab : a ≠ b)
    (hz : N.zero ∈ (probeNet N pid a b (1 : K)).nodeLabels)
    (hw : WellPosed (probeNet N pid a b 1)) : ∃ R : Report L K, CircuitEqs (probeNet N pid a b 1) R :=
  let ⟨_, _, _, h⟩ := exists_all _ (probeNet_ids_nodup N pid a b 1 hp hids) hz hw
  ⟨_, h⟩

/-- **C06 (code level, PARTIAL): on networks in which nothing is pruned, the repaired
`open_circuit_impedance` computes the port impedance.**  For every network (any labels, any field,
ideal voltage sources and short circuits *anywhere*) with distinct ids and without self-loops, whose probe
network is well-posed, and in which no unknown is pruned (`keep` all true): whatever the function returns —
with any linear solver that returns solutions (`SolveOK`) — is `PortZ`.  (For the early return with an ideal
source directly across the port, solvability of the probe network comes from `C06_exists`.)

What this theorem does NOT cover (hence `_partial`): `hw` excludes every network with a node that hangs on
zero-admittance branches only (a capacitor at `w = 0`, an open circuit), and for such networks `hkeep` fails
as well: `C06ex.exP` (`O(1,0)`, `R(2,0)`, `R2(3,2)`), the pruned example in this file, is outside the hypotheses.
The pruning / re-indexing path of the code (`keepMask`, `subMatrix`, `countBefore`; the place of the two
repaired defects of DESIGN §10.2, C06) is covered by `C06_impl_pruned_solution`, `C06_impl_eq_spec_pruned`
(CC/Properties/C06Prune.lean) and `C06_impl_eq_spec_kept_regular`; this statement is the special case
`openCircuitImpedance_solution` + `C06_unique` of the first (the proof does not use `hkeep`).
For an isolated port node see `C06_isolated_port`. -/
theorem C06_impl_eq_spec_partial (N : Net L K) (solve : List (List K) → List K → Option (List K))
    (pid : String) (n1 n2 : L) (z : K) (hp : pid ∉ N.ids) (hsolve : SolveOK solve) (hids : N.ids.Nodup)
    (hsl : ∀ b ∈ N.branches, b.n1 ≠ b.n2)
    (hkeep : ∀ N' keep A e i1, N.portPre n1 n2 = .ok (.sys N' keep A e i1) → keep.all id = true)
    (hw : WellPosed (probeNet N pid n1 n2 1)) (hz : N.zero ∈ N.nodeLabels)
    (h : N.openCircuitImpedance solve n1 n2 = .ok z) : PortZ N pid n1 n2 z := by
  cases hearly : N.portIsEarly n1 n2 with
  | true =>
    have hex : ∃ R : Report L K, CircuitEqs (probeNet N pid n1 n2 1) R := by
      by_cases h12 : n1 = n2
      · subst h12; exact (C06_same_node_zero N pid hp n1).1
      · have hne : N.branches ≠ [] := fun hnil => by
          simp [Net.portIsEarly, Net.branchesBetween, hnil, h12] at hearly
        exact C06_exists N pid n1 n2 hp hids hsl h12 (zero_mem_probe N pid n1 n2 hz hne) hw
    obtain ⟨h0, hz0⟩ := C06_impl_early_correct solve N pid hp n1 n2 hearly hex
    rw [h0] at h; cases h; exact hz0
  | false =>
    obtain ⟨R, hR, hport⟩ := openCircuitImpedance_solution N solve pid n1 n2 z hp hsolve hids hearly h
    exact hport ▸ C06_unique N pid hp n1 n2 hw R hR

/-- **C06 (isolated port node, fix aab1640).**  When the model of `open_circuit_impedance` answers ∞ — one
port node's column of the MNA matrix referenced to the other port node is zero: the node hangs on
zero-admittance branches only, or its admittances cancel exactly — the Spec agrees that the impedance is
not finite: the unit-current problem of the probe network has NO solution (and the model reports
`Infinite`, never a number). -/
theorem C06_isolated_port (N : Net L K) (solve : List (List K) → List K → Option (List K)) (pid : String)
    (n1 n2 : L) (hp : pid ∉ N.ids) (hids : N.ids.Nodup) (hsl : ∀ b ∈ N.branches, b.n1 ≠ b.n2)
    (h : N.portPre n1 n2 = .ok .infinite) :
    N.openCircuitImpedance solve n1 n2 = .error (.other "Infinite") ∧
      ¬ ∃ R : Report L K, CircuitEqs (probeNet N pid n1 n2 1) R := by
  refine ⟨by simp [Net.openCircuitImpedance, h], ?_⟩
  obtain ⟨_, a, g, hag, hiso⟩ := portPre_infinite h
  rintro ⟨R, hR⟩
  obtain ⟨S, hS, _⟩ := (probe_swapped N pid hp hag _).mp ⟨R, hR, rfl⟩
  exact isolated_no_solution N pid hids a g hiso S hS

/-- completeness at full strength: whenever the port impedance is defined the function returns
it.  FALSE on the current code for floating groups of nodes (`C06_floating_island_counterexample`). -/
def C06_impl_complete_statement : Prop :=
  ∀ (N : Net Nat ℚ) (solve : List (List ℚ) → List ℚ → Option (List ℚ)) (pid : String) (n1 n2 : Nat) (z : ℚ),
    pid ∉ N.ids → N.ids.Nodup → PortZ N pid n1 n2 z →
    (∀ A b, (∃ x, x.length = b.length ∧ matVec A x = b ∧ ∀ y, y.length = b.length → matVec A y = b → y = x) →
      ∃ x, solve A b = some x ∧ matVec A x = b) →
    N.openCircuitImpedance solve n1 n2 = .ok z

namespace C06ex

/-- former failing input (DESIGN §6): `Vs(1,0) = 10 V`, `R1(1,2) = 10 Ω`, `R2(2,0) = 10 Ω`, reference `0` -/
def exN : Net Nat ℚ := { branches := [⟨1, 0, "Vs", "", .norton 0 10⟩, ⟨1, 2, "R1", "", .norton 10 0⟩, ⟨2, 0, "R2", "", .norton 10 0⟩], zero := 0 }
def A0 : List (List ℚ) := [[1/10, -1/10, 1], [-1/10, 1/5, 0], [1, 0, 0]]
def solve0 : List (List ℚ) → List ℚ → Option (List ℚ) := fun A b => if A = A0 ∧ b = [0, 1, 0] then some [0, 5, 1/2] else none

/- `portPre` returns a record without decidable equality, so its value on an example is assembled by
`portPre_eval_nat`, whose hypotheses are evaluations; the sorted label list it needs comes from `nodeLabels_nat_eq`. -/
theorem exN_labels (g : Nat) : ({exN with zero := g} : Net Nat ℚ).nodeLabels = [0, 1, 2] :=
  nodeLabels_nat_eq exN.branches _ (by decide) (by decide) (by decide)

theorem exN_check : exN.check = .ok () := check_of_labels (exN_labels 0) (by decide) (by decide)

theorem exN_nodes : exN.nodes = [1, 2] := (nodes_of_labels (exN_labels 0)).trans (by decide)

theorem exN_mna : exN.mnaA = A0 := by
  simp only [Net.mnaA, exN_nodes]; decide +kernel

theorem exN_pre : exN.portPre 2 0 = .ok (.sys {exN with zero := 0} [true, true, true] A0 [0, 1, 0] 1) :=
  portPre_eval_nat exN (l := [0, 1, 2]) (a := 2) (g := 0) (i := 1) (j := 0) (by decide) (by decide) (by decide)
    (by decide) (by decide) (by decide +kernel) rfl rfl (by decide) (by decide) rfl rfl (by decide +kernel)
    (by decide +kernel) (by decide +kernel) (by decide +kernel) (by decide +kernel)

theorem exN_model_value : exN.openCircuitImpedance solve0 2 0 = .ok 5 := by
  rw [Net.openCircuitImpedance, exN_pre]
  decide +kernel

/-- former failing input: `O(1,0)` open circuit, `R(2,0) = 5 Ω`, `R2(3,2) = 7 Ω` — node `1` hangs on an
open branch and sorts before the port node `2` -/
def exP : Net Nat ℚ := { branches := [⟨1, 0, "O", "", .thevenin 0 0⟩, ⟨2, 0, "R", "", .norton 5 0⟩, ⟨3, 2, "R2", "", .norton 7 0⟩], zero := 0 }

def RexP : Report Nat ℚ :=
  { pot := fun n => if n = 2 then 5 else if n = 3 then 5 else 0
    v := fun id => if id = "O" then 0 else if id = "R" then 5 else if id = "R2" then 0 else -5
    i := fun id => if id = "O" then 0 else if id = "R" then 1 else if id = "R2" then 0 else 1 }

theorem RexP_solves : CircuitEqs (probeNet exP "p" 2 0 1) RexP := by decide +kernel

theorem exP_spec_value : PortZ exP "p" 2 0 5 := by
  refine ⟨⟨RexP, RexP_solves⟩, fun R hR => ?_⟩
  have v2 : R.v "R" - (R.pot 2 - R.pot 0) = 0 := hR.volt ⟨2, 0, "R", "", .norton 5 0⟩ (.tail _ (.head _))
  have l2 := (law_norton_zero _ _ _).mp (hR.law ⟨2, 0, "R", "", .norton 5 0⟩ (.tail _ (.head _)))
  have k2 : (0 - 0) * R.i "O" + ((1 - 0) * R.i "R" + ((0 - 1) * R.i "R2" + 0)) = (1 - 0) * 1 :=
    (probe_kcl hR 2).trans (injAB_eq 2 0 1 2)
  have k3 : (0 - 0) * R.i "O" + ((0 - 0) * R.i "R" + ((1 - 0) * R.i "R2" + 0)) = (0 - 0) * 1 :=
    (probe_kcl hR 3).trans (injAB_eq 2 0 1 3)
  linear_combination -v2 + l2 + 5 * k2 + 5 * k3

theorem exN_wellPosed : WellPosed exN :=
  wellPosed_of_matrix (by decide +kernel) exN_mna (by decide +kernel)

theorem exN_wellposed : WellPosed (probeNet exN "p" 2 0 1) :=
  wellPosed_probeNet exN "p" 2 0 1 exN_wellPosed (by decide) (by decide)

theorem solve0_ok : SolveOK solve0 := solveOK_entry rfl (by decide +kernel) solveOK_none

theorem exN_keep : ∀ N' keep A e i1, exN.portPre 2 0 = .ok (.sys N' keep A e i1) → keep.all id = true := by
  intro N' keep A e i1 h
  rw [exN_pre] at h
  cases h
  rfl

theorem exN_spec_value : PortZ exN "p" 2 0 5 :=
  C06_impl_eq_spec_partial exN solve0 "p" 2 0 5 (by decide) solve0_ok (by decide) (by decide +kernel)
    exN_keep exN_wellposed ((Net.check_ok_iff exN).mp exN_check).1 exN_model_value

/-- `O(1,0)` open circuit, `R(2,0) = 5 Ω` — node `1` is isolated; the repaired function answers ∞ -/
def exJ : Net Nat ℚ := { branches := [⟨1, 0, "O", "", .thevenin 0 0⟩, ⟨2, 0, "R", "", .norton 5 0⟩], zero := 0 }

theorem exJ_pre : exJ.portPre 1 0 = .ok .infinite := by
  have hl : ({exJ with zero := 0} : Net Nat ℚ).nodeLabels = [0, 1, 2] :=
    nodeLabels_nat_eq exJ.branches _ (by decide) (by decide) (by decide)
  have hc : ({exJ with zero := 0} : Net Nat ℚ).check = .ok () := check_of_labels hl (by decide) (by decide)
  have hn : ({exJ with zero := 0} : Net Nat ℚ).nodes = [1, 2] := by rw [nodes_of_labels hl]; decide
  have hm : ({exJ with zero := 0} : Net Nat ℚ).mnaA = [[0, 0], [0, 1/5]] := by
    simp only [Net.mnaA, hn]; decide +kernel
  exact portPre_eq_infinite (a := 1) (g := 0) (by decide) (by decide +kernel) rfl rfl
    (.inl (isolated_eq (i := 0) hc hn hm rfl (by decide +kernel)))

end C06ex

/-- on `Vs(1,0), R1(1,2) = 10 Ω, R2(2,0) = 10 Ω` the repaired function returns 5 Ω between 2 and 0
(it returned 10 Ω before e030c44), and every hypothesis of `C06_impl_eq_spec_partial` is met -/
example : PortZ C06ex.exN "p" 2 0 5 := C06ex.exN_spec_value

/-- the hypothesis of `C06_isolated_port` is met by `exJ`: the model reports ∞ and the Spec has no solution -/
example : ¬ ∃ R : Report Nat ℚ, CircuitEqs (probeNet C06ex.exJ "p" 1 0 1) R :=
  (C06_isolated_port C06ex.exJ (fun _ _ => none) "p" 1 0 (by decide) (by decide)
    (by decide +kernel) C06ex.exJ_pre).2

/-- `PortZ` is inhabited on a network with an ideal source away from the port -/
example : ∃ z : ℚ, PortZ C06ex.exN "p" 2 0 z := ⟨5, C06ex.exN_spec_value⟩

/-- … and on a network that is not well-posed as a whole (floating node) -/
example : ∃ z : ℚ, PortZ C06ex.exP "p" 2 0 z := ⟨5, C06ex.exP_spec_value⟩

/-- the hypotheses of `C06_unique`, `C06_port_equation`, `C06_thevenin`, `C06_norton`, `C06_parallel`,
`C06_series` (fresh probe id, distinct ids, well-posed probe network) are met by the example -/
example : "p" ∉ C06ex.exN.ids ∧ C06ex.exN.ids.Nodup ∧ WellPosed (probeNet C06ex.exN "p" 2 0 1) :=
  ⟨by decide, by decide, C06ex.exN_wellposed⟩

/-- the hypothesis of `C06_impl_early_correct`: an ideal source directly across the port -/
example : C06ex.exN.portIsEarly 1 0 = true := by decide +kernel

namespace C06ex

/-- `R(1,0) = 5 Ω`; nodes `2`, `3` joined by `Rb(2,3) = 1 Ω` hang on the open branch `O(2,0)`:
a floating group of two nodes -/
def exI : Net Nat ℚ := { branches := [⟨1, 0, "R", "", .norton 5 0⟩, ⟨2, 0, "O", "", .thevenin 0 0⟩, ⟨2, 3, "Rb", "", .norton 1 0⟩], zero := 0 }
def AI : List (List ℚ) := [[1/5, 0, 0], [0, 1, -1], [0, -1, 1]]

theorem exI_pre : exI.portPre 1 0 = .ok (.sys {exI with zero := 0} [true, true, true] AI [1, 0, 0] 0) :=
  portPre_eval_nat exI (l := [0, 1, 2, 3]) (a := 1) (g := 0) (i := 0) (j := 0) (by decide) (by decide) (by decide)
    (by decide) (by decide) (by decide +kernel) rfl rfl (by decide) (by decide) rfl rfl (by decide +kernel)
    (by decide +kernel) (by decide +kernel) (by decide +kernel) (by decide +kernel)

def RexI : Report Nat ℚ :=
  { pot := fun n => if n = 1 then 5 else 0
    v := fun id => if id = "R" then 5 else if id = "p" then -5 else 0
    i := fun id => if id = "R" then 1 else if id = "p" then 1 else 0 }

theorem RexI_solves : CircuitEqs (probeNet exI "p" 1 0 1) RexI := by decide +kernel

theorem exI_spec_value : PortZ exI "p" 1 0 5 := by
  refine ⟨⟨RexI, RexI_solves⟩, fun R hR => ?_⟩
  have v1 : R.v "R" - (R.pot 1 - R.pot 0) = 0 := hR.volt ⟨1, 0, "R", "", .norton 5 0⟩ (.head _)
  have l1 := (law_norton_zero _ _ _).mp (hR.law ⟨1, 0, "R", "", .norton 5 0⟩ (.head _))
  have k1 : (1 - 0) * R.i "R" + ((0 - 0) * R.i "O" + ((0 - 0) * R.i "Rb" + 0)) = (1 - 0) * 1 :=
    (probe_kcl hR 1).trans (injAB_eq 1 0 1 1)
  linear_combination -v1 + l1 + 5 * k1

theorem exI_singular : matVec AI [5, 0, 0] = [1, 0, 0] ∧ matVec AI [5, 1, 1] = [1, 0, 0] := by
  exact ⟨by decide +kernel, by decide +kernel⟩

end C06ex

open Classical in
/-- **C06 (open finding: floating group of nodes).**  Completeness fails: on `R(1,0) = 5 Ω` with two
nodes joined by a resistor that hang on an open branch, the port impedance between `1` and `0`
is defined (`PortZ = 5`), nothing is pruned, but the system handed to `solve` has more than one
solution — a solver that answers exactly the uniquely solvable systems (numpy raises
`LinAlgError` on a singular matrix) makes `open_circuit_impedance` fail. -/
theorem C06_floating_island_counterexample : ¬ C06_impl_complete_statement := by
  intro h
  let solveU : List (List ℚ) → List ℚ → Option (List ℚ) := fun A b =>
    if hu : ∃ x, x.length = b.length ∧ matVec A x = b ∧ ∀ y, y.length = b.length → matVec A y = b → y = x
    then some (Classical.choose hu) else none
  have hcontract : ∀ A b, (∃ x, x.length = b.length ∧ matVec A x = b ∧ ∀ y, y.length = b.length → matVec A y = b → y = x) →
      ∃ x, solveU A b = some x ∧ matVec A x = b := by
    intro A b hu
    exact ⟨Classical.choose hu, by simp [solveU, hu], (Classical.choose_spec hu).2.1⟩
  have hval := h C06ex.exI solveU "p" 1 0 5 (by decide) (by decide) C06ex.exI_spec_value hcontract
  unfold Net.openCircuitImpedance at hval
  rw [C06ex.exI_pre] at hval
  have hnone : solveU C06ex.AI [1, 0, 0] = none := by
    have : ¬ ∃ x : List ℚ, x.length = ([1, 0, 0] : List ℚ).length ∧ matVec C06ex.AI x = [1, 0, 0] ∧
        ∀ y : List ℚ, y.length = ([1, 0, 0] : List ℚ).length → matVec C06ex.AI y = [1, 0, 0] → y = x := by
      rintro ⟨x, _, _, hu⟩
      have e1 := hu [5, 0, 0] rfl C06ex.exI_singular.1
      have e2 := hu [5, 1, 1] rfl C06ex.exI_singular.2
      rw [← e2] at e1
      simp at e1
    exact dif_neg this
  simp [hnone] at hval

section PortInvariance
variable {L' : Type} [DecidableEq L']

/-! ## C03 for ports: the port impedance does not depend on listing order, names, terminal
order or reference node (corollaries of `C03_perm`, `C03_rename`, `C03_reverse`, `C06_ref_indep`
applied to the probe network) -/

theorem C06_port_invariant_perm (N N' : Net L K) (hz : N.zero = N'.zero)
    (hp : N.branches.Perm N'.branches) (pid : String) (a b : L) (z : K) :
    PortZ N pid a b z ↔ PortZ N' pid a b z := by
  have hperm : (probeNet N pid a b (1 : K)).branches.Perm (probeNet N' pid a b (1 : K)).branches := by
    show (N.zeroSources.branches ++ _).Perm (N'.zeroSources.branches ++ _)
    exact List.Perm.append_right _ (hp.map _)
  have hzero : (probeNet N pid a b (1 : K)).zero = (probeNet N' pid a b (1 : K)).zero := hz
  have key := C03_perm (probeNet N pid a b (1 : K)) (probeNet N' pid a b 1) hzero hperm
  simp only [PortZ, key]

theorem C06_port_invariant_reref (N : Net L K) (g : L) (pid : String) (a b : L) (z : K) :
    PortZ N pid a b z ↔ PortZ { N with zero := g } pid a b z :=
  ⟨C06_ref_indep N pid a b g z, C06_ref_indep { N with zero := g } pid a b N.zero z⟩

theorem probeNet_flip (f : String → Bool) (N : Net L K) (pid : String) (hf : f pid = false) (a b : L) (J : K) :
    (probeNet N pid a b J).flip f = probeNet (N.flip f) pid a b J := by
  unfold probeNet Net.flip Net.zeroSources
  simp only [List.map_append, List.map_map, List.map_cons, List.map_nil]
  congr 2
  · apply List.map_congr_left
    intro x _
    simp only [Function.comp_apply, Branch.flip]
    by_cases h : f x.id = true
    · simp [h, Elem.reversed_zeroSources]
    · simp [h]
  · simp [Branch.flip, probeBranch, hf]

/-- **C03/C06 (terminal order).**  Reversing the terminals of any subset of branches (source
values negated) leaves the port impedance unchanged. -/
theorem C06_port_invariant_reverse (f : String → Bool) (N : Net L K) (pid : String) (hf : f pid = false)
    (a b : L) (z : K) : PortZ (N.flip f) pid a b z ↔ PortZ N pid a b z := by
  have fwd : ∀ (M : Net L K) (R : Report L K), CircuitEqs (probeNet M pid a b 1) R →
      CircuitEqs (probeNet (M.flip f) pid a b 1) (R.flip f) := by
    intro M R hR
    rw [← probeNet_flip f M pid hf]
    exact C03_reverse f _ R hR
  have back : ∀ (R : Report L K), CircuitEqs (probeNet (N.flip f) pid a b 1) R →
      CircuitEqs (probeNet N pid a b 1) (R.flip f) := by
    intro R hR
    have := fwd (N.flip f) R hR
    rw [Net.flip_flip] at this; exact this
  exact ⟨fun h => h.transport (fun R hR => ⟨_, back R hR⟩) fun S hS => ⟨_, fwd N S hS, rfl⟩,
    fun h => h.transport (fun R hR => ⟨_, fwd N R hR⟩) fun S hS => ⟨_, back S hS, rfl⟩⟩

theorem probeNet_rename (σ : L → L') (τ : String → String) (N : Net L K) (pid : String) (a b : L) (J : K) :
    (probeNet N pid a b J).rename σ τ = probeNet (N.rename σ τ) (τ pid) (σ a) (σ b) J := by
  unfold probeNet Net.rename Net.zeroSources
  simp only [List.map_append, List.map_map, List.map_cons, List.map_nil]
  rfl

open Classical in
noncomputable def Report.push (σ : L → L') (τ : String → String) (R : Report L K) : Report L' K where
  pot := fun l' => if h : ∃ l, σ l = l' then R.pot h.choose else 0
  v := fun id' => if h : ∃ id, τ id = id' then R.v h.choose else 0
  i := fun id' => if h : ∃ id, τ id = id' then R.i h.choose else 0

open Classical in
theorem comap_push (σ : L → L') (hσ : Function.Injective σ) (τ : String → String)
    (hτ : Function.Injective τ) (R : Report L K) : (R.push σ τ).comap σ τ = R := by
  -- on the image of an injective map the chosen preimage is the preimage
  have key : ∀ {α β : Type} (f : α → β), Function.Injective f → ∀ (g : α → K) (a : α),
      (if h : ∃ x, f x = f a then g h.choose else 0) = g a := fun f hf g a => by
    have h : ∃ x, f x = f a := ⟨a, rfl⟩
    rw [dif_pos h, hf h.choose_spec]
  cases R with
  | mk pot v i =>
    unfold Report.push Report.comap
    congr
    · funext n; exact key σ hσ pot n
    · funext id; exact key τ hτ v id
    · funext id; exact key τ hτ i id

/-- **C03/C06 (names).**  Renaming node labels (injectively) and identifiers (injectively)
leaves the port impedance unchanged. -/
theorem C06_port_invariant_rename (σ : L → L') (hσ : Function.Injective σ) (τ : String → String)
    (hτ : Function.Injective τ) (N : Net L K) (pid : String) (a b : L) (z : K) :
    PortZ (N.rename σ τ) (τ pid) (σ a) (σ b) z ↔ PortZ N pid a b z := by
  have key : ∀ R' : Report L' K, CircuitEqs (probeNet (N.rename σ τ) (τ pid) (σ a) (σ b) 1) R' ↔
      CircuitEqs (probeNet N pid a b 1) (R'.comap σ τ) := by
    intro R'
    rw [← probeNet_rename]
    exact C03_rename σ hσ τ _ R'
  have e : ∀ (S : Report L K) n, (S.push σ τ).pot (σ n) = S.pot n := fun S n =>
    congrArg (fun R => R.pot n) (comap_push σ hσ τ hτ S)
  have push : ∀ S, CircuitEqs (probeNet N pid a b 1) S →
      CircuitEqs (probeNet (N.rename σ τ) (τ pid) (σ a) (σ b) 1) (S.push σ τ) := fun S hS => by
    rw [key, comap_push σ hσ τ hτ]; exact hS
  exact ⟨fun h => h.transport (fun R' hR' => ⟨_, (key R').mp hR'⟩) fun S hS => ⟨_, push S hS, by rw [e, e]⟩,
    fun h => h.transport (fun R hR => ⟨_, push R hR⟩) fun S' hS' => ⟨_, (key S').mp hS', rfl⟩⟩

end PortInvariance

end CC
