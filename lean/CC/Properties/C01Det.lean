/-
  C01 — non-singularity in determinant form.

  `C01_solvable` states non-singularity as "trivial kernel" of the square list-matrix the code builds.
  Here the same fact in the form a reader of `np.linalg.solve` expects: the determinant of that
  matrix (read as a Mathlib `Matrix`) is non-zero for every valid, well-posed network; hence the
  singular-matrix fallback branch of the solver is never taken in exact arithmetic, and the
  solution exists (`C01_exists`) and is unique (`C01_unique`).
-/
import CC.Proofs.Exists
import CC.Properties.C01


namespace CC
variable {K : Type} [Field K] [DecidableEq K]

theorem trivial_kernel_of_isUnit (n : Nat) (A : List (List K)) (hA : A.length = n)
    (hrow : ∀ r ∈ A, r.length = n) (hu : IsUnit (toMatrix n A))
    (x : List K) (hx : x.length = n) (h : matVec A x = List.replicate n 0) : x = List.replicate n 0 := by
  have hinj := Matrix.mulVec_injective_iff_isUnit.mpr hu
  have hxo : x = List.ofFn (fun j : Fin n => x.getD j 0) := by
    apply List.ext_getElem
    · simp [hx]
    · intro i h1 h2
      simp [List.getD_eq_getElem?_getD, List.getElem?_eq_getElem h1]
  rw [hxo, matVec_ofFn n A hA hrow] at h
  have hz : (toMatrix n A).mulVec (fun j : Fin n => x.getD j 0) = (toMatrix n A).mulVec 0 := by
    rw [Matrix.mulVec_zero]
    funext j
    have := congrArg (fun l => l.getD j 0) h
    simpa using this
  have := hinj hz
  rw [hxo, this]
  apply List.ext_getElem <;> simp

variable {L : Type} [DecidableEq L] [LabelOrd L]

/-- **C01 (the solver's matrix is regular).**  For every valid, well-posed network the determinant
of the modified-nodal-analysis matrix is non-zero. -/
theorem C01_det_ne_zero (N : Net L K) (wf : N.WF) (hw : WellPosed N) :
    (toMatrix (N.nodes.length + N.vsIds.length) N.mnaA).det ≠ 0 := by
  obtain ⟨hlen, hrow, _⟩ := mnaA_dims N wf.ids_nodup
  exact ((Matrix.isUnit_iff_isUnit_det _).mp (isUnit_of_trivial_kernel _ N.mnaA hlen hrow
    (trivial_kernel_all N wf.ids_nodup wf.zero_mem hw))).ne_zero

/-- for a valid network: regular matrix ↔ trivial kernel (the form `C01_solvable` is stated in) -/
theorem C01_det_iff (N : Net L K) (wf : N.WF) :
    (toMatrix (N.nodes.length + N.vsIds.length) N.mnaA).det ≠ 0 ↔
      ∀ x : List K, x.length = N.nodes.length + N.vsIds.length →
        matVec N.mnaA x = List.replicate (N.nodes.length + N.vsIds.length) 0 →
        x = List.replicate (N.nodes.length + N.vsIds.length) 0 := by
  obtain ⟨hlen, hrow, _⟩ := mnaA_dims N wf.ids_nodup
  constructor
  · intro hd
    exact trivial_kernel_of_isUnit _ N.mnaA hlen hrow
      ((Matrix.isUnit_iff_isUnit_det _).mpr (isUnit_iff_ne_zero.mpr hd))
  · intro hker
    exact ((Matrix.isUnit_iff_isUnit_det _).mp (isUnit_of_trivial_kernel _ N.mnaA hlen hrow hker)).ne_zero

/-- the converse of `C01_det_ne_zero`: a valid network whose matrix is regular is well-posed.  For a literal network `hm`
and `hd` are evaluations (the kernel computes `Matrix.det` of a literal). -/
theorem wellPosed_of_matrix {N : Net L K} (wf : N.WF) {A : List (List K)} (hm : N.mnaA = A)
    (hd : (toMatrix A.length A).det ≠ 0) : WellPosed N := by
  subst hm
  obtain ⟨hlen, _⟩ := mnaA_dims N wf.ids_nodup
  exact wellPosed_of_trivial_kernel N wf.ids_nodup wf.zero_mem (hlen ▸ (C01_det_iff N wf).mp (hlen ▸ hd))

/-- **C01 (existence).**  The matrix equation of a valid, well-posed network has a solution of the
right length, and the report read from it solves the circuit equations. -/
theorem C01_exists (N : Net L K) (wf : N.WF) (hw : WellPosed N) :
    ∃ x : List K, x.length = N.nodes.length + N.vsIds.length ∧ matVec N.mnaA x = N.mnaB ∧
      CircuitEqs N (N.reportOf x) :=
  exists_all N wf.ids_nodup wf.zero_mem hw

/-- `exampleNet` (V = 10 V, R1 = 5 Ω, R2 = 1/5 S; CC/Properties/C01.lean) is well-posed: its matrix has determinant
`-2/5`.  With `exampleNet_wf` this meets the hypotheses of every C01 theorem above and in C01.lean. -/
theorem exampleNet_wellPosed : WellPosed exampleNet :=
  wellPosed_of_matrix exampleNet_wf (A := [[1/5, -1/5, 1], [-1/5, 2/5, 0], [1, 0, 0]])
    (by simp only [Net.mnaA, Net.nodes, Net.nodeLabels, sortL_string]; decide +kernel) (by decide +kernel)

end CC
