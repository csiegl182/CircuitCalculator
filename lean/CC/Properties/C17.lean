/-
  C17 — loading describes exactly what was written, without side effects.

  CC/Model/Load.lean mirrors loaders.py / dump_load.py / Circuit/dump_load.py as they are after the fix
  commits b501fa0 (entry copy), cd8d9e4 (local phase), 00005ff (admittance `pop`), 2481879 (dump_load
  rewrite), b379006 (circuit files convert complex notations); its tables and its copy / in-place
  structure are generated into CC/Gen/LoadTables.lean on every run.  Reverting a fix changes that file
  (or the correspondence) and the theorem that rests on it stops compiling.

  Of the *circuit* loader this file has the table (names only), purity, and one kind with a complex
  value.  The clause "every kind of the circuit table loads to exactly the given id, nodes and value" is
  `C17_circuit_fields` / `C17_circuit_faithful` (from a description dictionary to the constructor call)
  together with `C19_stored_unaltered` and `C07_reads_written` / `C07_table_total` on the constructor
  model; C17Simulation shows that the two constructor models agree.
-/
import CC.Model.Load
import CC.Spec.Load
import CC.Proofs.LoadLemmas
namespace CC
open CC.Load CC.Gen.Load CC.Spec.Load

/-- Both notations are read (without the degree option) as the number they denote. -/
theorem C17_polar_cartesian (T : Trig) (n : CxNote) :
    (toComplex T n.tree false).1 = .ok (n.denote T) := by
  cases n <;>
    simp [CxNote.tree, CxNote.denote, toComplex, cartesian?, polar?, pyComplex, J.asCx, Obj.find,
      cart_value, polar_value]

/-- …hence polar notation and the Cartesian notation of the same number load equally. -/
theorem C17_polar_eq_cartesian (T : Trig) (r p : Rat) :
    (toComplex T (CxNote.polar r p).tree false).1
      = (toComplex T (CxNote.cart (r * T.cos p) (r * T.sin p)).tree false).1 := by
  rw [C17_polar_cartesian, C17_polar_cartesian]; rfl

/-- The degree option is the radian reading at `φ·π/180` (`T.rad` is that product as the
library computes it). -/
theorem C17_degree_radian (T : Trig) (r p : Rat) :
    (toComplex T (CxNote.polar r p).tree true).1
      = (toComplex T (CxNote.polar r (T.rad p)).tree false).1 := by
  simp [CxNote.tree, toComplex, cartesian?, polar?, J.asCx, Obj.find, Obj.put]

/-- The generic conversion of dump_load.py (`_complex_from_notation`) reads the three documented
notations as the same numbers (`abs ≥ 0` is what that function demands). -/
theorem C17_undictify_notations (T : Trig) (a b r p : Rat) (hr : ¬ r < 0) :
    undictifyValue T (CxNote.cart a b).tree = .ok (some (.cx ⟨a, b⟩)) ∧
    undictifyValue T (CxNote.polar r p).tree = .ok (some (.cx ((CxNote.polar r p).denote T))) ∧
    undictifyValue T (.obj [("abs", .num r), ("phase_deg", .num p)])
      = undictifyValue T (CxNote.polar r (T.deg2rad p)).tree := by
  refine ⟨?_, ?_, ?_⟩ <;>
    simp [CxNote.tree, CxNote.denote, undictifyValue, notationBySortedKeys, Obj.keysAre, Obj.has, Obj.find, pyComplex, J.asCx,
      absFactor, hr, cart_value, polar_value, notationBySortedKeys]

theorem Load.fields_keys (e : NetEntry) : ∀ k ∈ ["N1", "N2", "id", "name", "type"], k ∉ e.fields.map (·.1) := by
  -- kind by kind the list of keys is closed, whatever the values are
  rcases e with R | G | Z | Y | ⟨I, Y⟩ | I | ⟨I, _ | Y⟩ | ⟨V, Z⟩ | V | ⟨V, _ | Z⟩ | _ | _ <;>
    simp only [NetEntry.fields, optField, List.map_cons, List.map_nil]
  all_goals decide +kernel

theorem Load.entryToBranch_tree (T : Trig) (e : NetEntry) (id n1 n2 : String) :
    entryToBranch T (e.tree id n1 n2)
      = (dispatch T (.str n1) (.str n2) (.str e.kind) (e.fields ++ [("name", .str id)]), e.tree id n1 n2) := by
  have h := entryToBranchObj_eq T
    (("type", .str e.kind) :: ("id", .str id) :: ("N1", .str n1) :: ("N2", .str n2) :: e.fields)
    (.str n1) (.str n2) (.str id) (.str e.kind) rfl rfl rfl rfl
  rw [stripped_tree _ _ _ _ _ (fields_keys e)] at h
  simp only [entryToBranch, entryCopied, if_true, NetEntry.tree, pyDict, List.cons_append, List.nil_append, h]

theorem Load.dispatch_intended (T : Trig) (e : NetEntry) (id n1 n2 : String) :
    dispatch T (.str n1) (.str n2) (.str e.kind) (e.fields ++ [("name", .str id)])
      = .ok (e.intended T id n1 n2) := by
  -- kind by kind, the kind's row of the generated table is evaluated on the entry's own fields
  rcases e with R | G | Z | Y | ⟨I, Y⟩ | I | ⟨I, _ | Y⟩ | ⟨V, Z⟩ | V | ⟨V, _ | Z⟩ | _ | _ <;>
    simp [dispatch, NetEntry.kind, NetEntry.fields, optField, NetEntry.intended, networkBranchTranslators, applyLoader,
      elementFactories, evalCxArgs, Obj.read, Obj.find, Obj.del, Obj.put, C17_polar_cartesian, translateToComplex,
      callElemFactory, bindArgs, bindParams, dupKeys, Obj.has, Src.eval]

theorem Load.entryToBranch_faithful (T : Trig) (p : Placed) :
    entryToBranch T p.tree = (.ok (p.intended T), p.tree) := by
  rw [Placed.tree, Placed.intended, entryToBranch_tree, dispatch_intended]

theorem Load.intended_fields (T : Trig) (p : Placed) :
    (p.intended T).n1 = .str p.n1 ∧ (p.intended T).n2 = .str p.n2 ∧ (p.intended T).name = .str p.id := by
  obtain ⟨e, id, n1, n2⟩ := p; cases e <;> exact ⟨rfl, rfl, rfl⟩

theorem Load.loadEntries_faithful (T : Trig) (ps : List Placed) :
    loadEntries T (ps.map Placed.tree) = (.ok (ps.map (Placed.intended T)), ps.map Placed.tree) := by
  induction ps with
  | nil => simp [loadEntries]
  | cons p r ih => simp [loadEntries, entryToBranch_faithful T p, ih]

theorem Load.checkLoaded_valid (T : Trig) (ps : List Placed) (hv : ValidDescription ps) :
    checkLoaded (ps.map (Placed.intended T)) = .ok (ps.map (Placed.intended T)) := by
  obtain ⟨hg, hid⟩ := hv
  have hnames : (ps.map (Placed.intended T)).map (·.name) = ps.map (fun p => J.str p.id) := by
    simp [List.map_map, Function.comp_def, (intended_fields T _).2.2]
  have hlen : (dedupL ((ps.map (Placed.intended T)).map (·.name))).length = (ps.map (Placed.intended T)).length := by
    rw [hnames, hid, List.length_map]
  have hground : (!(ps.map (Placed.intended T)).isEmpty &&
      !((ps.map (Placed.intended T)).any fun b => b.n1 == J.str "0" || b.n2 == J.str "0")) = false := by
    rcases hg with rfl | ⟨p, hp, h0⟩
    · simp
    · have : ((ps.map (Placed.intended T)).any fun b => b.n1 == J.str "0" || b.n2 == J.str "0") = true := by
        simp only [List.any_map, List.any_eq_true]
        refine ⟨p, hp, ?_⟩
        simp only [Function.comp, (intended_fields T p).1, (intended_fields T p).2.1]
        rcases h0 with h | h <;> simp [h]
      simp [this]
  unfold checkLoaded
  simp only [hground, hlen]
  simp

/-- Every valid description — any number of entries, *every* documented kind
(`admittance` included), every identifier, terminals and value, complex values in either
notation — loads into exactly the intended branches, in order. -/
theorem C17_faithful (T : Trig) (ps : List Placed) (hv : ValidDescription ps) :
    (loadNetwork T (.arr (ps.map Placed.tree))).1 = .ok (ps.map (Placed.intended T)) := by
  simp [loadNetwork, loadSeq, loadEntries_faithful T ps, checkLoaded_valid T ps hv]

/-- non-vacuity: a description with a polar impedance, an admittance and a resistor -/
example : ValidDescription [⟨.impedance (.polar 2 (1/2)), "Z", "0", "1"⟩, ⟨.admittance (.cart 1 2), "Y1", "1", "0"⟩,
    ⟨.resistor (.num 5), "R1", "1", "0"⟩] := by
  refine ⟨Or.inr ⟨_, List.mem_cons_self .., Or.inl rfl⟩, by decide +kernel⟩

/-- `"K" : elm.f` / `lambda **kwargs: elm.f(P=to_complex(<read K>), …, **kwargs)` is a well-formed
entry when `f` is a factory whose first parameter is `name`, every explicit keyword and every
translated key is a parameter of `f`, and no explicit keyword is forwarded a second time
through `**kwargs` (a key equal to its parameter must be read with `pop`). -/
def Load.NetLoader.wellFormed (L : NetLoader) : Bool :=
  match elementFactories.find? (fun f => f.name == L.factory) with
  | none => false
  | some f =>
    (f.params.head?.map (·.1) == some "name") &&
    L.cxArgs.all (fun (p, k, how) => f.params.any (·.1 == p) && (how == .pop || p != k)) &&
    L.translateKeys.all (fun k => f.params.any (·.1 == k))

/-- Every documented kind has a loader and every loader is a documented kind (generated
table, checked by evaluation). -/
theorem C17_table_total :
    (documentedKinds.all fun k => networkBranchTranslators.any (·.kind == k)) = true ∧
    (networkBranchTranslators.all fun L => documentedKinds.contains L.kind) = true ∧
    (networkBranchTranslators.map (·.kind)).Nodup := by
  decide +kernel

/-- Every entry passes keyword names that match its factory and forwards none twice. -/
theorem C17_table_wellformed : ∀ L ∈ networkBranchTranslators, L.wellFormed = true := by
  decide +kernel

/-- The circuit table: documented kinds = table kinds, every kind is built by the
constructor of the same kind, which exists.  (A statement about *names*; that a constructor stores
exactly the given id, nodes and value is `C17_circuit_faithful` with `C19_stored_unaltered`.) -/
theorem C17_circuit_table_total :
    (documentedComponentKinds.all fun k => circuitComponentTranslators.any (·.1 == k)) = true ∧
    (circuitComponentTranslators.all fun p => documentedComponentKinds.contains p.1) = true ∧
    (circuitComponentTranslators.all fun p =>
      componentFactories.any fun f => f.name == p.2 && f.kind == p.1) = true := by
  decide +kernel

/-- No function or class of the loader modules carries a decorator the translator does not know,
and none is re-bound at module level: the callables *are* the bodies the model mirrors (a
`functools.lru_cache` on `load`, for instance, would make a second load of a rewritten file
return the old content — the file-level oracle of harness/props/c17.py then supplies the input). -/
theorem C17_no_decorated_loader : decoratedFunctions = [] := by decide +kernel

theorem Load.entryToBranch_post (T : Trig) (e : J) : (entryToBranch T e).2 = e := by
  simp only [entryToBranch, entryCopied, if_true]
  split <;> rfl

theorem Load.pair_of_snd {α β : Type} {x : α × β} {b : β} (h : x.2 = b) : x = (x.1, b) := by
  rw [← h]

theorem Load.loadEntries_post (T : Trig) (es : List J) : (loadEntries T es).2 = es := by
  induction es with
  | nil => rfl
  | cons e r ih =>
    unfold loadEntries
    rw [pair_of_snd (entryToBranch_post T e), pair_of_snd ih]
    cases (entryToBranch T e).1 <;> cases (loadEntries T r).1 <;> rfl

/-- Without or with the degree option `to_complex` leaves its argument alone — every value. -/
theorem C17_toComplex_pure (T : Trig) (z : J) (deg : Bool) : (toComplex T z deg).2 = z := by
  unfold toComplex
  cases z <;> simp
  -- only the degree branch with a numeric `phase` could write, and the generated flag `degreeInPlace` says that
  -- the scaling works on a copy
  split
  · rfl
  · split
    · split <;> simp [degreeInPlace]
    · rfl

/-- `load_network` leaves *every* argument as it was — valid or malformed, list,
dictionary or anything else — and so does `to_complex`. -/
theorem C17_pure : (∀ (T : Trig) (d : J), (loadNetwork T d).2 = d) ∧
    (∀ (T : Trig) (z : J) (deg : Bool), (toComplex T z deg).2 = z) := by
  refine ⟨?_, C17_toComplex_pure⟩
  intro T d
  cases d with
  | arr es =>
    simp only [loadNetwork, loadSeq]
    rw [Load.pair_of_snd (loadEntries_post T es)]
    cases (loadEntries T es).1 <;> rfl
  | _ => simp [loadNetwork]

/-- Loading the same object twice gives equal results. -/
theorem C17_idempotent (T : Trig) (d : J) :
    (loadNetwork T (loadNetwork T d).2).1 = (loadNetwork T d).1 := by
  rw [C17_pure.1 T d]

theorem Load.generateComponent_post (e : J) : (generateComponent e).2 = e := by
  cases e <;> simp [generateComponent, componentCopied]

theorem Load.genComponents_post (l : List J) : (genComponents l).2 = l := by
  induction l with
  | nil => rfl
  | cons e r ih =>
    unfold genComponents
    rw [pair_of_snd (generateComponent_post e), pair_of_snd ih]
    cases (generateComponent e).1 <;> cases (genComponents r).1 <;> rfl

/-- `generate_component` and `undictify_circuit` leave their argument as it was. -/
theorem C17_circuit_pure (c : J) : (generateComponent c).2 = c ∧ (undictifyCircuit c).2 = c := by
  refine ⟨Load.generateComponent_post c, ?_⟩
  cases c with
  | obj o =>
    unfold undictifyCircuit
    cases hf : Obj.find o "components" with
    | none => simp only [hf]
    | some v =>
      cases v with
      | arr l =>
        simp only [hf]
        rw [Load.pair_of_snd (genComponents_post l)]
        cases (genComponents l).1 <;> simp [Obj.put_same o "components" _ hf]
      | obj kv => simp only [hf]; cases kv <;> simp
      | str s => simp only [hf]; split <;> simp
      | null | bool b | num q | cx z => simp only [hf]
  | _ => simp [undictifyCircuit]

/-- …hence loading the same circuit description object twice gives equal results. -/
theorem C17_circuit_idempotent (c : J) :
    (undictifyCircuit (undictifyCircuit c).2).1 = (undictifyCircuit c).1 ∧
    (generateComponent (generateComponent c).2).1 = (generateComponent c).1 := by
  rw [(C17_circuit_pure c).1, (C17_circuit_pure c).2]; exact ⟨rfl, rfl⟩

theorem Load.undictifyValue_unlike (T : Trig) (o : Obj) (h : cxLike o = false) :
    undictifyValue T (.obj o) = .ok none := by
  simp only [cxLike, Bool.or_eq_false_iff] at h
  simp [undictifyValue, notationBySortedKeys, h.1.1, h.1.2, h.2]

/-- How the generated tables say the notations are recognised and written: by key *set* (a mapping
whose keys have different types — YAML `1: x`, `a: y` — is just a mapping), the three documented key
sets, and parts stored as plain floats (a `numpy.complex128` then survives every serialiser). -/
theorem C17_notation_shape :
    notationBySortedKeys = false ∧ dictifyPlainFloats = true ∧
    notationKeySets = [["real", "imag"], ["abs", "phase"], ["abs", "phase_deg"]] := by decide +kernel

mutual
theorem Load.roundtrip (T : Trig) : (t : J) → Unambiguous t = true → undictifyAll T (dictifyAll t) = .ok t
  | .cx z, _ => by
    cases z
    simp [dictifyAll, undictifyAll, undictifyAllO, undictifyValue, notationBySortedKeys, Obj.keysAre, Obj.has, Obj.find, pyComplex, J.asCx, cart_value]
  | .obj o, h => by
    simp only [Unambiguous, Bool.and_eq_true, Bool.not_eq_true'] at h
    simp [dictifyAll, undictifyAll, Load.roundtripO T o h.2, Load.undictifyValue_unlike T o h.1]
  | .arr l, h => by
    simp only [Unambiguous] at h
    simp [dictifyAll, undictifyAll, Load.roundtripL T l h]
  | .null, _ | .bool _, _ | .num _, _ | .str _, _ => by simp [dictifyAll, undictifyAll]
theorem Load.roundtripO (T : Trig) :
    (o : List (String × J)) → UnambiguousO o = true → undictifyAllO T (dictifyAllO o) = .ok o
  | [], _ => by simp [dictifyAllO, undictifyAllO]
  | (k, v) :: r, h => by
    simp only [UnambiguousO, Bool.and_eq_true] at h
    simp [dictifyAllO, undictifyAllO, Load.roundtrip T v h.1, Load.roundtripO T r h.2]
theorem Load.roundtripL (T : Trig) :
    (l : List J) → UnambiguousL l = true → undictifyAllL T (dictifyAllL l) = .ok l
  | [], _ => by simp [dictifyAllL, undictifyAllL]
  | a :: r, h => by
    simp only [UnambiguousL, Bool.and_eq_true] at h
    simp [dictifyAllL, undictifyAllL, Load.roundtrip T a h.1, Load.roundtripL T r h.2]
end

mutual
theorem Load.dictifyAll_plain : (t : J) → Plain (dictifyAll t) = true
  | .cx _ => by simp [dictifyAll, Plain, PlainO]
  | .obj o => by simp [dictifyAll, Plain, Load.dictifyAllO_plain o]
  | .arr l => by simp [dictifyAll, Plain, Load.dictifyAllL_plain l]
  | .null | .bool _ | .num _ | .str _ => by simp [dictifyAll, Plain]
theorem Load.dictifyAllO_plain : (o : List (String × J)) → PlainO (dictifyAllO o) = true
  | [] => by simp [dictifyAllO, PlainO]
  | (k, v) :: r => by simp [dictifyAllO, PlainO, Load.dictifyAll_plain v, Load.dictifyAllO_plain r]
theorem Load.dictifyAllL_plain : (l : List J) → PlainL (dictifyAllL l) = true
  | [] => by simp [dictifyAllL, PlainL]
  | a :: r => by simp [dictifyAllL, PlainL, Load.dictifyAll_plain a, Load.dictifyAllL_plain r]
end

/-- For every unambiguous tree — complex leaves anywhere, in dictionaries and
in lists, scalars in lists, any depth — `dictify_all_complex_values` yields a plain tree (which a
serialiser can carry) and `undictify_all_complex_values` recovers the tree exactly. -/
theorem C17_roundtrip (T : Trig) (t : J) (h : Unambiguous t = true) :
    Plain (dictifyAll t) = true ∧ undictifyAll T (dictifyAll t) = .ok t :=
  ⟨Load.dictifyAll_plain t, Load.roundtrip T t h⟩

/-- A mapping with keys of different types and no complex notation passes through the conversion
unchanged (`sorted` would raise `TypeError` on them; the generated `notationBySortedKeys` says the code does not
sort) — instance of `C17_roundtrip` for the harness' encoding of the keys `1` and `'a'`. -/
theorem C17_mixed_keys (T : Trig) (x y : J) (hx : Unambiguous x = true) (hy : Unambiguous y = true) :
    undictifyAll T (dictifyAll (.obj [("\u0001n:1", x), ("a", y)])) = .ok (.obj [("\u0001n:1", x), ("a", y)]) := by
  apply (C17_roundtrip T _ _).2
  simp [Unambiguous, UnambiguousO, cxLike, Obj.keysAre, Obj.has, Obj.find, hx, hy]

/-- a (de)serialiser pair is lossless on plain trees *for the library pairs the two tables put
together* (`json.dumps`/`json.loads`, `yaml.dump`/`yaml.safe_load`): this is the recorded
assumption about json / yaml, nothing is assumed about mismatched libraries -/
def LosslessCodec (dumps : String → J → Except Err String) (loads : String → String → Except Err J) : Prop :=
  ∀ (fmt ld ll : String), (fmt, ld) ∈ serializers → (fmt, ll) ∈ deserializers →
    ∀ (t : J) (s : String), Plain t = true → dumps ld t = .ok s → loads ll s = .ok t

theorem Load.roundtrip_codec_of_find (T : Trig) (dumps : String → J → Except Err String)
    (loads : String → String → Except Err J) (hcodec : LosslessCodec dumps loads)
    (t : J) (hu : Unambiguous t = true) (fmt s ld ll : String)
    (h1 : serializers.find? (fun p => p.1 == fmt) = some (fmt, ld))
    (h2 : deserializers.find? (fun p => p.1 == fmt) = some (fmt, ll))
    (hs : serialize dumps t fmt = .ok s) : deserialize loads T s fmt = .ok t := by
  simp only [serialize, h1] at hs
  have hl := hcodec fmt ld ll (List.mem_of_find?_eq_some h1) (List.mem_of_find?_eq_some h2) _ _
    (Load.dictifyAll_plain t) hs
  simp only [deserialize, h2, hl, Load.roundtrip T t hu]

/-- …and through `serialize` / `deserialize`, for every format of the table and every
(de)serialiser that is lossless on plain trees.  The hypothesis is an assumption about the
libraries (json, yaml are outside Lean); that it is satisfiable at all is shown by the
`example` below, the unconditional part of the clause is `C17_roundtrip`. -/
theorem C17_roundtrip_codec (T : Trig) (dumps : String → J → Except Err String)
    (loads : String → String → Except Err J) (hcodec : LosslessCodec dumps loads)
    (t : J) (hu : Unambiguous t = true) (fmt s : String)
    (hfmt : fmt = "json" ∨ fmt = "yaml" ∨ fmt = "yml")
    (hs : serialize dumps t fmt = .ok s) :
    deserialize loads T s fmt = .ok t := by
  rcases hfmt with rfl | rfl | rfl
  · exact Load.roundtrip_codec_of_find T dumps loads hcodec t hu _ s _ _ rfl rfl hs
  · exact Load.roundtrip_codec_of_find T dumps loads hcodec t hu _ s _ _ rfl rfl hs
  · exact Load.roundtrip_codec_of_find T dumps loads hcodec t hu _ s _ _ rfl rfl hs

/-- satisfiability witness for `LosslessCodec` (non-vacuous: it serialises one document): a toy
codec that knows a single plain tree.  Real codecs are json / yaml — outside Lean, checked per
case by the round-trip oracle of the harness. -/
example : ∃ (dumps : String → J → Except Err String) (loads : String → String → Except Err J),
    LosslessCodec dumps loads ∧ dumps "json.dumps" (.obj [("a", .num 1)]) = .ok "doc" := by
  refine ⟨fun _ t => if t = .obj [("a", .num 1)] then .ok "doc" else .error .typeError,
          fun _ s => if s = "doc" then .ok (.obj [("a", .num 1)]) else .error .valueError, ?_, by simp⟩
  intro fmt ld ll _ _ t s _ hd
  by_cases ht : t = .obj [("a", .num 1)]
  · simp only [ht, if_true, Except.ok.injEq] at hd
    simp [← hd, ht]
  · simp [ht] at hd

/-- non-vacuity: complex leaves in a dictionary and in a list, a list of scalars, nesting -/
example : Unambiguous (.obj [("a", .cx ⟨1, 2⟩), ("nodes", .arr [.str "0", .str "1"]),
    ("l", .arr [.cx ⟨0, 1⟩, .obj [("b", .cx ⟨3, 4⟩)]]), ("d", .obj [("real", .num 2)])]) = true := by
  simp [Unambiguous, UnambiguousO, UnambiguousL, cxLike, Obj.keysAre, Obj.has, Obj.find]

/-- The inputs of the findings fixed by 2481879: a complex leaf is converted before serialisation … -/
theorem C17_dictify_converts (z : GQ) (k : String) :
    dictifyAll (.obj [(k, .cx z)]) = .obj [(k, .obj [("real", .num z.re), ("imag", .num z.im)])] := by
  simp [dictifyAll, dictifyAllO]

/-- … and a list of scalars passes through the inverse conversion untouched. -/
theorem C17_undictify_scalar_list (T : Trig) :
    undictifyAll T (.obj [("nodes", .arr [.str "0", .str "1"])]) = .ok (.obj [("nodes", .arr [.str "0", .str "1"])]) := by
  simp [undictifyAll, undictifyAllO, undictifyAllL, undictifyValue, notationBySortedKeys, Obj.keysAre, Obj.has, Obj.find]

theorem Load.undictifyAll_note (T : Trig) (n : CxNote) (hn : ∀ r p, n = .polar r p → ¬ r < 0) :
    undictifyAll T n.tree = .ok (.cx (n.denote T)) := by
  cases n with
  | cart a b =>
    have h := (C17_undictify_notations T a b 0 0 (by simp)).1
    simp only [CxNote.tree] at h
    simp [CxNote.tree, undictifyAll, undictifyAllO, h, CxNote.denote]
  | polar r p =>
    have h := (C17_undictify_notations T 0 0 r p (hn r p rfl)).2.1
    simp only [CxNote.tree] at h
    simp [CxNote.tree, undictifyAll, undictifyAllO, h]

/-- A circuit *file* may carry a complex value in either notation: the conversion turns the
notation into the number, and `ccp.impedance` then stores its real and imaginary part. -/
theorem C17_circuit_complex (T : Trig) (n : CxNote) (hn : ∀ r p, n = .polar r p → ¬ r < 0) :
    (match undictifyAll T (.obj [("components", .arr [.obj [("type", .str "impedance"), ("id", .str "Z1"),
          ("nodes", .arr [.str "0", .str "1"]), ("value", .obj [("Z", n.tree)])]])]) with
     | .ok t => (undictifyCircuit t).1
     | .error e => .error e)
    = .ok { components := [{ ty := "impedance", id := .str "Z1", nodes := .arr [.str "0", .str "1"],
                             value := [("R", .num (n.denote T).re), ("X", .num (n.denote T).im)] }],
            ground := .str "0" } := by
  -- the conversion leaves the tree as it is, except that the notation becomes the number it denotes …
  simp only [undictifyAll, undictifyAllO, undictifyAllL, Load.undictifyAll_note T n hn]
  simp only [undictifyValue, notationBySortedKeys, Obj.keysAre, Obj.has, Obj.find]
  -- … and the circuit loader reads the four fields and calls `ccp.impedance`, which stores `Z.real`, `Z.imag`
  simp [undictifyCircuit, genComponents, generateComponent, generateComponentObj, compRead, componentReads,
    componentCopied, Obj.read, Obj.find, Obj.del, circuitComponentTranslators, componentFactories, callCompFactory,
    bindArgs, bindParams, dupKeys, Obj.has, runGuards, buildValue, VSrc.eval, mkCircuit, firstNode, dedupL]
  rfl

end CC
