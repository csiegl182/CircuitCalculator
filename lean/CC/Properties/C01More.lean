/-
  Property C01 — the self-loop witness.

  `node_matrix_element(i, i)` skips a branch from `i` to `i` (it is electrically inert) and the source incidence
  entries accumulate; the general theorems without the hypothesis `WF.no_self_loop` are in
  CC/Properties/C01SelfLoop.lean.  Here the smallest instance is worked out over ℚ for the network of the
  harness corpus

      I(1,0) = 1 A (ideal current source),  R(1,0) = 2 Ω,  S(1,1) = 2 Ω,   reference node 0

  Matrix and right-hand side of this network are evaluated by the kernel once the label sort is rewritten to
  insertion sort (`sortL_string`):  A = [[1/2]], b = [-1].
-/
import CC.Properties.C01

namespace CC

def exampleSelfLoop : Net String ℚ :=
  { zero := "0",
    branches := [
      { n1 := "1", n2 := "0", id := "I", e := .thevenin 0 1 },
      { n1 := "1", n2 := "0", id := "R", e := .norton 2 0 },
      { n1 := "1", n2 := "1", id := "S", e := .norton 2 0 } ] }

theorem exampleSelfLoop_nodeLabels : exampleSelfLoop.nodeLabels = ["0", "1"] := by
  rw [Net.nodeLabels, sortL_string]; decide +kernel

theorem exampleSelfLoop_mnaA : exampleSelfLoop.mnaA = [[1/2]] := by
  simp only [Net.mnaA, Net.nodes, Net.nodeLabels, sortL_string]; decide +kernel

theorem exampleSelfLoop_mnaB : exampleSelfLoop.mnaB = [-1] := by
  simp only [Net.mnaB, Net.nodes, Net.nodeLabels, sortL_string]; decide +kernel

theorem exampleSelfLoop_solution (x : List ℚ)
    (hx : x.length = exampleSelfLoop.nodes.length + exampleSelfLoop.vsIds.length)
    (h : matVec exampleSelfLoop.mnaA x = exampleSelfLoop.mnaB) : x = [-2] := by
  have hn : exampleSelfLoop.nodes.length + exampleSelfLoop.vsIds.length = 1 := by
    simp only [Net.nodes, Net.nodeLabels, sortL_string]; decide +kernel
  rw [hn] at hx
  rw [exampleSelfLoop_mnaA, exampleSelfLoop_mnaB] at h
  match x, hx with
  | [a], _ =>
    simp [matVec, dotL] at h
    have : a = -2 := by linear_combination 2 * h
    rw [this]

theorem exampleSelfLoop_pot : (exampleSelfLoop.reportOf [-2]).pot "1" = -2 := by
  simp only [reportOf_pot, Net.pot, Net.solOf, Net.nodes, Net.nodeLabels, sortL_string]; decide +kernel

/-- the exact solution of the circuit equations of the same network: `φ₁ = −2` (the self-loop is inert) -/
def exampleSelfLoopReport : Report String ℚ :=
  { pot := fun n => if n = "1" then -2 else 0
    v := fun id => if id = "S" then 0 else -2
    i := fun id => if id = "I" then 1 else if id = "R" then -1 else 0 }

theorem exampleSelfLoopReport_solves : CircuitEqs exampleSelfLoop exampleSelfLoopReport := by decide +kernel

/-- **C01 (self-loop witness).**  The concrete network on which the code before the self-loop repair
reported φ₁ = −1: the library accepts it, and the modelled code (`Net.mnaA`, `Net.mnaB`, accessors)
reports the solution of the circuit.
About the code: the statement is about the hand-written model `CC/Model/{Net,MNA}.lean` (tied to
node_analysis.py by the `C01_gen_*` theorems and the `mna` correspondence; the harness runs the real
code on this very network on every run and judges it by the Spec oracle). -/
theorem C01_self_loop_witness :
    -- accepted by `Network.__post_init__`, distinct identifiers
    exampleSelfLoop.check = .ok () ∧
    -- the circuit equations have a solution (potential −2 at node 1) …
    CircuitEqs exampleSelfLoop exampleSelfLoopReport ∧
    -- … the matrix equation the code builds has exactly the solution `[-2]` …
    (∀ x : List ℚ, x.length = exampleSelfLoop.nodes.length + exampleSelfLoop.vsIds.length →
      (matVec exampleSelfLoop.mnaA x = exampleSelfLoop.mnaB ↔ x = [-2])) ∧
    -- … what the accessors report from it is that solution of the circuit (the self-loop is inert) …
    (∀ x : List ℚ, x.length = exampleSelfLoop.nodes.length + exampleSelfLoop.vsIds.length →
      matVec exampleSelfLoop.mnaA x = exampleSelfLoop.mnaB →
      (exampleSelfLoop.reportOf x).pot "1" = -2 ∧
      kclResidual exampleSelfLoop (exampleSelfLoop.reportOf x) "1" = 0 ∧
      CircuitEqs exampleSelfLoop (exampleSelfLoop.reportOf x)) ∧
    -- … and the exact solution satisfies the matrix equation (nothing is lost)
    matVec exampleSelfLoop.mnaA (exampleSelfLoop.pack exampleSelfLoopReport.toSol) = exampleSelfLoop.mnaB := by
  have hchk : exampleSelfLoop.zero ∈ exampleSelfLoop.nodeLabels ∧ exampleSelfLoop.ids.Nodup := by
    rw [exampleSelfLoop_nodeLabels]
    exact ⟨by decide, by decide⟩
  refine ⟨?_, exampleSelfLoopReport_solves, ?_, ?_, ?_⟩
  · rw [Net.check_ok_iff]; exact hchk
  · intro x hx
    refine ⟨exampleSelfLoop_solution x hx, ?_⟩
    rintro rfl
    rw [exampleSelfLoop_mnaA, exampleSelfLoop_mnaB]
    simp [matVec, dotL]
  · intro x hx h
    have hs := (sound_all exampleSelfLoop x hchk.2 hchk.1 hx h).2.2
    obtain rfl := exampleSelfLoop_solution x hx h
    exact ⟨exampleSelfLoop_pot, hs.kcl "1" (by decide +kernel), hs⟩
  · simp only [Net.pack, Net.mnaA, Net.mnaB, Net.nodes, Net.nodeLabels, sortL_string]; decide +kernel

/-- the only hypothesis of `Net.WF` the example fails is `no_self_loop` -/
example : exampleSelfLoop.ids.Nodup ∧ exampleSelfLoop.zero ∈ exampleSelfLoop.nodeLabels ∧
    ¬ ∀ b ∈ exampleSelfLoop.branches, b.n1 ≠ b.n2 := by
  refine ⟨by decide, by rw [exampleSelfLoop_nodeLabels]; decide, ?_⟩
  intro h
  exact h { n1 := "1", n2 := "1", id := "S", e := .norton 2 0 } (by decide +kernel) rfl

end CC
