/-
  Property C16 — network simplifications are electrical identities.

  Model: CC/Model/Transform.lean (mirrors Network/transformers.py literally).
  Every theorem: any network, any exemption list, any field; no bound on the number of
  shorts / opens nor on how they are arranged.
  The theorems say: every solution of the original circuit equations is a solution of the
  simplified network's circuit equations (same report: same potentials on surviving
  nodes, same voltage and current on surviving branches).  Together with uniqueness
  (C01_unique) for a well-posed result, the simplified network's solution *is* the
  original's on everything that survives.
-/
import CC.Proofs.Contract
import CC.Properties.C01
set_option linter.unusedSectionVars false

namespace CC
variable {L K : Type} [DecidableEq L] [LabelOrd L] [Field K] [DecidableEq K]

/-- `Network(bs, z)` succeeds iff `__post_init__` accepts, and then returns exactly `⟨bs, z⟩` -/
theorem mk?_eq_ok_iff (bs : List (Branch L K)) (z : L) (N' : Net L K) :
    Net.mk? bs z = .ok N' ↔ N' = ⟨bs, z⟩ ∧ z ∈ (⟨bs, z⟩ : Net L K).nodeLabels ∧ (bs.map (·.id)).Nodup := by
  refine Iff.trans ?_ (and_congr_right' (Net.check_ok_iff (⟨bs, z⟩ : Net L K)))
  unfold Net.mk?
  cases h : (⟨bs, z⟩ : Net L K).check with
  | ok u => simp [h, eq_comm]
  | error e => simp [h]

theorem mk?_ok {bs : List (Branch L K)} {z : L} {N' : Net L K} (h : Net.mk? bs z = .ok N') : N' = ⟨bs, z⟩ :=
  ((mk?_eq_ok_iff bs z N').mp h).1

theorem mk?_ids_nodup {bs : List (Branch L K)} {z : L} {N' : Net L K} (h : Net.mk? bs z = .ok N') :
    N'.ids.Nodup :=
  mk?_ok h ▸ ((mk?_eq_ok_iff bs z N').mp h).2.2

theorem mk?_self_of_ok {bs : List (Branch L K)} {z : L} {N' : Net L K} (h : Net.mk? bs z = .ok N') :
    Net.mk? N'.branches N'.zero = .ok N' :=
  mk?_ok h ▸ h

/-- **C16 (short contraction).**  For any number of short-circuit branches, however they
are chained, starred, paralleled or attached to the reference node, and whatever the
exemption list: every solution of the original network solves the contracted network, and
every surviving branch keeps its identifier, type, record and orientation, its terminals
moving only between nodes that were at the same potential. -/
theorem C16_short (N N' : Net L K) (keep : List (ElemKey K)) (R : Report L K)
    (hr : removeShort N keep = .ok N') (h : CircuitEqs N R) :
    CircuitEqs N' R ∧ N'.zero = N.zero ∧
    ∀ b' ∈ N'.branches, ∃ b ∈ N.branches, b'.id = b.id ∧ b'.ty = b.ty ∧ b'.e = b.e ∧
      R.pot b'.n1 = R.pot b.n1 ∧ R.pot b'.n2 = R.pot b.n2 := by
  have hN' := mk?_ok hr
  have heq := shortPairs_equipotential N keep R h
  subst hN'
  refine ⟨?_, rfl, contractAll_survivors _ _ _ R heq⟩
  rw [← circuitEqsAll_iff]
  exact contractAll_sound _ _ _ R ((circuitEqsAll_iff N R).mpr h) heq

/-- the contracted network never contains a branch the original did not have -/
theorem C16_short_no_new_branch (N N' : Net L K) (keep : List (ElemKey K))
    (hr : removeShort N keep = .ok N') : ∀ b' ∈ N'.branches, b'.id ∈ N.ids := by
  intro b' hb'
  have hN' := mk?_ok hr
  subst hN'
  obtain ⟨b, hb, rfl⟩ := mem_contractAll hb'
  exact List.mem_map.mpr ⟨b, hb, rfl⟩

/-- **C16 (short contraction is complete).**  Whatever the network (any number of shorts, chained,
starred, parallel, on the reference node, ids distinct or not) and whatever the exemption list: no
branch of the result is a short circuit that is not exempted — every non-exempt short of the input
was contracted, i.e. became a self-loop and was dropped.  In particular no non-exempt short is
left between two different nodes (`C16_short_complete_nodes`). -/
theorem C16_short_complete (N N' : Net L K) (keep : List (ElemKey K))
    (hr : removeShort N keep = .ok N') :
    ∀ b' ∈ N'.branches, b'.e.isShort = true → keep.contains b'.key = true := by
  have hN' := mk?_ok hr
  subst hN'
  intro b' hb' hs
  have := contractAll_complete (L := L) (fun k : ElemKey K => k.e.isShort = true ∧ keep.contains k = false)
    (shortPairs N keep) N.branches N.zero ?_ b' hb'
  · cases hk : keep.contains b'.key with
    | true => rfl
    | false => exact absurd ⟨hs, hk⟩ this
  exact fun b hb ⟨hsb, hkb⟩ => mem_shortPairs_of_short hb hsb hkb

/-- the form in which the harness checks it (`short_left_behind`): no branch of the result is a non-exempt
short circuit between two different nodes (the harness states it for distinct ids; the hypothesis is not used) -/
theorem C16_short_complete_nodes (N N' : Net L K) (keep : List (ElemKey K))
    (hr : removeShort N keep = .ok N') (_hid : N.ids.Nodup) :
    ∀ b' ∈ N'.branches, ¬ (b'.e.isShort = true ∧ keep.contains b'.key = false ∧ b'.n1 ≠ b'.n2) := by
  rintro b' hb' ⟨hs, hk, _⟩
  rw [C16_short_complete N N' keep hr b' hb' hs] at hk
  cases hk

/-- dropping open-circuit branches keeps every solution (list level: the branch list is the image of an
index list, of which the indices failing `q` — all of them open circuits — are dropped) -/
theorem circuitEqsAll_filter_open {α : Type} (l : List α) (g : α → Branch L K) (q : α → Bool)
    (hq : ∀ x ∈ l, q x = false → (g x).e.isOpen = true) (z : L) (R : Report L K)
    (h : CircuitEqsAll (l.map g) z R) : CircuitEqsAll ((l.filter q).map g) z R :=
  (h.eqsInj.filter_open q hq).circuitEqsAll

/-- **C16 (open removal).**  Removing open-circuit branches keeps every other branch as it
is (same order) and every solution of the original solves the result. -/
theorem C16_open (N N' : Net L K) (R : Report L K)
    (hr : removeOpen N = .ok N') (h : CircuitEqs N R) :
    CircuitEqs N' R ∧ N'.zero = N.zero ∧
      N'.branches = N.branches.filter (fun b => !b.e.isOpen) := by
  have hN' := mk?_ok hr
  subst hN'
  refine ⟨?_, rfl, rfl⟩
  rw [← circuitEqsAll_iff]
  have hA : CircuitEqsAll (N.branches.map id) N.zero R := by
    rw [List.map_id]; exact (circuitEqsAll_iff N R).mpr h
  have := circuitEqsAll_filter_open N.branches id (fun b => !b.e.isOpen)
    (fun b _ hb => by simpa using hb) N.zero R hA
  rwa [List.map_id] at this

/-- **C16 / C03 (re-referencing).**  Choosing another reference node shifts all potentials
by one common constant and changes nothing else. -/
theorem C16_switch_ground (N N' : Net L K) (g : L) (R : Report L K)
    (hr : switchGround N g = .ok N') (h : CircuitEqs N R) :
    CircuitEqs N' (R.shift (R.pot g)) ∧ N'.branches = N.branches ∧ N'.zero = g := by
  have hN' := mk?_ok hr
  subst hN'
  exact ⟨h.reref rfl, rfl, rfl⟩

/-- **C16 (element removal)** changes only what it names. -/
theorem C16_remove_element (N N' : Net L K) (id : String) (hr : removeElement N id = .ok N') :
    ∃ b, N.get? id = some b ∧ N'.branches = removeFirst b N.branches ∧ N'.zero = N.zero := by
  unfold removeElement at hr
  cases hg : N.get? id with
  | none => rw [hg] at hr; cases hr
  | some b =>
    rw [hg] at hr
    have := mk?_ok hr
    subst this
    exact ⟨b, rfl, rfl, rfl⟩

/-- what a source-zeroing comprehension `[f(b) if b.element not in keep and sel(b) else b for b in …]` does,
branch by branch, when `f` keeps terminals and identifier -/
theorem zeroing_map_spec (keep : List (ElemKey K)) (sel : Branch L K → Bool) (f : Branch L K → Branch L K)
    (hf : ∀ b, (f b).n1 = b.n1 ∧ (f b).n2 = b.n2 ∧ (f b).id = b.id) (bs : List (Branch L K)) :
    ∀ p ∈ bs.zip (bs.map fun b => if !(keep.contains b.key) && sel b then f b else b),
      p.2.n1 = p.1.n1 ∧ p.2.n2 = p.1.n2 ∧ p.2.id = p.1.id ∧
      (p.1.key ∈ keep → p.2 = p.1) ∧ (sel p.1 = false → p.2 = p.1) ∧
      (p.1.key ∉ keep → sel p.1 = true → p.2 = f p.1) := by
  rintro ⟨b, b'⟩ hp
  have hp2 : b' = if (!(keep.contains b.key) && sel b) = true then f b else b := mem_zip_map_self _ _ _ hp
  by_cases hc : (!(keep.contains b.key) && sel b) = true
  · rw [if_pos hc] at hp2
    subst hp2
    obtain ⟨hk, hs⟩ := (Bool.and_eq_true _ _).mp hc
    have hk' : b.key ∉ keep := fun hm => by rw [List.contains_iff_mem.mpr hm] at hk; cases hk
    exact ⟨(hf b).1, (hf b).2.1, (hf b).2.2, fun hm => absurd hm hk', fun h0 => absurd (hs.symm.trans h0) Bool.noConfusion,
      fun _ _ => rfl⟩
  · rw [if_neg hc] at hp2
    rw [hp2]
    refine ⟨rfl, rfl, rfl, fun _ => rfl, fun _ => rfl, fun hk hs => absurd ?_ hc⟩
    rw [show sel b = true from hs, Bool.and_true, Bool.not_eq_true', ← Bool.not_eq_true, List.contains_iff_mem]
    exact hk

/-- **C16 / C04 (source zeroing, voltage side).**  Same identifiers, terminals and order;
exempted elements and non-sources untouched; a zeroed voltage source keeps its impedance. -/
theorem C16_zero_voltage_spec (N N' : Net L K) (keep : List (ElemKey K))
    (hr : shortCircuitifyVS N keep = .ok N') :
    N'.zero = N.zero ∧ N'.branches.length = N.branches.length ∧
    ∀ p ∈ N.branches.zip N'.branches,
      p.2.n1 = p.1.n1 ∧ p.2.n2 = p.1.n2 ∧ p.2.id = p.1.id ∧
      (p.1.key ∈ keep → p.2 = p.1) ∧ (p.1.e.isVSrc = false → p.2 = p.1) ∧
      (p.1.key ∉ keep → p.1.e.isVSrc = true → p.2.e = .norton p.1.e.Zfin 0) := by
  have := mk?_ok hr
  subst this
  refine ⟨rfl, List.length_map _, fun p hp => ?_⟩
  obtain ⟨h1, h2, h3, h4, h5, h6⟩ := zeroing_map_spec keep (fun b => b.e.isVSrc) zeroInVoltage
    (fun _ => ⟨rfl, rfl, rfl⟩) N.branches p hp
  exact ⟨h1, h2, h3, h4, h5, fun hk hv => by rw [h6 hk hv]; rfl⟩

/-- **C16 / C04 (source zeroing, current side).** -/
theorem C16_zero_current_spec (N N' : Net L K) (keep : List (ElemKey K))
    (hr : openCircuitifyCS N keep = .ok N') :
    N'.zero = N.zero ∧ N'.branches.length = N.branches.length ∧
    ∀ p ∈ N.branches.zip N'.branches,
      p.2.n1 = p.1.n1 ∧ p.2.n2 = p.1.n2 ∧ p.2.id = p.1.id ∧
      (p.1.key ∈ keep → p.2 = p.1) ∧ (p.1.e.isCS = false → p.2 = p.1) ∧
      (p.1.key ∉ keep → p.1.e.isCS = true → p.2.e = .thevenin p.1.e.Yfin 0) := by
  have := mk?_ok hr
  subst this
  refine ⟨rfl, List.length_map _, fun p hp => ?_⟩
  obtain ⟨h1, h2, h3, h4, h5, h6⟩ := zeroing_map_spec keep (fun b => b.e.isCS) zeroInCurrent
    (fun _ => ⟨rfl, rfl, rfl⟩) N.branches p hp
  exact ⟨h1, h2, h3, h4, h5, fun hk hv => by rw [h6 hk hv]; rfl⟩

/-- **C16 (reported values, short contraction).**  Whatever vectors satisfy the matrix
equations of the original and of the contracted network (the latter well-posed), the
solver reports for the contracted network exactly what it reported for the original, on
every surviving node and branch. -/
theorem C16_reported_short (N N' : Net L K) (keep : List (ElemKey K))
    (hr : removeShort N keep = .ok N') (wf : N.WF) (wf' : N'.WF) (hw' : WellPosed N')
    (x x' : List K) (hx : x.length = N.nodes.length + N.vsIds.length)
    (hx' : x'.length = N'.nodes.length + N'.vsIds.length)
    (h : matVec N.mnaA x = N.mnaB) (h' : matVec N'.mnaA x' = N'.mnaB) :
    (N'.reportOf x').AgreeOn N' (N.reportOf x) :=
  C01_reported_is_the_solution N' wf' hw' x' hx' h' _
    (C16_short N N' keep _ hr (C01_sound N x wf hx h).2.2).1

/-- **C16 (reported values, open removal).** -/
theorem C16_reported_open (N N' : Net L K) (hr : removeOpen N = .ok N') (wf : N.WF) (wf' : N'.WF)
    (hw' : WellPosed N') (x x' : List K) (hx : x.length = N.nodes.length + N.vsIds.length)
    (hx' : x'.length = N'.nodes.length + N'.vsIds.length)
    (h : matVec N.mnaA x = N.mnaB) (h' : matVec N'.mnaA x' = N'.mnaB) :
    (N'.reportOf x').AgreeOn N' (N.reportOf x) :=
  C01_reported_is_the_solution N' wf' hw' x' hx' h' _
    (C16_open N N' _ hr (C01_sound N x wf hx h).2.2).1

end CC
