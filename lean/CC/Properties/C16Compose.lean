/-
  C16 — what the other functions of Network/transformers.py return, exactly: which branches survive
  and what changes.  All statements are about the model functions of CC/Model/Transform.lean (tied to
  the Python source by `C16_gen_*`), for every network / exemption list / field.

  "The input network is never modified" has no counterpart here and needs none: the model functions are
  pure (they take values and return values; there is no state to modify).  That the Python functions do
  not mutate their arguments is not a statement about the model; it is judged by the oracle of
  harness/props/c16.py (`input_modified`) and by C20.
-/
import CC.Properties.C16Survive
import CC.Proofs.ExceptLemmas
set_option linter.unusedSectionVars false

namespace CC
variable {L K : Type} [DecidableEq L] [LabelOrd L] [Field K] [DecidableEq K]

/-- **C16 (open removal, shape).**  Equation between returned values, exceptions included. -/
theorem C16_open_shape (N : Net L K) :
    removeOpen N = Net.mk? (N.branches.filter fun b => !b.e.isOpen) N.zero := rfl

/-- **C16 (open removal, survivors).**  The result has the same reference label and exactly the
branches of the input that are not open circuits, unchanged and in the same order (no hypothesis on the
network being solvable, unlike `C16_open`). -/
theorem C16_open_branches (N N' : Net L K) (hr : removeOpen N = .ok N') :
    N'.zero = N.zero ∧ N'.branches = N.branches.filter fun b => !b.e.isOpen := by
  have := mk?_ok hr; subst this; exact ⟨rfl, rfl⟩

theorem C16_open_survivors_iff (N N' : Net L K) (hr : removeOpen N = .ok N') (b : Branch L K) :
    b ∈ N'.branches ↔ b ∈ N.branches ∧ b.e.isOpen = false := by
  rw [(C16_open_branches N N' hr).2, List.mem_filter]; simp

/-- **C16 (re-referencing, shape).** -/
theorem C16_switch_ground_shape (N : Net L K) (g : L) : switchGround N g = Net.mk? N.branches g := rfl

/-- **C16 (re-referencing changes the reference label only).**  Branch list identical, reference = `g`. -/
theorem C16_switch_ground_branches (N N' : Net L K) (g : L) (hr : switchGround N g = .ok N') :
    N'.branches = N.branches ∧ N'.zero = g := by
  have := mk?_ok hr; subst this; exact ⟨rfl, rfl⟩

/-- it succeeds exactly when `g` is a node label of the network (or, for an empty network, anything:
`node_labels` of an empty network is the reference label itself) and the identifiers are distinct -/
theorem C16_switch_ground_ok_iff (N : Net L K) (g : L) :
    switchGround N g = .ok ⟨N.branches, g⟩ ↔
      (N.branches = [] ∨ ∃ b ∈ N.branches, b.n1 = g ∨ b.n2 = g) ∧ N.ids.Nodup := by
  unfold switchGround
  rw [mk?_eq_ok_iff, mem_nodeLabels]
  constructor
  · rintro ⟨_, h1, h2⟩
    refine ⟨?_, h2⟩
    rcases h1 with ⟨h, _⟩ | h
    · exact Or.inl h
    · exact Or.inr h
  · rintro ⟨h1, h2⟩
    refine ⟨rfl, ?_, h2⟩
    rcases h1 with h | h
    · exact Or.inl ⟨h, rfl⟩
    · exact Or.inr h

/-- **C16 (element removal, shape).**  `KeyError` iff no branch carries the identifier; otherwise the
first branch equal to `network[id]` (the last branch with that identifier) is removed and the
`Network` constructor is applied. -/
theorem C16_remove_element_shape (N : Net L K) (id : String) :
    removeElement N id = match N.get? id with
      | none => .error .keyError
      | some b => Net.mk? (removeFirst b N.branches) N.zero := rfl

theorem removeFirst_eq_filter (l : List (Branch L K)) (hid : (l.map (·.id)).Nodup) (b : Branch L K)
    (hb : b ∈ l) : removeFirst b l = l.filter fun c => decide (c.id ≠ b.id) := by
  induction l with
  | nil => cases hb
  | cons a l ih =>
    rw [List.map_cons, List.nodup_cons] at hid
    have hall : ∀ c ∈ l, c.id ≠ a.id := fun c hc he => hid.1 (he ▸ List.mem_map.mpr ⟨c, hc, rfl⟩)
    unfold removeFirst
    by_cases hab : a = b
    · subst hab
      rw [if_pos rfl, List.filter_cons_of_neg (by simp), List.filter_eq_self.mpr fun c hc => by simpa using hall c hc]
    · have hbl := (List.mem_cons.mp hb).resolve_left (Ne.symm hab)
      rw [if_neg hab, List.filter_cons_of_pos (by simpa using (hall b hbl).symm), ih hid.2 hbl]

/-- **C16 (element removal changes only what it names).**  For a network with distinct identifiers:
the result has the same reference label and exactly the branches whose identifier is not `id`,
unchanged and in the same order; and `id` was an identifier of the network. -/
theorem C16_remove_element_filter (N N' : Net L K) (id : String) (hid : N.ids.Nodup)
    (hr : removeElement N id = .ok N') :
    id ∈ N.ids ∧ N'.zero = N.zero ∧ N'.branches = N.branches.filter fun c => decide (c.id ≠ id) := by
  obtain ⟨b, hg, hb, hz⟩ := C16_remove_element N N' id hr
  obtain ⟨hbm, hbid⟩ := get?_some_mem N hg
  refine ⟨hbid ▸ List.mem_map.mpr ⟨b, hbm, rfl⟩, hz, ?_⟩
  rw [hb, removeFirst_eq_filter N.branches hid b hbm, hbid]

/-- an identifier that no branch carries: `KeyError` -/
theorem C16_remove_element_missing (N : Net L K) (id : String) (h : id ∉ N.ids) :
    removeElement N id = .error .keyError := by
  unfold removeElement
  cases hg : N.get? id with
  | none => rfl
  | some b =>
    obtain ⟨hbm, hbid⟩ := get?_some_mem N hg
    exact absurd (hbid ▸ List.mem_map.mpr ⟨b, hbm, rfl⟩) h

/-- what `open_circuitify_current_sources` does to one branch -/
def zeroCS (keep : List (ElemKey K)) (b : Branch L K) : Branch L K :=
  if !(keep.contains b.key) && b.e.isCS then zeroInCurrent b else b
/-- what `short_circuitify_voltage_sources` does to one branch -/
def zeroVS (keep : List (ElemKey K)) (b : Branch L K) : Branch L K :=
  if !(keep.contains b.key) && b.e.isVSrc then zeroInVoltage b else b

theorem zeroCS_nodes (keep : List (ElemKey K)) (b : Branch L K) :
    (zeroCS keep b).n1 = b.n1 ∧ (zeroCS keep b).n2 = b.n2 ∧ (zeroCS keep b).id = b.id := by
  unfold zeroCS; split <;> simp [zeroInCurrent]
theorem zeroVS_nodes (keep : List (ElemKey K)) (b : Branch L K) :
    (zeroVS keep b).n1 = b.n1 ∧ (zeroVS keep b).n2 = b.n2 ∧ (zeroVS keep b).id = b.id := by
  unfold zeroVS; split <;> simp [zeroInVoltage]

theorem zeroVS_zeroCS_nodes (keep : List (ElemKey K)) (b : Branch L K) :
    (zeroVS keep (zeroCS keep b)).n1 = b.n1 ∧ (zeroVS keep (zeroCS keep b)).n2 = b.n2 ∧
      (zeroVS keep (zeroCS keep b)).id = b.id :=
  ⟨(zeroVS_nodes keep _).1.trans (zeroCS_nodes keep b).1, (zeroVS_nodes keep _).2.1.trans (zeroCS_nodes keep b).2.1,
    (zeroVS_nodes keep _).2.2.trans (zeroCS_nodes keep b).2.2⟩

theorem isOpen_zeroVS (keep : List (ElemKey K)) (c : Branch L K) :
    (zeroVS keep c).e.isOpen = c.e.isOpen := by
  unfold zeroVS
  by_cases hp : (!(keep.contains c.key) && c.e.isVSrc) = true
  · rw [if_pos hp]
    have hv : c.e.isVSrc = true := ((Bool.and_eq_true _ _).mp hp).2
    have : c.e.isOpen = false := by
      cases he : c.e with
      | norton Z V => rfl
      | thevenin Y I =>
        rw [he] at hv
        by_cases hY : Y = 0
        · simp [Elem.isVSrc, Elem.Vval, hY] at hv
        · simp [Elem.isOpen, hY]
    rw [this]; rfl
  · rw [if_neg hp]

/-- every branch is kept, in place (`C16_zero_current_spec` says what `zeroCS` does to it) -/
theorem C16_zero_current_branches (N N' : Net L K) (keep : List (ElemKey K))
    (hr : openCircuitifyCS N keep = .ok N') :
    N'.zero = N.zero ∧ N'.branches = N.branches.map (zeroCS keep) := by
  have := mk?_ok hr; subst this; exact ⟨rfl, rfl⟩
theorem C16_zero_voltage_branches (N N' : Net L K) (keep : List (ElemKey K))
    (hr : shortCircuitifyVS N keep = .ok N') :
    N'.zero = N.zero ∧ N'.branches = N.branches.map (zeroVS keep) := by
  have := mk?_ok hr; subst this; exact ⟨rfl, rfl⟩

/-- **C16 (`remove_ideal_current_sources` is the composition).**  A returned network comes from an
intermediate network `N1` = the input with every non-exempt current source zeroed (all branches kept,
in place), from which the open circuits are removed: the result's branches are exactly the zeroed
branches that are not open circuits, in order; reference label unchanged. -/
theorem C16_removeIdealCS_shape (N N' : Net L K) (keep : List (ElemKey K))
    (hr : removeIdealCS N keep = .ok N') :
    (∃ N1, openCircuitifyCS N keep = .ok N1 ∧ removeOpen N1 = .ok N') ∧
    N'.zero = N.zero ∧
    N'.branches = (N.branches.map (zeroCS keep)).filter fun b => !b.e.isOpen := by
  obtain ⟨N1, h1, h2⟩ := bind_eq_ok.1 (show (openCircuitifyCS N keep >>= removeOpen) = .ok N' from hr)
  have e1 := C16_zero_current_branches N N1 keep h1
  have e2 := C16_open_branches N1 N' h2
  exact ⟨⟨N1, h1, h2⟩, by rw [e2.1, e1.1], by rw [e2.2, e1.2]⟩

/-- **C16 (`remove_ideal_voltage_sources` is the composition).**  A returned network comes from the
intermediate network `N1` = the input with every non-exempt voltage source zeroed (all branches kept, in
place, same terminals), to which `remove_short_circuit_elements(·, keep)` is applied — so every
`C16_short_*` theorem of C16Survive.lean applies to the pair `(N1, N')`; in particular the result is
`N1`'s branch list renamed by `shortSigma N1 keep`, minus the branches whose renamed terminals coincide. -/
theorem C16_removeIdealVS_shape (N N' : Net L K) (keep : List (ElemKey K))
    (hr : removeIdealVS N keep = .ok N') :
    ∃ N1, shortCircuitifyVS N keep = .ok N1 ∧ removeShort N1 keep = .ok N' ∧
      N1.zero = N.zero ∧ N1.branches = N.branches.map (zeroVS keep) ∧ N'.zero = N.zero ∧
      N'.branches = ((N.branches.map (zeroVS keep)).map (Branch.mapNodes (shortSigma N1 keep))).filter
        fun b => (shortPairs N1 keep).isEmpty || decide (b.n1 ≠ b.n2) := by
  obtain ⟨N1, h1, h2⟩ := bind_eq_ok.1 (show (shortCircuitifyVS N keep >>= fun M => removeShort M keep) = .ok N' from hr)
  have e1 := C16_zero_voltage_branches N N1 keep h1
  have e2 := C16_short_branches N1 N' keep h2
  exact ⟨N1, h1, h2, e1.1, e1.2, by rw [e2.1, e1.1], by rw [e2.2, e1.2]⟩

/-- **C16 (`passive_network` is the composition).**  A returned network comes from the chain
`N →(zero current sources) N1 →(remove opens) N2 →(zero voltage sources) N3 →(contract shorts) N'`;
`N3`'s branch list is the input's, with non-exempt current sources zeroed, open circuits removed and
non-exempt voltage sources zeroed (terminals, identifiers, order untouched); the result is `N3`'s branch
list renamed by `shortSigma N3 keep`, minus the branches whose renamed terminals coincide. -/
theorem C16_passive_shape (N N' : Net L K) (keep : List (ElemKey K))
    (hr : passiveNetwork N keep = .ok N') :
    ∃ N1 N2 N3, openCircuitifyCS N keep = .ok N1 ∧ removeOpen N1 = .ok N2 ∧
      shortCircuitifyVS N2 keep = .ok N3 ∧ removeShort N3 keep = .ok N' ∧
      N3.zero = N.zero ∧
      N3.branches = (((N.branches.map (zeroCS keep)).filter fun b => !b.e.isOpen).map (zeroVS keep)) ∧
      N'.zero = N.zero ∧
      N'.branches = (N3.branches.map (Branch.mapNodes (shortSigma N3 keep))).filter
        fun b => (shortPairs N3 keep).isEmpty || decide (b.n1 ≠ b.n2) := by
  obtain ⟨N2, h12, h34⟩ := bind_eq_ok.1 (show (removeIdealCS N keep >>= fun M => removeIdealVS M keep) = .ok N' from hr)
  obtain ⟨⟨N1, h1, h2⟩, z2, b2⟩ := C16_removeIdealCS_shape N N2 keep h12
  obtain ⟨N3, h3, h4, z3, b3, z4, _⟩ := C16_removeIdealVS_shape N2 N' keep h34
  exact ⟨N1, N2, N3, h1, h2, h3, h4, by rw [z3, z2], by rw [b3, b2], by rw [z4, z2],
    (C16_short_branches N3 N' keep h4).2⟩

theorem passiveNetwork_ok {N N1 N2 N3 N' : Net L K} {keep : List (ElemKey K)}
    (h1 : openCircuitifyCS N keep = .ok N1) (h2 : removeOpen N1 = .ok N2)
    (h3 : shortCircuitifyVS N2 keep = .ok N3) (h4 : removeShort N3 keep = .ok N') :
    passiveNetwork N keep = .ok N' := by
  unfold passiveNetwork removeIdealCS removeIdealVS
  rw [h1]
  show (do removeIdealVS (← removeOpen N1) keep) = _
  rw [h2]
  show (do removeShort (← shortCircuitifyVS N2 keep) keep) = _
  rw [h3]
  exact h4

/-- **C16 (which branches survive `passive_network`).**  `b'` is a branch of the result iff it comes
from a branch `b` of the input that is not an open circuit once its (non-exempt) current source is
zeroed, with its sources zeroed and its terminals renamed, and whose terminals are not joined by
non-exempt short circuits of the intermediate network `N3` (original shorts and zeroed ideal voltage
sources) — or nothing was contracted. -/
theorem C16_passive_survivors_iff (N N' : Net L K) (keep : List (ElemKey K))
    (hr : passiveNetwork N keep = .ok N') :
    ∃ N3 : Net L K, N3.zero = N.zero ∧
      N3.branches = (((N.branches.map (zeroCS keep)).filter fun b => !b.e.isOpen).map (zeroVS keep)) ∧
      ∀ b', b' ∈ N'.branches ↔ ∃ b ∈ N.branches, (zeroCS keep b).e.isOpen = false ∧
        b' = (zeroVS keep (zeroCS keep b)).mapNodes (shortSigma N3 keep) ∧
        (¬ HasShort N3 keep ∨ ¬ ShortJoined N3 keep b.n1 b.n2) := by
  obtain ⟨N1, N2, N3, _, _, _, h4, z3, b3, _, _⟩ := C16_passive_shape N N' keep hr
  refine ⟨N3, z3, b3, fun b' => ?_⟩
  rw [C16_short_survivors_iff N3 N' keep h4 b', b3]
  simp only [List.mem_map, List.mem_filter, exists_exists_and_eq_and, Bool.not_eq_true', and_assoc]
  constructor
  · rintro ⟨_, ⟨b, hb, ho, rfl⟩, e, hj⟩
    exact ⟨b, hb, ho, e, by rwa [(zeroVS_zeroCS_nodes keep b).1, (zeroVS_zeroCS_nodes keep b).2.1] at hj⟩
  · rintro ⟨b, hb, ho, e, hj⟩
    exact ⟨_, ⟨b, hb, ho, rfl⟩, e, by rwa [(zeroVS_zeroCS_nodes keep b).1, (zeroVS_zeroCS_nodes keep b).2.1]⟩

/-! ### the hypotheses are satisfiable -/

namespace C16ex
def exP : Net String ℚ :=
  ⟨[⟨"a", "z", "V", "voltage_source", .norton 0 5⟩, ⟨"a", "b", "R1", "resistor", .norton 2 0⟩,
    ⟨"b", "z", "I", "current_source", .thevenin 0 1⟩, ⟨"b", "z", "R2", "resistor", .norton 4 0⟩], "z"⟩
def exP1 : List (Branch String ℚ) :=
  [⟨"a", "z", "V", "voltage_source", .norton 0 5⟩, ⟨"a", "b", "R1", "resistor", .norton 2 0⟩,
    ⟨"b", "z", "I", "admittance", .thevenin 0 0⟩, ⟨"b", "z", "R2", "resistor", .norton 4 0⟩]
def exP2 : List (Branch String ℚ) :=
  [⟨"a", "z", "V", "voltage_source", .norton 0 5⟩, ⟨"a", "b", "R1", "resistor", .norton 2 0⟩,
    ⟨"b", "z", "R2", "resistor", .norton 4 0⟩]
def exP3 : List (Branch String ℚ) :=
  [⟨"a", "z", "V", "impedance", .norton 0 0⟩, ⟨"a", "b", "R1", "resistor", .norton 2 0⟩,
    ⟨"b", "z", "R2", "resistor", .norton 4 0⟩]
def exP4 : List (Branch String ℚ) :=
  [⟨"z", "b", "R1", "resistor", .norton 2 0⟩, ⟨"b", "z", "R2", "resistor", .norton 4 0⟩]
theorem exP_cs : openCircuitifyCS exP [] = .ok ⟨exP1, "z"⟩ :=
  C16ex_mk_ok (by decide +kernel) (by decide +kernel) (by decide +kernel)
theorem exP_open : removeOpen (⟨exP1, "z"⟩ : Net String ℚ) = .ok ⟨exP2, "z"⟩ :=
  C16ex_mk_ok (by decide +kernel) (by decide +kernel) (by decide +kernel)
theorem exP_vs : shortCircuitifyVS (⟨exP2, "z"⟩ : Net String ℚ) [] = .ok ⟨exP3, "z"⟩ :=
  C16ex_mk_ok (by decide +kernel) (by decide +kernel) (by decide +kernel)
theorem exP_short : removeShort (⟨exP3, "z"⟩ : Net String ℚ) [] = .ok ⟨exP4, "z"⟩ := by
  refine C16ex_mk_ok ?_ (by decide +kernel) (by decide +kernel)
  rw [show shortPairs (⟨exP3, "z"⟩ : Net String ℚ) [] = [("a", "z")] from by decide +kernel,
    contractAll_cons, List.map_nil, contractAll_nil]
  decide +kernel
theorem exP_idealCS : removeIdealCS exP [] = .ok ⟨exP2, "z"⟩ := by
  unfold removeIdealCS; rw [exP_cs]; exact exP_open
theorem exP_idealVS : removeIdealVS (⟨exP2, "z"⟩ : Net String ℚ) [] = .ok ⟨exP4, "z"⟩ := by
  unfold removeIdealVS; rw [exP_vs]; exact exP_short
/-- `passive_network` on a source, two resistors and an ideal current source: the current source becomes an
open circuit and is removed, the voltage source becomes a short and is contracted (`a` renamed to the
reference node `z`), the two resistors survive -/
theorem exP_passive : passiveNetwork exP [] = .ok ⟨exP4, "z"⟩ := by
  unfold passiveNetwork; rw [exP_idealCS]; exact exP_idealVS
example : ∃ N', removeOpen (⟨exP1, "z"⟩ : Net String ℚ) = .ok N' := ⟨_, exP_open⟩
example : ∃ N', removeIdealCS exP [] = .ok N' := ⟨_, exP_idealCS⟩
example : ∃ N', removeIdealVS (⟨exP2, "z"⟩ : Net String ℚ) [] = .ok N' := ⟨_, exP_idealVS⟩
example : ∃ N', passiveNetwork exP [] = .ok N' := ⟨_, exP_passive⟩
example : ∃ N', switchGround exP "b" = .ok N' :=
  ⟨_, (C16_switch_ground_ok_iff exP "b").mpr
    ⟨Or.inr ⟨⟨"a", "b", "R1", "resistor", .norton 2 0⟩, List.mem_of_getElem? (i := 1) rfl, Or.inr rfl⟩, by decide +kernel⟩⟩
/-- `C16_remove_element_filter`: distinct identifiers, and the removal of `R1` succeeds -/
example : exP.ids.Nodup := by decide +kernel
example : ∃ N', removeElement exP "R1" = .ok N' := by
  rw [C16_remove_element_shape,
    show exP.get? "R1" = some ⟨"a", "b", "R1", "resistor", .norton 2 0⟩ from by decide +kernel]
  exact ⟨_, C16ex_mk_ok rfl (by decide +kernel) (by decide +kernel)⟩
/-- `C16_remove_element_missing` -/
example : "nothing" ∉ exP.ids := by decide +kernel
end C16ex

end CC
