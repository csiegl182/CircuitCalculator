/-
  C18 — verified readers for the composite texts: Cartesian complex (`parseCartesian` of
  `CC.Spec.Fmt`, the reader the oracle runs), time function (`parseSinusoid`) and `P`/`Q` (`parsePQ`, both of
  `CC.Spec.FmtReaders`), on the texts of the model `CC.Model.Fmt`; and what a time-function text denotes, over the reals.

  As in `CC.Properties.C18Polar`: `abs(value)`, `cmath.phase(value)` (+ quarter turn), `math.degrees`, `w/2/pi` are
  parameters — the read-back theorems are about the numbers handed to the formatter; `C18_sinusoid_denotes` bounds the
  distance of *any* wave from `Re(X·e^{jwt})` in terms of the distances of its three numbers from `‖X‖`, `w`, `arg X`.
  All read-back statements inherit the real-path domain (`InDomain`, `CfgOK`).
-/
import Mathlib.Analysis.SpecialFunctions.Trigonometric.Bounds
import CC.Properties.C18Polar
import CC.Proofs.FmtReaders

namespace CC
open CC.Fmt CC.Gen.Fmt

theorem CfgOK.reads_signed {c : SFCfg} (hcfg : CfgOK c) {v : ℚ} (h : InDomain v c.precision) :
    ∃ t, parseBack c.unit (c.str (qabs v)) = some t ∧ t.isNeg = false
      ∧ realFailures v c.precision (c.value3 (qabs v)).maxExp (some (t.withNeg (decide (v < 0)))) = [] := by
  obtain ⟨t, pt, ft⟩ := RealOK.parse (hcfg.realOK h.magnitude)
  exact ⟨t, pt, isNeg_of_realFailures_pos ft (qabs_pos h.ne_zero), realFailures_withNeg ft h.ne_zero⟩

/-- (text level) the Cartesian reader `parseCartesian` of the Spec (the reader the oracle
runs) applied to the model text of `ScientificComplex.__str__`, for every `CfgOK` configuration whose unit and prefix
letters contain neither `j` nor a space, compact or not, and every value both of whose parts are in the domain:
there are part texts `tr`, `ti` that satisfy **every clause of `RealOK` with respect to the signed parts `re`, `im`**
(half a unit of the `p`-th digit, engineering form, saturation, and the sign: `neg` is the sign read off the `-` / `+`
character), and the reader returns exactly the parts `C18_complex_shown_parts` names: `(tr, absent)` when `|im|`
`is_zero`; `(absent, ti)` when `|re|` `is_zero` and `|im|` does not; `(tr, ti)` otherwise.

Not claimed: that a part reported absent is negligible (`is_zero` drops parts the prefixes can express:
`C18_complex_suppression_counterexample`). -/
theorem C18_cartesian_reads_back (c : SCCfg) (re im absV angle : ℚ) (hpol : c.polar = false) (hcfg : CfgOK c.toSFCfg)
    (hre : InDomain re c.precision) (him : InDomain im c.precision)
    (hj : Foreign 'j' c.toSFCfg) (hsp : Foreign ' ' c.toSFCfg) :
    ∃ tr ti : Text,
      realFailures re c.precision (c.toSFCfg.value3 (qabs re)).maxExp (some tr) = []
      ∧ realFailures im c.precision (c.toSFCfg.value3 (qabs im)).maxExp (some ti) = []
      ∧ ((c.toSFCfg.value3 (qabs im)).isZero = true →
          parseCartesian c.unit (c.str re im absV angle) = some (some tr, none))
      ∧ ((c.toSFCfg.value3 (qabs im)).isZero = false → (c.toSFCfg.value3 (qabs re)).isZero = true →
          parseCartesian c.unit (c.str re im absV angle) = some (none, some ti))
      ∧ ((c.toSFCfg.value3 (qabs im)).isZero = false → (c.toSFCfg.value3 (qabs re)).isZero = false →
          parseCartesian c.unit (c.str re im absV angle) = some (some tr, some ti)) := by
  obtain ⟨e1, _, _, e4, _, _⟩ := C18_complex_shown_parts c re im absV angle hpol hcfg hre him
  -- the sign strings `sr`, `si` written out in `C18_complex_shown_parts` are `reSign`, `imSign` of the reader lemmas
  rw [← reSign_eq] at e1
  rw [← reSign_eq, ← imSign_eq] at e4
  obtain ⟨t_r, pr, nr, fr⟩ := hcfg.reads_signed hre
  obtain ⟨t_i, pi, ni, fi⟩ := hcfg.reads_signed him
  have jr : 'j' ∉ c.toSFCfg.str (qabs re) := not_mem_str hj _
  exact ⟨_, _, fr, fi, fun hz => (congrArg _ (e1 hz)).trans (parseCartesian_re_only _ _ c.compact re pr nr jr),
    fun hz1 hz2 => (congrArg _ (cartesian_im_only_text c re im absV angle hpol hz1 hz2)).trans
      (parseCartesian_im_only c.unit _ c.compact im pi ni),
    fun hz1 hz2 => (congrArg _ (e4 hz1 hz2)).trans
      (parseCartesian_both _ _ _ c.compact re im pr nr pi jr (not_mem_str hsp _))⟩

/-- values with an exactly zero part (excluded by `InDomain` above): a purely
real value reads as `(tr, absent)`, a purely imaginary value whose imaginary part is not suppressed as `(absent, ti)`,
the part shown satisfying every clause of `RealOK` w.r.t. the signed part. -/
theorem C18_cartesian_zero_part_reads_back (c : SCCfg) (absV angle : ℚ) (hpol : c.polar = false)
    (hcfg : CfgOK c.toSFCfg) (hj : Foreign 'j' c.toSFCfg) :
    (∀ re, InDomain re c.precision → ∃ tr : Text,
        realFailures re c.precision (c.toSFCfg.value3 (qabs re)).maxExp (some tr) = []
        ∧ parseCartesian c.unit (c.str re 0 absV angle) = some (some tr, none))
    ∧ (∀ im, InDomain im c.precision → (c.toSFCfg.value3 (qabs im)).isZero = false → ∃ ti : Text,
        realFailures im c.precision (c.toSFCfg.value3 (qabs im)).maxExp (some ti) = []
        ∧ parseCartesian c.unit (c.str 0 im absV angle) = some (none, some ti)) := by
  constructor
  · intro re hre
    obtain ⟨t_r, pr, nr, fr⟩ := hcfg.reads_signed hre
    exact ⟨_, fr, (congrArg _ (C18_cartesian_zero_im c re absV angle hpol)).trans
      (parseCartesian_re_only _ _ c.compact re pr nr (not_mem_str hj _))⟩
  · intro im him hz
    obtain ⟨t_i, pi, ni, fi⟩ := hcfg.reads_signed him
    exact ⟨_, fi, (congrArg _ ((C18_cartesian_zero_re c im absV angle hpol).1 hz)).trans
      (parseCartesian_im_only c.unit _ c.compact im pi ni)⟩

/-- whether a character can occur in the text of a display helper's call is decided on the call (its table, its unit
if it fixes one), whatever the precision; a unit left to the caller is the caller's to check -/
theorem foreign_of_call {ch : Char} {k : CallCfg} {unit : List Char} {p : ℕ} (h : Foreign ch (cfgOfCall k [] 0))
    (hu : ch ∉ k.unit.getD unit) : Foreign ch (cfgOfCall k unit p) :=
  ⟨h.1, h.2.1, h.2.2.1, hu, h.2.2.2.2⟩

/-- the hypotheses of `C18_cartesian_reads_back` are met by `print_complex(3-4j, 'V')`, and the reader returns both parts -/
example : ∃ tr ti : Text, realFailures 3 3 3 (some tr) = [] ∧ realFailures (-4) 3 3 (some ti) = []
    ∧ parseCartesian ['V'] (printComplex 3 (-4) 5 0 ['V'] 3 false false) = some (some tr, some ti) := by
  have hd : ∀ x : ℚ, 1 ≤ |x| → |x| < 10 → InDomain x 3 := fun x h1 h2 =>
    InDomain.of_one_le 3 h1 (h2.trans (by norm_num))
  obtain ⟨tr, ti, h1, h2, _, _, h5⟩ := C18_cartesian_reads_back (scOfCall print_complex_call0 ['V'] 3 false false)
    3 (-4) 5 0 rfl (cfgOK_print_complex ['V'] 3 false false (by decide) (by decide))
    (hd 3 (by norm_num) (by norm_num)) (hd (-4) (by norm_num) (by norm_num))
    (foreign_of_call (by decide) (by decide)) (foreign_of_call (by decide) (by decide))
  exact ⟨tr, ti, h1, h2, h5 (by decide +kernel) (by decide +kernel)⟩

example : printComplex 3 (-4) 5 0 ['V'] 3 false false = ['3', '.', '0', '0', 'V', '-', 'j', '4', '.', '0', '0', 'V'] := by
  decide +kernel

theorem not_saturated (c : SFCfg) (v : ℚ) (hcfg : CfgOK c) (hd : InDomain v c.precision)
    (hb : ¬ BeyondRounded v c.precision (c.value3 v).maxExp) : (c.value3 v).isInf = false := by
  cases h : (c.value3 v).isInf with
  | false => rfl
  | true => exact absurd ((C18_saturate_domain c v hcfg.1 hd.ne_zero hd.abs_lt hd.not_roundsUp).2 h).1 hb

theorem not_beyond_16 (v : ℚ) (p : ℕ) (hp : 1 ≤ p) (hd : InDomain v p) : ¬ BeyondRounded v p 16 := by
  unfold BeyondRounded
  have h := halfUnit_le_half v p hp hd.ne_zero
  have h16 := hd.abs_lt
  have e : pow10 (16 + 3) = 10000000000000000000 := by decide +kernel
  rw [e, qabs_eq_abs]
  intro hle
  linarith

theorem realFailures_finite {v : ℚ} {p : ℕ} {m : ℤ} {t : Text} (h : realFailures v p m (some t) = [])
    (hb : ¬ BeyondRounded v p m) : ∃ q : Parsed, t = .num q := by
  cases t with
  | inf n => rw [realFailures_inf] at h; exact absurd h.1 hb
  | num q => exact ⟨q, rfl⟩

/-- the phase the text denotes: the magnitude handed to the formatter (`|phase|`, or `|degrees(phase)|` in degree mode)
with the sign of the phase in radians (the sign character is chosen on it) -/
def shownPhase (phase phaseDeg : ℚ) (deg : Bool) : ℚ :=
  (if decide (phase < 0) then -1 else 1) * qabs (if deg then phaseDeg else phase)

theorem shownPhase_rad (phase phaseDeg : ℚ) : shownPhase phase phaseDeg false = phase :=
  sign_mul_qabs phase

/-- the phase reader takes the degree flag from the `°` the text ends with: a finite text of unit `°` does, and in the
domain a text without prefixes is finite (`not_beyond_16`) -/
theorem timePhasePart_reads_back (phase phaseDeg : ℚ) (p : ℕ) (deg : Bool) (hp : 1 ≤ p)
    (hph : |phase| > print_sinosoidal_phase_threshold → InDomain (if deg then phaseDeg else phase) p) :
    ∃ tp : Option Text,
      parsePhase (timePhasePart phase phaseDeg p deg)
        = some (tp, decide (|phase| > print_sinosoidal_phase_threshold) && deg)
      ∧ (|phase| ≤ print_sinosoidal_phase_threshold → tp = none)
      ∧ (|phase| > print_sinosoidal_phase_threshold →
          ∃ t, tp = some t ∧ realFailures (shownPhase phase phaseDeg deg) p 16 (some t) = []) := by
  by_cases hgt : |phase| > print_sinosoidal_phase_threshold
  · have hd := hph hgt
    have hthr : (0 : ℚ) ≤ print_sinosoidal_phase_threshold := by unfold print_sinosoidal_phase_threshold; norm_num
    have hne : phase ≠ 0 := by intro e; rw [e, abs_zero] at hgt; exact absurd hgt (not_lt.mpr hthr)
    have hdec : decide (¬ phase > 0) = decide (phase < 0) :=
      decide_eq_decide.mpr (not_lt.trans (lt_iff_le_and_ne.trans (and_iff_left hne)).symm)
    rw [timePhasePart_of_gt hgt]
    cases deg
    · simp only [Bool.false_eq_true, ↓reduceIte] at hd ⊢
      have c2 : CfgOK (cfgOfCall print_sinosoidal_call2 [] p) := cfgOK_of_call hp (by decide) (by decide)
      obtain ⟨t, pt, ft⟩ := RealOK.parse (c2.realOK hd.magnitude)
      have hdeg : '°' ∉ (cfgOfCall print_sinosoidal_call2 [] p).str (qabs phase) :=
        not_mem_str (foreign_of_call (by decide) (by decide)) _
      refine ⟨some (t.withNeg (decide (phase < 0))), ?_, fun h => absurd hgt (not_lt.mpr h), fun _ => ⟨_, rfl, ?_⟩⟩
      · rw [parsePhase_rad _ hdeg pt, hdec]; simp [hgt]
      · exact realFailures_withNeg_flag (decide (phase < 0)) ft hd.ne_zero
    · simp only [↓reduceIte] at hd ⊢
      have c1 : CfgOK (cfgOfCall print_sinosoidal_call1 [] p) := cfgOK_of_call hp (by decide) (by decide)
      obtain ⟨t, pt, ft⟩ := RealOK.parse (c1.realOK hd.magnitude)
      have hfin := not_saturated _ (qabs phaseDeg) c1 hd.magnitude (not_beyond_16 _ p hp hd.magnitude)
      obtain ⟨T', hT'⟩ : ∃ T', (cfgOfCall print_sinosoidal_call1 [] p).str (qabs phaseDeg) = T' ++ ['°'] := by
        rw [str_of_not_inf _ _ hfin]; exact ⟨_, by simp only [← List.append_assoc]; rfl⟩
      refine ⟨some (t.withNeg (decide (phase < 0))), ?_, fun h => absurd hgt (not_lt.mpr h), fun _ => ⟨_, rfl, ?_⟩⟩
      · rw [hT'] at pt ⊢
        rw [parsePhase_deg _ pt, hdec]; simp [hgt]
      · exact realFailures_withNeg_flag (decide (phase < 0)) ft hd.ne_zero
  · refine ⟨none, ?_, fun _ => rfl, fun h => absurd h hgt⟩
    rw [(C18_time_phase_rule phase phaseDeg p deg).1.2 (not_lt.mp hgt), parsePhase_nil]; simp [hgt]

/-- (text level) the reader `parseSinusoid` of the Spec applied to the model text of
`print_sinosoidal` for `w ≠ 0`, for every precision `p ≥ 1`, every readable unit that does not contain `·`, all four
combinations of `sin` / `hertz`, `deg` or not: the reader returns a wave whose
* amplitude satisfies every clause of `RealOK` w.r.t. `absV` (range `u…k`),
* frequency satisfies every clause of `RealOK` w.r.t. `w` (`/s`, range 16) or, with the hertz flag, w.r.t. `wHz` (`Hz`, `m…T`),
* phase is absent exactly when `|phase| ≤` the generated threshold (binary64 `1e-4`) and otherwise satisfies every clause
  of `RealOK` (p digits, range 16) w.r.t. `shownPhase`: the magnitude handed to the formatter with the sign of the phase —
  the phase itself in radian mode (`shownPhase_rad`),
* flags are `sin`, `hertz`, and `deg` when a phase is shown.
`absV`, `phase` (in the sine form already including the generated quarter turn, `C18_sine_shift`), `phaseDeg`, `wHz` are
the numbers handed to the formatter (parameters). -/
theorem C18_sinusoid_reads_back (re absV phase phaseDeg w wHz : ℚ) (unit : List Char) (p : ℕ) (sin deg hertz : Bool)
    (hp : 1 ≤ p) (hunit : UnitOK unit) (hdot : '·' ∉ unit) (hw : w ≠ 0) (habs : InDomain absV p)
    (hfreq : InDomain (if hertz then wHz else w) p)
    (hph : |phase| > print_sinosoidal_phase_threshold → InDomain (if deg then phaseDeg else phase) p) :
    ∃ (ta tf : Text) (tp : Option Text),
      parseSinusoid unit (printSinusoidal re absV phase phaseDeg w wHz unit p sin deg hertz)
        = some (.wave { amplitude := ta, sine := sin, hertz := hertz, freq := tf, phase := tp,
                        deg := decide (|phase| > print_sinosoidal_phase_threshold) && deg })
      ∧ realFailures absV p 3 (some ta) = []
      ∧ realFailures (if hertz then wHz else w) p (if hertz then 12 else 16) (some tf) = []
      ∧ (|phase| ≤ print_sinosoidal_phase_threshold → tp = none)
      ∧ (|phase| > print_sinosoidal_phase_threshold →
          ∃ t, tp = some t ∧ realFailures (shownPhase phase phaseDeg deg) p 16 (some t) = []) := by
  obtain ⟨r1, _, _, r4, r5, _⟩ := C18_time_parts_read_back unit p hp hunit
  obtain ⟨ta, pa, fa⟩ := RealOK.parse (r1 absV habs)
  set F : List Char := if hertz then (cfgOfCall print_sinosoidal_call4 [] p).str wHz
    else (cfgOfCall print_sinosoidal_call5 [] p).str w with hF
  have hFdot : '·' ∉ F := by
    rw [hF]
    cases hertz <;> exact not_mem_str (foreign_of_call (by decide) (by decide)) _
  have hFpi : 'π' ∉ F := by
    rw [hF]
    cases hertz <;> exact not_mem_str (foreign_of_call (by decide) (by decide)) _
  obtain ⟨tf, pf, ff⟩ : ∃ tf, parseBack (if hertz then ['H', 'z'] else ['/', 's']) F = some tf
      ∧ realFailures (if hertz then wHz else w) p (if hertz then 12 else 16) (some tf) = [] := by
    cases hertz
    · simp only [Bool.false_eq_true, ↓reduceIte] at hfreq ⊢
      exact RealOK.parse (r4 w hfreq)
    · simp only [↓reduceIte] at hfreq ⊢
      exact RealOK.parse (r5 wHz hfreq)
  have hAdot : '·' ∉ printAbs absV unit p := not_mem_str (foreign_of_call (by decide) hdot) _
  obtain ⟨tp, hpp, hp1, hp2⟩ := timePhasePart_reads_back phase phaseDeg p deg hp hph
  refine ⟨ta, tf, tp, ?_, fa, ff, hp1, hp2⟩
  rw [C18_time_text _ _ _ _ _ _ _ _ _ _ _ hw]
  exact parseSinusoid_wave unit _ _ _ _ sin hertz hAdot pa hFdot hFpi pf hpp

/-- at `w = 0` the time-function text is a plain real quantity: the reader returns the constant, which satisfies every
clause of `RealOK` w.r.t. `Re(X)` -/
theorem C18_sinusoid_const_reads_back (re absV phase phaseDeg wHz : ℚ) (unit : List Char) (p : ℕ) (sin deg hertz : Bool)
    (hp : 1 ≤ p) (hunit : UnitOK unit) (hdot : '·' ∉ unit) (hre : InDomain re p) :
    ∃ t : Text, parseSinusoid unit (printSinusoidal re absV phase phaseDeg 0 wHz unit p sin deg hertz) = some (.const t)
      ∧ realFailures re p 3 (some t) = [] := by
  obtain ⟨_, _, _, _, _, r6⟩ := C18_time_parts_read_back unit p hp hunit
  obtain ⟨t, pt, ft⟩ := RealOK.parse (r6 re hre)
  have hdot' : '·' ∉ printReal re unit p := not_mem_str (foreign_of_call (by decide) hdot) _
  refine ⟨t, ?_, ft⟩
  rw [C18_time_w_zero, parseSinusoid_const _ _ hdot', pt]; rfl

/-- (text level) the reader `parsePQ` of the Spec applied to the model text of
`print_active_reactive_power`, every precision `p ≥ 1`, `Re S` in the domain (and `Im S` when it is shown): the reader
returns the arrow of `P` (`↓` exactly for `Re S > 0`), a magnitude that satisfies every clause of `RealOK` w.r.t.
`|Re S|` in `W` (prefixes `p…T`), and — exactly when `|Im S|` exceeds the generated absolute threshold (binary64 `1e-4`
var) — the arrow of `Q` (`↓` exactly for `Im S > 0`) and a magnitude `RealOK` w.r.t. `|Im S|` in `var`. -/
theorem C18_pq_reads_back (re im : ℚ) (p : ℕ) (hp : 1 ≤ p) (hre : InDomain re p)
    (him : |im| > print_active_reactive_power_q_threshold → InDomain im p) :
    ∃ (tP : Text) (q : Option (Bool × Text)),
      parsePQ (printActiveReactivePower re im p) = some { pDown := decide (re > 0), p := tP, q := q }
      ∧ realFailures (qabs re) p 12 (some tP) = []
      ∧ (|im| ≤ print_active_reactive_power_q_threshold → q = none)
      ∧ (|im| > print_active_reactive_power_q_threshold →
          ∃ tQ, q = some (decide (im > 0), tQ) ∧ realFailures (qabs im) p 12 (some tQ) = []) := by
  obtain ⟨htxt, okP, okQ, _⟩ := C18_active_reactive_text re im p hp
  obtain ⟨tP, pP, fP⟩ := RealOK.parse (okP hre)
  have hnl : '\n' ∉ (cfgOfCall print_active_reactive_power_call0 [] p).str (qabs re) :=
    not_mem_str (foreign_of_call (by decide) (by decide)) _
  rw [htxt]
  by_cases hgt : |im| > print_active_reactive_power_q_threshold
  · obtain ⟨tQ, pQ, fQ⟩ := RealOK.parse (okQ (him hgt))
    refine ⟨tP, some (decide (im > 0), tQ), ?_, fP, fun h => absurd hgt (not_lt.mpr h), fun _ => ⟨tQ, rfl, fQ⟩⟩
    rw [if_pos hgt]
    exact parsePQ_pq _ _ _ _ hnl pP pQ
  · refine ⟨tP, none, ?_, fP, fun _ => rfl, fun h => absurd h hgt⟩
    rw [if_neg hgt, List.append_nil]
    exact parsePQ_p _ _ hnl pP

example : ∃ tP tQ, parsePQ (printActiveReactivePower 3 (-4) 3) = some { pDown := true, p := tP, q := some (false, tQ) }
    ∧ realFailures 3 3 12 (some tP) = [] ∧ realFailures 4 3 12 (some tQ) = [] := by
  have hd : ∀ x : ℚ, 1 ≤ |x| → |x| < 10 → InDomain x 3 := fun x h1 h2 =>
    InDomain.of_one_le 3 h1 (h2.trans (by norm_num))
  obtain ⟨tP, q, h1, h2, _, h4⟩ := C18_pq_reads_back 3 (-4) 3 (by decide) (hd 3 (by norm_num) (by norm_num))
    (fun _ => hd (-4) (by norm_num) (by norm_num))
  have hgt : |(-4 : ℚ)| > print_active_reactive_power_q_threshold := by
    unfold print_active_reactive_power_q_threshold; norm_num
  obtain ⟨tQ, hq, h5⟩ := h4 hgt
  refine ⟨tP, tQ, ?_, ?_, ?_⟩
  · rw [h1, hq]; simp
  · simpa [qabs_eq_abs] using h2
  · have : qabs (-4 : ℚ) = 4 := by rw [qabs_eq_abs]; norm_num
    rwa [this] at h5

/-- the function a wave text denotes: `t ↦ A·cos(ω·t + φ)` (resp. `sin`) -/
noncomputable def waveFn (sine : Bool) (A ω φ t : ℝ) : ℝ :=
  A * (if sine then Real.sin (ω * t + φ) else Real.cos (ω * t + φ))

/-- two waves of the same kind whose amplitude, angular frequency and phase differ by
`|A−A'|`, `|ω−ω'|`, `|φ−φ'|` differ on the window `|t| ≤ T` by at most `|A−A'| + |A|·(|ω−ω'|·T + |φ−φ'|)`
(`cos`, `sin` are 1-Lipschitz).  Pure real analysis; all reals. -/
theorem C18_wave_lipschitz (sine : Bool) (A ω φ A' ω' φ' T t : ℝ) (ht : |t| ≤ T) :
    |waveFn sine A ω φ t - waveFn sine A' ω' φ' t| ≤ |A - A'| + |A| * (|ω - ω'| * T + |φ - φ'|) := by
  have harg : |(ω * t + φ) - (ω' * t + φ')| ≤ |ω - ω'| * T + |φ - φ'| := by
    have : (ω * t + φ) - (ω' * t + φ') = (ω - ω') * t + (φ - φ') := by ring
    rw [this]
    calc |(ω - ω') * t + (φ - φ')| ≤ |(ω - ω') * t| + |φ - φ'| := abs_add_le _ _
      _ = |ω - ω'| * |t| + |φ - φ'| := by rw [abs_mul]
      _ ≤ |ω - ω'| * T + |φ - φ'| := by
          have := mul_le_mul_of_nonneg_left ht (abs_nonneg (ω - ω')); linarith
  have key : ∀ (f : ℝ → ℝ), (∀ x y, |f x - f y| ≤ |x - y|) → (∀ x, |f x| ≤ 1) →
      |A * f (ω * t + φ) - A' * f (ω' * t + φ')| ≤ |A - A'| + |A| * (|ω - ω'| * T + |φ - φ'|) := by
    intro f hl hb
    have : A * f (ω * t + φ) - A' * f (ω' * t + φ')
        = A * (f (ω * t + φ) - f (ω' * t + φ')) + (A - A') * f (ω' * t + φ') := by ring
    rw [this]
    calc _ ≤ |A * (f (ω * t + φ) - f (ω' * t + φ'))| + |(A - A') * f (ω' * t + φ')| := abs_add_le _ _
      _ = |A| * |f (ω * t + φ) - f (ω' * t + φ')| + |A - A'| * |f (ω' * t + φ')| := by rw [abs_mul, abs_mul]
      _ ≤ |A| * (|ω - ω'| * T + |φ - φ'|) + |A - A'| * 1 := by
          have h1 := mul_le_mul_of_nonneg_left ((hl _ _).trans harg) (abs_nonneg A)
          have h2 := mul_le_mul_of_nonneg_left (hb (ω' * t + φ')) (abs_nonneg (A - A'))
          linarith
      _ = _ := by ring
  unfold waveFn
  cases sine
  · simpa using key Real.cos Real.abs_cos_sub_cos_le Real.abs_cos_le_one
  · simpa using key Real.sin Real.abs_sin_sub_sin_le Real.abs_sin_le_one

/-- the denotation of a time-function text against the quantity: for a phasor `X` at angular
frequency `w`, any wave `t ↦ A'·cos(w'·t + φ')` differs from `Re(X·e^{jwt})` on the window `|t| ≤ T` by at most
`|‖X‖−A'| + ‖X‖·(|w−w'|·T + |arg X − φ'|)`; and any sine wave `t ↦ A'·sin(w'·t + φ')` by at most the same bound with
`arg X +` the **generated** number of quarter turns (`print_sinosoidal_sin_shift`·π/2) in place of `arg X`.  With `A'`,
`w'`, `φ'` the numbers read off the text (`C18_sinusoid_reads_back`: each within half a unit of its `p`-th digit of the
number handed to the formatter) this bounds the error of the displayed function by the three display tolerances plus
the distance of the numbers handed to the formatter (libm `abs`, `phase`: parameters) from `‖X‖`, `arg X`. -/
theorem C18_sinusoid_denotes (X : ℂ) (w A' w' φ' T t : ℝ) (ht : |t| ≤ T) :
    |(X * Complex.exp (Complex.I * ((w * t : ℝ) : ℂ))).re - waveFn false A' w' φ' t|
        ≤ |‖X‖ - A'| + ‖X‖ * (|w - w'| * T + |X.arg - φ'|)
    ∧ |(X * Complex.exp (Complex.I * ((w * t : ℝ) : ℂ))).re - waveFn true A' w' φ' t|
        ≤ |‖X‖ - A'| + ‖X‖ * (|w - w'| * T
            + |X.arg + ((print_sinosoidal_sin_shift : ℤ) : ℝ) * (Real.pi / 2) - φ'|) := by
  obtain ⟨h1, h2⟩ := C18_time_function_denotes X w t
  have hn : |‖X‖| = ‖X‖ := abs_of_nonneg (norm_nonneg X)
  constructor
  · have := C18_wave_lipschitz false ‖X‖ w X.arg A' w' φ' T t ht
    rw [hn] at this
    rw [h1]
    simpa [waveFn] using this
  · have := C18_wave_lipschitz true ‖X‖ w (X.arg + ((print_sinosoidal_sin_shift : ℤ) : ℝ) * (Real.pi / 2)) A' w' φ' T t ht
    rw [hn] at this
    rw [h1, h2]
    simpa [waveFn] using this

end CC
