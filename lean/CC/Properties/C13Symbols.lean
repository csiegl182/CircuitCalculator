/-
  C13 — per-kind translation against the independent Spec of the symbols (CC/Spec/DrawSymbols.lean).

  For every symbol kind `sy : SymSpec.Symbol` (resistor, conductance, impedance, capacitor,
  inductance, lamp, switch open / closed, labelled wire, DC / complex / AC / rect / tri / saw voltage
  and current sources, lossy DC sources, ground, node, label node, wire, blank element), ALL
  parameter values, names, both reversal flags, anchors and terminal names:

      the symbol written the way the user writes it — `Class(<params>, name=…, reverse=…)` —,
      constructed by the model of Elements.py (`construct`, an interpreter of the generated class
      table) and translated by the model of CircuitComponentTranslators.py / components.py
      (`compOfSym`, `translateSym`: interpreters of the generated translator and constructor tables)

  is EXACTLY the component the Spec says (`SymSpec.expected`): kind, id = name, value map as a
  function of the USER parameters (DC amplitude real, no internal resistance, phase
  `phi·π/180` for `deg`, `− π/2` for `sin`, closed switch 1e-12 Ω, open switch ∞, `G = 1/R` of the
  lossy current source), terminals listed start → end and end → start when reversed, with the
  user's amplitude NOT negated (`C13_symbols`, `C13_symbols_translate`).  Coverage of the generated
  table: `C13_symbols_cover`.

  Where the generated table and the Spec DISAGREE (proved, with the model's actual result):
  * `Admittance` has no translator: `UnknownTranslator` instead of an `admittance` component
    (`C13_sym_admittance_untranslated`);
  * `RealVoltageSource` / `RealCurrentSource` with `reverse=True`: the terminals are swapped AND the
    amplitude is negated — the component of the symbol with amplitude `−V`, i.e. electrically the
    NON-reversed source (`C13_sym_real_reversed`; that this is not the Spec's component is stated for the voltage
    source, `C13_sym_real_reversed_ne`);
  * `Rect` / `Triangle` / `Sawtooth` `VoltageSource` / `CurrentSource` with `sin=True`: the flag is
    accepted, stored and IGNORED — no `− π/2`; the component is that of `sin=False`
    (`C13_sym_periodic_sin_ignored`; that this is not the Spec's component is stated for the voltage sources,
    `C13_sym_periodic_sin_ne`), unlike `ACVoltageSource` / `ACCurrentSource`, which shift.

  NOT covered: the floating-point evaluation of `phi*pi/180` (the model is exact over ℚ with
  `π := math.pi` as a rational), `name` passed positionally, schemdraw's placement (anchors are
  parameters), values outside `SymSpec.Admissible` (the constructors raise).
-/
import CC.Spec.DrawSymbols
import CC.Proofs.DrawInterp
import CC.Proofs.GQField
import Mathlib.Tactic.NormNum
namespace CC
open CC.Draw CC.Draw.SymSpec

def C13_toComponent (c : SymSpec.Comp) : Component :=
  { type := c.kind, id := c.id, nodes := c.nodes, value := c.value }

/-- the drawing element: the symbol `sy` written as `sy.cls(**sy.kwargs name rev)`, placed from `a` to `b` -/
def C13_elemOf (sy : Symbol) (name : String) (rev : Bool) (a b : Pt) : DElem :=
  ⟨sy.cls, sy.kwargs name rev, a, b⟩

/-- the model's translation of that element for the terminal names `la` (start), `lb` (end) -/
def C13_modelComp (π : Rat) (sy : Symbol) (name : String) (rev : Bool) (a b : Pt) (la lb : String) :
    Except Err (Option Component) :=
  elemComp π (C13_elemOf sy name rev a b) [la, lb]

/-- what the Spec says it is -/
def C13_specComp (π : Rat) (sy : Symbol) (name : String) (rev : Bool) (la lb : String) : Option Component :=
  (expected π sy name rev la lb).map C13_toComponent

/-- the symbols on which table and Spec are compared with a positive result: everything but
`Admittance` (no translator), the reversed lossy sources and the rect / tri / saw sources with
`sin=True` (see the file header: there the table DISAGREES with the Spec) -/
def C13_Judged : Symbol → Bool → Prop
  | .admittance _, _ => False
  | .realVoltage _ _, rev => rev = false
  | .realCurrent _ _, rev => rev = false
  | .periodicVoltage _ _ _ _ sin _, _ => sin = false
  | .periodicCurrent _ _ _ _ sin _, _ => sin = false
  | _, _ => True

theorem GQ.deg_sin (π : Rat) (phi : GQ) :
    (phi - { re := 90, im := 0 }) * { re := π, im := 0 } / 180 =
      phi * { re := π, im := 0 } / 180 - { re := π / 2, im := 0 } := by
  have h180 : (180 : GQ) = ⟨180, 0⟩ := rfl
  rw [h180]
  apply GQ.ext'
  · simp only [GQ.div_def, GQ.re_mul, GQ.im_mul, GQ.re_sub, GQ.im_sub, GQ.re_inv, GQ.im_inv, GQ.normSq]
    ring
  · simp only [GQ.div_def, GQ.re_mul, GQ.im_mul, GQ.re_sub, GQ.im_sub, GQ.re_inv, GQ.im_inv, GQ.normSq]
    ring

/-- the conductance of a positive resistance is one the constructors accept -/
theorem nonNeg_inv {R : GQ} (h : Pos R) : NonNeg (1 / R) := by
  rw [one_div]
  refine ⟨by rw [GQ.im_inv, h.1, neg_zero, zero_div], ?_⟩
  rw [GQ.re_inv]
  exact div_nonneg h.2.le (add_nonneg (mul_self_nonneg _) (mul_self_nonneg _))

/-- the Spec's closed-switch resistance is the binary64 literal `1e-12` (the nearest double:
within half an ulp `2⁻⁹³` of `10⁻¹²`) -/
theorem C13_closedSwitchOhms :
    closedSwitchOhms = 4951760157141521 / 4951760157141521099596496896 ∧
      |closedSwitchOhms - 1 / 10 ^ 12| ≤ 1 / 2 ^ 93 := by
  unfold closedSwitchOhms
  constructor
  · norm_num
  · rw [abs_le]; constructor <;> norm_num

theorem specComp_two {π : Rat} {sy : Symbol} {kind : String} {value : List (String × Val)}
    (h : denotes π sy = some ⟨kind, twoTerminal, value⟩) (name : String) (rev : Bool) (la lb : String) :
    C13_specComp π sy name rev la lb = some ⟨kind, name, if rev then [lb, la] else [la, lb], value⟩ := by
  unfold C13_specComp expected
  rw [h]
  cases rev <;> rfl

theorem modelComp_of_built {π : Rat} {sy : Symbol} {cls name : String} {rev : Bool} {o : SymObj} (hcls : sy.cls = cls)
    (ho : construct π cls (sy.kwargs name rev) = .ok o) (a b : Pt) (la lb : String) :
    C13_modelComp π sy name rev a b la lb = compOfSym π ⟨cls, o.name, o.rev, o.nodeId, o.attrs, a, b⟩ [la, lb] := by
  subst hcls
  exact elemComp_of_construct ho a b _

/-- A two-terminal symbol `sy` by what the tables say of its class: what the class reads (`hr`), the one constructor call that
translates it (`hc`), the values `vals` of the attributes read at the call `sy.cls(**sy.kwargs name rev)` (`hside`: literal
look-ups), the call's arguments on ANY symbol object that carries them (`ha`) and the constructor's value dictionary (`hv`) make
up the Spec's component of `sy'` (`sy' = sy` except where the tables disagree with the Spec). -/
theorem modelComp_reads {π : Rat} {sy sy' : Symbol} {name : String} {rev : Bool} {as : List String} {r : Reads}
    {cls kind : String} {value value' vals : List (String × Val)} {tc : TrCase} {spec : CtorSpec} {args : List (String × Val)}
    (hr : readsOf cls as = some r) (hc : ctorCase cls = some (tc, spec)) (hcls : sy.cls = cls)
    (hd : denotes π sy' = some ⟨kind, twoTerminal, value⟩)
    (hside : (∀ q ∈ r.required, ((sy.kwargs name rev).lookup q).isSome) ∧
      (∀ s ∈ r.signed, ∀ v, r.val π (sy.kwargs name rev) s = some v → ∃ z, v = .num z) ∧
      (∀ t, r.shift = some t → truthy ((r.val π (sy.kwargs name rev) t.1).getD (.bool false)) = true →
        ∃ z, r.val π (sy.kwargs name rev) t.2 = some (.num z)) ∧
      r.nameOf π (sy.kwargs name rev) = name ∧ r.revOf π (sy.kwargs name rev) = rev ∧
      ∀ a ∈ as, r.val π (sy.kwargs name rev) ((r.attrs.lookup a).getD .none) = vals.lookup a)
    {a b : Pt} (ha : ∀ (nm nid : String) (attrs : List (String × Val)), (∀ a ∈ as, attrs.lookup a = vals.lookup a) →
      tc.args.mapM (fun kv => do pure (kv.1, ← evalV π ⟨cls, nm, rev, nid, attrs, a, b⟩ kv.2)) = .ok args)
    (hv : ctorValue spec args = .ok value') (hk : tc.nodes = .pairSwapIfRev ∧ spec.kind = kind ∧ value' = value)
    (la lb : String) :
    C13_modelComp π sy name rev a b la lb = .ok (C13_specComp π sy' name rev la lb) := by
  obtain ⟨hreq, hnum, hshift, hname, hrev, hvals⟩ := hside
  obtain ⟨o, ho, hn, hv', -, hat⟩ := construct_reads (π := π) hr (sy.kwargs name rev) hreq hnum hshift
  obtain ⟨hsw, rfl, rfl⟩ := hk
  rw [modelComp_of_built hcls ho, specComp_two hd, ← hn.trans hname, ← hv'.trans hrev]
  exact compOfSym_ctor hc (by rw [hsw]; exact nodeTuple_swap ..)
    ((hv'.trans hrev) ▸ ha _ _ _ fun a h => (hat a h).trans (hvals a h)) hv

/-- the model's phase of an AC source (shifted by the class, converted by the translator) is the Spec's -/
theorem phase_eq (π : Rat) (phi : GQ) (sin deg : Bool) :
    (if deg then (if sin then phi - ⟨if deg then 90 else π / 2, 0⟩ else phi) * ⟨π, 0⟩ / 180
      else (if sin then phi - ⟨if deg then 90 else π / 2, 0⟩ else phi)) = radians π phi sin deg := by
  cases sin <;> cases deg <;> simp [radians, GQ.deg_sin]

theorem sym_plain {π : Rat} {sy : Symbol} {cls kind p : String} {z : GQ} (ht : (cls, kind, p) ∈ plainClasses)
    (hcls : sy.cls = cls) (hpar : sy.params = [(p, .num z)]) (hd : denotes π sy = some ⟨kind, twoTerminal, [(p, .num z)]⟩)
    (h : NonNeg z) (name : String) (rev : Bool) (a b : Pt) (la lb : String) :
    C13_modelComp π sy name rev a b la lb = .ok (C13_specComp π sy name rev la lb) := by
  obtain ⟨hr, hc, -, -, hname, hrev, -⟩ := plain_cert _ ht
  obtain ⟨o, ho, hn, hr, -, hz⟩ := built_plain π hr (kw := sy.kwargs name rev) (z := z) (name := name) (rev := rev)
    (by simp only [Symbol.kwargs, hpar, draw_eval]) (by simp only [Symbol.kwargs, hpar, draw_eval, hname])
    (by simp only [Symbol.kwargs, hpar, draw_eval, hrev])
  rw [modelComp_of_built hcls ho, comp_plain hc hz h, specComp_two hd, hn, hr]

theorem sym_impedance (π : Rat) (Z : GQ) (rev : Bool) (name : String) (a b : Pt) (la lb : String) :
    C13_modelComp π (.impedance Z) name rev a b la lb = .ok (C13_specComp π (.impedance Z) name rev la lb) := by
  obtain ⟨o, ho, hn, hr, -, hz⟩ := built_plain π reads_Impedance (kw := (Symbol.impedance Z).kwargs name rev) rfl rfl rfl
  refine (elemComp_of_construct ho a b _).trans (Eq.trans (comp_impedance rfl hz) ?_)
  rw [specComp_two rfl]
  simp only [hn, hr]
  rfl

/-- the rect / tri / saw sources (`periodicClasses`): `sin` is accepted, stored and IGNORED — the component is that of the
symbol `sy'` with `sin=False` -/
theorem sym_periodic {π : Rat} {sy sy' : Symbol} {cls kind p q wt : String} {d : Option Rat} {z w phi : GQ} {sin deg : Bool}
    (ht : (cls, kind, p, q, wt, d) ∈ periodicClasses) (hcls : sy.cls = cls)
    (hpar : sy.params = [(p, .num z), ("w", .num w), ("phi", .num phi), ("sin", .bool sin), ("deg", .bool deg)])
    (hd : denotes π sy' = some ⟨kind, twoTerminal,
      [("wavetype", .str wt), (p, .num z), ("w", .num w), ("phi", .num (radians π phi false deg)), (q, .num 0)]⟩)
    (h : Pos w) (name : String) (rev : Bool) (a b : Pt) (la lb : String) :
    C13_modelComp π sy name rev a b la lb = .ok (C13_specComp π sy' name rev la lb) := by
  obtain ⟨hr, hc, hwt, hpq, -⟩ := periodic_cert _ ht
  have hkey : "name" ≠ p ∧ "reverse" ≠ p ∧ "w" ≠ p ∧ "phi" ≠ p ∧ "deg" ≠ p := by
    rcases hpq with ⟨rfl, -⟩ | ⟨rfl, -⟩ <;> decide
  obtain ⟨o, ho, hn, hr, -, hz, hw, hp, hdg⟩ := built_wave π false (hpq.imp And.left And.left) hr (kw := sy.kwargs name rev)
    (z := z) (w := w) (phi := phi) (deg := deg) (name := name) (rev := rev)
    (by simp only [Symbol.kwargs, hpar, draw_eval]) (by simp only [Symbol.kwargs, hpar, draw_eval, hkey.2.2.1])
    (by simp only [Symbol.kwargs, hpar, draw_eval, hkey.2.2.2.1]) rfl (by simp only [Symbol.kwargs, hpar, draw_eval, hkey.2.2.2.2])
    (by simp only [Symbol.kwargs, hpar, draw_eval, hkey.1]) (by simp only [Symbol.kwargs, hpar, draw_eval, hkey.2.1])
  rw [modelComp_of_built hcls ho, comp_periodic hpq hwt hc hz hw hp hdg h, specComp_two hd]
  simp only [hn, hr, GQ.ite_neg_ite_neg]
  rfl

theorem periodicVoltage_mem (wave : Wave) (V w phi : GQ) (sin deg : Bool) :
    ((Symbol.periodicVoltage wave V w phi sin deg).cls, "periodic_voltage_source", "V", "R", wave.name, some 0) ∈
      periodicClasses := by
  cases wave <;> simp [periodicClasses, Symbol.cls, Wave.name]

theorem periodicCurrent_mem (wave : Wave) (I w phi : GQ) (sin deg : Bool) :
    ((Symbol.periodicCurrent wave I w phi sin deg).cls, "periodic_current_source", "I", "G", wave.name, none) ∈
      periodicClasses := by
  cases wave <;> simp [periodicClasses, Symbol.cls, Wave.name]

/-! The symbols whose class is alone in its shape: `construct_reads` at the call `sy.cls(**sy.kwargs name rev)`, whose
look-ups are literal — through `modelComp_reads` where one constructor call translates the class. -/

attribute [local draw_eval] Symbol.kwargs Symbol.params

theorem sym_lamp (π : Rat) (V_ref P_ref : GQ) (rev : Bool) (name : String) (a b : Pt) (la lb : String)
    (h : Pos V_ref ∧ NonNeg P_ref) :
    C13_modelComp π (.lamp V_ref P_ref) name rev a b la lb = .ok (C13_specComp π (.lamp V_ref P_ref) name rev la lb) := by
  have hr : readsOf "Lamp" ["P_ref", "V_ref"] = some
      { required := ["V_ref", "P_ref", "name"],
        attrs := [("P_ref", .kw "P_ref" none), ("V_ref", .kw "V_ref" none)] } := by decide +kernel
  apply modelComp_reads (vals := [("P_ref", .num P_ref), ("V_ref", .num V_ref)]) hr (ctorCase_at 17 17 13 rfl rfl rfl) rfl rfl
    (by simp only [draw_eval]) ?ha ?hv ⟨rfl, rfl, rfl⟩ la lb
  case ha =>
    exact fun _ _ _ ha => evalArgs_cons (evalV_attr (ha "P_ref" (by decide)))
      (evalArgs_cons (evalV_attr (ha "V_ref" (by decide))) evalArgs_nil)
  case hv =>
    exact ctorValue_ok rfl rfl (forallMem_cons ⟨_, rfl, valNeg_num h.2⟩ forallMem_nil)
      (forallMem_cons ⟨_, rfl, valNonPos_num h.1⟩ forallMem_nil) forallMem_nil rfl

/-- the closed switch is a resistor of the binary64 `1e-12` Ω, the open one of `∞` -/
theorem sym_switch (π : Rat) (closed : Bool) (rev : Bool) (name : String) (a b : Pt) (la lb : String) :
    C13_modelComp π (.switch closed) name rev a b la lb = .ok (C13_specComp π (.switch closed) name rev la lb) := by
  have hpos : NonNeg ⟨(4951760157141521 : Rat) / 4951760157141521099596496896, 0⟩ := ⟨rfl, by norm_num⟩
  have hr : readsOf "Switch" ["state"] = some
      { required := ["name"], revParam := .kw "reverse" none, name := .kw "name" none,
        attrs := [("state", .kw "state" (some (.str "OPEN")))] } := by decide +kernel
  obtain ⟨o, ho, hn, hr, -, ha⟩ := construct_reads (π := π) hr ((Symbol.switch closed).kwargs name rev)
    (by simp only [draw_eval]) (by simp only [draw_eval]) (by simp only [draw_eval])
  have hst := ha "state" (by decide)
  simp only [draw_eval] at hn hr hst
  cases closed
  · simp only [Bool.false_eq_true, if_false] at hst
    refine (elemComp_of_construct ho a b _).trans
      ((compOfSym_guarded (translator_at 25 rfl) (cases_at 23 rfl) rfl rfl hst).trans ?_)
    rw [specComp_two rfl, ← hn, ← hr, if_pos rfl]
    apply (runCase_ctor (cn := "resistor") rfl ?hs ?hn ?ha ?hv).trans ?fin
    case hs => exact ctor_at 0 rfl
    case hn => exact nodeTuple_swap ..
    case ha => exact evalArgs_cons rfl evalArgs_nil
    case hv => exact ctorValue_ok rfl rfl (forallMem_cons ⟨_, rfl, rfl⟩ forallMem_nil) forallMem_nil forallMem_nil rfl
    case fin => rfl
  · simp only [if_true] at hst
    refine (elemComp_of_construct ho a b _).trans
      ((compOfSym_guarded (translator_at 25 rfl) (cases_at 23 rfl) rfl rfl hst).trans ?_)
    rw [specComp_two rfl, ← hn, ← hr, if_neg (by decide), C13_closedSwitchOhms.1]
    apply (runCase_ctor (cn := "resistor") rfl ?hs ?hn ?ha ?hv).trans ?fin
    case hs => exact ctor_at 0 rfl
    case hn => exact nodeTuple_swap ..
    case ha => exact evalArgs_cons rfl evalArgs_nil
    case hv =>
      exact ctorValue_ok rfl rfl (forallMem_cons ⟨_, rfl, valNeg_num hpos⟩ forallMem_nil) forallMem_nil
        forallMem_nil rfl
    case fin => rfl

theorem sym_short (π : Rat) (rev : Bool) (name : String) (a b : Pt) (la lb : String) :
    C13_modelComp π (.short) name rev a b la lb = .ok (C13_specComp π (.short) name rev la lb) := by
  have hr : readsOf "LabeledLine" [] = some
      { required := ["name"], revParam := .kw "reverse" none, name := .kw "name" none } := by decide +kernel
  apply modelComp_reads (vals := []) hr (ctorCase_at 20 20 15 rfl rfl rfl) rfl rfl (by simp only [draw_eval]) ?ha ?hv ⟨rfl, rfl, rfl⟩ la lb
  case ha => exact fun _ _ _ _ => evalArgs_nil
  case hv => exact ctorValue_ok rfl rfl forallMem_nil forallMem_nil forallMem_nil rfl

theorem sym_dcVoltage (π : Rat) (V : GQ) (rev : Bool) (name : String) (a b : Pt) (la lb : String) :
    C13_modelComp π (.dcVoltage V) name rev a b la lb = .ok (C13_specComp π (.dcVoltage V) name rev la lb) := by
  obtain ⟨hr, hc, -, hreq, hpq⟩ :=
    dc_cert ("VoltageSource", "dc_voltage_source", "V", "R", ["name", "V"]) (by simp [dcClasses])
  obtain ⟨o, ho, hn, hr, -, hz⟩ := built_signed π hr hreq (kw := (Symbol.dcVoltage V).kwargs name rev) rfl rfl rfl
  refine (elemComp_of_construct ho a b _).trans (Eq.trans (comp_dc hpq hc hz) ?_)
  rw [specComp_two rfl]
  simp only [hn, hr, GQ.ite_neg_re]
  rfl

theorem sym_dcCurrent (π : Rat) (I : GQ) (rev : Bool) (name : String) (a b : Pt) (la lb : String) :
    C13_modelComp π (.dcCurrent I) name rev a b la lb = .ok (C13_specComp π (.dcCurrent I) name rev la lb) := by
  obtain ⟨hr, hc, -, hreq, hpq⟩ :=
    dc_cert ("CurrentSource", "dc_current_source", "I", "G", ["I", "name"]) (by simp [dcClasses])
  obtain ⟨o, ho, hn, hr, -, hz⟩ := built_signed π hr hreq (kw := (Symbol.dcCurrent I).kwargs name rev) rfl rfl rfl
  refine (elemComp_of_construct ho a b _).trans (Eq.trans (comp_dc hpq hc hz) ?_)
  rw [specComp_two rfl]
  simp only [hn, hr, GQ.ite_neg_re]
  rfl

theorem sym_complexVoltage (π : Rat) (V : GQ) (rev : Bool) (name : String) (a b : Pt) (la lb : String) :
    C13_modelComp π (.complexVoltage V) name rev a b la lb = .ok (C13_specComp π (.complexVoltage V) name rev la lb) := by
  obtain ⟨hr, hc, -, hreq, hkeys⟩ := complex_cert
    ("ComplexVoltageSource", "complex_voltage_source", "V", "Z", "V_real", "V_imag", "R", "X", ["name", "V"]) (by simp [complexClasses])
  obtain ⟨o, ho, hn, hr, -, hz⟩ := built_signed π hr hreq (kw := (Symbol.complexVoltage V).kwargs name rev) rfl rfl rfl
  refine (elemComp_of_construct ho a b _).trans (Eq.trans (comp_complex hkeys hc hz) ?_)
  rw [specComp_two rfl]
  simp only [hn, hr, GQ.ite_neg_ite_neg]
  rfl

theorem sym_complexCurrent (π : Rat) (I : GQ) (rev : Bool) (name : String) (a b : Pt) (la lb : String) :
    C13_modelComp π (.complexCurrent I) name rev a b la lb = .ok (C13_specComp π (.complexCurrent I) name rev la lb) := by
  obtain ⟨hr, hc, -, hreq, hkeys⟩ := complex_cert
    ("ComplexCurrentSource", "complex_current_source", "I", "Y", "I_real", "I_imag", "G", "B", ["I", "name"]) (by simp [complexClasses])
  obtain ⟨o, ho, hn, hr, -, hz⟩ := built_signed π hr hreq (kw := (Symbol.complexCurrent I).kwargs name rev) rfl rfl rfl
  refine (elemComp_of_construct ho a b _).trans (Eq.trans (comp_complex hkeys hc hz) ?_)
  rw [specComp_two rfl]
  simp only [hn, hr, GQ.ite_neg_ite_neg]
  rfl

theorem sym_acVoltage (π : Rat) (V w phi : GQ) (sin deg rev : Bool) (name : String) (a b : Pt) (la lb : String)
    (h : NonNeg w) :
    C13_modelComp π (.acVoltage V w phi sin deg) name rev a b la lb =
      .ok (C13_specComp π (.acVoltage V w phi sin deg) name rev la lb) := by
  obtain ⟨hr, hc, -, hpq⟩ := ac_cert ("ACVoltageSource", "ac_voltage_source", "V", "R") (by simp [acClasses])
  obtain ⟨o, ho, hn, hr, -, hz, hw, hp, hd⟩ := built_wave π true (by decide) hr
    (kw := (Symbol.acVoltage V w phi sin deg).kwargs name rev) rfl rfl rfl rfl rfl rfl rfl
  refine (elemComp_of_construct ho a b _).trans (Eq.trans (comp_ac hpq hc hz hw hp hd h) ?_)
  rw [specComp_two rfl]
  simp only [hn, hr, GQ.ite_neg_ite_neg, phase_eq]

theorem sym_acCurrent (π : Rat) (I w phi : GQ) (sin deg rev : Bool) (name : String) (a b : Pt) (la lb : String)
    (h : NonNeg w) :
    C13_modelComp π (.acCurrent I w phi sin deg) name rev a b la lb =
      .ok (C13_specComp π (.acCurrent I w phi sin deg) name rev la lb) := by
  obtain ⟨hr, hc, -, hpq⟩ := ac_cert ("ACCurrentSource", "ac_current_source", "I", "G") (by simp [acClasses])
  obtain ⟨o, ho, hn, hr, -, hz, hw, hp, hd⟩ := built_wave π true (by decide) hr
    (kw := (Symbol.acCurrent I w phi sin deg).kwargs name rev) rfl rfl rfl rfl rfl rfl rfl
  refine (elemComp_of_construct ho a b _).trans (Eq.trans (comp_ac hpq hc hz hw hp hd h) ?_)
  rw [specComp_two rfl]
  simp only [hn, hr, GQ.ite_neg_ite_neg, phase_eq]

/-- the lossy voltage source: the class does not negate, the translator does — reversed, the terminals are
swapped AND the amplitude is negated: the Spec's component of the symbol with amplitude `−V` -/
theorem sym_realVoltage (π : Rat) (V R : GQ) (rev : Bool) (name : String) (a b : Pt) (la lb : String) (h : NonNeg R) :
    C13_modelComp π (.realVoltage V R) name rev a b la lb =
      .ok (C13_specComp π (.realVoltage (if rev then -V else V) R) name rev la lb) := by
  have hr : readsOf "RealVoltageSource" ["V", "R"] = some
      { required := ["name", "V", "R"], revParam := .kw "reverse" none,
        attrs := [("V", .kw "V" none), ("R", .kw "R" none)] } := by decide +kernel
  apply modelComp_reads (vals := [("V", .num V), ("R", .num R)])
    (args := [("V", .num (if rev then -⟨V.re, 0⟩ else ⟨V.re, 0⟩)), ("R", .num R)]) hr (ctorCase_at 24 22 3 rfl rfl rfl) rfl rfl
    (by simp only [draw_eval]) ?ha ?hv ⟨rfl, rfl, ?hk⟩ la lb
  case ha =>
    exact fun _ _ _ ha => evalArgs_cons (evalV_signedRe_attr (ha "V" (by decide)))
      (evalArgs_cons (evalV_attr (ha "R" (by decide))) evalArgs_nil)
  case hv =>
    exact ctorValue_ok rfl rfl (forallMem_cons ⟨_, rfl, valNeg_num h⟩ forallMem_nil) forallMem_nil forallMem_nil rfl
  case hk => simp only [GQ.ite_neg_mk_re]; rfl

theorem sym_realCurrent (π : Rat) (I R : GQ) (rev : Bool) (name : String) (a b : Pt) (la lb : String) (h : Pos R) :
    C13_modelComp π (.realCurrent I R) name rev a b la lb =
      .ok (C13_specComp π (.realCurrent (if rev then -I else I) R) name rev la lb) := by
  have h0 : R ≠ 0 := fun h0 => by rw [h0] at h; exact lt_irrefl _ h.2
  have hr : readsOf "RealCurrentSource" ["I", "G"] = some
      { required := ["name", "I", "R"], revParam := .kw "reverse" none,
        attrs := [("I", .kw "I" none), ("G", .inv (.kw "R" none))] } := by decide +kernel
  apply modelComp_reads (vals := [("I", .num I), ("G", .num (1 / R))])
    (args := [("I", .num (if rev then -⟨I.re, 0⟩ else ⟨I.re, 0⟩)), ("G", .num (1 / R))]) hr (ctorCase_at 23 21 5 rfl rfl rfl) rfl rfl
    (by simp only [draw_eval, true_and]; rw [Src.eval_inv _ _ _ (by rw [Src.eval_kw]; rfl), if_neg h0]) ?ha ?hv
    ⟨rfl, rfl, ?hk⟩ la lb
  case ha =>
    exact fun _ _ _ ha => evalArgs_cons (evalV_signedRe_attr (ha "I" (by decide)))
      (evalArgs_cons (evalV_attr (ha "G" (by decide))) evalArgs_nil)
  case hv =>
    exact ctorValue_ok rfl rfl (forallMem_cons ⟨_, rfl, valNeg_num (nonNeg_inv h)⟩ forallMem_nil) forallMem_nil
      forallMem_nil rfl
  case hk => simp only [GQ.ite_neg_mk_re]; rfl

theorem sym_ground (π : Rat) (rev : Bool) (name : String) (a b : Pt) (la lb : String) :
    C13_modelComp π (.ground) name rev a b la lb = .ok (C13_specComp π (.ground) name rev la lb) := by
  obtain ⟨o, ho, -, -, -, hc⟩ := built_Ground π (kw := Symbol.ground.kwargs name rev) (name := name) (rev := rev) rfl rfl a b
  exact (elemComp_of_construct ho a b _).trans (hc la lb)

/-- a class without required, negated or shifted parameters is built from any keyword list -/
theorem built_of_noRequired {π : Rat} {cls : String}
    (h : (readsOf cls []).map (fun r => r.required.isEmpty && r.signed.isEmpty && r.shift.isNone) = some true)
    (kw : List (String × Val)) : ∃ o, construct π cls kw = .ok o := by
  cases hr : readsOf cls [] with
  | none => rw [hr] at h; cases h
  | some r =>
    simp only [hr, Option.map_some, Option.some.injEq, Bool.and_eq_true, List.isEmpty_iff, Option.isNone_iff_eq_none] at h
    obtain ⟨o, ho, -⟩ := construct_reads (π := π) hr kw (by simp [h.1.1]) (by simp [h.1.2]) (by simp [h.2])
    exact ⟨o, ho⟩

theorem sym_node (π : Rat) (labelled : Bool) (rev : Bool) (name : String) (a b : Pt) (la lb : String) :
    C13_modelComp π (.node labelled) name rev a b la lb = .ok (C13_specComp π (.node labelled) name rev la lb) := by
  cases labelled
  · obtain ⟨o, ho⟩ := built_of_noRequired (π := π) (cls := "Node") (by decide +kernel)
      ((Symbol.node false).kwargs name rev)
    exact (elemComp_of_construct ho a b _).trans (compOfSym_none (translator_at 21 rfl))
  · obtain ⟨o, ho⟩ := built_of_noRequired (π := π) (cls := "LabelNode") (by decide +kernel)
      ((Symbol.node true).kwargs name rev)
    exact (elemComp_of_construct ho a b _).trans (compOfSym_none (translator_at 22 rfl))

theorem sym_line (π : Rat) (rev : Bool) (name : String) (a b : Pt) (la lb : String) :
    C13_modelComp π (.line) name rev a b la lb = .ok (C13_specComp π (.line) name rev la lb) := by
  obtain ⟨o, ho, -⟩ := built_Line π (kw := Symbol.line.kwargs name rev) rfl
  exact (elemComp_of_construct ho a b _).trans (compOfSym_none (translator_at 19 rfl))

theorem sym_blank (π : Rat) (rev : Bool) (name : String) (a b : Pt) (la lb : String) :
    C13_modelComp π (.blank) name rev a b la lb = .ok (C13_specComp π (.blank) name rev la lb) := by
  obtain ⟨o, ho⟩ := built_of_noRequired (π := π) (cls := "Element") (by decide +kernel)
    (Symbol.blank.kwargs name rev)
  exact (elemComp_of_construct ho a b _).trans (compOfSym_none (translator_at 29 rfl))

/-- **Per-kind translation = Spec.**  For every symbol kind, all admissible parameter values
(`SymSpec.Admissible`: what the component constructors accept), every name, both reversal flags,
all anchors and terminal names: constructing the symbol from its USER parameters (model of
Elements.py over the generated class table) and translating it (model of the translators and
component constructors over the generated tables) yields exactly the component of the independent
Spec — kind, id = name, value map, terminals start → end, swapped (amplitude not negated) when
reversed; no component for node, label node, wire and blank element.  `C13_Judged` excludes the three
places where table and Spec disagree (theorems below).  NOT said: anything about binary64 rounding
of `phi*pi/180` (exact rationals here), positional `name`, values outside `Admissible`. -/
theorem C13_symbols (π : Rat) (sy : Symbol) (name : String) (rev : Bool) (a b : Pt) (la lb : String)
    (hadm : Admissible sy) (hj : C13_Judged sy rev) :
    C13_modelComp π sy name rev a b la lb = .ok (C13_specComp π sy name rev la lb) := by
  cases sy with
  | resistor R => exact sym_plain (by simp [plainClasses, Symbol.cls]) rfl rfl rfl hadm ..
  | conductance G => exact sym_plain (by simp [plainClasses, Symbol.cls]) rfl rfl rfl hadm ..
  | impedance Z => exact sym_impedance π Z rev name a b la lb
  | admittance Y => exact absurd hj id
  | capacitor C => exact sym_plain (by simp [plainClasses, Symbol.cls]) rfl rfl rfl hadm ..
  | inductance L => exact sym_plain (by simp [plainClasses, Symbol.cls]) rfl rfl rfl hadm ..
  | lamp V_ref P_ref => exact sym_lamp π V_ref P_ref rev name a b la lb hadm
  | switch closed => exact sym_switch π closed rev name a b la lb
  | short => exact sym_short π rev name a b la lb
  | dcVoltage V => exact sym_dcVoltage π V rev name a b la lb
  | dcCurrent I => exact sym_dcCurrent π I rev name a b la lb
  | complexVoltage V => exact sym_complexVoltage π V rev name a b la lb
  | complexCurrent I => exact sym_complexCurrent π I rev name a b la lb
  | acVoltage V w phi sin deg => exact sym_acVoltage π V w phi sin deg rev name a b la lb hadm
  | acCurrent I w phi sin deg => exact sym_acCurrent π I w phi sin deg rev name a b la lb hadm
  | periodicVoltage wave V w phi sin deg =>
    have hs : sin = false := hj
    subst hs
    exact sym_periodic (periodicVoltage_mem ..) rfl rfl rfl hadm ..
  | periodicCurrent wave I w phi sin deg =>
    have hs : sin = false := hj
    subst hs
    exact sym_periodic (periodicCurrent_mem ..) rfl rfl rfl hadm ..
  | realVoltage V R =>
    have hr : rev = false := hj
    subst hr
    exact sym_realVoltage π V R false name a b la lb hadm
  | realCurrent I R =>
    have hr : rev = false := hj
    subst hr
    exact sym_realCurrent π I R false name a b la lb hadm
  | ground => exact sym_ground π rev name a b la lb
  | node labelled => exact sym_node π labelled rev name a b la lb
  | line => exact sym_line π rev name a b la lb
  | blank => exact sym_blank π rev name a b la lb

/-- the hypotheses of `C13_symbols` are met, e.g. by a reversed 12 V / 5 W lamp and by a reversed AC
source with a sine-referenced phase in degrees -/
example : Admissible (.lamp ⟨12, 0⟩ ⟨5, 0⟩) ∧ C13_Judged (.lamp ⟨12, 0⟩ ⟨5, 0⟩) true ∧
    Admissible (.acVoltage ⟨-3, 0⟩ ⟨50, 0⟩ ⟨30, 0⟩ true true) ∧
    C13_Judged (.acVoltage ⟨-3, 0⟩ ⟨50, 0⟩ ⟨30, 0⟩ true true) true := by
  refine ⟨⟨⟨rfl, ?_⟩, rfl, ?_⟩, trivial, ⟨rfl, ?_⟩, trivial⟩ <;> norm_num

theorem translateSym_of_compOfSym {π : Rat} {L : Pt → Except Err String} {s : Sym} {la lb : String}
    {x : Option Component} (h1 : L s.n1 = .ok la) (h2 : L s.n2 = .ok lb)
    (hx : compOfSym π s [la, lb] = .ok x) : translateSym π L s = .ok x := by
  unfold translateSym
  cases hl : Gen.translatorMap.lookup s.cls with
  | none => unfold compOfSym at hx; rw [hl] at hx; cases hx
  | some f =>
    simp only
    rw [mapM_pair, h1, h2]
    simp only [bind, Except.bind, pure, Except.pure]
    rw [hx]; rfl

/-- **The same at the level of `DiagramTranslator.__call__`** (`translateSym`): the symbol object
built from the user parameters exists (construction does not raise), has the class and the
anchors of the drawing element, and — whenever the parser names its two rounded anchors `la`
and `lb` — is translated to exactly the Spec's component (`none`: the symbol is dropped from the
component list). -/
theorem C13_symbols_translate (π : Rat) (sy : Symbol) (name : String) (rev : Bool) (a b : Pt)
    (L : Pt → Except Err String) (la lb : String) (hadm : Admissible sy) (hj : C13_Judged sy rev) :
    (∃ s, (C13_elemOf sy name rev a b).toSym π = .ok s) ∧
    ∀ s, (C13_elemOf sy name rev a b).toSym π = .ok s →
      s.cls = sy.cls ∧ s.start = a ∧ s.stop = b ∧
      (L s.n1 = .ok la → L s.n2 = .ok lb →
        translateSym π L s = .ok (C13_specComp π sy name rev la lb)) := by
  have h := C13_symbols π sy name rev a b la lb hadm hj
  unfold C13_modelComp elemComp at h
  cases hs : (C13_elemOf sy name rev a b).toSym π with
  | error e => simp [hs, bind, Except.bind] at h
  | ok s =>
    simp only [hs, bind, Except.bind] at h
    refine ⟨⟨s, rfl⟩, ?_⟩
    intro s' hs'
    cases hs'
    obtain ⟨k1, k2, k3⟩ := toSym_shell hs
    exact ⟨k1, k2, k3, fun h1 h2 => translateSym_of_compOfSym h1 h2 h⟩

/-- **`Admittance`** — Spec: an `admittance` component (`G = Re Y`, `B = Im Y`, the constructor
exists in components.py); table: the class has no entry in `circuit_translator_map`, the
translation raises `UnknownTranslator` for every value. -/
theorem C13_sym_admittance_untranslated (π : Rat) (Y : GQ) (name : String) (rev : Bool) (a b : Pt) (la lb : String) :
    C13_modelComp π (.admittance Y) name rev a b la lb = .error Err.unknownKind ∧
    (C13_specComp π (.admittance Y) name rev la lb).isSome = true := by
  have hr : readsOf "Admittance" [] = some { required := ["Y", "name"] } := by decide +kernel
  obtain ⟨o, ho, -⟩ := construct_reads (π := π) hr ((Symbol.admittance Y).kwargs name rev)
    (by simp only [draw_eval]) (by simp only [draw_eval]) (by simp only [draw_eval])
  refine ⟨(elemComp_of_construct ho a b _).trans ?_, rfl⟩
  have h : Gen.translatorMap.lookup "Admittance" = none := by decide +kernel
  unfold compOfSym
  rw [h]; rfl

/-- **reversed lossy sources** — the model lists the terminals end → start AND negates the
amplitude: the result is the Spec's component of the symbol with amplitude `−V` (`−I`), i.e. the
reversal flag has no electrical effect on `RealVoltageSource` / `RealCurrentSource`, whereas it
reverses the polarity of every other source (`C13_symbols`). -/
theorem C13_sym_real_reversed (π : Rat) (V R : GQ) (name : String) (a b : Pt) (la lb : String) :
    (NonNeg R → C13_modelComp π (.realVoltage V R) name true a b la lb =
      .ok (C13_specComp π (.realVoltage (-V) R) name true la lb)) ∧
    (Pos R → C13_modelComp π (.realCurrent V R) name true a b la lb =
      .ok (C13_specComp π (.realCurrent (-V) R) name true la lb)) :=
  ⟨sym_realVoltage π V R true name a b la lb, sym_realCurrent π V R true name a b la lb⟩

/-- … which is not the Spec's component unless the real part of the amplitude is zero (the model keeps the real part only).
Stated for the voltage source; the current source is alike. -/
theorem C13_sym_real_reversed_ne (π : Rat) (V R : GQ) (name : String) (a b : Pt) (la lb : String)
    (hR : NonNeg R) (hV : V.re ≠ 0) :
    C13_modelComp π (.realVoltage V R) name true a b la lb ≠
      .ok (C13_specComp π (.realVoltage V R) name true la lb) := by
  rw [sym_realVoltage π V R true name a b la lb hR]
  intro h
  have h' : (-V).re = V.re := by
    simpa [C13_specComp, expected, denotes, C13_toComponent, realPart] using h
  have : -V.re = V.re := h'
  apply hV
  linarith

theorem radians_sin_ne (π : Rat) (hπ : π ≠ 0) (phi : GQ) (deg : Bool) :
    radians π phi true deg ≠ radians π phi false deg := by
  unfold radians
  simp only [if_true, Bool.false_eq_true, if_false]
  intro h
  have := congrArg GQ.re h
  simp only [GQ.re_sub] at this
  apply hπ
  linarith

/-- **rect / tri / saw sources with `sin=True`** — Spec (as for the AC sources, whose
constructor signature they share): phase `− π/2`; table: the flag is stored and ignored, the
component is exactly that of `sin=False`, for every wave form, either reversal flag, `deg` or not. -/
theorem C13_sym_periodic_sin_ignored (π : Rat) (wave : Wave) (V w phi : GQ) (deg : Bool) (name : String)
    (rev : Bool) (a b : Pt) (la lb : String) (h : Pos w) :
    C13_modelComp π (.periodicVoltage wave V w phi true deg) name rev a b la lb =
      .ok (C13_specComp π (.periodicVoltage wave V w phi false deg) name rev la lb) ∧
    C13_modelComp π (.periodicCurrent wave V w phi true deg) name rev a b la lb =
      .ok (C13_specComp π (.periodicCurrent wave V w phi false deg) name rev la lb) :=
  ⟨sym_periodic (periodicVoltage_mem ..) rfl rfl rfl h .., sym_periodic (periodicCurrent_mem ..) rfl rfl rfl h ..⟩

/-- … which is not the Spec's component (`π ≠ 0`).  Stated for the voltage sources; the current sources are alike. -/
theorem C13_sym_periodic_sin_ne (π : Rat) (hπ : π ≠ 0) (wave : Wave) (V w phi : GQ) (deg : Bool) (name : String)
    (rev : Bool) (a b : Pt) (la lb : String) (h : Pos w) :
    C13_modelComp π (.periodicVoltage wave V w phi true deg) name rev a b la lb ≠
      .ok (C13_specComp π (.periodicVoltage wave V w phi true deg) name rev la lb) := by
  rw [(C13_sym_periodic_sin_ignored π wave V w phi deg name rev a b la lb h).1]
  intro h'
  have h'' : radians π phi false deg = radians π phi true deg := by
    simpa [C13_specComp, expected, denotes, C13_toComponent] using h'
  exact radians_sin_ne π hπ phi deg h''.symm

def C13_symbolClasses : List String :=
  ([.resistor 0, .conductance 0, .impedance 0, .admittance 0, .capacitor 0, .inductance 0, .lamp 0 0,
    .switch false, .short, .dcVoltage 0, .dcCurrent 0, .complexVoltage 0, .complexCurrent 0,
    .acVoltage 0 0 0 false false, .acCurrent 0 0 0 false false,
    .periodicVoltage .rect 0 0 0 false false, .periodicVoltage .tri 0 0 0 false false, .periodicVoltage .saw 0 0 0 false false,
    .periodicCurrent .rect 0 0 0 false false, .periodicCurrent .tri 0 0 0 false false, .periodicCurrent .saw 0 0 0 false false,
    .realVoltage 0 0, .realCurrent 0 0, .ground, .node false, .node true, .line, .blank] : List Symbol).map Symbol.cls

/-- the annotation classes: no name, no component -/
def C13_annotationClasses : List String := ["VoltageLabel", "CurrentLabel", "PowerLabel"]

/-- **Every class of the generated table is covered**: every symbol class that carries a name
(`hasattr(e, 'name')`, the parser's circuit elements) is the class of a Spec symbol; every key of the
generated `circuit_translator_map` is such a class or one of the three annotation classes, and those
translate to nothing whatever they carry. -/
theorem C13_symbols_cover :
    (∀ c ∈ Gen.elemClasses, c.named = true → c.cls ∈ C13_symbolClasses) ∧
    (∀ kv ∈ Gen.translatorMap, kv.1 ∈ C13_symbolClasses ∨ kv.1 ∈ C13_annotationClasses) ∧
    (∀ (π : Rat) (s : Sym) (nodes : List String), s.cls ∈ C13_annotationClasses →
      compOfSym π s nodes = .ok none) := by
  refine ⟨by decide +kernel, by decide +kernel, ?_⟩
  intro π s nodes hs
  simp only [C13_annotationClasses, List.mem_cons, List.not_mem_nil, or_false] at hs
  apply compOfSym_none
  rcases hs with hs | hs | hs <;> rw [hs]
  exacts [translator_at 26 rfl, translator_at 27 rfl, translator_at 28 rfl]

/-- `Ground()` written without a name: component id (and node id) `'0'` -/
theorem C13_sym_ground_default (π : Rat) (a b : Pt) (la lb : String) :
    elemComp π ⟨"Ground", [], a, b⟩ [la, lb] =
      .ok (some { type := "ground", id := "0", nodes := [la], value := [] }) := by
  obtain ⟨o, ho, -, -, -, hc⟩ := built_Ground π (kw := []) (name := "0") (rev := false) rfl rfl a b
  exact (elemComp_of_construct ho a b _).trans (hc la lb)

end CC
