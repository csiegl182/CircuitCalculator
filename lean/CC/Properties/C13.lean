/-
  C13 — schematic drawings are read as the netlist they depict.

  Model: CC/Model/Draw.lean (parser, translator interpreter) over the generated tables
  CC/Gen/DrawTables.lean.  Spec: CC/Spec/Draw.lean (`Joined`, `Realises`, `SameUpToRenaming`).

  Every theorem holds for *every* iteration order `ord` of the Python sets
  (`ord.Valid`: the orders are permutations) and, where the point type is not fixed, for
  every point type.
-/
import CC.Proofs.DrawTables
import CC.Proofs.DrawSpec
import CC.Proofs.DrawParser
namespace CC
open CC.Draw

/-- `_get_equal_electrical_potential_nodes(p)` is exactly the set of points that coincide
with `p` or are joined to it by a chain of wires (soundness and completeness). -/
theorem C13_closure {P : Type} [DecidableEq P] (ws : List (P × P)) (p q : P) :
    q ∈ eqp ws p ↔ Joined ws p q :=
  mem_eqp_iff ws p q

/-- The `while` loop ends by its own condition within the fuel `2·|wires| + 1`: the returned
set is a fixed point of the loop body (a further sweep adds nothing). -/
theorem C13_closure_terminates {P : Type} [DecidableEq P] (ws : List (P × P)) (p : P) :
    sweep ws (eqp ws p) = eqp ws p :=
  sweep_of_closed (eqp_closed ws p)

example : eqp [((1 : Nat), 2), (3, 2), (4, 5)] 1 = [3, 2, 1] := by decide

/-- `unique_nodes` is a duplicate-free subset of `all_nodes` with exactly one element in
every class, and the set from which `unique_node_mapping` pops has at most one element —
for every set iteration order. -/
theorem C13_unique_rep {P : Type} [DecidableEq P] (ws : List (P × P)) (ord : SetOrd P)
    (hord : ord.Valid) (all : List P) (hall : all.Nodup) :
    UniqueOK ws all (uniqueNodes ws ord all) ∧
      ∀ n, ((uniqueNodes ws ord all).filter (· ∈ (eqp ws n).filter (· ≠ n))).length ≤ 1 :=
  ⟨uniqueNodes_ok ws hord hall, fun n => urep_candidates_le_one (uniqueNodes_ok ws hord hall) n⟩

/-- Two terminals get the same node name iff they coincide or are joined by wires: the naming
*realises* the wire partition.  Hypotheses: labelled-node symbols sit on terminals and no
name is used on two different electrical nodes (`NodeSymsWF`). -/
theorem C13_same_label_iff {P : Type} [DecidableEq P] (ws : List (P × P)) (ord : SetOrd P)
    (hord : ord.Valid) (all : List P) (hall : all.Nodup) (nodeSyms : List (P × String))
    (hwf : NodeSymsWF ws all nodeSyms) :
    ∃ lab : P → String,
      (∀ p ∈ all, getNodeIndex ws ord all nodeSyms p = .ok (lab p)) ∧ Realises ws all lab :=
  let ⟨lab, h1, _, h2⟩ := getNodeIndex_spec ws hord hall hwf
  ⟨lab, h1, h2⟩

/-- non-vacuity: a two-resistor divider with a wire, a label and both iteration orders reversed -/
example :
    let ws : List (Nat × Nat) := [(2, 3)]
    let ord : SetOrd Nat := ⟨List.reverse, List.reverse⟩
    (getNodeIndex ws ord [0, 1, 2, 3] [(3, "A")] 2, getNodeIndex ws ord [0, 1, 2, 3] [(3, "A")] 3,
      getNodeIndex ws ord [0, 1, 2, 3] [(3, "A")] 0) = (.ok "A", .ok "A", .ok "3") := by decide

/-- A node or ground symbol names the electrical node it sits on (when several symbols sit on
one node, the last one in drawing order wins). -/
theorem C13_named {P : Type} [DecidableEq P] (ws : List (P × P)) (ord : SetOrd P)
    (hord : ord.Valid) (all : List P) (hall : all.Nodup) (pre post : List (P × String))
    (ps : P × String) (hwf : NodeSymsWF ws all (pre ++ ps :: post))
    (hlast : ∀ ps' ∈ post, ¬ Joined ws ps.1 ps'.1) :
    getNodeIndex ws ord all (pre ++ ps :: post) ps.1 = .ok ps.2 :=
  getNodeIndex_named ws hord hall hwf hlast

/-- The reversal flag is treated consistently, in four parts:
  * every generated translator body passes `TrCase.polarityOK` (only an amplitude argument `V` / `I` looks at the
    flag, and it is negated exactly when the terminals are swapped; passive symbols swap without a sign, 006d781);
  * the signed argument `e if not reverse else -e` evaluates to `e`, negated when the symbol is reversed;
  * the node tuple `pairSwapIfRev` lists the terminals `(start, end)`, swapped when the symbol is reversed;
  * an expression that does not mention the flag evaluates the same whatever the flag.
Together: a source contributes its element value from `start` to `end` whether or not it is marked reversed. -/
theorem C13_polarity :
    (∀ t ∈ Gen.translators, translatorPolarityOK t = true) ∧
    (∀ (π : Rat) (s : Sym) (e : VExpr),
      evalV π s (.ifNotRev e (.neg e)) = if s.rev then evalV π s (.neg e) else evalV π s e) ∧
    (∀ (rev : Bool) (a b : String) (rest : List String),
      nodeTuple .pairSwapIfRev rev (a :: b :: rest) = .ok (if rev then [b, a] else [a, b])) ∧
    (∀ (π : Rat) (s : Sym) (r : Bool) (e : VExpr), e.revFree = true →
      evalV π { s with rev := r } e = evalV π s e) :=
  ⟨by decide +kernel, evalV_signed, nodeTuple_swap, evalV_revFree⟩

/-- regression (repaired by db741a0): a non-reversed complex current source is
translated, with its own value from `start` to `end` -/
example :
    translateSym 3 (fun _ => .ok "n")
        { cls := "ComplexCurrentSource", name := "I1", rev := false, attrs := [("I", .num ⟨1, 2⟩)],
            start := ⟨0, 0⟩, stop := ⟨0, 1⟩ }
      = .ok (some { type := "complex_current_source", id := "I1", nodes := ["n", "n"],
                      value := [("I_real", .num ⟨1, 0⟩), ("I_imag", .num ⟨2, 0⟩), ("G", .num ⟨0, 0⟩), ("B", .num ⟨0, 0⟩)] }) := by
  decide +kernel

/-- a reversed DC source of element value −5 between nodes a (start) and b (end) is listed from
b to a with value +5: the same source -/
example :
    translateSym 3 (fun p => .ok (if p = ⟨0, 0⟩ then "a" else "b"))
        { cls := "VoltageSource", name := "V1", rev := true, attrs := [("V", .num ⟨-5, 0⟩)],
            start := ⟨0, 0⟩, stop := ⟨0, 1⟩ }
      = .ok (some { type := "dc_voltage_source", id := "V1", nodes := ["b", "a"],
                      value := [("V", .num ⟨5, 0⟩), ("R", .num 0), ("w", .num 0), ("phi", .num 0)] }) := by
  decide +kernel

/-- what a drawing must satisfy for the netlist theorem: no name on two different nodes -/
def C13_DrawingWF (syms : List Sym) : Prop :=
  ∀ ps ∈ nodeSymsOf syms, ∀ ps' ∈ nodeSymsOf syms, ps.2 = ps'.2 → Joined (wiresOf syms) ps.1 ps'.1

/-- What is proved about `circuit_translator`: a node naming `lab` exists that is defined on every
terminal of every named symbol, *realises* the wire partition (same name ⇔ joined), and is the
naming `labelOf` the translation uses.  The fourth conjunct only unfolds the definition of
`circuitTranslator` (it is `rfl`, it needs no hypothesis): the components are the per-symbol
translations `translateSym` — an interpretation of the generated translator tables — under that
naming.  Elsewhere: that kinds and values are those of the independent Spec of the symbols is `C13_symbols`
(CC/Properties/C13Symbols.lean); that the reference node (`groundNode`) is the node of the ground symbol is
`C13_ground` (C13Ground.lean); that two translations agree up to a renaming is `C13_moved` / `C13_split` /
`C13_perm` (C13Invariance.lean).  The tables are tied to the code by generation, `C13_polarity` / `C13_tables`
and the correspondence. -/
theorem C13_netlist (π : Rat) (ord : SetOrd Pt) (hord : ord.Valid) (syms : List Sym) (hwf : C13_DrawingWF syms) :
    ∃ lab : Pt → String,
      Realises (wiresOf syms) (allNodes syms) lab ∧
      (∀ p ∈ allNodes syms, labelOf ord syms p = .ok (lab p)) ∧
      (∀ s ∈ syms, s.hasName = true → s.n1 ∈ allNodes syms ∧ s.n2 ∈ allNodes syms) ∧
      circuitTranslator π ord syms =
        (do let cs ← syms.mapM (translateSym π (labelOf ord syms)); mkCircuit (cs.filterMap id)) := by
  obtain ⟨lab, h1, _, h2⟩ := getNodeIndex_spec (wiresOf syms) hord (nodup_allNodes syms)
    (nodeSyms := nodeSymsOf syms) ⟨nodeSyms_on_terminal syms, hwf⟩
  exact ⟨lab, h2, h1, fun s hs hn => mem_allNodes_of_named hs hn, rfl⟩

/-- two namings that realise the same wire partition induce the same partition of the points -/
theorem C13_realising_unique {P L L' : Type} (ws : List (P × P)) (pts : List P) (lab : P → L) (lab' : P → L')
    (h : Realises ws pts lab) (h' : Realises ws pts lab') : SameUpToRenaming pts lab lab' :=
  fun p hp q hq => (h p hp q hq).trans (h' p hp q hq).symm

/-- **geometry** (a statement about the Spec relation `Joined` only — no model or generated term
occurs in it): IF a coordinate map `f` is injective on the points used (`hinj`, an assumption:
that *rounding ∘ rotation / translation / rescaling* is injective on the terminals of a given
drawing is a fact about float geometry, checked per case by the oracle, never discharged
here), THEN it preserves and reflects "joined by wires", and namings that realise the original
and the transformed wire list induce the same partition.  That the two *translated circuits*
agree up to renaming, and hence have the same solution, is `C13_moved` / `C13_moved_same_solution`
(CC/Properties/C13Invariance.lean). -/
theorem C13_geometry {P Q L L' : Type} (f : P → Q) (D : P → Prop) (ws : List (P × P))
    (hinj : ∀ x y, D x → D y → f x = f y → x = y) (hD : CoversWires D ws) :
    (∀ p q, D p → D q → (Joined (mapWires f ws) (f p) (f q) ↔ Joined ws p q)) ∧
    (∀ (pts : List P) (lab : P → L) (lab' : Q → L'), (∀ p ∈ pts, D p) →
      Realises ws pts lab → Realises (mapWires f ws) (pts.map f) lab' →
      SameUpToRenaming pts lab (lab' ∘ f)) := by
  refine ⟨fun p q hp hq => joined_map_iff hinj hD hp hq, ?_⟩
  intro pts lab lab' hpts h h' p hp q hq
  rw [h p hp q hq]
  have := h' (f p) (List.mem_map.mpr ⟨p, hp, rfl⟩) (f q) (List.mem_map.mpr ⟨q, hq, rfl⟩)
  rw [Function.comp, Function.comp, this]
  exact (joined_map_iff hinj hD (hpts p hp) (hpts q hq)).symm

/-- **wire split** (again a lemma about `Joined` on wire lists, not about the model): replacing a
wire by a chain through fresh, pairwise distinct points does not change which of the original
points are joined.  Its lifting to translated circuits is `C13_split` / `C13_split_same_solution`
(CC/Properties/C13Invariance.lean). -/
theorem C13_wire_split {P : Type} [DecidableEq P] (pre post : List (P × P)) (a b : P) (cs : List P)
    (hfresh : ∀ c ∈ cs, FreshPt c (pre ++ (a, b) :: post)) (hnd : cs.Nodup)
    (p q : P) (hp : p ∉ cs) (hq : q ∉ cs) :
    Joined (pre ++ chainWires a cs b ++ post) p q ↔ Joined (pre ++ (a, b) :: post) p q :=
  joined_chain_iff cs hfresh hnd hp hq

example : chainWires (0 : Nat) [7, 8] 1 = [(0, 7), (7, 8), (8, 1)] := rfl

/-- **order**: permuting the symbol list permutes the model's wire list (`wiresOf`) and keeps
`allNodes` as a set, hence keeps `Joined`.  The third conjunct is the generic
`List.Perm.filterMap` (any per-symbol function commutes with the permutation); that the node
*naming* (up to a renaming), the reference node (given a ground symbol) and the solution are unaffected is
`C13_perm` / `C13_perm_same_solution` (CC/Properties/C13Invariance.lean). -/
theorem C13_order (syms syms' : List Sym) (h : syms.Perm syms') :
    (∀ p q, Joined (wiresOf syms) p q ↔ Joined (wiresOf syms') p q) ∧
    (∀ p, p ∈ allNodes syms ↔ p ∈ allNodes syms') ∧
    (∀ g : Sym → Option Component, (syms.filterMap g).Perm (syms'.filterMap g)) := by
  refine ⟨fun p q => joined_perm ((h.filter _).map _), fun p => ?_, fun g => h.filterMap g⟩
  simp only [mem_allNodes_iff, h.mem_iff]

/-- The generated tables are closed and unambiguous: class names and map keys are distinct,
every translator / constructor the map refers to was extracted, node classes carry names,
every named symbol class (but `Admittance`) has a translator, the sine shift of a phase given in
degrees is 90 (repaired by 0b34a29), every two-terminal translator swaps its terminals
under `reverse` (006d781), coordinates are snapped to 9 decimals before they are rounded to the
2-decimal node grid (631ff19). -/
theorem C13_tables :
    classNamesDistinct = true ∧ translatorMapKeysDistinct = true ∧ translatorMapClosed = true ∧
    nodeClassesNamed = true ∧ namedClassesTranslated = true ∧ sinShiftInDegrees = true ∧
    allTwoTerminalSwap = true ∧ Gen.roundDigits = [9, 2] := by decide +kernel

end CC
