/-
  Property C09 (and C03 / C05 through the two classes), translator tie — `TimeDomainSolution` and
  `FrequencyDomainSolution` of Circuit/solution.py: `__post_init__`, `_series`, the getters.

  harness/extract_solution.py translates these methods statement by statement into the GENERATED trees
  `Gen.Sol.methodTable` (CC/Gen/Solution.lean, rewritten from the source on every run); CC/Model/SolutionEval.lean
  part (A) is the reading of such a tree (`evalP`, `runMethod`, `closureAt`; names `frequency_components`, `transform`,
  `ComplexSolution`, `self.solver`, `solution.get_q` bound to `Gen.Freq.frequency_components`, `CC.transform`,
  `transformCircuit` + solver, `Net.quantity` / `cxGet`).  The hand transcriptions of CC/Properties/C09Line.lean, on
  which `C09_line_*` rest, are proved to be EXACTLY that reading — for every circuit, `w_max`, solver, id, exceptions
  included.  The `_shape` theorems state the generated trees literally (the table entries, `findMethod_entry`); the
  others rest on them and step through the trees statement by statement.

  A changed call, argument, keyword (`peak_values`), iteration source, slice, sign, `conj`, factor or summand in these
  methods changes the generated tree (or is refused by the translator) and the `_shape` theorem fails to compile.
  Trusted: the reading (CC/Model/SolutionEval.lean), in particular `closureAt`, which recognises the Fourier synthesis
  sum as a whole and reads its summand `np.abs(X)*np.cos(w*t+np.angle(X))` as `lineValue` (identity over ℂ:
  `CC.C09_time_function`); `fc` / `C` as the two readings of one circuit.  NOT read: the identifier guards
  (`Gen.Sol.requireTable`, C19), `get_power` of either class beyond its literal tree, dataclass field defaults.
-/
import CC.Model.SolutionEval
import CC.Properties.C09Line
import CC.Proofs.SolEval
namespace CC
open Gen Gen.Sol SolEval

theorem mapM_asGQ_comp (f : GQ → GQ) (X : List GQ) : List.mapM (asGQ ∘ fun z => PVal.gq (f z)) X = .ok (X.map f) :=
  mapM_pure_ok f X
theorem mapM_asRat_comp (f : Rat → Rat) (X : List Rat) : List.mapM (asRat ∘ fun z => PVal.rat (f z)) X = .ok (X.map f) :=
  mapM_pure_ok f X
theorem mapM_asGQ_fun' (X : List GQ) : List.mapM (fun z => asGQ (PVal.gq z)) X = .ok X :=
  (mapM_pure_ok id X).trans (congrArg _ X.map_id)
theorem mapM_asRat_fun' (X : List Rat) : List.mapM (fun z => asRat (PVal.rat z)) X = .ok X :=
  (mapM_pure_ok id X).trans (congrArg _ X.map_id)
theorem mapM_asGQ_gqs (X : List GQ) : List.mapM asGQ (X.map PVal.gq) = .ok X := by
  rw [List.mapM_map]; exact mapM_asGQ_fun' X
theorem mapM_asRat_rats' (ws : List Rat) : List.mapM asRat (ws.map PVal.rat) = .ok ws := by
  rw [List.mapM_map]; exact mapM_asRat_fun' ws
theorem mapM_asList_two (a b : List PVal) : List.mapM asList [PVal.list a, PVal.list b] = .ok [a, b] := rfl
theorem mapM_asList_three (a b c : List PVal) : List.mapM asList [PVal.list a, PVal.list b, PVal.list c] = .ok [a, b, c] := rfl

/-- `if len(self.w) == 0: transform(self.circuit, w=[0])` -/
def emptyGuardStmt : PStmt :=
  .ifExpr (.cmp "==" (.call "len" (.pos (.self "w") .nil)) (.nat 0))
    (.call "transform" (.pos (.self "circuit") (.kw "w" (.list (.pos (.nat 0) .nil)) .nil)))

/-- `frequency_components(self.circuit, self.w_max)` -/
def freqCallExpr : PExpr := .call "frequency_components" (.pos (.self "circuit") (.pos (.self "w_max") .nil))

theorem C09_gen_td_init_shape :
    findMethod "TimeDomainSolution" "__post_init__" = some
      { cls := "TimeDomainSolution", name := "__post_init__", params := [],
        body := [
          .assign (.self "w") freqCallExpr,
          .assign (.name "networks") (.call "transform" (.pos (.self "circuit") (.kw "w" (.self "w") .nil))),
          .assign (.self "_solutions") (.comp (.apply (.self "solver") (.pos (.name "network") .nil)) (.name "network") (.name "networks")),
          emptyGuardStmt] } :=
  findMethod_entry 0 rfl

theorem C09_gen_fd_init_shape :
    findMethod "FrequencyDomainSolution" "__post_init__" = some
      { cls := "FrequencyDomainSolution", name := "__post_init__", params := [],
        body := [
          .assign (.self "w") (.call "np.array" (.pos freqCallExpr .nil)),
          .assign (.self "_solutions") (.call "np.array" (.pos (.comp
            (.call "ComplexSolution" (.kw "circuit" (.self "circuit") (.kw "solver" (.self "solver") (.kw "w" (.name "w") (.kw "peak_values" .tt .nil)))))
            (.name "w") (.self "w")) .nil)),
          emptyGuardStmt] } :=
  findMethod_entry 5 rfl

/-- the dataclass fields of both classes when `__post_init__` starts -/
def selfFields (wmax : Rat) (oneSided : Bool) : List (String × PVal) :=
  [("circuit", .circuit), ("w_max", .rat wmax), ("solver", .solverFn), ("one_sided", .bool oneSided)]

/-- what `__post_init__` of either class leaves behind, given the frequencies and the per-frequency objects -/
def initEnv (wmax : Rat) (b : Bool) (ws : List Rat) (sols : List PVal) (locals : List (String × PVal)) : PEnv × Option PVal :=
  (⟨("_solutions", .list sols) :: ("w", .list (ws.map .rat)) :: selfFields wmax b, locals⟩, none)

/-- `if len(self.w) == 0: transform(self.circuit, w=[0])`: with no frequency to analyse the circuit is still transformed once
(so that an ill-formed circuit raises) -/
def emptyGuard (W : World) (ws : List Rat) : Except Err Unit :=
  if ws = [] then (do let _ ← transform tables W.trig W.harm W.C [0] defaultWResTransform; pure ()) else pure ()

section PostInit
variable (W : World) (cs : String → List PVal → Except Err PVal) (wmax : Rat) (b : Bool)

theorem eval_freqCall (locals : List (String × PVal)) :
    evalP W cs ⟨selfFields wmax b, locals⟩ freqCallExpr
      = (Freq.frequency_components W.fc wmax Freq.default_w_resolution).map fun ws => .list (ws.map .rat) := by
  simp only [freqCallExpr, sol_eval, selfFields, String.reduceBEq]

theorem runBody_emptyGuard (ws : List Rat) (sols : List PVal) (locals : List (String × PVal)) :
    runBody W cs (initEnv wmax b ws sols locals).1 [emptyGuardStmt]
      = (do emptyGuard W ws; pure (initEnv wmax b ws sols locals)) := by
  unfold emptyGuardStmt initEnv emptyGuard
  rw [runBody]
  simp only [sol_eval, selfFields, String.reduceBEq, List.length_map]
  cases ws with
  | nil =>
    simp only [List.length_nil, BEq.rfl, List.mapM_cons, List.mapM_nil, asRat, Nat.cast_zero, bind_assoc, sol_eval, ↓reduceIte]
    rfl
  | cons w ws => rfl

end PostInit

/-- **C09 (generated `TimeDomainSolution.__post_init__`).**  The reading of the generated tree — for every circuit,
`w_max`, solver — is: `self.w` = the GENERATED `frequency_components` of the circuit at `w_max` and the default
resolution (= the hand model `frequencyComponents`: `C09_gen_frequency_components`), `self._solutions` = the hand
transcription `tdSolutions` of C09Line.lean at those frequencies (one `transform` of the circuit over the whole list at
the default resolution, the solver applied to each network, in order), then the empty-list guard; exceptions included
(the first one raised wins).  So `tdSolutions` IS the reading of the generated description.
Not said: what `transform` / the solver compute (C07, C01); solver exceptions. -/
theorem C09_gen_td_post_init (W : World) (wmax : Rat) (b : Bool) :
    runMethod W "TimeDomainSolution" 1 (selfFields wmax b) "__post_init__" [] = (do
      let ws ← Freq.frequency_components W.fc wmax Freq.default_w_resolution
      let sols ← tdSolutions W.trig W.harm W.solve W.C ws
      emptyGuard W ws
      pure (initEnv wmax b ws (sols.map fun s => .sol s.1 s.2) [("networks", .list (sols.map fun s => .net s.1))])) := by
  rw [runMethod_succ W C09_gen_td_init_shape 0 rfl]
  -- `self.w = frequency_components(self.circuit, self.w_max)`
  rw [runBody, eval_freqCall, map_bind]
  refine bind_congr fun ws => ?_
  rw [bindP, ok_bind]
  -- `networks = transform(self.circuit, w=self.w)`
  rw [runBody]
  simp only [sol_eval, selfFields, String.reduceBEq, mapM_asRat_rats', tdSolutions, bind_assoc]
  refine bind_congr fun nets => ?_
  -- `self._solutions = [self.solver(network) for network in networks]`
  rw [runBody]
  simp only [sol_eval, String.reduceBEq, List.mapM_map, Function.comp_def, mapM_pure_ok, List.map_map]
  exact runBody_emptyGuard W _ wmax b ws _ _

/-- `ComplexSolution(circuit=self.circuit, solver=self.solver, w=w, peak_values=p)` is the object `cxSolution` of C09Line.lean -/
theorem mkComplexSolution_kws (W : World) (w : Rat) (p : Bool) :
    mkComplexSolution W [.kwarg "circuit" .circuit, .kwarg "solver" .solverFn, .kwarg "w" (.rat w), .kwarg "peak_values" (.bool p)]
      = (cxSolution W.trig W.harm W.solve W.C w).map fun s => PVal.cx p s.1 s.2 := by
  simp only [mkComplexSolution, kwLookupP, String.reduceEq, ↓reduceIte, List.length_cons, List.length_nil, asRat, sol_eval,
    cxSolution, cxNet]
  cases transformCircuit tables W.trig W.harm W.C w defaultWResTransform <;> rfl

/-- **C09 (generated `FrequencyDomainSolution.__post_init__`).**  The reading of the generated tree: `self.w` = the
GENERATED `frequency_components` at `w_max` (as an array), `self._solutions` = one
`ComplexSolution(circuit=self.circuit, solver=self.solver, w=w, peak_values=True)` per listed frequency, in order —
the hand transcription `fdSolutions` of C09Line.lean (each object: `cxSolution` = the network `cxNet … w` of C02 and the
solver's vector), all with `peak_values = True` — then the empty-list guard; exceptions included.
A changed keyword (`peak_values=False`, another `w`, another solver), iteration source or constructor changes the
generated tree (`C09_gen_fd_init_shape`) or the reading. -/
theorem C09_gen_fd_post_init (W : World) (wmax : Rat) (b : Bool) :
    runMethod W "FrequencyDomainSolution" 1 (selfFields wmax b) "__post_init__" [] = (do
      let ws ← Freq.frequency_components W.fc wmax Freq.default_w_resolution
      let sols ← fdSolutions W.trig W.harm W.solve W.C ws
      emptyGuard W ws
      pure (initEnv wmax b ws (sols.map fun s => .cx true s.1 s.2) [])) := by
  rw [runMethod_succ W C09_gen_fd_init_shape 0 rfl]
  -- `self.w = np.array(frequency_components(self.circuit, self.w_max))`
  rw [runBody]
  simp only [sol_eval, eval_freqCall, bind_assoc]
  refine bind_congr fun ws => ?_
  -- `self._solutions = np.array([ComplexSolution(circuit=self.circuit, solver=self.solver, w=w, peak_values=True) for w in self.w])`
  rw [runBody]
  simp only [sol_eval, selfFields, String.reduceBEq, List.mapM_map, Function.comp_def, mkComplexSolution_kws,
    mapM_map_left, bind_assoc]
  refine bind_congr fun sols => ?_
  exact runBody_emptyGuard W _ wmax b ws _ _

/-- `ac = slice(1, None) if len(self.w) > 0 and self.w[0] == 0 else slice(0, None)` -/
def acExpr : PExpr :=
  .ifexp (.and_ (.cmp ">" (.call "len" (.pos (.self "w") .nil)) (.nat 0)) (.cmp "==" (.index (.self "w") (.nat 0)) (.nat 0)))
    (.call "slice" (.pos (.nat 1) (.pos .none_ .nil))) (.call "slice" (.pos (.nat 0) (.pos .none_ .nil)))

/-- `x[ac][::-1]` -/
def acRev (x : PExpr) : PExpr := .index (.index x (.name "ac")) (.slice .none_ .none_ (.neg (.nat 1)))

theorem C09_gen_series_shape :
    findMethod "FrequencyDomainSolution" "_series" = some
      { cls := "FrequencyDomainSolution", name := "_series", params := ["values"],
        body := [
          .ifReturn (.self "one_sided") (.tuple (.pos (.call "np.array" (.pos (.self "w") .nil)) (.pos (.name "values") .nil))),
          .assign (.name "ac") acExpr,
          .assign (.name "w") (.call "np.concatenate" (.pos (.tuple (.pos (.neg (acRev (.self "w"))) (.pos (.self "w") .nil))) .nil)),
          .ret (.tuple (.pos (.name "w") (.pos (.call "np.concatenate" (.pos (.tuple
            (.pos (.bin "/" (.call "np.conj" (.pos (acRev (.name "values")) .nil)) (.nat 2))
            (.pos (.index (.name "values") (.slice .none_ (.bin "-" (.call "len" (.pos (.self "w") .nil)) (.call "len" (.pos (.index (.self "w") (.name "ac")) .nil))) .none_))
            (.pos (.bin "/" (.index (.name "values") (.name "ac")) (.nat 2)) .nil)))) .nil)) .nil)))] } :=
  findMethod_entry 6 rfl

/-- the attributes of a `FrequencyDomainSolution` / `TimeDomainSolution` object after `__post_init__` -/
def objAttrs (wmax : Rat) (oneSided : Bool) (ws : List Rat) (sols : List PVal) : List (String × PVal) :=
  ("_solutions", .list sols) :: ("w", .list (ws.map .rat)) :: selfFields wmax oneSided

/-- the object `__post_init__` leaves behind (`C09_gen_td_post_init`, `C09_gen_fd_post_init`) is the object on which `_series` and the
getters are run below -/
theorem initEnv_self (wmax : Rat) (b : Bool) (ws : List Rat) (sols : List PVal) (locals : List (String × PVal)) :
    (initEnv wmax b ws sols locals).1.self = objAttrs wmax b ws sols := rfl

section Series
variable (W : World) (cs : String → List PVal → Except Err PVal) (wmax : Rat) (oneSided : Bool) (ws : List Rat) (sols : List PVal)

/-- the attributes the methods look up; `self._series` is not a field: it is the bound method -/
@[sol_eval] theorem lookup_objAttrs :
    (objAttrs wmax oneSided ws sols).lookup "w" = some (.list (ws.map .rat)) ∧
    (objAttrs wmax oneSided ws sols).lookup "circuit" = some .circuit ∧
    (objAttrs wmax oneSided ws sols).lookup "one_sided" = some (.bool oneSided) ∧
    (objAttrs wmax oneSided ws sols).lookup "_series" = none := by
  simp only [objAttrs, selfFields, List.lookup, String.reduceBEq, and_self]

theorem eval_acExpr (σ : PEnv) (hw : σ.self.lookup "w" = some (.list (ws.map .rat))) :
    evalP W cs σ acExpr = .ok (.slice (dcCount ws)) := by
  unfold acExpr
  simp only [sol_eval, hw, List.length_map]
  cases ws with
  | nil => simp only [List.length_nil, Nat.lt_irrefl, decide_false, dcCount, sol_eval]
  | cons w ws =>
    simp only [List.length_cons, Nat.zero_lt_succ, decide_true, List.map_cons, sol_eval, List.getElem?_cons_zero,
      Nat.cast_zero, dcCount]
    by_cases hw0 : w = 0
    · simp only [hw0, decide_true, ↓reduceIte]
    · simp only [hw0, decide_false, ↓reduceIte]

end Series

theorem fd_series_any (W : World) (oneSided : Bool) (ws : List Rat) (attrs : List (String × PVal)) (X : List GQ)
    (hw : attrs.lookup "w" = some (.list (ws.map .rat))) (ho : attrs.lookup "one_sided" = some (.bool oneSided)) :
    (runMethod W "FrequencyDomainSolution" 1 attrs "_series" [.list (X.map .gq)]).map (·.2)
      = .ok (some (.list [.list ((series oneSided ws X).1.map .rat), .list ((series oneSided ws X).2.map .gq)])) := by
  rw [runMethod_succ W C09_gen_series_shape 0 rfl, runBody]
  -- `if self.one_sided: return np.array(self.w), values`
  simp only [sol_eval, hw, ho, List.zip_cons_cons, List.zip_nil_right, String.reduceBEq]
  cases oneSided with
  | true => rfl
  | false =>
    -- `ac = slice(1, None) if len(self.w) > 0 and self.w[0] == 0 else slice(0, None)`
    rw [runBody, eval_acExpr W _ ws _ hw, ok_bind, bindP, ok_bind]
    -- `w = np.concatenate((-self.w[ac][::-1], self.w))`
    rw [runBody]
    simp only [acRev, sol_eval, hw, String.reduceBEq, ← List.map_drop, ← List.map_reverse, mapM_asRat_rats', mapM_asList_two,
      List.flatten_cons, List.flatten_nil, List.append_nil]
    -- `return w, np.concatenate((np.conj(values[ac][::-1])/2, values[:len(self.w)-len(self.w[ac])], values[ac]/2))`
    rw [runBody]
    simp only [sol_eval, hw, String.reduceBEq, ← List.map_drop, ← List.map_reverse, ← List.map_take, mapM_asGQ_gqs, List.length_map]
    simp only [List.mapM_map, mapM_asGQ_comp, sol_eval, mapM_asList_three, List.flatten_cons, List.flatten_nil, List.append_nil]
    simp only [series, mirrorW, mirrorX, Bool.false_eq_true, ↓reduceIte, List.map_append, List.map_map, Function.comp_def,
      List.append_assoc]
    rfl

/-- **C09 (generated `_series`).**  The reading of the generated tree of `FrequencyDomainSolution._series` on an object whose
`self.w` lists the frequencies `ws`, applied to the array of per-frequency values `X` — every `ws`, every `X`, both values of
`one_sided` — returns the pair `series one_sided ws X` of the hand model (CC/Model/MultiFreq.lean): one-sided `(w, values)`
unchanged; two-sided the mirrored axis `mirrorW` (negated reversed AC part, then `w`) and `mirrorX` (`conj(X[ac][::-1])/2`, the
DC entry once, `X[ac]/2`), with `ac` dropping the first entry exactly when the list starts with `0` (`dcCount`).
`/ 2` on an array is read as multiplication by `GQ.ofRat (1/2)`.  Not said: dtypes; `values` of another length than `w` is
sliced as numpy slices it (no error). -/
theorem C09_gen_fd_series (W : World) (wmax : Rat) (oneSided : Bool) (ws : List Rat) (sols : List PVal) (X : List GQ) :
    (runMethod W "FrequencyDomainSolution" 1 (objAttrs wmax oneSided ws sols) "_series" [.list (X.map .gq)]).map (·.2)
      = .ok (some (.list [.list ((series oneSided ws X).1.map .rat), .list ((series oneSided ws X).2.map .gq)])) :=
  fd_series_any W oneSided ws _ X (lookup_objAttrs wmax oneSided ws sols).1 (lookup_objAttrs wmax oneSided ws sols).2.2.1

/-- `[solution.<getter>(<id>) for solution in self._solutions]` -/
def linesExpr (getter id : String) : PExpr :=
  .comp (.apply (.attr (.name "solution") getter) (.pos (.name id) .nil)) (.name "solution") (.self "_solutions")

/-- a getter of `TimeDomainSolution`: guard, the list of per-frequency values, the vectorised Fourier synthesis closure -/
def tdGetterBody (guard getter id lines V : String) : List PStmt :=
  [.expr (.call guard (.pos (.self "circuit") (.pos (.name id) .nil))),
   .assign (.name lines) (linesExpr getter id),
   .ret (.call "np.vectorize" (.pos (.lam "t" (timeSumExpr V "w" "t" lines)) .nil))]

/-- a getter of `FrequencyDomainSolution`: guard, the array of per-frequency values, `self._series` of it -/
def fdGetterBody (guard getter id lines : String) : List PStmt :=
  [.expr (.call guard (.pos (.self "circuit") (.pos (.name id) .nil))),
   .assign (.name lines) (.call "np.array" (.pos (linesExpr getter id) .nil)),
   .ret (.apply (.self "_series") (.pos (.name lines) .nil))]

/-- **the generated trees of the getters, literally** (`TimeDomainSolution.get_power` is the product of the two closures;
`FrequencyDomainSolution.get_power` is `_series` of the `get_power` values of the `ComplexSolution` objects) -/
theorem C09_gen_getters_shape :
    findMethod "TimeDomainSolution" "get_voltage" = some ⟨"TimeDomainSolution", "get_voltage", ["component_id"],
      tdGetterBody "_require_component" "get_voltage" "component_id" "voltages" "V"⟩ ∧
    findMethod "TimeDomainSolution" "get_current" = some ⟨"TimeDomainSolution", "get_current", ["component_id"],
      tdGetterBody "_require_component" "get_current" "component_id" "currents" "V"⟩ ∧
    findMethod "TimeDomainSolution" "get_potential" = some ⟨"TimeDomainSolution", "get_potential", ["node_id"],
      tdGetterBody "_require_node" "get_potential" "node_id" "potentials" "phi"⟩ ∧
    findMethod "TimeDomainSolution" "get_power" = some ⟨"TimeDomainSolution", "get_power", ["component_id"],
      [.assign (.name "voltage") (.apply (.self "get_voltage") (.pos (.name "component_id") .nil)),
       .assign (.name "current") (.apply (.self "get_current") (.pos (.name "component_id") .nil)),
       .ret (.lam "t" (.bin "*" (.call "np.array" (.pos (.call "voltage" (.pos (.name "t") .nil)) .nil))
         (.call "np.array" (.pos (.call "current" (.pos (.name "t") .nil)) .nil))))]⟩ ∧
    findMethod "FrequencyDomainSolution" "get_voltage" = some ⟨"FrequencyDomainSolution", "get_voltage", ["component_id"],
      fdGetterBody "_require_component" "get_voltage" "component_id" "voltages"⟩ ∧
    findMethod "FrequencyDomainSolution" "get_current" = some ⟨"FrequencyDomainSolution", "get_current", ["component_id"],
      fdGetterBody "_require_component" "get_current" "component_id" "currents"⟩ ∧
    findMethod "FrequencyDomainSolution" "get_potential" = some ⟨"FrequencyDomainSolution", "get_potential", ["node_id"],
      fdGetterBody "_require_node" "get_potential" "node_id" "potentials"⟩ ∧
    findMethod "FrequencyDomainSolution" "get_power" = some ⟨"FrequencyDomainSolution", "get_power", ["component_id"],
      fdGetterBody "_require_component" "get_power" "component_id" "power"⟩ :=
  ⟨findMethod_entry 1 rfl, findMethod_entry 2 rfl, findMethod_entry 3 rfl, findMethod_entry 4 rfl,
   findMethod_entry 7 rfl, findMethod_entry 8 rfl, findMethod_entry 9 rfl, findMethod_entry 10 rfl⟩

def getterName : Quantity → String
  | .voltage => "get_voltage"
  | .current => "get_current"
  | .potential => "get_potential"

theorem quantityOf_getterName (q : Quantity) : quantityOf (getterName q) = some q := by
  cases q <;> simp only [getterName, quantityOf, String.reduceEq, ↓reduceIte]

theorem component_id_ne_solution : ("component_id" == "solution") = false := by simp only [String.reduceBEq]
theorem node_id_ne_solution : ("node_id" == "solution") = false := by simp only [String.reduceBEq]

theorem matchTimeSum_timeSumExpr (V w t lines : String) : matchTimeSum t (timeSumExpr V w t lines) = some lines := by
  simp only [matchTimeSum, timeSumExpr, harmonicTerm, ↓reduceIte]

section Getters
variable {W : World} {wmax : Rat} {b : Bool} {ws : List Rat} {guard g idn lines name c nm id : String}

theorem eval_linesExpr (cs : String → List PVal → Except Err PVal) {α : Type} (mk : α → PVal) (acc : α → Except Err GQ)
    (sols : List α) (locals : List (String × PVal))
    (hidn : (idn == "solution") = false) (hacc : ∀ s, applyP W cs (.meth (mk s) g) [.str id] = (acc s).map .gq) :
    evalP W cs ⟨objAttrs wmax b ws (sols.map mk), (idn, .str id) :: locals⟩ (linesExpr g idn)
      = (sols.mapM acc).map fun X => .list (X.map .gq) := by
  unfold linesExpr
  simp only [sol_eval, objAttrs, hidn, BEq.rfl, List.mapM_map, Function.comp_def, hacc, mapM_map_left]
  cases List.mapM acc sols <;> rfl

variable {sols : List (Net String GQ × List GQ)} {q : Quantity}
  (hguard : guard = "_require_component" ∨ guard = "_require_node") (hg : quantityOf g = some q) (hidn : (idn == "solution") = false)
include hguard hg hidn

theorem run_tdGetter {V : String} {u : Rat → Rat × Rat}
    (h : findMethod "TimeDomainSolution" name = some ⟨c, nm, [idn], tdGetterBody guard g idn lines V⟩) :
    (do let r ← runMethod W "TimeDomainSolution" 1 (objAttrs wmax b ws (sols.map fun s => .sol s.1 s.2)) name [.str id]
        closureAt u ws (r.2.getD .none_))
      = tdValue sols q id (ws.map u) := by
  rw [runMethod_succ W h 0 rfl]
  unfold tdGetterBody tdValue tdLines
  -- the identifier guard
  rw [runBody]
  simp only [sol_eval, List.zip_cons_cons, List.zip_nil_right, BEq.rfl, callNamedP_require W hguard]
  -- `lines = [solution.get_q(id) for solution in self._solutions]`
  rw [runBody,
    eval_linesExpr _ (fun s => .sol s.1 s.2) (fun s => s.1.quantity s.2 q id) sols [] hidn (fun s => by simp only [applyP, hg]),
    map_bind, bind_assoc]
  refine bind_congr fun X => ?_
  -- `return np.vectorize(lambda t: …)`, then the closure at the instant
  rw [bindP, ok_bind, runBody]
  simp only [sol_eval, Option.getD_some, closureAt, matchTimeSum_timeSumExpr, BEq.rfl, mapM_asGQ_gqs]

theorem run_fdGetter (h : findMethod "FrequencyDomainSolution" name = some ⟨c, nm, [idn], fdGetterBody guard g idn lines⟩) :
    (runMethod W "FrequencyDomainSolution" 2 (objAttrs wmax b ws (sols.map fun s => .cx true s.1 s.2)) name [.str id]).map (·.2)
      = (fdGet b W.r2 ws sols q id).map fun out => some (.list [.list (out.1.map .rat), .list (out.2.map .gq)]) := by
  rw [runMethod_succ W h 1 rfl]
  unfold fdGetterBody fdGet fdLines
  -- the identifier guard
  rw [runBody]
  simp only [sol_eval, List.zip_cons_cons, List.zip_nil_right, BEq.rfl, callNamedP_require W hguard]
  -- `lines = np.array([solution.get_q(id) for solution in self._solutions])`
  rw [runBody]
  simp only [sol_eval]
  rw [eval_linesExpr _ (fun s => .cx true s.1 s.2) (fun s => cxGet true W.r2 s.1 s.2 q id) sols [] hidn
    (fun s => by simp only [applyP, hg])]
  simp only [bind_assoc, sol_eval]
  cases List.mapM (fun s => cxGet true W.r2 s.1 s.2 q id) sols with
  | error e => rfl
  | ok X =>
    -- `return self._series(lines)`: `C09_gen_fd_series`
    rw [ok_bind, runBody]
    simp only [sol_eval, BEq.rfl, getD_of_map_snd (C09_gen_fd_series W wmax b ws _ X)]
    rfl

end Getters

/-- **C09 (generated `TimeDomainSolution` getters).**  For `q` = voltage / current / potential: the reading of the generated
tree of `get_q` on an object whose `self._solutions` holds the raw network solutions `sols` and `self.w` the frequencies
`ws` returns a closure, and the value of that closure at the instant with units `u w = (cos(w t), sin(w t))` is the
hand transcription `tdValue sols q id (ws.map u)` of C09Line.lean: the list comprehension is `tdLines` (the raw
accessor `Net.quantity` of every solution, in order, first exception wins), the closure is the Fourier synthesis sum over
`zip(lines, self.w)` whose summand `np.abs(X)*np.cos(w*t+np.angle(X))` is read as `lineValue` (`CC.C09_time_function`).
Not read: the identifier guard (its presence and kind is `Gen.Sol.requireTable`), `get_power` (its tree is in
`C09_gen_getters_shape`: the product of the two closures, formula `Gen.Sol.td_get_power`). -/
theorem C09_gen_td_getters (W : World) (wmax : Rat) (b : Bool) (ws : List Rat) (sols : List (Net String GQ × List GQ))
    (q : Quantity) (id : String) (u : Rat → Rat × Rat) :
    (do let r ← runMethod W "TimeDomainSolution" 1 (objAttrs wmax b ws (sols.map fun s => .sol s.1 s.2)) (getterName q) [.str id]
        closureAt u ws (r.2.getD .none_))
      = tdValue sols q id (ws.map u) := by
  have hg := quantityOf_getterName q
  cases q with
  | voltage => exact run_tdGetter (.inl rfl) hg component_id_ne_solution C09_gen_getters_shape.1
  | current => exact run_tdGetter (.inl rfl) hg component_id_ne_solution C09_gen_getters_shape.2.1
  | potential => exact run_tdGetter (.inr rfl) hg node_id_ne_solution C09_gen_getters_shape.2.2.1

/-- **C09 (generated `FrequencyDomainSolution` getters).**  For `q` = voltage / current / potential: the reading of the
generated tree of `get_q` on an object whose `self._solutions` holds `ComplexSolution(…, peak_values=True)` objects for the
pairs `sols` and `self.w` the frequencies `ws` is the hand transcription `fdGet one_sided r2 ws sols q id` of
C09Line.lean: the array of the peak accessors (`fdLines` = `cxGet true`), handed to `self._series`
(`C09_gen_fd_series`: the hand model's `series`).  Not read: the identifier guard (`Gen.Sol.requireTable`);
`get_power` (tree: `C09_gen_getters_shape`, the `get_power` values of the objects, formula `Gen.Sol.cx_get_power`). -/
theorem C09_gen_fd_getters (W : World) (wmax : Rat) (oneSided : Bool) (ws : List Rat) (sols : List (Net String GQ × List GQ))
    (q : Quantity) (id : String) :
    (runMethod W "FrequencyDomainSolution" 2 (objAttrs wmax oneSided ws (sols.map fun s => .cx true s.1 s.2)) (getterName q)
        [.str id]).map (·.2)
      = (fdGet oneSided W.r2 ws sols q id).map fun out => some (.list [.list (out.1.map .rat), .list (out.2.map .gq)]) := by
  have hg := quantityOf_getterName q
  cases q with
  | voltage => exact run_fdGetter (.inl rfl) hg component_id_ne_solution C09_gen_getters_shape.2.2.2.2.1
  | current => exact run_fdGetter (.inl rfl) hg component_id_ne_solution C09_gen_getters_shape.2.2.2.2.2.1
  | potential => exact run_fdGetter (.inr rfl) hg node_id_ne_solution C09_gen_getters_shape.2.2.2.2.2.2.1

end CC
