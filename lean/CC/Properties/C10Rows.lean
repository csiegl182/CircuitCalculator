/-
  C10 — the output rows of the state-space model deliver the report: `CC.C10_output_rows_statement` (stated in
  CC/Properties/C10.lean), and the same for the `x`, `u` that `C10_transfer` / `C12_sample_circuit` speak about.
  The potential rows need only that `nodal_state_space_model` succeeds, the voltage rows in addition distinct branch
  ids; neither the certificate equations (`ModelCert`) nor `ssDelta … = .ok Delta` nor `x.length = nStates` is used:
  only the shapes of `A, B, C, D` (`C10_dims`) matter.
  Not said: anything about ids that are not branches / node labels of the network beyond
  `C10_unknown_node_zero_row` (the reference node has a zero row, an unknown id is a `KeyError`); the rows are tied to the Python code by `C10_gen_row_*` + correspondence.
-/
import CC.Properties.C10
import CC.Proofs.StateRows


namespace CC
open Matrix Mx

section rows
variable {L K : Type} [DecidableEq L] [LabelOrd L] [Field K] [DecidableEq K]

/-- **Potential rows.**  Whenever `nodal_state_space_model(N, c_values, l_values)` succeeds (any network, any
dictionaries, any pair of "inverses" — no certificate needed), for EVERY state `x` and input `u` (any lengths) and
every node label `n` of the network: `c_row_for_potential(n)` and `d_row_for_potential(n)` exist and
`row_c·x + row_d·u` equals the potential of `n` in the accessor report of the per-sample network read from
`y = C x + D u` (which is `0` for the reference node).  Says nothing about ids that are no node label
(see `C10_unknown_node_zero_row`: an unknown id is a `KeyError`). -/
theorem C10_rows_potential {N : Net L K} {cvals lvals : ValDict K} {Ainv S : List (List K)} {m : NSSM L K}
    (hm : nodalStateSpaceModel N cvals lvals Ainv S = .ok m) (x u : List K) :
    let y := Mx.vecAdd (matVec m.mats.C x) (matVec m.mats.D u)
    let xdot := Mx.vecAdd (matVec m.mats.A x) (matVec m.mats.B u)
    let R := (sampleNet N cvals lvals (ssSources N lvals) u xdot).reportOf y
    ∀ n ∈ N.nodeLabels, ∃ rc rd, m.cRowPotential n = .ok rc ∧ m.dRowPotential n = .ok rd
      ∧ dotL rc x + dotL rd u = R.pot n := by
  intro y xdot
  rw [sampleNet_eq]
  intro R n hn
  obtain ⟨mats, hs, rfl⟩ := rows_model_ok hm
  obtain ⟨rc, rd, h1, h2, _, _, e⟩ := rows_potential hs x u n hn
  refine ⟨rc, rd, h1, h2, ?_⟩
  rw [e]
  exact (report_pot_mapElems N _ y n).symm

/-- **Voltage rows.**  Whenever the model is built for a network with distinct branch ids, for every `x`, `u` and
every branch `b`: `c_row_voltage(b.id)` and `d_row_voltage(b.id)` exist and `row_c·x + row_d·u` equals the voltage of
`b` in the report read from `y = C x + D u` — the potential of the FIRST terminal minus that of the SECOND.  A sum
instead of the difference, or swapped terminals, refute this theorem. -/
theorem C10_rows_voltage {N : Net L K} {cvals lvals : ValDict K} {Ainv S : List (List K)} {m : NSSM L K}
    (hids : N.ids.Nodup) (hm : nodalStateSpaceModel N cvals lvals Ainv S = .ok m) (x u : List K) :
    let y := Mx.vecAdd (matVec m.mats.C x) (matVec m.mats.D u)
    let xdot := Mx.vecAdd (matVec m.mats.A x) (matVec m.mats.B u)
    let R := (sampleNet N cvals lvals (ssSources N lvals) u xdot).reportOf y
    ∀ b ∈ N.branches, ∃ rc rd, m.cRowVoltage b.id = .ok rc ∧ m.dRowVoltage b.id = .ok rd
      ∧ dotL rc x + dotL rd u = R.v b.id := by
  intro y xdot
  rw [sampleNet_eq]
  intro R b hb
  obtain ⟨mats, hs, rfl⟩ := rows_model_ok hm
  obtain ⟨p1, q1, hp1, hq1, lp1, lq1, e1⟩ := rows_potential hs x u b.n1 (n1_mem_labels N hb)
  obtain ⟨p2, q2, hp2, hq2, lp2, lq2, e2⟩ := rows_potential hs x u b.n2 (n2_mem_labels N hb)
  have hg : N.get? b.id = some b := get?_of_mem N hids hb
  refine ⟨Mx.vecSub p1 p2, Mx.vecSub q1 q2, ?_, ?_, ?_⟩
  · unfold NSSM.cRowVoltage
    rw [hg]
    simp only [hp1, hp2]
    rfl
  · unfold NSSM.dRowVoltage
    rw [hg]
    simp only [hq1, hq2]
    rfl
  · rw [rows_dotL_vecSub _ _ _ (lp1.trans lp2.symm), rows_dotL_vecSub _ _ _ (lq1.trans lq2.symm),
      show R.v b.id = _ from report_v_mapElems N _ hids y hb,
      show N.pot (N.solOf y) b.n1 = _ from e1.symm, show N.pot (N.solOf y) b.n2 = _ from e2.symm]
    ring

set_option linter.unusedVariables false in
/-- **Current rows.**  For the `w = 0` network of an RLC + ideal-source circuit (`RLC`), every state `x`, every
input `u` with one entry per published source (`hu`; not needed: a missing entry of `u` is read as `0` on both
sides), and every branch `b`: `c_row_current(b.id)` and
`d_row_current(b.id)` exist (no `KeyError` / `IndexError`) and `row_c·x + row_d·u` equals the current of `b` in the
report of the per-sample network read from `y = C x + D u` with `ẋ = A x + B u`:
capacitor `k` ↦ `C_k·ẋ_k` (row `k` of `A`, `B` scaled by `C_k`, positive sign); ideal voltage source or inductor ↦
entry `nN + index` of `y`; current source ↦ its own input `u_k`; impedance / admittance ↦ `(φ₁ − φ₂)/Z`; open
circuit ↦ `0`. -/
theorem C10_rows_current {N : Net L K} {cvals lvals : ValDict K} {Ainv S : List (List K)} {m : NSSM L K}
    (h : RLC N cvals lvals) (hm : nodalStateSpaceModel N cvals lvals Ainv S = .ok m) (x u : List K)
    (hu : u.length = ssNInputs N lvals) :
    let y := Mx.vecAdd (matVec m.mats.C x) (matVec m.mats.D u)
    let xdot := Mx.vecAdd (matVec m.mats.A x) (matVec m.mats.B u)
    let R := (sampleNet N cvals lvals (ssSources N lvals) u xdot).reportOf y
    ∀ b ∈ N.branches, ∃ rc rd, m.cRowCurrent b.id = .ok rc ∧ m.dRowCurrent b.id = .ok rd
      ∧ dotL rc x + dotL rd u = R.i b.id := by
  intro y xdot
  rw [sampleNet_eq]
  intro R b hb
  obtain ⟨mats, hs, rfl⟩ := rows_model_ok hm
  have hids := h.wf.ids_nodup
  obtain ⟨hA, hB, hC, hD⟩ := model_dims hs
  have hR : R.i b.id = _ := report_i_mapElems N _ (sampleNet_keeps h (ssSources N lvals) u xdot) hids y hb
  rw [hR, Net.curOf]
  simp only [NSSM.cRowCurrent, NSSM.dRowCurrent]
  cases h.kind hb with
  | cap k hc he hv hcs _ _ =>
    have hkl : k < cvals.length := by simpa [ValDict.keys] using idxOf?_lt_length hc
    refine ⟨_, _, by rw [hc], by rw [hc], ?_⟩
    rw [reactElem_of_cap hc, rows_dotL_vecScale, rows_dotL_vecScale,
      show xdot.getD k 0 = _ from rows_getD_vecAdd_matVec (by rw [hA.1]; omega) (by rw [hB.1]; omega)]
    simp [Elem.isIdealVS, Elem.isIdealCS, Elem.Ival, mul_add]
  | ind k r hc hl he hv _ =>
    -- an ideal voltage source or inductor at position `r` of `vsIds`: its current is the unknown `y[nN + r]`
    -- (`Net.solOf`), and rows `r + nN` of `C`, `D` deliver that entry of `y`
    have hkv := idxOf?_lt_length hv
    refine ⟨_, _, by rw [hc, hv], by rw [hc, hv], ?_⟩
    rw [reactElem_of_ind hc hl, ← rows_getD_vecAdd_matVec
      (by rw [hC.1]; unfold Net.nY Net.nV Net.nN; omega) (by rw [hD.1]; unfold Net.nY Net.nV Net.nN; omega)]
    simp [Elem.isIdealVS, Net.solOf, hv, Net.nN, Nat.add_comm, y]
  | vsrc r m' V hc hl he hv hs' =>
    have hkv := idxOf?_lt_length hv
    refine ⟨_, _, by rw [hc, hv], by rw [hc, hv], ?_⟩
    rw [reactElem_of_other hc hl, setSource_some hs', he, ← rows_getD_vecAdd_matVec
      (by rw [hC.1]; unfold Net.nY Net.nV Net.nN; omega) (by rw [hD.1]; unfold Net.nY Net.nV Net.nN; omega)]
    simp [Elem.setSrc, Elem.isIdealVS, Net.solOf, hv, Net.nN, Nat.add_comm, y]
  | csrc k I hc hl he hI hv hk' hs' =>
    have hkn : k < ssNInputs N lvals := by rw [sources_length]; exact idxOf?_lt_length hs'
    have hcont : N.csIds.contains b.id = true := by simpa using mem_of_idx hk'
    refine ⟨Mx.zeroVec (⟨mats, N, cvals, lvals⟩ : NSSM L K).nStates,
      (List.range (ssNInputs N lvals)).map fun t => if t = k then (1 : K) else 0,
      by simp only [hc, hv, hcont, if_true], by simp only [hc, hv, hk', NSSM.nInputs, hkn, if_true], ?_⟩
    rw [reactElem_of_other hc hl, setSource_some hs', he, rows_dotL_zeroVec_left, rows_dotL_unit _ _ hkn u]
    simp [Elem.setSrc, Elem.isIdealVS, Elem.isIdealCS, Elem.Ival]
  | passive hc hl hv hk' hs' hvs hcs =>
    have hg : N.get? b.id = some b := get?_of_mem N hids hb
    obtain ⟨p1, q1, hp1, hq1, lp1, lq1, e1⟩ := rows_potential hs x u b.n1 (n1_mem_labels N hb)
    obtain ⟨p2, q2, hp2, hq2, lp2, lq2, e2⟩ := rows_potential hs x u b.n2 (n2_mem_labels N hb)
    refine ⟨divByZ b.e (Mx.vecSub p1 p2), divByZ b.e (Mx.vecSub q1 q2), ?_, ?_, ?_⟩
    · rw [hc, hv, if_neg (by simpa using not_mem_of_idx_none hk'), hg]; simp only [hp1, hp2]; rfl
    · rw [hc, hv, hk', hg]; simp only [hq1, hq2]; rfl
    · -- the voltage that is divided is the difference of the two potentials the rows deliver
      rw [reactElem_of_other hc hl, setSource_none hs', dotL_divByZ, dotL_divByZ,
        rows_dotL_vecSub p1 p2 x (lp1.trans lp2.symm), rows_dotL_vecSub q1 q2 u (lq1.trans lq2.symm), ← add_div]
      simp only [hvs, hcs, Bool.false_eq_true, if_false, Net.vOf]
      rw [show N.pot (N.solOf y) b.n1 = _ from e1.symm, show N.pot (N.solOf y) b.n2 = _ from e2.symm]
      by_cases hic : b.e.isIdealCS = true
      · -- an open circuit: no current source (`I = 0`) and `Z = ∞`
        have hI : b.e.Ival = 0 := by simpa [Elem.isCS] using hcs
        have hZ : b.e.Zfin = 0 := by
          cases he : b.e with
          | norton Z V => simp [he, Elem.isIdealCS] at hic
          | thevenin Y I => simpa [he, Elem.isIdealCS, Elem.Zfin] using hic
        rw [if_pos hic, hI, hZ, div_zero]
      · rw [if_neg hic]; congr 1; ring

end rows

/-- **The output rows deliver the report** — `C10_output_rows_statement` at full strength: every field,
every RLC network, every pair of certificates, every `x`, `u`.  (`ModelCert`, `ssDelta … = .ok Delta` and
`x.length = nStates` are hypotheses of the statement that the proof does not use.) -/
theorem C10_output_rows : C10_output_rows_statement := by
  intro K _ _ N cvals lvals Ainv S Delta m x u h _ hm _ _ hu
  exact ⟨C10_rows_potential hm x u, C10_rows_voltage h.wf.ids_nodup hm x u, C10_rows_current h hm x u hu⟩

section endtoend
variable {L K : Type} [DecidableEq L] [LabelOrd L] [Field K] [DecidableEq K]

/-- `C10_rows_*` in the vocabulary of `C10_transfer` and `C12_sample_circuit`: `Fin`-indexed `x`, `u` and `Matrix`
products, handed to the rows as lists -/
theorem C10_rows_report {N : Net L K} {cvals lvals : ValDict K} {Ainv S : List (List K)} {m : NSSM L K}
    (h : RLC N cvals lvals) (hm : nodalStateSpaceModel N cvals lvals Ainv S = .ok m)
    (x : Fin (ssNStates N cvals lvals) → K) (u : Fin (ssNInputs N lvals) → K) :
    let y := toM N.nY (ssNStates N cvals lvals) m.mats.C *ᵥ x + toM N.nY (ssNInputs N lvals) m.mats.D *ᵥ u
    let xdot := toM (ssNStates N cvals lvals) (ssNStates N cvals lvals) m.mats.A *ᵥ x
                + toM (ssNStates N cvals lvals) (ssNInputs N lvals) m.mats.B *ᵥ u
    let R := (sampleNet N cvals lvals (ssSources N lvals) (List.ofFn u) (List.ofFn xdot)).reportOf (List.ofFn y)
    (∀ n ∈ N.nodeLabels, ∃ rc rd, m.cRowPotential n = .ok rc ∧ m.dRowPotential n = .ok rd
        ∧ dotL rc (List.ofFn x) + dotL rd (List.ofFn u) = R.pot n)
    ∧ (∀ b ∈ N.branches, ∃ rc rd, m.cRowVoltage b.id = .ok rc ∧ m.dRowVoltage b.id = .ok rd
        ∧ dotL rc (List.ofFn x) + dotL rd (List.ofFn u) = R.v b.id)
    ∧ (∀ b ∈ N.branches, ∃ rc rd, m.cRowCurrent b.id = .ok rc ∧ m.dRowCurrent b.id = .ok rd
        ∧ dotL rc (List.ofFn x) + dotL rd (List.ofFn u) = R.i b.id) := by
  have h1 := C10_rows_potential hm (List.ofFn x) (List.ofFn u)
  have h2 := C10_rows_voltage h.wf.ids_nodup hm (List.ofFn x) (List.ofFn u)
  have h3 := C10_rows_current h hm (List.ofFn x) (List.ofFn u) (by simp)
  obtain ⟨mats, hs, rfl⟩ := rows_model_ok hm
  obtain ⟨hA, hB, hC, hD⟩ : IsShape mats.A _ _ ∧ IsShape mats.B _ (ssNInputs N lvals) ∧ IsShape mats.C N.nY _
      ∧ IsShape mats.D N.nY _ := by
    obtain ⟨Delta, _, _, rfl⟩ := stateSpaceMatrices_ok hs
    exact ⟨isShape_ofFn, isShape_ofFn, isShape_ofFn, isShape_ofFn⟩
  intro y xdot R
  have ey : Mx.vecAdd (matVec mats.C (List.ofFn x)) (matVec mats.D (List.ofFn u)) = List.ofFn y :=
    rows_vecAdd_matVec_ofFn hC hD x u
  have ex : Mx.vecAdd (matVec mats.A (List.ofFn x)) (matVec mats.B (List.ofFn u)) = List.ofFn xdot :=
    rows_vecAdd_matVec_ofFn hA hB x u
  dsimp only at h1 h2 h3
  rw [ey, ex] at h1 h2 h3
  exact ⟨h1, h2, h3⟩

/-- **Transfer behaviour, through the rows.**  With `x = (s − A)⁻¹ B u` (written `s·x = A x + B u`): the numbers
`c_row_*(·)·x + d_row_*(·)·u` that the model computes for every node potential, every branch voltage and every
branch current ARE a solution of the circuit equations of the phasor network at `s` driven by `u` (capacitor
`Y = s·C`, inductor `Z = s·L`) — not the report read from `y` but the output rows themselves. -/
theorem C10_rows_transfer {N : Net L K} {cvals lvals : ValDict K} {Ainv S Delta : List (List K)} {m : NSSM L K}
    (h : RLC N cvals lvals) (hD : ssDelta N cvals = .ok Delta)
    (hm : nodalStateSpaceModel N cvals lvals Ainv S = .ok m) (hc : ModelCert id N cvals lvals Ainv S Delta)
    (s : K) (x : Fin (ssNStates N cvals lvals) → K) (u : Fin (ssNInputs N lvals) → K)
    (hx : s • x = toM _ _ m.mats.A *ᵥ x + toM _ _ m.mats.B *ᵥ u) :
    ∃ R : Report L K, CircuitEqs (phasorNet N cvals lvals (ssSources N lvals) (List.ofFn u) s) R
      ∧ (∀ n ∈ N.nodeLabels, ∃ rc rd, m.cRowPotential n = .ok rc ∧ m.dRowPotential n = .ok rd
          ∧ dotL rc (List.ofFn x) + dotL rd (List.ofFn u) = R.pot n)
      ∧ (∀ b ∈ N.branches, ∃ rc rd, m.cRowVoltage b.id = .ok rc ∧ m.dRowVoltage b.id = .ok rd
          ∧ dotL rc (List.ofFn x) + dotL rd (List.ofFn u) = R.v b.id)
      ∧ (∀ b ∈ N.branches, ∃ rc rd, m.cRowCurrent b.id = .ok rc ∧ m.dRowCurrent b.id = .ok rd
          ∧ dotL rc (List.ofFn x) + dotL rd (List.ofFn u) = R.i b.id) := by
  have hr := C10_rows_report h hm x u
  obtain ⟨mats, hs, rfl⟩ := rows_model_ok hm
  dsimp only at hr
  rw [← hx] at hr
  exact ⟨_, model_transfer h hD hs hc s x u hx, hr⟩

/-- **Every sample solves the circuit, through the rows.**  For ANY state `x` and input `u` (hence every
integrator): the numbers `c_row_*(·)·x + d_row_*(·)·u` computed for all node potentials, branch voltages and branch
currents satisfy the reference condition, Kirchhoff's voltage law, every element law (capacitor `i = C_k·ẋ_k`,
inductor `v = L_k·ẋ_k`, `ẋ = A x + B u`, sources at `u`) and Kirchhoff's current law of the circuit at that
sample — `C12_sample_circuit` for the output rows `TransientSolution` actually evaluates. -/
theorem C12_rows_sample_circuit {N : Net L K} {cvals lvals : ValDict K} {Ainv S Delta : List (List K)}
    {m : NSSM L K} (h : RLC N cvals lvals) (hD : ssDelta N cvals = .ok Delta)
    (hm : nodalStateSpaceModel N cvals lvals Ainv S = .ok m) (hc : ModelCert id N cvals lvals Ainv S Delta)
    (x : Fin (ssNStates N cvals lvals) → K) (u : Fin (ssNInputs N lvals) → K) :
    let xdot := toM (ssNStates N cvals lvals) (ssNStates N cvals lvals) m.mats.A *ᵥ x
                + toM (ssNStates N cvals lvals) (ssNInputs N lvals) m.mats.B *ᵥ u
    ∃ R : Report L K, CircuitEqs (sampleNet N cvals lvals (ssSources N lvals) (List.ofFn u) (List.ofFn xdot)) R
      ∧ (∀ n ∈ N.nodeLabels, ∃ rc rd, m.cRowPotential n = .ok rc ∧ m.dRowPotential n = .ok rd
          ∧ dotL rc (List.ofFn x) + dotL rd (List.ofFn u) = R.pot n)
      ∧ (∀ b ∈ N.branches, ∃ rc rd, m.cRowVoltage b.id = .ok rc ∧ m.dRowVoltage b.id = .ok rd
          ∧ dotL rc (List.ofFn x) + dotL rd (List.ofFn u) = R.v b.id)
      ∧ (∀ b ∈ N.branches, ∃ rc rd, m.cRowCurrent b.id = .ok rc ∧ m.dRowCurrent b.id = .ok rd
          ∧ dotL rc (List.ofFn x) + dotL rd (List.ofFn u) = R.i b.id) := by
  intro xdot
  have hr := C10_rows_report h hm x u
  obtain ⟨mats, hs, rfl⟩ := rows_model_ok hm
  exact ⟨_, model_sample_circuit h hD hs hc x u, hr⟩

end endtoend

theorem netRC_model : nodalStateSpaceModel netRC [("C", 1)] [] rcAinv rcS
    = .ok ⟨⟨[[-1]], [[1]], [[0], [1], [1]], [[1], [0], [-1]]⟩, netRC, [("C", 1)], []⟩ := by
  rw [nodalStateSpaceModel, netRC_mats]; rfl

/-- non-vacuity: the series circuit `V(1,0) – R=1 (1,2) – C=1 (2,0)` with the two inverses the driver finds meets
every hypothesis of `C10_output_rows` / `C10_rows_*` (state `x = [2]`, input `u = [3]`) -/
example : ∃ m, RLC netRC [("C", 1)] [] ∧ ssDelta netRC [("C", 1)] = .ok [[0, 1, 0]]
    ∧ nodalStateSpaceModel netRC [("C", 1)] [] rcAinv rcS = .ok m
    ∧ ModelCert id netRC [("C", 1)] [] rcAinv rcS [[0, 1, 0]]
    ∧ [(2 : ℚ)].length = ssNStates netRC [("C", 1)] [] ∧ [(3 : ℚ)].length = ssNInputs netRC [] :=
  ⟨_, netRC_rlc, netRC_Delta, netRC_model, netRC_cert, rfl, by decide +kernel⟩

theorem rc_state_eq (n k : Nat) (hn : n = 1) (hk : k = 1) :
    (1 : ℚ) • (fun _ : Fin n => (1 : ℚ))
      = toM n n [[-1]] *ᵥ (fun _ => (1 : ℚ)) + toM n k [[1]] *ᵥ (fun _ => (2 : ℚ)) := by
  subst hn hk
  decide +kernel

/-- non-vacuity of `C10_rows_transfer` / `C12_rows_sample_circuit` / `C10_rows_report`: the RC circuit with `s = 1`,
`x = 1`, `u = 2` (`A = −1`, `B = 1`: `1·1 = −1 + 2`) meets every hypothesis, the resolvent equation included -/
example : ∃ m, RLC netRC [("C", 1)] [] ∧ ssDelta netRC [("C", 1)] = .ok [[0, 1, 0]]
    ∧ nodalStateSpaceModel netRC [("C", 1)] [] rcAinv rcS = .ok m
    ∧ ModelCert id netRC [("C", 1)] [] rcAinv rcS [[0, 1, 0]]
    ∧ (1 : ℚ) • (fun _ : Fin (ssNStates netRC [("C", 1)] []) => (1 : ℚ))
        = toM (ssNStates netRC [("C", 1)] []) (ssNStates netRC [("C", 1)] []) m.mats.A *ᵥ (fun _ => (1 : ℚ))
          + toM (ssNStates netRC [("C", 1)] []) (ssNInputs netRC []) m.mats.B *ᵥ (fun _ => (2 : ℚ)) :=
  ⟨_, netRC_rlc, netRC_Delta, netRC_model, netRC_cert,
    rc_state_eq _ _ rfl (by decide +kernel)⟩

theorem netRC_getR : netRC.get? "R" = some { n1 := "1", n2 := "2", id := "R", e := .norton 1 0 } := by
  simp [Net.get?, netRC]

/-- the rows of the RC circuit, evaluated: current of the capacitor `−x + u`, voltage of the resistor `−x + u`
(first → second terminal `1 → 2`) -/
example : ∀ m, nodalStateSpaceModel netRC [("C", 1)] [] rcAinv rcS = .ok m →
    m.cRowCurrent "C" = .ok [-1] ∧ m.dRowCurrent "C" = .ok [1]
    ∧ m.cRowVoltage "R" = .ok [-1] ∧ m.dRowVoltage "R" = .ok [1] := by
  intro m hm
  rw [netRC_model] at hm
  cases hm
  simp only [NSSM.cRowVoltage, NSSM.dRowVoltage, NSSM.cRowPotential, NSSM.dRowPotential, NSSM.rowForPotential,
    netRC_nodes]
  decide +kernel

end CC
