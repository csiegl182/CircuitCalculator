/-
  C01 (translator tie) — every definition of the hand-written core model
  (CC/Model/Net.lean, CC/Model/MNA.lean), which the C01 theorems are about, equals the definition
  that harness/extract_core.py regenerates from the Python AST on every run (CC/Gen/Core.lean).
  A changed sign, index, comparison, filter, block or slice in
    Network/elements.py, network.py, NodalAnalysis/{label_mapping,node_analysis,
    bias_point_analysis,solution}.py
  changes the generated definition, and the corresponding equality below stops compiling.

  All statements hold for every network / element / vector / label over any field `K`.
  Hypotheses used where the Python objects cannot exist or the code itself relies on them:
    `N.ids.Nodup`         — `Network.__post_init__` raises `AmbiguousBranchIDs` otherwise
                             (C01_gen_check shows the generated check is `Net.check`);
    `LawfulLabelOrd L`    — the label order is a total pre-order (`str` order; instances for
                             `String` and `Nat`): `sorted(sorted(l)) = sorted(l)`;
    `x.length = n + m`    — the solution vector has one entry per node and per voltage source
                             (needed to read `x[-m:]` as "the entries after the first n").
-/
import CC.Proofs.CoreGen

namespace CC
open CC.Gen.Core CC.Py
variable {L K : Type} [DecidableEq L] [LabelOrd L] [Field K] [DecidableEq K]

/-! ### elements.py -/

/-- `element.Y / I / V / Z` used as numbers are the model's `Yfin / Ival / Vval / Zfin` -/
theorem C01_gen_values (e : Elem K) :
    (Gen.Core.Elem.Y e).toNum = e.Yfin ∧ (Gen.Core.Elem.I e).toNum = e.Ival
    ∧ (Gen.Core.Elem.V e).toNum = e.Vval ∧ (Gen.Core.Elem.Z e).toNum = e.Zfin :=
  ⟨gen_Yfin e, gen_Ival e, gen_Vval e, gen_Zfin e⟩

theorem C01_gen_predicates (e : Elem K) :
    is_ideal_voltage_source e = e.isIdealVS ∧ is_ideal_current_source e = e.isIdealCS
    ∧ is_current_source e = e.isCS ∧ is_voltage_source e = e.isVSrc ∧ is_active e = e.isActive
    ∧ is_short_circuit e = e.isShort ∧ is_open_circuit e = e.isOpen :=
  ⟨gen_isIdealVS e, gen_isIdealCS e, gen_isCS e, gen_isVSrc e, gen_isActive e, gen_isShort e, gen_isOpen e⟩

/-- the summands kept by `np.isfinite(b.element.Y)` -/
theorem C01_gen_isfinite (e : Elem K) :
    XVal.finite? (Gen.Core.Elem.Y e) = if e.isIdealVS = true then none else some e.Yfin :=
  finiteY_elem e

/-- `np.inf` / `np.nan` never reach an array entry or an operand: a current source has a finite
`I`, an ideal voltage source a finite `V`, and wherever `get_current` divides by `Z` it is finite
and non-zero -/
theorem C01_gen_finite (e : Elem K) :
    (is_current_source e = true → (Gen.Core.Elem.I e).isFin = true)
    ∧ (is_ideal_voltage_source e = true → (Gen.Core.Elem.V e).isFin = true)
    ∧ (is_ideal_voltage_source e = false → is_ideal_current_source e = false →
        (Gen.Core.Elem.Z e).isFin = true ∧ (Gen.Core.Elem.Z e).toNum ≠ 0) := by
  refine ⟨fun h => ?_, fun h => ?_, fun h1 h2 => ?_⟩
  · cases hv : e.isIdealVS with
    | false => rw [genElem_I, hv]; rfl
    | true => rw [is_current_source, genElem_I, hv] at h; exact absurd h Bool.false_ne_true
  · cases e with
    | norton Z V => rfl
    | thevenin Y I => rw [gen_isIdealVS] at h; exact absurd h Bool.false_ne_true
  · rw [gen_isIdealVS] at h1; rw [gen_isIdealCS] at h2
    rw [genElem_Z, h2]
    refine ⟨rfl, ?_⟩
    cases e with
    | norton Z V => exact of_decide_eq_false h1
    | thevenin Y I =>
      have hY : Y ≠ 0 := of_decide_eq_false h2
      exact (if_neg hY).trans_ne (one_div_ne_zero hY)

/-- the factories: which record, which field gets which argument, the type string -/
theorem C01_gen_factories (name : String) (a b : K) :
    impedance name a = (name, "impedance", Elem.norton a 0)
    ∧ admittance name a = (name, "admittance", Elem.thevenin a 0)
    ∧ resistor name a = (name, "resistor", Elem.norton a 0)
    ∧ conductor name a = (name, "conductor", Elem.thevenin a 0)
    ∧ voltage_source name a b = (name, "voltage_source", Elem.norton b a)
    ∧ voltage_source name a = (name, "voltage_source", Elem.norton 0 a)
    ∧ current_source name a b = (name, "current_source", Elem.thevenin b a)
    ∧ current_source name a = (name, "current_source", Elem.thevenin 0 a)
    ∧ open_circuit (K := K) name = (name, "open_circuit", Elem.thevenin 0 0)
    ∧ short_circuit (K := K) name = (name, "short_circuit", Elem.norton 0 0) :=
  ⟨rfl, rfl, rfl, rfl, rfl, rfl, rfl, rfl, rfl, rfl⟩

/-- what the factories build is what their names say (by the code's own predicates) -/
theorem C01_gen_factory_kinds (name : String) (a : K) :
    (voltage_source name a).2.2.isIdealVS = true ∧ (current_source name a).2.2.isIdealCS = true
    ∧ (short_circuit (K := K) name).2.2.isShort = true ∧ (open_circuit (K := K) name).2.2.isOpen = true
    ∧ (resistor name a).2.2.Zfin = a ∧ (conductor name a).2.2.Yfin = a
    ∧ (impedance name a).2.2.isActive = false ∧ (admittance name a).2.2.isActive = false := by
  refine ⟨?_, ?_, ?_, ?_, rfl, rfl, ?_, ?_⟩ <;>
    simp [voltage_source, current_source, short_circuit, open_circuit, impedance, admittance, Elem.isIdealVS,
      Elem.isIdealCS, Elem.isShort, Elem.isOpen, Elem.isActive, Elem.isVSrc, Elem.isCS, Elem.Vval, Elem.Ival]

/-! ### network.py -/

theorem C01_gen_node_labels (N : Net L K) : Network.node_labels N = N.nodeLabels := gen_nodeLabels N

/-- `Network.__post_init__`: the two checks and their exception classes -/
theorem C01_gen_check (N : Net L K) : Network.post_init N = N.check := by
  unfold Network.post_init Net.check Network.number_of_nodes
  rw [gen_nodeLabels, gen_ids]
  have hne : N.nodeLabels.length ≠ 0 := by
    intro h; exact nodeLabels_ne_nil N (List.length_eq_zero_iff.mp h)
  by_cases h1 : N.zero ∈ N.nodeLabels
  · by_cases h2 : (dedupL N.ids).length = N.branches.length <;> simp [h1, h2] <;> rfl
  · simp [h1, hne]; rfl

/-- `network[id]`: the last branch with that id, `KeyError` when there is none -/
theorem C01_gen_getitem (N : Net L K) (id : String) :
    Network.getitem N id = match N.get? id with
      | some b => .ok b
      | none => .error .keyError := gen_getitem N id

/-- the filter predicates of `branches_between` / `branches_connected_to` (the latter up to the
order its `.sort` imposes, which the sums do not see) -/
theorem C01_gen_branch_filters (N : Net L K) (i j : L) :
    Network.branches_between N i j
      = N.branches.filter (fun b => (b.n1 = i ∧ b.n2 = j) ∨ (b.n1 = j ∧ b.n2 = i))
    ∧ (Network.branches_connected_to N i).Perm (N.branches.filter (fun b => b.n1 = i ∨ b.n2 = i)) :=
  ⟨gen_branches_between N i j, gen_branches_connected_to N i⟩

/-! ### label_mapping.py -/

theorem C01_gen_nodes [LawfulLabelOrd L] (N : Net L K) : (alphabetic_node_mapper N).keys = N.nodes :=
  gen_nodes N

theorem C01_gen_source_ids (N : Net L K) (hids : N.ids.Nodup) :
    (alphabetic_voltage_source_mapper N).keys = N.vsIds
    ∧ (alphabetic_current_source_mapper N).keys = N.csIds
    ∧ (alphabetic_source_mapper N).keys = N.srcIds :=
  ⟨gen_vsIds N hids, gen_csIds N hids, gen_srcIds N hids⟩

/-! ### node_analysis.py -/

/-- `node_matrix_element`: diagonal = admittance connected to the node (self-loop branches skipped by
the `b.node1 != b.node2` guard), off-diagonal = minus the admittance between the nodes, ideal voltage
sources skipped by the `isfinite` filter -/
theorem C01_gen_Yentry (N : Net L K) (i j : L) : node_matrix_element N i j = N.Yentry i j := gen_Yentry N i j

/-- `voltage_source_direction`: (+1 at `node1`) − (+1 at `node2`), 0 elsewhere and on a self-loop -/
theorem C01_gen_dir (N : Net L K) (vs : String) (n : L) :
    voltage_source_direction N vs n = match N.get? vs with
      | some b => .ok (b.dir n)
      | none => .error .keyError := by
  rw [gen_dir, gen_getitem]; cases N.get? vs <;> rfl

/-- the two guarded accumulating writes (`-= 1`, `+= 1`) of `source_incidence_matrix` -/
theorem C01_gen_Qentry [LawfulLabelOrd L] (N : Net L K) (hids : N.ids.Nodup) :
    source_incidence_matrix N
      = .ok ⟨N.nodes.length, N.csIds.length, N.nodes.map fun n => N.csSorted.map fun b => N.Qentry b n⟩ := by
  unfold source_incidence_matrix
  simp only [gen_nodes, gen_csIds N hids]
  rw [tableM_getitem N N.nodes N.csIds _ (fun n b => N.Qentry b n) ?_ (csIds_found N)]
  · rfl
  · intro r c
    cases Network.getitem N c with
    | error e => rfl
    | ok b =>
      simp only [bind, Except.bind, pure, Except.pure]
      rw [← gen_Qentry N b r]

/-- `Q @ Is` -/
theorem C01_gen_rhsNode [LawfulLabelOrd L] (N : Net L K) (hids : N.ids.Nodup) :
    current_source_incidence_vector N = .ok (N.nodes.map fun n => N.rhsNode n) := by
  unfold current_source_incidence_vector
  rw [C01_gen_Qentry N hids, gen_cs_vector N hids]
  simp only [bind, Except.bind, pure, Except.pure, Py.Mat.mulVec, List.map_map]
  congr 1
  apply List.map_congr_left
  intro n _
  simp only [Function.comp, dotL_map_map, Net.rhsNode]

/-- `nodal_analysis_coefficient_matrix`: `[[Y, B], [Bᵀ, 0]]`, with its shape -/
theorem C01_gen_mnaA [LawfulLabelOrd L] (N : Net L K) (hids : N.ids.Nodup) :
    nodal_analysis_coefficient_matrix N
      = .ok ⟨N.nodes.length + N.vsIds.length, N.nodes.length + N.vsIds.length, N.mnaA⟩ := by
  unfold nodal_analysis_coefficient_matrix
  rw [gen_vs_matrix N hids, gen_Y_matrix]
  have hlen := vsSorted_length N hids
  simp only [bind, Except.bind, pure, Except.pure, Py.Mat.vstack, Py.Mat.hstack, Py.Mat.T, Py.Mat.zeros]
  congr 1
  unfold Net.mnaA
  -- upper block rows `Y ++ B` row by row (`hstack` of two tables over the same index list is one `map`); the code's
  -- lower-left block is the transpose of the `B` table, the model's is written by columns: `transpose_rows`
  rw [zipWith_map_same, ← hlen, transpose_rows N.nodes N.vsSorted (fun n b => b.dir n)]
  congr 1
  have : List.replicate N.vsSorted.length (List.replicate N.vsSorted.length (0 : K))
      = N.vsSorted.map fun _ => N.vsSorted.map fun _ => (0 : K) := by
    simp [List.map_const']
  rw [this, zipWith_map_same]

/-- `nodal_analysis_constants_vector`: `hstack((Q·Is, V))` -/
theorem C01_gen_mnaB [LawfulLabelOrd L] (N : Net L K) (hids : N.ids.Nodup) :
    nodal_analysis_constants_vector N = .ok N.mnaB := by
  unfold nodal_analysis_constants_vector
  rw [C01_gen_rhsNode N hids]
  have h1 := mapM_getitem N N.vsIds (fun b => (Gen.Core.Elem.V b.e).toNum) (vsIds_found N)
  have h2 : (N.byIds N.vsIds).map (fun b => (Gen.Core.Elem.V b.e).toNum) = N.vsSorted.map fun b => b.e.Vval := by
    unfold Net.vsSorted; apply List.map_congr_left; intro b _; exact gen_Vval b.e
  rw [h2] at h1
  show (do let l2 ← List.mapM (fun vs => (do let b ← Network.getitem N vs; pure (Gen.Core.Elem.V b.e).toNum : Except Err K))
                (alphabetic_voltage_source_mapper N).keys
           pure ((N.nodes.map fun n => N.rhsNode n) ++ l2) : Except Err (List K)) = _
  rw [gen_vsIds N hids, h1]; rfl

/-- everything the solver does before `np.linalg.solve`, exceptions included: construction of
the `Network` followed by the two assemblies is `Net.assemble` -/
theorem C01_gen_assemble [LawfulLabelOrd L] (N : Net L K) :
    (do Network.post_init N
        let A ← nodal_analysis_coefficient_matrix N
        let b ← nodal_analysis_constants_vector N
        pure (A.rows, b) : Except Err (List (List K) × List K)) = N.assemble := by
  unfold Net.assemble
  rw [C01_gen_check]
  cases h : N.check with
  | error e => rfl
  | ok u =>
    have hids := ((Net.check_ok_iff N).mp (by cases u; exact h)).2
    rw [C01_gen_mnaA N hids, C01_gen_mnaB N hids]; rfl

/-! ### bias_point_analysis.py, solution.py -/

theorem C01_gen_potential [LawfulLabelOrd L] (N : Net L K) (x : List K) (n : L) :
    Solution.get_potential N x n = N.potential x n := by
  unfold Solution.get_potential Net.potential Solution.potentials Py.LabelMapping.getitem Py.LabelMapping.N
  rw [gen_nodes]
  by_cases hz : n = N.zero
  · simp [hz]; rfl
  · simp only [hz, if_false]
    cases hk : idxOf? n N.nodes with
    | none => rfl
    | some k =>
      have hlt := idxOf?_lt_length hk
      show Except.ok (Py.index (Py.sliceTo x N.nodes.length) k) = Except.ok (x.getD k 0)
      congr 1
      simp only [Py.index, Py.sliceTo, List.getD_eq_getElem?_getD, List.getElem?_take, hlt, if_true]

theorem C01_gen_voltage [LawfulLabelOrd L] (N : Net L K) (x : List K) (id : String) :
    Solution.get_voltage N x id = N.voltage x id := by
  unfold Solution.get_voltage Net.voltage
  rw [gen_getitem]
  cases N.get? id with
  | none => rfl
  | some b =>
    simp only [C01_gen_potential]
    rfl

/-- the four-way chain of `get_current`, with `x[-N_vs:]` -/
theorem C01_gen_current [LawfulLabelOrd L] (N : Net L K) (hids : N.ids.Nodup) (x : List K)
    (hx : x.length = N.nodes.length + N.vsIds.length) (id : String) :
    Solution.get_current N x id = N.current x id := by
  unfold Solution.get_current Net.current Solution.voltage_source_currents Py.LabelMapping.getitem Py.LabelMapping.N
  rw [gen_vsIds N hids]
  cases hk : idxOf? id N.vsIds with
  | some k =>
    have hmem : id ∈ N.vsIds := mem_of_idx hk
    have hlt := idxOf?_lt_length hk
    simp only [hmem, if_true]
    show Except.ok (Py.index (Py.sliceLast x N.vsIds.length) k) = Except.ok (x.getD (N.nodes.length + k) 0)
    congr 1
    have hne : N.vsIds.length ≠ 0 := by omega
    simp only [Py.index, Py.sliceLast, hne, if_false, List.getD_eq_getElem?_getD, List.getElem?_drop]
    congr 2
    omega
  | none =>
    have hmem : id ∉ N.vsIds := not_mem_of_idx_none hk
    simp only [hmem, if_false]
    rw [gen_getitem]
    cases N.get? id with
    | none => rfl
    | some b =>
      simp only [gen_isIdealCS, gen_isCS, C01_gen_voltage, gen_Ival, gen_Zfin]
      show ((if b.e.isIdealCS = true then pure b.e.Ival
              else if b.e.isCS = true then (do let r ← N.voltage x id; pure (-(b.e.Ival + r / b.e.Zfin)))
              else (do let r ← N.voltage x id; pure (r / b.e.Zfin))) : Except Err K) = _
      split_ifs <;> rfl

theorem C01_gen_power [LawfulLabelOrd L] (conj : K → K) (N : Net L K) (hids : N.ids.Nodup) (x : List K)
    (hx : x.length = N.nodes.length + N.vsIds.length) (id : String) :
    Solution.get_power conj N x id = N.power conj x id := by
  unfold Solution.get_power Net.power
  rw [C01_gen_voltage, C01_gen_current N hids x hx]

theorem gen_solution_vector [LawfulLabelOrd L] (solve : Py.Mat K → List K → Option (List K)) (anyNan : List K → Bool)
    (N : Net L K) (hids : N.ids.Nodup) :
    Solution.solution_vector solve anyNan N
      = .ok (match solve ⟨N.nodes.length + N.vsIds.length, N.nodes.length + N.vsIds.length, N.mnaA⟩ N.mnaB with
             | some x => if anyNan x = true then List.replicate N.mnaB.length 0 else x
             | none => if anyNan (List.replicate N.mnaB.length (0 : K)) = true then List.replicate N.mnaB.length 0
                       else List.replicate N.mnaB.length 0) := by
  unfold Solution.solution_vector
  rw [C01_gen_mnaA N hids, C01_gen_mnaB N hids]
  simp only [bind, Except.bind, pure, Except.pure, Py.zerosVec]
  cases solve _ N.mnaB <;> rfl

/-- `__post_init__` of the solution: the vector is `solve A b` when that succeeds without `nan`,
and a zero vector of the length of `b` in every other case -/
theorem C01_gen_solution_vector [LawfulLabelOrd L] (solve : Py.Mat K → List K → Option (List K))
    (anyNan : List K → Bool) (N : Net L K) (hids : N.ids.Nodup) :
    ∃ v, Solution.solution_vector solve anyNan N = .ok v ∧
      (match solve ⟨N.nodes.length + N.vsIds.length, N.nodes.length + N.vsIds.length, N.mnaA⟩ N.mnaB with
       | some x => (anyNan x = false → v = x) ∧ (anyNan x = true → v = List.replicate N.mnaB.length 0)
       | none => v = List.replicate N.mnaB.length 0) := by
  refine ⟨_, gen_solution_vector solve anyNan N hids, ?_⟩
  cases solve _ N.mnaB with
  | none => simp
  | some x => by_cases h : anyNan x = true <;> simp [h]

/-! ### the hypotheses are satisfiable -/

example : LawfulLabelOrd String := inferInstance
example : (⟨[⟨"1", "0", "V", "voltage_source", Elem.norton (0 : ℚ) 5⟩,
             ⟨"1", "0", "R", "resistor", Elem.norton (2 : ℚ) 0⟩], "0"⟩ : Net String ℚ).ids.Nodup := by decide

end CC
