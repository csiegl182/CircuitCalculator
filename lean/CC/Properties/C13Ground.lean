/-
  C13 — the reference node of a translated drawing.

  `Circuit.ground_node` of `circuit_translator(schematic)` (model: `groundNode` of
  `circuitTranslator`, computed by `mkCircuit` = `Circuit.__post_init__` from the translated
  *components*) and `parser.ground_label` (model: `groundLabel`, computed from the ground *symbols*,
  tied to the code by `C13_gen_ground` / `C13_gen_ground_label`) are two different computations.
  They are compared by the number of ground symbols (symbols whose class is exactly `Ground`), for every
  symbol list and every valid set-iteration order: with exactly one, both are the name of the electrical
  node it sits on (`C13_ground`, `C13_ground_name`); with two or more, both raise `MultipleGroundNodes`
  (`C13_two_grounds`); with none they are defined differently (`C13_no_ground`) and can disagree
  (`C13_no_ground_differ`).  The bridge between the two computations is `compsOf_grounds`.
-/
import CC.Properties.C13
import CC.Proofs.DrawInvariance
import CC.Proofs.DrawInterp
namespace CC
open CC.Draw

namespace Draw

theorem no_ground_subclass : ∀ c ∈ Gen.elemClasses, "Ground" ∉ c.ancestors := by decide +kernel

theorem isGround_iff (s : Sym) : s.isGround = true ↔ s.cls = "Ground" := by
  unfold Sym.isGround isA
  constructor
  · intro h
    simp only [Bool.or_eq_true, decide_eq_true_eq] at h
    rcases h with h | h
    · exact h
    · cases hc : classInfo s.cls with
      | none => simp [hc] at h
      | some c =>
        simp only [hc, decide_eq_true_eq] at h
        exact absurd h (no_ground_subclass c (classInfo_eq_some hc).1)
  · intro h; simp [h]

theorem isNode_of_ground {s : Sym} (h : s.cls = "Ground") : s.isNode = true := by
  unfold Sym.isNode; rw [h]; decide +kernel

/-- `[n for n in node_elements if isinstance(n, elm.Ground)]`, as start points -/
theorem groundSymsOf_eq (syms : List Sym) :
    groundSymsOf syms = (syms.filter fun s => decide (s.cls = "Ground")).map (·.n1) := by
  unfold groundSymsOf
  rw [List.filter_filter]
  congr 1
  apply List.filter_congr
  intro s _
  by_cases h : s.cls = "Ground"
  · simp [h, (isGround_iff s).mpr h, isNode_of_ground h]
  · have : s.isGround = false := by
      cases hg : s.isGround with
      | false => rfl
      | true => exact absurd ((isGround_iff s).mp hg) h
    simp [h, this]

def kindsOf (cases : List TrCase) : List String :=
  cases.filterMap fun c => match c.ctor with
    | none => none
    | some cn => (Gen.ctors.find? (·.name = cn)).map (·.kind)

theorem runCase_kind {π : Rat} {s : Sym} {nodes : List String} {cases : List TrCase} {c : TrCase} {k : Component}
    (hc : c ∈ cases) (h : runCase π s nodes c = .ok (some k)) : k.type ∈ kindsOf cases := by
  obtain ⟨cn, spec, _, _, hcn, hf, _, _, _, hk⟩ := runCase_some h
  exact List.mem_filterMap.mpr ⟨c, hc, by rw [hk]; simp only [hcn, hf, Option.map_some]⟩

theorem only_ground_makes_ground : ∀ kv ∈ Gen.translatorMap, kv.1 = "Ground" ∨
    ∀ cases ∈ Gen.translators.lookup kv.2, "ground" ∉ kindsOf cases := by decide +kernel

theorem compOfSym_not_ground {π : Rat} {s : Sym} {nodes : List String} {k : Component}
    (hs : s.cls ≠ "Ground") (h : compOfSym π s nodes = .ok (some k)) : k.type ≠ "ground" := by
  obtain ⟨f, cases, c, h1, h2, hc, hk⟩ := compOfSym_some h
  have hmem : (s.cls, f) ∈ Gen.translatorMap := by
    obtain ⟨l₁, l₂, e, _⟩ := List.lookup_eq_some_iff.mp h1
    rw [e]; simp
  rcases only_ground_makes_ground _ hmem with h' | h'
  · exact absurd h' hs
  · intro hkt; exact h' cases h2 (hkt ▸ runCase_kind hc hk)

theorem translateSym_not_ground {π : Rat} {L : Pt → Except Err String} {s : Sym} {k : Component}
    (hs : s.cls ≠ "Ground") (h : translateSym π L s = .ok (some k)) : k.type ≠ "ground" := by
  obtain ⟨_, _, _, _, hc⟩ := translateSym_inv h
  exact compOfSym_not_ground hs hc

theorem translateSym_ground {π : Rat} {L : Pt → Except Err String} {s : Sym} (hs : s.cls = "Ground")
    {x : Option Component} (h : translateSym π L s = .ok x) :
    ∃ a, L s.n1 = .ok a ∧ x = some { type := "ground", id := s.name, nodes := [a], value := [] } := by
  obtain ⟨la, _, h1, _, hc⟩ := translateSym_inv h
  rw [comp_ground hs] at hc
  cases hc
  exact ⟨la, h1, rfl⟩

theorem groundsOf_cons_ground (k : Component) (cs : List Component) (h : k.type = "ground") :
    groundsOf (k :: cs) = k.nodes.headD "" :: groundsOf cs := by
  unfold groundsOf; simp [h]

theorem groundsOf_cons_other (k : Component) (cs : List Component) (h : k.type ≠ "ground") :
    groundsOf (k :: cs) = groundsOf cs := by
  unfold groundsOf; simp [h]

/-- **the `ground` components of the translated list are, in order, the ground symbols**: their
node is the name of the symbol's start anchor -/
theorem compsOf_grounds {π : Rat} {L : Pt → Except Err String} {syms : List Sym} {cs : List Component}
    (h : compsOf π L syms = .ok cs) :
    List.Forall₂ (fun (s : Sym) (a : String) => L s.n1 = .ok a)
      (syms.filter fun s => decide (s.cls = "Ground")) (groundsOf cs) := by
  obtain ⟨r, hr, rfl⟩ := compsOf_eq_ok.mp h
  clear h
  induction hr with
  | nil => exact .nil
  | @cons s x syms rs h1 _ ih =>
    by_cases hs : s.cls = "Ground"
    · obtain ⟨a, ha, rfl⟩ := translateSym_ground hs h1
      simp only [List.filter_cons, hs, decide_true, if_true, List.filterMap_cons, id]
      rw [groundsOf_cons_ground _ _ rfl]
      exact .cons ha ih
    · simp only [List.filter_cons, hs, decide_false, Bool.false_eq_true, if_false]
      cases x with
      | none => simpa using ih
      | some k =>
        simp only [List.filterMap_cons, id]
        rw [groundsOf_cons_other _ _ (translateSym_not_ground hs h1)]
        exact ih

theorem mkCircuit_one_ground {cs : List Component} {C : Circuit} {a : String}
    (hg : groundsOf cs = [a]) (h : mkCircuit cs = .ok C) : C.groundNode = a := by
  obtain ⟨_, _, rfl⟩ := mkCircuit_ok_iff.mp h
  exact refNode_of_ground hg

theorem mkCircuit_many_grounds {cs : List Component} (hg : 2 ≤ (groundsOf cs).length) :
    mkCircuit cs = .error Err.multipleGrounds := by
  rw [mkCircuit_eq, if_pos hg]

def firstTerminal : List Component → String
  | [] => ""
  | c0 :: _ => c0.nodes.headD ""

theorem mkCircuit_no_ground {cs : List Component} {C : Circuit}
    (hg : groundsOf cs = []) (h : mkCircuit cs = .ok C) :
    C.components = cs ∧ C.groundNode = firstTerminal cs := by
  obtain ⟨_, _, rfl⟩ := mkCircuit_ok_iff.mp h
  exact ⟨rfl, (refNode_of_no_ground hg).trans (by cases cs <;> rfl)⟩

end Draw

/-- `isinstance(e, elm.Ground)` (the parser's test) holds exactly for the symbols of class
`Ground` (the translator map's key): the generated class table has no subclass of `Ground`. -/
theorem C13_isGround_iff (s : Sym) : s.isGround = true ↔ s.cls = "Ground" := isGround_iff s

/-- **Reference node, one ground symbol.**  For every drawing `pre ++ g :: post` whose only symbol
of class `Ground` is `g`, every valid set-iteration order and every well-formed naming
(`C13_DrawingWF`: no node name on two different electrical nodes) there is a naming `lab` of the
parser nodes with
* `lab` realises the wire partition and is the naming `labelOf` (`_get_node_index`) of the parser;
* the ground symbol's (rounded start) terminal `g.n1` is a parser node;
* `parser.ground_label` is `lab g.n1`;
* IF `circuit_translator` returns a circuit, its `ground_node` is `lab g.n1`;
* a parser node carries the reference name iff it is joined to the ground terminal by wires —
  every joined terminal gets that same name, every terminal that is not joined gets another one.
NOT said: that `circuit_translator` succeeds (another symbol may raise, ids may clash), and which
string the name is (`C13_ground_name`). -/
theorem C13_ground (π : Rat) (ord : SetOrd Pt) (hord : ord.Valid) (pre post : List Sym) (g : Sym)
    (hwf : C13_DrawingWF (pre ++ g :: post)) (hg : g.cls = "Ground")
    (hpre : ∀ s ∈ pre, s.cls ≠ "Ground") (hpost : ∀ s ∈ post, s.cls ≠ "Ground") :
    ∃ lab : Pt → String,
      Realises (wiresOf (pre ++ g :: post)) (allNodes (pre ++ g :: post)) lab ∧
      (∀ p ∈ allNodes (pre ++ g :: post), labelOf ord (pre ++ g :: post) p = .ok (lab p)) ∧
      g.n1 ∈ allNodes (pre ++ g :: post) ∧
      groundLabel ord (pre ++ g :: post) = .ok (lab g.n1) ∧
      (∀ C, circuitTranslator π ord (pre ++ g :: post) = .ok C → C.groundNode = lab g.n1) ∧
      (∀ p ∈ allNodes (pre ++ g :: post),
        (lab p = lab g.n1 ↔ Joined (wiresOf (pre ++ g :: post)) g.n1 p)) := by
  obtain ⟨lab, h1, _, h3⟩ := labelOf_spec hord (pre ++ g :: post) hwf
  have hgmem : g ∈ pre ++ g :: post := by simp
  have hgn : g.n1 ∈ allNodes (pre ++ g :: post) := (mem_allNodes_of_named hgmem (isNode_hasName g (isNode_of_ground hg))).1
  have hfil : ((pre ++ g :: post).filter fun s => decide (s.cls = "Ground")) = [g] :=
    filter_append_cons_eq_singleton (decide_eq_true hg) (fun s hs => decide_eq_false (hpre s hs))
      fun s hs => decide_eq_false (hpost s hs)
  refine ⟨lab, h3, h1, hgn, ?_, ?_, ?_⟩
  · unfold groundLabel
    rw [groundSymsOf_eq, hfil]
    show labelOf ord (pre ++ g :: post) g.n1 = _
    exact h1 _ hgn
  · intro C hC
    obtain ⟨r, hr, hC⟩ := circuitTranslator_inv hC
    have hG := compsOf_grounds hr
    rw [hfil] at hG
    generalize hgs : groundsOf r = gs at hG
    cases hG with
    | cons ha htl =>
      cases htl
      rw [h1 _ hgn] at ha
      cases ha
      exact mkCircuit_one_ground hgs hC
  · intro p hp
    rw [h3 p hp g.n1 hgn]
    exact ⟨Joined.symm, Joined.symm⟩

/-- **The reference name.**  With the hypotheses of `C13_ground`, if no node symbol *after* the
ground symbol sits on the ground's electrical node, the parser calls that node by the ground
symbol's own `node_id` (the `name=` of `Ground`, default `'0'`); `C13_ground` then says that this is
`ground_label` and the `ground_node` of the translated circuit.  (A later label or node symbol on
the same electrical node overwrites the name — the reference *node* stays the same, `C13_ground`.) -/
theorem C13_ground_name (ord : SetOrd Pt) (hord : ord.Valid) (pre post : List Sym) (g : Sym)
    (hwf : C13_DrawingWF (pre ++ g :: post)) (hg : g.cls = "Ground")
    (hlast : ∀ s ∈ post, s.isNode = true → ¬ Joined (wiresOf (pre ++ g :: post)) g.n1 s.n1) :
    labelOf ord (pre ++ g :: post) g.n1 = .ok g.nodeId := by
  have hns : nodeSymsOf (pre ++ g :: post) = nodeSymsOf pre ++ (g.n1, g.nodeId) :: nodeSymsOf post := by
    unfold nodeSymsOf
    simp [List.filter_append, isNode_of_ground hg]
  have hW : NodeSymsWF (wiresOf (pre ++ g :: post)) (allNodes (pre ++ g :: post))
      (nodeSymsOf pre ++ (g.n1, g.nodeId) :: nodeSymsOf post) := by
    rw [← hns]; exact ⟨nodeSyms_on_terminal _, hwf⟩
  unfold labelOf
  rw [hns]
  refine getNodeIndex_named (ps := (g.n1, g.nodeId)) _ hord (nodup_allNodes _) hW ?_
  intro ps' hps'
  unfold nodeSymsOf at hps'
  obtain ⟨s, hs, rfl⟩ := List.mem_map.mp hps'
  obtain ⟨hs, hn⟩ := List.mem_filter.mp hs
  exact hlast s hs hn

/-- **Two ground symbols** (at least two symbols of class `Ground`, on the same or on different
electrical nodes): the model never returns a circuit and never lets the first one win —
`parser.ground_label` raises `MultipleGroundNodes`; `circuit_translator` raises; and when every
symbol translates (no other error comes first) the error of `circuit_translator` is
`MultipleGroundNodes` (raised by `Circuit.__post_init__`). -/
theorem C13_two_grounds (π : Rat) (ord : SetOrd Pt) (syms : List Sym)
    (h : 2 ≤ (syms.filter fun s => decide (s.cls = "Ground")).length) :
    groundLabel ord syms = .error Err.multipleGrounds ∧
    (∀ C, circuitTranslator π ord syms ≠ .ok C) ∧
    (∀ r, syms.mapM (translateSym π (labelOf ord syms)) = .ok r →
      circuitTranslator π ord syms = .error Err.multipleGrounds) := by
  have key : ∀ cs, compsOf π (labelOf ord syms) syms = .ok cs →
      circuitTranslator π ord syms = .error Err.multipleGrounds := by
    intro cs hcs
    rw [circuitTranslator_eq_compsOf, hcs]
    exact mkCircuit_many_grounds ((compsOf_grounds hcs).length_eq ▸ h)
  refine ⟨?_, ?_, fun r hr => key (r.filterMap id) (by rw [compsOf, hr]; rfl)⟩
  · unfold groundLabel
    rw [groundSymsOf_eq]
    rcases hf : (syms.filter fun s => decide (s.cls = "Ground")) with _ | ⟨g, _ | ⟨g', t⟩⟩
    · rw [hf] at h; simp at h
    · rw [hf] at h; simp at h
    · rw [hf]; rfl
  · intro C hC
    obtain ⟨cs, hcs, _⟩ := circuitTranslator_inv hC
    rw [key cs hcs] at hC; cases hC

/-- **No ground symbol** — the documented default of `Circuit`: the reference node of the
translated circuit is the first listed terminal of its first component (`firstTerminal`; by the
terminal-order theorems of C13Symbols this is the `start` terminal of the first symbol that yields
a component, its `end` terminal when that symbol is reversed), `''` when nothing yields a
component; `parser.ground_label` is instead the name of the first element of
`unique_nodes` in set-iteration order (`KeyError` for `IndexError` on a drawing without nodes).
The two need not agree: `C13_no_ground_differ`. -/
theorem C13_no_ground (π : Rat) (ord : SetOrd Pt) (syms : List Sym)
    (h : ∀ s ∈ syms, s.cls ≠ "Ground") :
    (∀ C, circuitTranslator π ord syms = .ok C →
      C.groundNode = firstTerminal C.components) ∧
    groundLabel ord syms =
      (match ord.uniq (uniqueNodes (wiresOf syms) ord (allNodes syms)) with
        | [] => .error Err.keyError
        | p :: _ => labelOf ord syms p) := by
  have hfil : (syms.filter fun s => decide (s.cls = "Ground")) = [] :=
    List.filter_eq_nil_iff.mpr fun s hs => by simpa using h s hs
  constructor
  · intro C hC
    obtain ⟨r, hr, hC⟩ := circuitTranslator_inv hC
    have hG := compsOf_grounds hr
    rw [hfil] at hG
    generalize hgs : groundsOf r = gs at hG
    cases hG
    obtain ⟨h1, h2⟩ := mkCircuit_no_ground hgs hC
    rw [h1]; exact h2
  · unfold groundLabel
    rw [groundSymsOf_eq, hfil]
    simp only [List.map_nil, groundPoint]
    cases ord.uniq (uniqueNodes (wiresOf syms) ord (allNodes syms)) <;> rfl

/-- divider V1–R1–R2 with the ground symbol on the bottom rail, a wire on the rail -/
def C13_exGround : List Sym :=
  [{ cls := "VoltageSource", name := "V1", attrs := [("V", .num ⟨5, 0⟩)], start := ⟨0, 1⟩, stop := ⟨0, 0⟩ },
   { cls := "Resistor", name := "R1", attrs := [("R", .num ⟨2, 0⟩)], start := ⟨0, 1⟩, stop := ⟨1, 1⟩ },
   { cls := "Resistor", name := "R2", attrs := [("R", .num ⟨3, 0⟩)], start := ⟨1, 1⟩, stop := ⟨1, 0⟩ },
   { cls := "Line", start := ⟨1, 0⟩, stop := ⟨0, 0⟩ },
   { cls := "Ground", name := "0", nodeId := "0", start := ⟨1, 0⟩, stop := ⟨1, 0⟩ }]

/-- the hypotheses of `C13_ground` / `C13_ground_name` are met by a concrete drawing … -/
example : C13_DrawingWF C13_exGround ∧ (∀ s ∈ C13_exGround.take 4, s.cls ≠ "Ground") := by
  refine ⟨?_, by decide⟩
  intro ps hps ps' hps' _
  have h1 : nodeSymsOf C13_exGround = [(⟨1, 0⟩, "0")] := by decide +kernel
  rw [h1] at hps hps'
  simp only [List.mem_singleton] at hps hps'
  subst hps; subst hps'
  exact Joined.refl _

/-- … on which the translation succeeds and the reference node is the ground's node `'0'`, which is
also the name of the wire-joined terminal (0,0) of V1 -/
example :
    (circuitTranslator 3 ⟨id, id⟩ C13_exGround).toOption.map (·.groundNode) = some "0" ∧
    groundLabel ⟨id, id⟩ C13_exGround = .ok "0" ∧
    labelOf ⟨id, id⟩ C13_exGround ⟨0, 0⟩ = .ok "0" ∧
    labelOf ⟨id, id⟩ C13_exGround ⟨0, 1⟩ ≠ .ok "0" := by decide +kernel

/-- two ground symbols on different electrical nodes: `MultipleGroundNodes` from both entry points -/
example :
    let syms : List Sym :=
      [{ cls := "Resistor", name := "R1", attrs := [("R", .num ⟨2, 0⟩)], start := ⟨0, 0⟩, stop := ⟨1, 0⟩ },
       { cls := "Ground", name := "0", nodeId := "0", start := ⟨0, 0⟩, stop := ⟨0, 0⟩ },
       { cls := "Ground", name := "G", nodeId := "G", start := ⟨1, 0⟩, stop := ⟨1, 0⟩ }]
    circuitTranslator 3 ⟨id, id⟩ syms = .error Err.multipleGrounds ∧
      groundLabel ⟨id, id⟩ syms = .error Err.multipleGrounds := by decide +kernel

/-- **without a ground symbol the two reference notions differ**: R1 drawn from (1,0) to (0,0);
`Circuit.ground_node` is R1's first listed terminal, `parser.ground_label` the first unique node
in set order (here `uniq` iterates the list reversed) -/
theorem C13_no_ground_differ :
    let syms : List Sym :=
      [{ cls := "Resistor", name := "R1", attrs := [("R", .num ⟨2, 0⟩)], start := ⟨1, 0⟩, stop := ⟨0, 0⟩ }]
    (circuitTranslator 3 ⟨id, List.reverse⟩ syms).toOption.map (·.groundNode) ≠
      (groundLabel ⟨id, List.reverse⟩ syms).toOption := by decide +kernel

end CC
