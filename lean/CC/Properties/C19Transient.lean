/-
  C19 / C12, translator tie — the getters of `TransientSolution` (Circuit/solution.py).

  harness/extract_solution.py translates the four getters of `class TransientSolution` into the generated
  `Gen.Sol.transientTable` (CC/Gen/Solution.lean, rewritten from the source on every run): per getter the parameter
  name, the time axis and the returned value as an expression tree (`TExpr`); a getter that wraps its row accessor
  (try/except, default) is refused by the translator.  CC/Model/TransientGetters.lean is the reading of such a tree
  (`transientGetter`: evaluate left to right in the exception monad, accessor NAMES bound to the generated functions
  of CC/Gen/StateSpace.lean).  Everything here rests on `C19_transient_table_shape`, which compares the generated
  table with the four rows the theorems reason about.
  NOT covered: what `__post_init__` stores in `_x`, `_u`, `_tout` (solver call, order of `_u`: model `transientU` +
  correspondence `ss_transient`, property C12) — `X`, `U` are arbitrary here; numpy shape errors; the binding of
  accessor names to generated functions (`ssmAccessor`) and the evaluator are hand-written (they are the reading of
  the table, documented in CC/Model/TransientGetters.lean).
-/
import CC.Model.TransientGetters
import CC.Properties.C19More
import CC.Properties.C10Rows
import CC.Properties.C10Gen
import CC.Properties.C12
import CC.Properties.C05Gen
set_option linter.unusedSectionVars false
namespace CC
open Gen Gen.Core Gen.State Gen.Sol

/-- **the generated getter table, literally.**  Whatever `Circuit/solution.py` says, the translator's output is
compared here with the four rows the other theorems reason about; `rowOutputExpr c d p` is
`np.reshape(self._ssm.c(p) @ self._x + self._ssm.d(p) @ self._u, (-1,))`.  A changed accessor, argument, sign,
operand order, transpose or a dropped `D` term in any getter changes the left-hand side and `decide` fails. -/
theorem C19_transient_table_shape :
    Gen.Sol.transientTable =
      [⟨"get_potential", "node_id", "self._tout", rowOutputExpr "c_row_for_potential" "d_row_for_potential" "node_id"⟩,
       ⟨"get_voltage", "component_id", "self._tout", rowOutputExpr "c_row_voltage" "d_row_voltage" "component_id"⟩,
       ⟨"get_current", "component_id", "self._tout", rowOutputExpr "c_row_current" "d_row_current" "component_id"⟩,
       ⟨"get_power", "component_id", "self._tout",
         .mul (.series "get_voltage" "component_id") (.series "get_current" "component_id")⟩] := by
  decide +kernel

/-- **C19 (the transient getters call the rows), quantified over the rows of the GENERATED table.**  The table has
one row per getter, in the order of the source; for every row: the time axis is `self._tout`; every
`self._ssm.<m>(<a>)` sub-term passes the getter's own parameter (`a = param`: the queried id, unchanged) and `<m>` is one
of the six row accessors (`accessorKind`, for which `C19_transient_accessors_bound` shows a generated function of
CC/Gen/StateSpace.lean is bound) delivering the getter's own quantity; every `self.get_*(<a>)[1]` sub-term passes the
parameter and is the voltage or current getter; a getter other than `get_power` IS `rowOutputExpr c d param` with `c` a
`C`-row and `d` a `D`-row accessor of that quantity; `get_power` IS voltage series `*` current series.
Says nothing about `__post_init__` (what `_x`, `_u`, `_tout` hold). -/
theorem C19_transient_getters_call_rows :
    Gen.Sol.transientTable.map (·.getter) = ["get_potential", "get_voltage", "get_current", "get_power"] ∧
    (∀ r ∈ Gen.Sol.transientTable, r.time = "self._tout" ∧
      (∀ c ∈ ssmCalls r.value, c.2 = r.param ∧ (accessorKind c.1).isSome ∧
        (r.getter ≠ "get_power" → (accessorKind c.1).map (·.2) = some (getterQuantity r.getter))) ∧
      (∀ c ∈ getterCalls r.value, c.2 = r.param ∧ c.1 ∈ ["get_voltage", "get_current"]) ∧
      (r.getter ≠ "get_power" → ∃ c d, r.value = rowOutputExpr c d r.param ∧
        accessorKind c = some ("C", getterQuantity r.getter) ∧ accessorKind d = some ("D", getterQuantity r.getter)) ∧
      (r.getter = "get_power" → r.value = .mul (.series "get_voltage" r.param) (.series "get_current" r.param))) := by
  refine ⟨by decide +kernel, ?_⟩
  intro r hr
  rw [C19_transient_table_shape] at hr
  simp only [List.mem_cons, List.not_mem_nil, or_false] at hr
  rcases hr with rfl | rfl | rfl | rfl
  · exact ⟨rfl, by decide +kernel, by decide +kernel, fun _ => ⟨_, _, rfl, by decide +kernel, by decide +kernel⟩, fun h => absurd h (by decide +kernel)⟩
  · exact ⟨rfl, by decide +kernel, by decide +kernel, fun _ => ⟨_, _, rfl, by decide +kernel, by decide +kernel⟩, fun h => absurd h (by decide +kernel)⟩
  · exact ⟨rfl, by decide +kernel, by decide +kernel, fun _ => ⟨_, _, rfl, by decide +kernel, by decide +kernel⟩, fun h => absurd h (by decide +kernel)⟩
  · exact ⟨rfl, by decide +kernel, by decide +kernel, fun h => absurd rfl h, fun _ => rfl⟩

section
variable {K : Type} [Zero K] [One K] [Add K] [Mul K] [Neg K] [Sub K] [Inv K] [Div K] [DecidableEq K]

theorem isSome_ite_some {c : Prop} [Decidable c] {α β : Type} {a : α} {b : β} {x : Option α} {y : Option β}
    (h : x.isSome = y.isSome) : (if c then some a else x).isSome = (if c then some b else y).isSome := by
  by_cases hc : c
  · rw [if_pos hc, if_pos hc]; rfl
  · rw [if_neg hc, if_neg hc]; exact h

/-- a name has a generated function bound to it (`ssmAccessor`, the hand-written name binding) exactly when
`accessorKind` knows it -/
theorem C19_transient_accessors_bound (g : NodalStateSpaceModel String K) (name : String) :
    (ssmAccessor g name).isSome = (accessorKind name).isSome := by
  unfold ssmAccessor accessorKind
  iterate 6 apply isSome_ite_some
  rfl

theorem bindParam_self (p id : String) : bindParam p id p = .ok id := by simp [bindParam]

theorem evalGetter_rowOutput (table : List TransientRow) (g : NodalStateSpaceModel String K) (X U : Py.Mat K)
    (fuel : Nat) (name id : String) (r : TransientRow) (c d : String)
    (hf : table.find? (fun r => r.getter == name) = some r) (hv : r.value = rowOutputExpr c d r.param) :
    evalGetter table g X U (fuel + 1) name id = rowOutputValue g X U c d id := by
  simp only [evalGetter, hf, hv, rowOutputExpr, evalT, bindParam_self, rowOutputValue]
  cases h1 : callSsm g c id with
  | error e => simp [bind, Except.bind, h1]
  | ok a =>
    cases h2 : TVal.matmul (TVal.ofArr a) (.mat X) with
    | error e => simp [bind, Except.bind, pure, Except.pure, h1, h2]
    | ok va =>
      cases h3 : callSsm g d id with
      | error e => simp [bind, Except.bind, pure, Except.pure, h1, h2, h3]
      | ok b =>
        cases h4 : TVal.matmul (TVal.ofArr b) (.mat U) <;>
          simp [bind, Except.bind, pure, Except.pure, h1, h2, h3, h4]

theorem transientTable_find_potential : Gen.Sol.transientTable.find? (fun r => r.getter == "get_potential")
    = some ⟨"get_potential", "node_id", "self._tout", rowOutputExpr "c_row_for_potential" "d_row_for_potential" "node_id"⟩ := by
  decide +kernel
theorem transientTable_find_voltage : Gen.Sol.transientTable.find? (fun r => r.getter == "get_voltage")
    = some ⟨"get_voltage", "component_id", "self._tout", rowOutputExpr "c_row_voltage" "d_row_voltage" "component_id"⟩ := by
  decide +kernel
theorem transientTable_find_current : Gen.Sol.transientTable.find? (fun r => r.getter == "get_current")
    = some ⟨"get_current", "component_id", "self._tout", rowOutputExpr "c_row_current" "d_row_current" "component_id"⟩ := by
  decide +kernel
theorem transientTable_find_power : Gen.Sol.transientTable.find? (fun r => r.getter == "get_power")
    = some ⟨"get_power", "component_id", "self._tout",
        .mul (.series "get_voltage" "component_id") (.series "get_current" "component_id")⟩ := by
  decide +kernel

theorem callSsm_names (g : NodalStateSpaceModel String K) (id : String) :
    callSsm g "c_row_for_potential" id = NodalStateSpaceModel.c_row_for_potential g id ∧
    callSsm g "d_row_for_potential" id = NodalStateSpaceModel.d_row_for_potential g id ∧
    callSsm g "c_row_voltage" id = NodalStateSpaceModel.c_row_voltage g id ∧
    callSsm g "d_row_voltage" id = NodalStateSpaceModel.d_row_voltage g id ∧
    callSsm g "c_row_current" id = NodalStateSpaceModel.c_row_current g id ∧
    callSsm g "d_row_current" id = NodalStateSpaceModel.d_row_current g id := by
  refine ⟨?_, ?_, ?_, ?_, ?_, ?_⟩ <;> simp [callSsm, ssmAccessor]

theorem transientGetter_rows (g : NodalStateSpaceModel String K) (X U : Py.Mat K) (fuel : Nat) (id : String) :
    evalGetter Gen.Sol.transientTable g X U (fuel + 1) "get_potential" id
      = rowOutputValue g X U "c_row_for_potential" "d_row_for_potential" id ∧
    evalGetter Gen.Sol.transientTable g X U (fuel + 1) "get_voltage" id
      = rowOutputValue g X U "c_row_voltage" "d_row_voltage" id ∧
    evalGetter Gen.Sol.transientTable g X U (fuel + 1) "get_current" id
      = rowOutputValue g X U "c_row_current" "d_row_current" id :=
  ⟨evalGetter_rowOutput _ g X U fuel _ id _ _ _ transientTable_find_potential rfl,
   evalGetter_rowOutput _ g X U fuel _ id _ _ _ transientTable_find_voltage rfl,
   evalGetter_rowOutput _ g X U fuel _ id _ _ _ transientTable_find_current rfl⟩

theorem transientGetter_power (g : NodalStateSpaceModel String K) (X U : Py.Mat K) (id : String) :
    transientGetter g X U "get_power" id = (do
      let v ← transientGetter g X U "get_voltage" id
      let i ← transientGetter g X U "get_current" id
      pure (TVal.zipOp (· * ·) v i)) := by
  have hv := (transientGetter_rows g X U 0 id).2.1
  have hi := (transientGetter_rows g X U 0 id).2.2
  have hv1 := (transientGetter_rows g X U 1 id).2.1
  have hi1 := (transientGetter_rows g X U 1 id).2.2
  -- a row getter is the same at every positive fuel: the right-hand side is restated at fuel 1, where
  -- unfolding `get_power` (fuel 2) puts its two inner calls
  unfold transientGetter
  rw [hv1, hi1, ← hv, ← hi]
  conv => lhs; unfold evalGetter
  simp only [transientTable_find_power, evalT, bindParam_self]
  rfl

theorem rowOutputValue_error_c (g : NodalStateSpaceModel String K) (X U : Py.Mat K) (c d id : String) (e : Err)
    (h : callSsm g c id = .error e) : rowOutputValue g X U c d id = .error e := by
  simp [rowOutputValue, h, bind, Except.bind]

theorem transientGetter_row_error (g : NodalStateSpaceModel String K) (X U : Py.Mat K) (id : String) (e : Err) :
    (NodalStateSpaceModel.c_row_for_potential g id = .error e →
      transientGetter g X U "get_potential" id = .error e) ∧
    (NodalStateSpaceModel.c_row_voltage g id = .error e →
      transientGetter g X U "get_voltage" id = .error e ∧ transientGetter g X U "get_power" id = .error e) ∧
    (NodalStateSpaceModel.c_row_current g id = .error e → transientGetter g X U "get_current" id = .error e) := by
  obtain ⟨n1, _, n3, _, n5, _⟩ := callSsm_names g id
  obtain ⟨r1, r2, r3⟩ := transientGetter_rows g X U 1 id
  have hV : NodalStateSpaceModel.c_row_voltage g id = .error e →
      transientGetter g X U "get_voltage" id = .error e := fun h => by
    unfold transientGetter
    rw [r2]
    exact rowOutputValue_error_c g X U _ _ id e (n3.trans h)
  refine ⟨fun h => ?_, fun h => ⟨hV h, ?_⟩, fun h => ?_⟩
  · unfold transientGetter
    rw [r1]
    exact rowOutputValue_error_c g X U _ _ id e (n1.trans h)
  · rw [transientGetter_power, hV h]
    rfl
  · unfold transientGetter
    rw [r3]
    exact rowOutputValue_error_c g X U _ _ id e (n5.trans h)

/-- **C19 (unknown query, the getters of `TransientSolution`).**  `transientGetter g X U name id` is the getter `name`
of the GENERATED table evaluated on the model object `g = self._ssm` and arbitrary `X = self._x`, `U = self._u`.  For
every such object and arrays: `get_potential` of a label that is neither a mapped node nor the reference raises
`KeyError`; `get_voltage` and `get_power` of an id that is no branch raise `KeyError` (the exception of
`c_row_voltage`, evaluated first; `get_power` evaluates the voltage getter first); `get_current` of an id that is no
branch, capacitor key or mapped source raises (the exception of `c_row_current`).  No default value, no empty series.
Through `C19_transient_unknown_voltage / _potential / _current` (about the generated accessors) and the generated
table.  Hypotheses: only "the id is unknown".  Not claimed: that the exception class the CODE shows is `KeyError`
rather than numpy's `IndexError` (both carry the `KeyError` tag in the model). -/
theorem C19_transient_unknown_getter (g : NodalStateSpaceModel String K) (X U : Py.Mat K) :
    (∀ n : String, n ∉ g.node_index_mapping.keys → n ≠ g.network.zero →
      transientGetter g X U "get_potential" n = .error .keyError) ∧
    (∀ id : String, id ∉ g.network.ids → transientGetter g X U "get_voltage" id = .error .keyError) ∧
    (∀ id : String, id ∉ g.network.ids → id ∉ (g.c_values).keys → id ∉ g.voltage_source_index_mapping.keys →
      id ∉ g.current_source_index_mapping.keys → ∃ e, transientGetter g X U "get_current" id = .error e) ∧
    (∀ id : String, id ∉ g.network.ids → transientGetter g X U "get_power" id = .error .keyError) := by
  refine ⟨fun n h hz => (transientGetter_row_error g X U n _).1 (C19_transient_unknown_potential g n h hz).1,
    fun id h => ((transientGetter_row_error g X U id _).2.1 (C19_transient_unknown_voltage g id h).1).1,
    fun id h hc hv hs => ?_,
    fun id h => ((transientGetter_row_error g X U id _).2.1 (C19_transient_unknown_voltage g id h).1).2⟩
  obtain ⟨e, he⟩ := (C19_transient_unknown_current g id h hc hv hs).1
  exact ⟨e, (transientGetter_row_error g X U id e).2.2 he⟩

/-- **… for the object the code builds.**  For `g = nodal_state_space_model(N, c_values, l_values)` (generated; the
constructor the generated `transientSsm` records for `self._ssm`): every getter raises for an id that is no branch of
`N` (current: and no capacitor key; potential: a label no branch touches, other than the reference).  Hypothesis
left: the model was built (`hg`). -/
theorem C19_transient_unknown_getter_built (inv : Py.Mat K → Py.Mat K) (re : K → K) (N : Net String K)
    (cv lv : ValDict K) (g : NodalStateSpaceModel String K) (hg : nodal_state_space_model inv re N cv lv = .ok g)
    (X U : Py.Mat K) :
    (∀ n : String, n ≠ N.zero → (∀ b ∈ N.branches, b.n1 ≠ n ∧ b.n2 ≠ n) →
      transientGetter g X U "get_potential" n = .error .keyError) ∧
    (∀ id : String, id ∉ N.ids → transientGetter g X U "get_voltage" id = .error .keyError) ∧
    (∀ id : String, id ∉ N.ids → id ∉ cv.keys → ∃ e, transientGetter g X U "get_current" id = .error e) ∧
    (∀ id : String, id ∉ N.ids → transientGetter g X U "get_power" id = .error .keyError) := by
  obtain ⟨hv, hc, hp⟩ := C19_transient_unknown_built inv re N cv lv g hg
  refine ⟨fun n hz hb => (transientGetter_row_error g X U n _).1 (hp n hz hb).1,
    fun id h => ((transientGetter_row_error g X U id _).2.1 (hv id h).1).1,
    fun id h hcv => ?_,
    fun id h => ((transientGetter_row_error g X U id _).2.1 (hv id h).1).2⟩
  obtain ⟨e, he⟩ := (hc id h hcv).1
  exact ⟨e, (transientGetter_row_error g X U id e).2.2 he⟩

end

section
variable {K : Type} [Field K] [DecidableEq K]

theorem rowTimes_add (rc rd : List K) (X U : Py.Mat K) (hT : U.ncols = X.ncols) :
    List.zipWith (· + ·) (rowTimes rc X) (rowTimes rd U) = transientOutput X.ncols rc rd X.rows U.rows := by
  simp [rowTimes, transientOutput, hT, List.zipWith_map, List.zipWith_self]

theorem rowOutput_combine (a b : Py.Arr K) (rc rd : List K) (X U : Py.Mat K) (hT : U.ncols = X.ncols)
    (ha : a.toRows = [rc]) (hb : b.toRows = [rd]) :
    (do let va ← TVal.matmul (TVal.ofArr a) (.mat X)
        let vb ← TVal.matmul (TVal.ofArr b) (.mat U)
        pure (TVal.flatten (TVal.zipOp (· + ·) va vb)) : Except Err (TVal K))
      = .ok (.vec (transientOutput X.ncols rc rd X.rows U.rows)) := by
  rw [← rowTimes_add rc rd X U hT]
  cases a with
  | vec v =>
    cases b with
    | vec w =>
      simp only [Py.Arr.toRows, List.cons.injEq, and_true] at ha hb
      subst ha; subst hb
      rfl
    | mat rows =>
      simp only [Py.Arr.toRows, List.cons.injEq, and_true] at ha hb
      subst ha; subst hb
      simp [TVal.ofArr, TVal.matmul, TVal.zipOp, TVal.flatten, bind, Except.bind, pure, Except.pure]
  | mat rows =>
    cases b with
    | vec w =>
      simp only [Py.Arr.toRows, List.cons.injEq, and_true] at ha hb
      subst ha; subst hb
      simp [TVal.ofArr, TVal.matmul, TVal.zipOp, TVal.flatten, bind, Except.bind, pure, Except.pure]
    | mat rows2 =>
      simp only [Py.Arr.toRows] at ha hb
      subst ha; subst hb
      simp [TVal.ofArr, TVal.matmul, TVal.zipOp, TVal.flatten, bind, Except.bind, pure, Except.pure]

theorem rowOutputValue_ok (g : NodalStateSpaceModel String K) (X U : Py.Mat K) (hT : U.ncols = X.ncols)
    (c d id : String) (a b : Py.Arr K) (rc rd : List K)
    (hc : callSsm g c id = .ok a) (hd : callSsm g d id = .ok b) (ha : a.toRows = [rc]) (hb : b.toRows = [rd]) :
    rowOutputValue g X U c d id = .ok (.vec (transientOutput X.ncols rc rd X.rows U.rows)) := by
  rw [← rowOutput_combine a b rc rd X U hT ha hb]
  unfold rowOutputValue
  cases h1 : TVal.matmul (TVal.ofArr a) (.mat X) <;> simp [bind, Except.bind, hc, hd, h1]

/-- **C12 (the getters return the row output).**  `g` the generated model object, `m` the hand-written one the C10 /
C12 theorems are about, `SSRel g m` (they describe the same model: `C10_gen_rel` for every object the builder
returns), `X = self._x`, `U = self._u` with the same number of samples.  Whenever the hand-written rows exist, the
getter of the GENERATED table returns the 1-d series `transientOutput` — whose sample `t` is
`dot(c_row, x_t) + dot(d_row, u_t)` (last conjunct; `x_t`, `u_t` = column `t`) — for potential, voltage and current
(1-d or `1×n` rows, all four combinations), and `get_power` returns the generated `tr_get_power` (elementwise
product) of the voltage and current series.  Hypotheses: `SSRel`, distinct branch ids, `U.ncols = X.ncols`.
Not claimed: numpy's error for mismatched shapes. -/
theorem C12_getter_is_row_output {g : NodalStateSpaceModel String K} {m : NSSM String K} (h : SSRel g m)
    (hids : m.net.ids.Nodup) (X U : Py.Mat K) (hT : U.ncols = X.ncols) :
    (∀ (n : String) (rc rd : List K), m.cRowPotential n = .ok rc → m.dRowPotential n = .ok rd →
      transientGetter g X U "get_potential" n = .ok (.vec (transientOutput X.ncols rc rd X.rows U.rows))) ∧
    (∀ (id : String) (rc rd : List K), m.cRowVoltage id = .ok rc → m.dRowVoltage id = .ok rd →
      transientGetter g X U "get_voltage" id = .ok (.vec (transientOutput X.ncols rc rd X.rows U.rows))) ∧
    (∀ (id : String) (rc rd : List K), m.cRowCurrent id = .ok rc → m.dRowCurrent id = .ok rd →
      transientGetter g X U "get_current" id = .ok (.vec (transientOutput X.ncols rc rd X.rows U.rows))) ∧
    (∀ (id : String) (vser iser : List K), transientGetter g X U "get_voltage" id = .ok (.vec vser) →
      transientGetter g X U "get_current" id = .ok (.vec iser) →
      transientGetter g X U "get_power" id = .ok (.vec (Gen.Sol.tr_get_power vser iser))) ∧
    (∀ (rc rd : List K) (t : Nat), t < X.ncols →
      (transientOutput X.ncols rc rd X.rows U.rows).getD t 0
        = dotL rc (sampleCol X.rows t) + dotL rd (sampleCol U.rows t)) := by
  refine ⟨?_, ?_, ?_, ?_, ?_⟩
  · intro n rc rd h1 h2
    unfold transientGetter
    rw [(transientGetter_rows g X U 1 n).1]
    have e := C10_gen_row_potential h n
    rw [h1, h2] at e
    exact rowOutputValue_ok g X U hT _ _ n _ _ rc rd ((callSsm_names g n).1.trans e.1)
      ((callSsm_names g n).2.1.trans e.2) rfl rfl
  · intro id rc rd h1 h2
    unfold transientGetter
    rw [(transientGetter_rows g X U 1 id).2.1]
    have e := C10_gen_row_voltage h id
    rw [h1, h2] at e
    exact rowOutputValue_ok g X U hT _ _ id _ _ rc rd ((callSsm_names g id).2.2.1.trans e.1)
      ((callSsm_names g id).2.2.2.1.trans e.2) rfl rfl
  · intro id rc rd h1 h2
    unfold transientGetter
    rw [(transientGetter_rows g X U 1 id).2.2]
    have e := C10_gen_row_current h hids id
    rw [h1, h2] at e
    obtain ⟨a, ha, ha'⟩ := bind_eq_ok.1 e.1
    obtain ⟨b, hb, hb'⟩ := bind_eq_ok.1 e.2
    exact rowOutputValue_ok g X U hT _ _ id a b rc rd ((callSsm_names g id).2.2.2.2.1.trans ha)
      ((callSsm_names g id).2.2.2.2.2.trans hb) (Except.ok.inj ha') (Except.ok.inj hb')
  · intro id vser iser hv hi
    rw [transientGetter_power, hv, hi]
    rfl
  · intro rc rd t ht
    exact C12_output_sample X.ncols rc rd X.rows U.rows t ht

/-- the accessor report of sample `t`: the per-sample network (capacitor `k` ↦ current source `C_k·ẋ_k`, inductor
`k` ↦ voltage source `L_k·ẋ_k`, sources at `u_t`) read from `y_t = C x_t + D u_t`, `ẋ_t = A x_t + B u_t`, where `x_t`,
`u_t` are column `t` of `self._x`, `self._u` — the report `C10_output_rows` / `C12_sample_circuit` speak about -/
def transientSampleReport (N : Net String K) (cvals lvals : ValDict K) (m : NSSM String K) (X U : Py.Mat K)
    (t : Nat) : Report String K :=
  (sampleNet N cvals lvals (ssSources N lvals) (sampleCol U.rows t)
    (Mx.vecAdd (matVec m.mats.A (sampleCol X.rows t)) (matVec m.mats.B (sampleCol U.rows t)))).reportOf
    (Mx.vecAdd (matVec m.mats.C (sampleCol X.rows t)) (matVec m.mats.D (sampleCol U.rows t)))

theorem transientOutput_length (n : Nat) (rc rd : List K) (X U : List (List K)) :
    (transientOutput n rc rd X U).length = n := by simp [transientOutput]

theorem tr_get_power_getD (v i : List K) (t : Nat) (h1 : t < v.length) (h2 : t < i.length) :
    (Gen.Sol.tr_get_power v i).getD t 0 = v.getD t 0 * i.getD t 0 := by
  rw [List.getD_eq_getElem?_getD, (C05_gen_transient_power v i).2 t h1 h2]
  simp [List.getD_eq_getElem?_getD, List.getElem?_eq_getElem h1, List.getElem?_eq_getElem h2]

theorem series_of_rows {cRow dRow : Except Err (List K)} {getter : Except Err (TVal K)} (X U : Py.Mat K)
    (val : Nat → K)
    (hget : ∀ rc rd, cRow = .ok rc → dRow = .ok rd →
      getter = .ok (.vec (transientOutput X.ncols rc rd X.rows U.rows)))
    (hrows : ∀ t, ∃ rc rd, cRow = .ok rc ∧ dRow = .ok rd ∧
      dotL rc (sampleCol X.rows t) + dotL rd (sampleCol U.rows t) = val t) :
    ∃ ser, getter = .ok (.vec ser) ∧ ser.length = X.ncols ∧ ∀ t < X.ncols, ser.getD t 0 = val t := by
  obtain ⟨rc, rd, h1, h2, _⟩ := hrows 0
  refine ⟨_, hget rc rd h1 h2, transientOutput_length _ _ _ _ _, fun t ht => ?_⟩
  obtain ⟨rc', rd', h1', h2', e⟩ := hrows t
  rw [h1] at h1'; rw [h2] at h2'
  cases h1'; cases h2'
  rw [C12_output_sample _ _ _ _ _ t ht, e]

/-- **C12 (the getters' samples are the report read from `y = C x + D u`).**  For the `w = 0` network of an RLC +
ideal-source circuit, the model built from it (any certificates), the generated object `g` related to it, and ANY
sample arrays `X`, `U` (same number of samples, one row of `U` per published source) — hence for every integrator:
every `get_potential(n)`, `get_voltage(b)`, `get_current(b)`, `get_power(b)` of the GENERATED getter table succeeds
for every node label / branch and returns one value per sample, and sample `t` IS the potential / voltage / current /
`v·i` in `transientSampleReport … t`, the accessor report of the per-sample network read from `y_t = C x_t + D u_t`
(`C10_rows_potential / _voltage / _current`, the conjuncts of `C10_output_rows`).  By `C12_sample_circuit` that report
satisfies KCL, KVL and every element law of the circuit at that sample.  Not claimed: that `X` is the solution of
`ẋ = A x + B u` (lsim is trusted, see the open statements of C12). -/
theorem C12_getter_samples_report {N : Net String K} {cvals lvals : ValDict K} {Ainv S : List (List K)}
    {m : NSSM String K} {g : NodalStateSpaceModel String K}
    (hr : RLC N cvals lvals) (hm : nodalStateSpaceModel N cvals lvals Ainv S = .ok m) (h : SSRel g m)
    (X U : Py.Mat K) (hT : U.ncols = X.ncols) (hU : U.rows.length = ssNInputs N lvals) :
    (∀ n ∈ N.nodeLabels, ∃ ser, transientGetter g X U "get_potential" n = .ok (.vec ser) ∧ ser.length = X.ncols ∧
      ∀ t < X.ncols, ser.getD t 0 = (transientSampleReport N cvals lvals m X U t).pot n) ∧
    (∀ b ∈ N.branches, ∃ ser, transientGetter g X U "get_voltage" b.id = .ok (.vec ser) ∧ ser.length = X.ncols ∧
      ∀ t < X.ncols, ser.getD t 0 = (transientSampleReport N cvals lvals m X U t).v b.id) ∧
    (∀ b ∈ N.branches, ∃ ser, transientGetter g X U "get_current" b.id = .ok (.vec ser) ∧ ser.length = X.ncols ∧
      ∀ t < X.ncols, ser.getD t 0 = (transientSampleReport N cvals lvals m X U t).i b.id) ∧
    (∀ b ∈ N.branches, ∃ ser, transientGetter g X U "get_power" b.id = .ok (.vec ser) ∧
      ∀ t < X.ncols, ser.getD t 0 = (transientSampleReport N cvals lvals m X U t).v b.id
        * (transientSampleReport N cvals lvals m X U t).i b.id) := by
  have hnet : m.net = N := by
    obtain ⟨mats, _, rfl⟩ := rows_model_ok hm
    rfl
  have hids : m.net.ids.Nodup := hnet ▸ hr.wf.ids_nodup
  obtain ⟨gP, gV, gI, gW, _⟩ := C12_getter_is_row_output h hids X U hT
  have hlen : ∀ t, (sampleCol U.rows t).length = ssNInputs N lvals := by
    intro t; simp [sampleCol, hU]
  have hV : ∀ b ∈ N.branches, ∃ ser, transientGetter g X U "get_voltage" b.id = .ok (.vec ser) ∧ ser.length = X.ncols ∧
      ∀ t < X.ncols, ser.getD t 0 = (transientSampleReport N cvals lvals m X U t).v b.id := fun b hb =>
    series_of_rows X U _ (gV b.id) fun t => C10_rows_voltage hr.wf.ids_nodup hm _ _ b hb
  have hI : ∀ b ∈ N.branches, ∃ ser, transientGetter g X U "get_current" b.id = .ok (.vec ser) ∧ ser.length = X.ncols ∧
      ∀ t < X.ncols, ser.getD t 0 = (transientSampleReport N cvals lvals m X U t).i b.id := fun b hb =>
    series_of_rows X U _ (gI b.id) fun t => C10_rows_current hr hm _ _ (hlen t) b hb
  refine ⟨fun n hn => series_of_rows X U _ (gP n) fun t => C10_rows_potential hm _ _ n hn, hV, hI, ?_⟩
  · intro b hb
    obtain ⟨vs, hv, hvl, hvt⟩ := hV b hb
    obtain ⟨is_, hi, hil, hit⟩ := hI b hb
    refine ⟨_, gW b.id vs is_ hv hi, ?_⟩
    intro t ht
    rw [tr_get_power_getD vs is_ t (hvl ▸ ht) (hil ▸ ht), hvt t ht, hit t ht]

end

/-- an unknown id against a model object: the hypotheses of `C19_transient_unknown_getter` (voltage / power) -/
example : transientGetter (K := Rat)
    ⟨⟨0, 0, []⟩, ⟨0, 0, []⟩, ⟨0, 0, []⟩, ⟨0, 0, []⟩, ⟨[⟨"1", "0", "R", "", .norton 1 0⟩], "0"⟩, [], [], ⟨["1"]⟩, ⟨[]⟩, ⟨[]⟩⟩
    ⟨0, 3, []⟩ ⟨0, 3, []⟩ "get_power" "nope" = .error .keyError :=
  (C19_transient_unknown_getter _ _ _).2.2.2 "nope" (by decide +kernel)

/-- the series circuit `V(1,0) – R=1 (1,2) – C=1 (2,0)` of CC/Properties/C10Rows.lean, its generated model object
`ssToGen …`, two samples `x = (2, 3)`, `u = (3, 1)`: every hypothesis of `C12_getter_samples_report` /
`C12_getter_is_row_output` is met -/
example : ∃ (m : NSSM String ℚ) (g : NodalStateSpaceModel String ℚ) (X U : Py.Mat ℚ),
    RLC netRC [("C", 1)] [] ∧ nodalStateSpaceModel netRC [("C", 1)] [] rcAinv rcS = .ok m ∧ SSRel g m ∧
    m.net.ids.Nodup ∧ U.ncols = X.ncols ∧ U.rows.length = ssNInputs netRC [] ∧ 0 < X.ncols :=
  ⟨_, ssToGen netRC [("C", 1)] [] _, ⟨1, 2, [[2, 3]]⟩, ⟨1, 2, [[3, 1]]⟩, netRC_rlc, netRC_model,
    C10_gen_rel netRC netRC_rlc.wf.ids_nodup [("C", 1)] [] rcAinv rcS _ netRC_mats, netRC_rlc.wf.ids_nodup, rfl,
    by simp [ssNInputs, netRC_colsS], by decide +kernel⟩

/-- … and there the getter of the generated table, evaluated: the resistor voltage is `−x + u` per sample,
`(−2 + 3, −3 + 1) = (1, −2)` -/
example : transientGetter (ssToGen netRC [("C", 1)] [] ⟨[[-1]], [[1]], [[0], [1], [1]], [[1], [0], [-1]]⟩)
    (⟨1, 2, [[2, 3]]⟩ : Py.Mat ℚ) ⟨1, 2, [[3, 1]]⟩ "get_voltage" "R" = .ok (.vec [1, -2]) := by
  have hrel := C10_gen_rel netRC netRC_rlc.wf.ids_nodup [("C", 1)] [] rcAinv rcS _ netRC_mats
  have hrows : (⟨⟨[[-1]], [[1]], [[0], [1], [1]], [[1], [0], [-1]]⟩, netRC, [("C", 1)], []⟩ : NSSM String ℚ).cRowVoltage "R" = .ok [-1]
      ∧ (⟨⟨[[-1]], [[1]], [[0], [1], [1]], [[1], [0], [-1]]⟩, netRC, [("C", 1)], []⟩ : NSSM String ℚ).dRowVoltage "R" = .ok [1] := by
    constructor
    · simp [NSSM.cRowVoltage, netRC_getR, NSSM.cRowPotential, NSSM.rowForPotential, netRC_nodes, idxOf?, Mx.vecSub,
        bind, Except.bind, pure, Except.pure]
    · simp [NSSM.dRowVoltage, netRC_getR, NSSM.dRowPotential, NSSM.rowForPotential, netRC_nodes, idxOf?, Mx.vecSub,
        bind, Except.bind, pure, Except.pure]
  rw [(C12_getter_is_row_output hrel netRC_rlc.wf.ids_nodup ⟨1, 2, [[2, 3]]⟩ ⟨1, 2, [[3, 1]]⟩ rfl).2.1 "R" [-1] [1]
    hrows.1 hrows.2]
  simp [transientOutput, dotL, sampleCol, List.range_succ]
  norm_num

end CC
