/-
  C14 — the Cartesian and time-function annotations read by the verified readers
  (`CC.Properties.C18Readers`), and the numeric agreement of the Cartesian and polar readings of one quantity.

  As in `CC.Properties.C14Polar`: `d.absV`, `d.angle`, `d.phase`, `d.phaseDeg`, `d.w`, `d.wHz` are run-time parameters
  (libm values of the signed solution value); the Cartesian text depends on the signed solution value itself.
-/
import CC.Properties.C14Polar
import CC.Properties.C18Readers

namespace CC
open CC.Fmt CC.Annot CC.Gen.Annot

theorem specUnit_foreign (qt : Quantity) : 'j' ∉ specUnit qt ∧ ' ' ∉ specUnit qt ∧ '·' ∉ specUnit qt := by
  cases qt <;> decide

/-- a complex annotation in Cartesian form (`polar=False`), every quantity, both directions,
both parts of the signed solution value `v` (the solution's value in the element's reference direction, negated in
reverse) in the domain: the Cartesian reader of the Spec applied to the label returns parts that satisfy **every clause of
`RealOK` w.r.t. `Re v` and `Im v` with their signs** (half a unit of the `p`-th digit, engineering form, range `u…k`, sign
read off the `-`/`+` character) — `(tr, absent)` when `|Im v|` `is_zero`, `(absent, ti)` when `|Re v|` `is_zero` and
`|Im v|` does not, `(tr, ti)` otherwise.  Not claimed: that an absent part is negligible (`is_zero` drops
parts the prefixes can express). -/
theorem C14_denotes_cartesian (qt : Quantity) (reverse : Bool) (q : GQ) (d : Derived) (o : Opts)
    (hpol : o.polar = false) (hp : 1 ≤ o.precision)
    (hre : InDomain (specValue qt reverse q).re o.precision) (him : InDomain (specValue qt reverse q).im o.precision) :
    let v := specValue qt reverse q
    let sf := (scOfCall CC.Gen.Fmt.print_complex_call0 (specUnit qt) o.precision o.polar o.deg).toSFCfg
    ∃ (s : List Char) (tr ti : Text), annotText .complex qt reverse q d o = some s
      ∧ realFailures v.re o.precision 3 (some tr) = [] ∧ realFailures v.im o.precision 3 (some ti) = []
      ∧ ((sf.value3 (qabs v.im)).isZero = true → parseCartesian (specUnit qt) s = some (some tr, none))
      ∧ ((sf.value3 (qabs v.im)).isZero = false → (sf.value3 (qabs v.re)).isZero = true →
          parseCartesian (specUnit qt) s = some (none, some ti))
      ∧ ((sf.value3 (qabs v.im)).isZero = false → (sf.value3 (qabs v.re)).isZero = false →
          parseCartesian (specUnit qt) s = some (some tr, some ti)) := by
  intro v sf
  obtain ⟨uj, us, _⟩ := specUnit_foreign qt
  set c := scOfCall CC.Gen.Fmt.print_complex_call0 (specUnit qt) o.precision o.polar o.deg with hc
  have hcfg : CfgOK c.toSFCfg := cfgOK_print_complex _ _ _ _ hp (specUnit_ok qt).1
  have hpolar : c.polar = false := hpol
  have htext := annotText_complex qt reverse q d o
  have fj : Foreign 'j' c.toSFCfg :=
    foreign_of_call (by decide) uj
  have fs : Foreign ' ' c.toSFCfg :=
    foreign_of_call (by decide) us
  obtain ⟨tr, ti, h1, h2, h3, h4, h5⟩ := C18_cartesian_reads_back c v.re v.im d.absV d.angle hpolar hcfg hre him fj fs
  exact ⟨_, tr, ti, htext, h1, h2, h3, h4, h5⟩

example : ((annotText .complex .voltage false ⟨3, -4⟩ {} {}).bind (parseCartesian ['V'])).map
    (fun r => (r.1.map Text.isNeg, r.2.map Text.isNeg)) = some (some false, some true) := by decide +kernel

/-- a time-function annotation, every quantity, both directions, read by `parseSinusoid`:
* `d.w ≠ 0`: the reader returns a wave with the flags `o.sin`, `o.hertz` (and `o.deg` when a phase is shown), an amplitude
  that satisfies every clause of `RealOK` w.r.t. `d.absV` in the unit of the quantity, a frequency `RealOK` w.r.t. `d.w`
  (`/s`) or `d.wHz` (`Hz`), and a phase that is absent exactly when `|d.phase| ≤` binary64 `1e-4` and otherwise `RealOK`
  w.r.t. `shownPhase d.phase d.phaseDeg o.deg` (`= d.phase` in radian mode).  What function the three numbers denote
  relative to `Re(X·e^{jwt})`: `C18_sinusoid_denotes`.
* `d.w = 0`: the reader returns the constant, `RealOK` w.r.t. `Re` of the signed solution value.
`d.absV` (peak modulus), `d.phase` (argument plus the quarter turn of the sine form), `d.phaseDeg`, `d.wHz` are run-time
parameters.  Not claimed: that the time-function *power* label is `p(t)`. -/
theorem C14_denotes_sinusoid (qt : Quantity) (reverse : Bool) (q : GQ) (d : Derived) (o : Opts) (hp : 1 ≤ o.precision) :
    (d.w ≠ 0 → InDomain d.absV o.precision → InDomain (if o.hertz then d.wHz else d.w) o.precision →
      (|d.phase| > CC.Gen.Fmt.print_sinosoidal_phase_threshold →
        InDomain (if o.deg then d.phaseDeg else d.phase) o.precision) →
      ∃ (s : List Char) (ta tf : Text) (tp : Option Text), annotText .timeDomain qt reverse q d o = some s
        ∧ parseSinusoid (specUnit qt) s
            = some (.wave { amplitude := ta, sine := o.sin, hertz := o.hertz, freq := tf, phase := tp,
                            deg := decide (|d.phase| > CC.Gen.Fmt.print_sinosoidal_phase_threshold) && o.deg })
        ∧ realFailures d.absV o.precision 3 (some ta) = []
        ∧ realFailures (if o.hertz then d.wHz else d.w) o.precision (if o.hertz then 12 else 16) (some tf) = []
        ∧ (|d.phase| ≤ CC.Gen.Fmt.print_sinosoidal_phase_threshold → tp = none)
        ∧ (|d.phase| > CC.Gen.Fmt.print_sinosoidal_phase_threshold →
            ∃ t, tp = some t ∧ realFailures (shownPhase d.phase d.phaseDeg o.deg) o.precision 16 (some t) = []))
    ∧ (d.w = 0 → InDomain (specValue qt reverse q).re o.precision →
      ∃ (s : List Char) (t : Text), annotText .timeDomain qt reverse q d o = some s
        ∧ parseSinusoid (specUnit qt) s = some (.const t)
        ∧ realFailures (specValue qt reverse q).re o.precision 3 (some t) = []) := by
  have huok := (specUnit_ok qt).1
  obtain ⟨_, _, udot⟩ := specUnit_foreign qt
  have htext := annotText_time qt reverse q d o
  constructor
  · intro hw habs hfreq hph
    obtain ⟨ta, tf, tp, h1, h2, h3, h4, h5⟩ := C18_sinusoid_reads_back (specValue qt reverse q).re d.absV d.phase
      d.phaseDeg d.w d.wHz (specUnit qt) o.precision o.sin o.deg o.hertz hp huok udot hw habs hfreq hph
    exact ⟨_, ta, tf, tp, htext, h1, h2, h3, h4, h5⟩
  · intro hw hre
    obtain ⟨t, h1, h2⟩ := C18_sinusoid_const_reads_back (specValue qt reverse q).re d.absV d.phase d.phaseDeg d.wHz
      (specUnit qt) o.precision o.sin o.deg o.hertz hp huok udot hre
    refine ⟨_, t, htext, ?_, h2⟩
    rw [hw]; exact h1

example : ((annotText .timeDomain .voltage false ⟨3, 4⟩
      { absV := 5, phase := 1 / 2, phaseDeg := 28, w := 100, wHz := 16 } {}).bind (parseSinusoid ['V'])).map
    (fun r => match r with | .wave w => (w.sine, w.hertz, w.deg, w.phase.map Text.isNeg) | .const _ => (true, true, true, none))
    = some (false, false, false, some false) := by decide +kernel

theorem norm_exp_sub_exp_le (x y : ℝ) : ‖Complex.exp (Complex.I * x) - Complex.exp (Complex.I * y)‖ ≤ |x - y| := by
  have h : Complex.exp (Complex.I * x) - Complex.exp (Complex.I * y)
      = Complex.exp (Complex.I * y) * (Complex.exp (Complex.I * ((x - y : ℝ) : ℂ)) - 1) := by
    rw [mul_sub, mul_one, ← Complex.exp_add]; congr 2; push_cast; ring
  rw [h, norm_mul]
  have h1 : ‖Complex.exp (Complex.I * y)‖ = 1 := by
    rw [mul_comm]; exact Complex.norm_exp_ofReal_mul_I y
  rw [h1, one_mul]
  exact Real.norm_exp_I_mul_ofReal_sub_one_le

/-- the Cartesian and the polar reading of one quantity agree within the sum of their display
tolerances: if the Cartesian annotation is read as `a' ± j b'` and the polar annotation as `M'∠θ'` (radians), then
`|(a' + j b') − M'·e^{jθ'}| ≤ |a'−re| + |b'−im| + |M'−M| + |M|·|θ'−θ| + |(re + j im) − M·e^{jθ}|` — the first four terms are
the display tolerances (`C14_denotes_cartesian`: half a unit of the `p`-th digit of `re`, `im`; `C14_denotes_polar`: half a
unit of the `p`-th digit of `M = d.absV`, and `0.5·10^-4` rad / `0.5·10^-2`° of `θ = d.angle`), the last is the distance of
the run-time parameters `d.absV`, `d.angle` (libm `abs`, `angle`) from the modulus and argument of the signed solution
value `re + j im`: zero for exact values, a parameter here.  All reals; no hypothesis.  (Time function ↔ polar: both texts
start with the same `print_abs` text of the `absV` handed to them, `C14_agree_magnitude`; the time function is related to
the phasor by `C18_sinusoid_denotes`.) -/
theorem C14_agree_numeric (a' b' re im M' M θ' θ : ℝ) :
    ‖((a' : ℂ) + b' * Complex.I) - M' * Complex.exp (Complex.I * θ')‖
      ≤ |a' - re| + |b' - im| + |M' - M| + |M| * |θ' - θ|
        + ‖((re : ℂ) + im * Complex.I) - M * Complex.exp (Complex.I * θ)‖ := by
  have hsplit : ((a' : ℂ) + b' * Complex.I) - M' * Complex.exp (Complex.I * θ')
      = (((a' - re : ℝ) : ℂ) + ((b' - im : ℝ) : ℂ) * Complex.I)
        + (((re : ℂ) + im * Complex.I) - M * Complex.exp (Complex.I * θ))
        + ((M : ℂ) * (Complex.exp (Complex.I * θ) - Complex.exp (Complex.I * θ'))
            + ((M - M' : ℝ) : ℂ) * Complex.exp (Complex.I * θ')) := by
    push_cast; ring
  rw [hsplit]
  have e1 : ‖Complex.exp (Complex.I * θ')‖ = 1 := by
    rw [mul_comm]; exact Complex.norm_exp_ofReal_mul_I θ'
  have n1 : ‖((a' - re : ℝ) : ℂ) + ((b' - im : ℝ) : ℂ) * Complex.I‖ ≤ |a' - re| + |b' - im| := by
    refine (norm_add_le _ _).trans ?_
    rw [norm_mul, Complex.norm_I, mul_one, Complex.norm_real, Complex.norm_real]
    simp [Real.norm_eq_abs]
  have n2 : ‖(M : ℂ) * (Complex.exp (Complex.I * θ) - Complex.exp (Complex.I * θ'))
      + ((M - M' : ℝ) : ℂ) * Complex.exp (Complex.I * θ')‖ ≤ |M| * |θ' - θ| + |M' - M| := by
    refine (norm_add_le _ _).trans ?_
    rw [norm_mul, norm_mul, e1, mul_one, Complex.norm_real, Complex.norm_real, Real.norm_eq_abs, Real.norm_eq_abs,
      abs_sub_comm M M', abs_sub_comm θ' θ]
    have := mul_le_mul_of_nonneg_left (norm_exp_sub_exp_le θ θ') (abs_nonneg M)
    linarith
  refine (norm_add_le _ _).trans ?_
  have := norm_add_le (((a' - re : ℝ) : ℂ) + ((b' - im : ℝ) : ℂ) * Complex.I)
    (((re : ℂ) + im * Complex.I) - M * Complex.exp (Complex.I * θ))
  linarith

end CC
