/-
  Property C19 — the fault classes that are statements about generated definitions: the wave lookup of
  periodic_functions.py; the row accessors of `NodalStateSpaceModel` (CC/Gen/StateSpace.lean; that the getters of
  `TransientSolution` call these rows is CC/Properties/C19Transient.lean); the guard table of the time- /
  frequency-domain classes; `load_network` (Network/loaders.py) on the model CC/Model/Load.lean, whose tables,
  read/pop structure and exception mapping are the generated CC/Gen/LoadTables.lean.
-/
import CC.Properties.C19
import CC.Properties.C17
import CC.Proofs.C19Load
import CC.Gen.StateSpace
set_option linter.unusedSectionVars false
namespace CC
open Gen

/-- the wavetype list the circuit model is run with (`Gen.tables.waves`, from extract_circuit.py) is the
generated `waveTypes`, and that is the list of `wavetype` attributes of the generated `periodic_functions`
of `periodic_functions.py` (extract_fourier.py).  Both sides are regenerated definitions. -/
theorem C19_wave_tables_agree :
    Gen.tables.waves = Gen.waveTypes ∧
    Gen.waveTypes = Gen.Fourier.periodicFunctions.map Gen.Fourier.Wave.wavetype := by
  constructor
  · rfl
  · decide +kernel

/-- **C19 (unknown waveform, linked to the generated lookup).**  For EVERY name, the hand-written
`periodicFunction` of CC/Model/Circuit.lean, run on the generated table, accepts exactly when the generated
`Gen.Fourier.periodicFunction` (the translation of `periodic_function` of periodic_functions.py) returns the class
with that wavetype, and raises `UnknownWavetype` exactly when the generated lookup does.  So `C19_unknown_wave`
at the generated table is a statement about the regenerated lookup.  Not claimed: anything about a table other
than the generated one. -/
theorem C19_unknown_wave_linked (name : String) :
    (periodicFunction Gen.tables.waves name = .ok name ↔
      ∃ w, Gen.Fourier.periodicFunction name = .ok w ∧ w.wavetype = name) ∧
    (periodicFunction Gen.tables.waves name = .error (.other "UnknownWavetype") ↔
      Gen.Fourier.periodicFunction name = .error "UnknownWavetype") := by
  have hw : Gen.tables.waves = ["const", "cos", "sin", "rect", "tri", "saw"] := by decide +kernel
  by_cases h : name ∈ Gen.waveTypes
  · have hmem : name ∈ Gen.Fourier.periodicFunctions.map Gen.Fourier.Wave.wavetype := by
      rw [← C19_wave_tables_agree.2]; exact h
    obtain ⟨w, _, hwn⟩ := List.mem_map.mp hmem
    have hok : Gen.Fourier.periodicFunction name = .ok w := by
      rw [← hwn]; exact Fourier.periodicFunction_wavetype w
    have hm : periodicFunction Gen.tables.waves name = .ok name := by
      have : name ∈ Gen.tables.waves := h
      simp [periodicFunction, this]
    refine ⟨⟨fun _ => ⟨w, hok, hwn⟩, fun _ => hm⟩, ?_⟩
    rw [hm, hok]
    constructor <;> intro hc <;> cases hc
  · have hg := (C19_unknown_wave_generated name h).2
    have hm := C19_unknown_wave Gen.tables.waves name h
    refine ⟨?_, fun _ => hg, fun _ => hm⟩
    rw [hm, hg]
    constructor
    · intro hc; cases hc
    · rintro ⟨w, hc, _⟩; cases hc

section
open Gen.Core Gen.State
variable {L K : Type} [DecidableEq L] [LabelOrd L]
variable [Zero K] [One K] [Add K] [Mul K] [Neg K] [Sub K] [Inv K] [Div K] [DecidableEq K]

/-- generated `Network.__getitem__`: an identifier that is no branch id raises `KeyError` -/
theorem C19_getitem_unknown (N : Net L K) (id : String) (h : id ∉ N.ids) :
    Network.getitem N id = .error .keyError := by
  unfold Network.getitem Py.dictGet
  have : (N.branches.map fun (b : Branch L K) => (b.id, b)).reverse.find? (fun p => p.1 = id) = none := by
    refine find?_eq_none_of_not_mem_map (key := Prod.fst) ?_
    simpa [Net.ids] using h
  simp [this]

/-- **C19 (unknown query, transient class — voltage rows).**  The GENERATED `c_row_voltage` / `d_row_voltage` of
`NodalStateSpaceModel` (state_space_model.py; what `TransientSolution.get_voltage`, and through it `get_power`,
evaluates first) raise `KeyError` for every identifier that is no branch id of the model's network — for every
model object, whatever its matrices.  That `TransientSolution.get_voltage` calls these rows first is
`C19_transient_getters_call_rows` (CC/Properties/C19Transient.lean). -/
theorem C19_transient_unknown_voltage (g : NodalStateSpaceModel L K) (id : String) (h : id ∉ g.network.ids) :
    NodalStateSpaceModel.c_row_voltage g id = .error .keyError ∧
    NodalStateSpaceModel.d_row_voltage g id = .error .keyError := by
  have hg := C19_getitem_unknown g.network id h
  constructor
  · unfold NodalStateSpaceModel.c_row_voltage
    simp [hg, bind, Except.bind]
  · unfold NodalStateSpaceModel.d_row_voltage
    simp [hg, bind, Except.bind]

/-- **C19 (unknown query, transient class — potential rows).**  Generated `c_row_for_potential` /
`d_row_for_potential`: a label that is neither a mapped node nor the reference node raises `KeyError`. -/
theorem C19_transient_unknown_potential (g : NodalStateSpaceModel L K) (n : L)
    (h : n ∉ g.node_index_mapping.keys) (hz : n ≠ g.network.zero) :
    NodalStateSpaceModel.c_row_for_potential g n = .error .keyError ∧
    NodalStateSpaceModel.d_row_for_potential g n = .error .keyError := by
  constructor
  · unfold NodalStateSpaceModel.c_row_for_potential NodalStateSpaceModel.row_for_potential
    simp [h, hz, throw, throwThe, MonadExceptOf.throw]
  · unfold NodalStateSpaceModel.d_row_for_potential NodalStateSpaceModel.row_for_potential
    simp [h, hz, throw, throwThe, MonadExceptOf.throw]

/-- **C19 (unknown query, transient class — current rows).**  Generated `c_row_current` / `d_row_current`: an
identifier that is no branch, no capacitor key and no mapped source raises (`KeyError` for the `D` row; for the
`C` row the exception is that of the voltage-source filter if that one fails first, else `KeyError`). -/
theorem C19_transient_unknown_current (g : NodalStateSpaceModel L K) (id : String)
    (h : id ∉ g.network.ids) (hc : id ∉ (g.c_values).keys)
    (hv : id ∉ g.voltage_source_index_mapping.keys) (hs : id ∉ g.current_source_index_mapping.keys) :
    (∃ e, NodalStateSpaceModel.c_row_current g id = .error e) ∧
    NodalStateSpaceModel.d_row_current g id = .error .keyError := by
  have hg := C19_getitem_unknown g.network id h
  constructor
  · unfold NodalStateSpaceModel.c_row_current
    cases hf : (g.voltage_source_index_mapping).filterM (fun (x : String) => do
        let b11 ← Network.getitem g.network x
        pure (is_ideal_voltage_source b11.e)) with
    | error e => exact ⟨e, by simp [bind, Except.bind]⟩
    | ok m => exact ⟨.keyError, by simp [hc, hv, hs, hg, bind, Except.bind]⟩
  · unfold NodalStateSpaceModel.d_row_current
    simp [hc, hv, hs, hg, bind, Except.bind]

theorem mem_of_mem_dictKeys {α : Type} [DecidableEq α] {a : α} {l : List α} (h : a ∈ Py.dictKeys l) : a ∈ l := by
  induction l with
  | nil => simp [Py.dictKeys] at h
  | cons b l ih =>
    simp only [Py.dictKeys, List.mem_cons, List.mem_filter] at h ⊢
    rcases h with h | h
    · exact Or.inl h
    · exact Or.inr (ih h.1)

theorem nodal_state_space_model_fields (inv : Py.Mat K → Py.Mat K) (re : K → K) (N : Net L K) (cv lv : ValDict K)
    (g : NodalStateSpaceModel L K) (hg : nodal_state_space_model inv re N cv lv = .ok g) :
    g.network = N ∧ g.c_values = cv ∧ g.node_index_mapping = alphabetic_node_mapper N ∧
    g.voltage_source_index_mapping = alphabetic_voltage_source_mapper N ∧
    g.current_source_index_mapping = alphabetic_current_source_mapper N := by
  unfold nodal_state_space_model at hg
  obtain ⟨r, _, hg⟩ := bind_eq_ok.mp hg
  obtain ⟨A, B, C, D⟩ := r
  simp only [pure, Except.pure, Except.ok.injEq] at hg
  subst hg
  exact ⟨rfl, rfl, rfl, rfl, rfl⟩

/-- **C19 (unknown query, transient class — the object the code builds).**  For the object the GENERATED
`nodal_state_space_model` returns (any network, any capacitor / inductor dictionaries, any `inv`): every row
accessor raises for an identifier that is no branch id (current rows: and no capacitor key), and the potential
rows raise `KeyError` for a label no branch touches that is not the reference label.  Hypothesis left: the
model was built (`hg`), and for the current rows `id ∉ c_values.keys` (a capacitor key that is no branch is
answered from the dictionary — the code does that too). -/
theorem C19_transient_unknown_built (inv : Py.Mat K → Py.Mat K) (re : K → K) (N : Net L K) (cv lv : ValDict K)
    (g : NodalStateSpaceModel L K) (hg : nodal_state_space_model inv re N cv lv = .ok g) :
    (∀ id : String, id ∉ N.ids →
      NodalStateSpaceModel.c_row_voltage g id = .error .keyError ∧
      NodalStateSpaceModel.d_row_voltage g id = .error .keyError) ∧
    (∀ id : String, id ∉ N.ids → id ∉ cv.keys →
      (∃ e, NodalStateSpaceModel.c_row_current g id = .error e) ∧
      NodalStateSpaceModel.d_row_current g id = .error .keyError) ∧
    (∀ n : L, n ≠ N.zero → (∀ b ∈ N.branches, b.n1 ≠ n ∧ b.n2 ≠ n) →
      NodalStateSpaceModel.c_row_for_potential g n = .error .keyError ∧
      NodalStateSpaceModel.d_row_for_potential g n = .error .keyError) := by
  obtain ⟨hn, hc, hnm, hvm, hcm⟩ := nodal_state_space_model_fields inv re N cv lv g hg
  refine ⟨?_, ?_, ?_⟩
  · intro id hid
    exact C19_transient_unknown_voltage g id (hn ▸ hid)
  · intro id hid hcv
    -- both source mappings enumerate identifiers of branches
    have hsrc : ∀ P : Branch L K → Bool,
        id ∉ (Py.LabelMapping.enumerate (sortL ((N.branches.filter P).map fun b => b.id))).keys := by
      exact fun P hm => hid (sorted_filter_ids_subset N P (mem_of_mem_dictKeys hm))
    apply C19_transient_unknown_current g id (hn ▸ hid) (hc ▸ hcv)
    · rw [hvm]; exact hsrc _
    · rw [hcm]; exact hsrc _
  · intro n hz hb
    apply C19_transient_unknown_potential g n _ (hn ▸ hz)
    rw [hnm]
    intro hm
    have hm' := mem_of_mem_dictKeys hm
    have hm2 := mem_sortL.mp (List.mem_filter.mp hm').1
    unfold Network.node_labels at hm2
    split at hm2
    · simp at hm2; exact hz hm2
    · have := mem_dedupL.mp (mem_sortL.mp hm2)
      rcases List.mem_append.mp this with h1 | h1
      · obtain ⟨b, hbm, rfl⟩ := List.mem_map.mp h1
        exact (hb b hbm).1 rfl
      · obtain ⟨b, hbm, rfl⟩ := List.mem_map.mp h1
        exact (hb b hbm).2 rfl
end

/-- the check a getter performs first, by the kind the generated table records -/
def guardOfKind (kind : String) (cs : List Component) (id : String) : Except Err Unit :=
  if kind = "component" then requireComponent cs id
  else if kind = "node" then requireNode cs id
  else .ok ()

/-- **C19 (unknown query, every row of the generated guard table).**  Every row the translator emits — every
getter of every class it extracts (`TimeDomainSolution`, `FrequencyDomainSolution`; the table has exactly these
8 rows) — records a guard (no row is `"none"`), of the kind its getter takes, and that guard answers `KeyError`
for every circuit and every identifier that is no non-ground component id (resp. no terminal).  The transient
class has no row in this table (its getters are in `Gen.Sol.transientTable`; unknown ids: `C19_transient_*`).
`requireComponent` / `requireNode` are the hand-written copies whose source text the translator compares. -/
theorem C19_unknown_query_all_rows :
    Gen.Sol.requireTable.length = 8 ∧
    (∀ r ∈ Gen.Sol.requireTable, r.1 ∈ ["TimeDomainSolution", "FrequencyDomainSolution"] ∧
      r.2.1 ∈ ["get_voltage", "get_current", "get_potential", "get_power"] ∧ r.2.2 = getterKind r.2.1) ∧
    (∀ r ∈ Gen.Sol.requireTable, ∀ (cs : List Component) (id : String),
      (r.2.2 = "component" → id ∉ (Spec.nonGround cs).map (·.id) → guardOfKind r.2.2 cs id = .error .keyError) ∧
      (r.2.2 = "node" → (∀ c ∈ cs, id ∉ c.nodes) → guardOfKind r.2.2 cs id = .error .keyError) ∧
      (r.2.2 = "component" ∨ r.2.2 = "node")) := by
  refine ⟨by decide +kernel, by decide +kernel, ?_⟩
  intro r hr cs id
  have hk : r.2.2 = "component" ∨ r.2.2 = "node" := by
    revert r; decide +kernel
  refine ⟨?_, ?_, hk⟩
  · intro hc h
    rw [hc]
    simp only [guardOfKind, if_true]
    exact C19_unknown_query_guarded.2.2.1 cs id h
  · intro hc h
    rw [hc]
    have : ¬ ("node" = "component") := by decide +kernel
    simp only [guardOfKind, this, if_false, if_true]
    exact C19_unknown_query_guarded.2.2.2 cs id h

end CC
namespace CC
open CC.Load CC.Gen.Load

/-! `T : Load.Trig` are numpy's `cos`/`sin` (parameters of the model); "loads" below means `entry_to_branch` succeeds
on the entry.  The model `loadNetwork` is tied to the code by the `cc_load` correspondence (C17, C19). -/

theorem loadEntries_ok_map {α : Type} (T : Load.Trig) (f : J → α) (g : LBranch → α)
    (hfg : ∀ e b, (entryToBranch T e).1 = .ok b → g b = f e)
    (es : List J) (bs : List LBranch) (h : (loadEntries T es).1 = .ok bs) : bs.map g = es.map f :=
  forall₂_map_eq hfg (mapM_eq_ok.1 (loadEntries_fst T es ▸ h))

/-- the first entry that fails to load decides the exception of `load_network`, with `KeyError` reported as
`FileExistsError` (the generated `loadCaught` / `loadRaised`) -/
theorem C19_load_reject_first (T : Load.Trig) (pre post : List J) (e : J) (x : Err)
    (hpre : ∀ y ∈ pre, ∃ b, (entryToBranch T y).1 = .ok b) (h : (entryToBranch T e).1 = .error x) :
    (loadNetwork T (.arr (pre ++ e :: post))).1 = .error (mapLoadErr x) := by
  rw [loadNetwork_arr, loadEntries_fst, mapM_eq_error.2 ⟨pre, e, post, rfl, hpre, h⟩]

/-- an entry that fails to load makes the whole description fail, wherever it stands -/
theorem C19_load_reject_mem (T : Load.Trig) (es : List J) (e : J) (he : e ∈ es) (x : Err)
    (h : (entryToBranch T e).1 = .error x) : ∃ x', (loadNetwork T (.arr es)).1 = .error x' := by
  obtain ⟨x', hx'⟩ := mapM_error_of_mem (fun e => (entryToBranch T e).1) es e he x h
  exact ⟨mapLoadErr x', by rw [loadNetwork_arr, loadEntries_fst, hx']⟩

/-- one entry whose type string is no key of the generated `network_branch_translators`: `KeyError` -/
theorem C19_load_entry_unknown_type (T : Load.Trig) (o : Obj) (n1 n2 id : J) (kind : String)
    (h1 : Obj.find o "N1" = some n1) (h2 : Obj.find o "N2" = some n2) (h3 : Obj.find o "id" = some id)
    (h4 : Obj.find o "type" = some (.str kind)) (hk : kind ∉ networkBranchTranslators.map (·.kind)) :
    (entryToBranch T (.obj o)).1 = .error .keyError := by
  rw [entryToBranch_obj, entryToBranchObj_eq T o n1 n2 id _ h1 h2 h3 h4, dispatch_unknown T n1 n2 _ hk]

/-- **C19 (load_network, unknown element type).**  A description whose entries before position `|pre|` load and
whose entry at that position has its four structural keys and a type string that is no key of the generated
`network_branch_translators` raises `FileExistsError` (the `KeyError` of the table lookup, re-raised) — for every
description, every position, whatever follows. -/
theorem C19_load_unknown_type (T : Load.Trig) (pre post : List J) (o : Obj) (n1 n2 id : J) (kind : String)
    (hpre : ∀ y ∈ pre, ∃ b, (entryToBranch T y).1 = .ok b)
    (h1 : Obj.find o "N1" = some n1) (h2 : Obj.find o "N2" = some n2) (h3 : Obj.find o "id" = some id)
    (h4 : Obj.find o "type" = some (.str kind)) (hk : kind ∉ networkBranchTranslators.map (·.kind)) :
    (loadNetwork T (.arr (pre ++ .obj o :: post))).1 = .error .fileExists := by
  rw [C19_load_reject_first T pre post _ _ hpre (C19_load_entry_unknown_type T o n1 n2 id kind h1 h2 h3 h4 hk),
    mapLoadErr_eq]
  rfl

/-- … and without any hypothesis on the other entries the description is rejected (the exception is then that
of the first entry that fails) -/
theorem C19_load_unknown_type_anywhere (T : Load.Trig) (es : List J) (o : Obj) (n1 n2 id : J) (kind : String)
    (he : J.obj o ∈ es)
    (h1 : Obj.find o "N1" = some n1) (h2 : Obj.find o "N2" = some n2) (h3 : Obj.find o "id" = some id)
    (h4 : Obj.find o "type" = some (.str kind)) (hk : kind ∉ networkBranchTranslators.map (·.kind)) :
    ∃ x, (loadNetwork T (.arr es)).1 = .error x :=
  C19_load_reject_mem T es _ he _ (C19_load_entry_unknown_type T o n1 n2 id kind h1 h2 h3 h4 hk)

/-- **C19 (load_network, type that is no string).**  A number / boolean / `None` as type is a `KeyError`
(`FileExistsError`), a list / dictionary is unhashable (`TypeError`). -/
theorem C19_load_type_not_string (T : Load.Trig) (pre post : List J) (o : Obj) (n1 n2 id ty : J)
    (hpre : ∀ y ∈ pre, ∃ b, (entryToBranch T y).1 = .ok b)
    (h1 : Obj.find o "N1" = some n1) (h2 : Obj.find o "N2" = some n2) (h3 : Obj.find o "id" = some id)
    (h4 : Obj.find o "type" = some ty) (hs : ∀ kind, ty ≠ .str kind) :
    (loadNetwork T (.arr (pre ++ .obj o :: post))).1 = .error .fileExists ∨
    (loadNetwork T (.arr (pre ++ .obj o :: post))).1 = .error .typeError := by
  have he : (entryToBranch T (.obj o)).1 = dispatch T n1 n2 ty (stripped o id) := by
    rw [entryToBranch_obj, entryToBranchObj_eq T o n1 n2 id _ h1 h2 h3 h4]
  cases ty with
  | str kind => exact absurd rfl (hs kind)
  | arr _ | obj _ => right; rw [C19_load_reject_first T pre post _ _ hpre he, mapLoadErr_eq]; rfl
  | null | bool _ | num _ | cx _ =>
    left; rw [C19_load_reject_first T pre post _ _ hpre he, mapLoadErr_eq]; rfl

/-- **C19 (load_network, missing structural key).**  An entry lacking `N1`, `N2`, `id` or `type` raises
`FileExistsError` (the `KeyError` of `entry.pop`), at every position (entries before it load). -/
theorem C19_load_missing_key (T : Load.Trig) (pre post : List J) (o : Obj) (k : String)
    (hpre : ∀ y ∈ pre, ∃ b, (entryToBranch T y).1 = .ok b)
    (hk : k ∈ ["N1", "N2", "id", "type"]) (h : Obj.find o k = none) :
    (loadNetwork T (.arr (pre ++ .obj o :: post))).1 = .error .fileExists := by
  have he : (entryToBranch T (.obj o)).1 = .error .keyError := by
    rw [entryToBranch_obj]; exact entryToBranchObj_missing T o k hk h
  rw [C19_load_reject_first T pre post _ _ hpre he, mapLoadErr_eq]
  rfl

/-- … rejected wherever it stands, whatever the other entries are -/
theorem C19_load_missing_key_anywhere (T : Load.Trig) (es : List J) (o : Obj) (k : String) (he : J.obj o ∈ es)
    (hk : k ∈ ["N1", "N2", "id", "type"]) (h : Obj.find o k = none) :
    ∃ x, (loadNetwork T (.arr es)).1 = .error x :=
  C19_load_reject_mem T es _ he _ (by rw [entryToBranch_obj]; exact entryToBranchObj_missing T o k hk h)

/-- **C19 (load_network, entry that is no dictionary).**  A description containing an entry that is no
dictionary (a number, a string, a list, `None`) is rejected, wherever the entry stands. -/
theorem C19_load_not_a_dict (T : Load.Trig) (es : List J) (e : J) (he : e ∈ es) (hno : ∀ o, e ≠ .obj o) :
    ∃ x, (loadNetwork T (.arr es)).1 = .error x := by
  cases h : (entryToBranch T e).1 with
  | error x => exact C19_load_reject_mem T es e he x h
  | ok b => obtain ⟨o, ho⟩ := entryToBranch_ok_obj T e b h; exact absurd ho (hno o)

/-- what `load_network` answers when some entry fails to load: the error of the first such entry, with
`KeyError` reported as `FileExistsError` -/
def FirstEntryError (T : Load.Trig) (es : List J) : Prop :=
  ∃ x, (loadEntries T es).1 = .error x ∧ (loadNetwork T (.arr es)).1 = .error (mapLoadErr x)

/-- **C19 (load_network, reference node touching nothing).**  A non-empty description none of whose entries has
`N1` or `N2` equal to the reference label `'0'` raises `FloatingGroundNode` — unless an entry fails to load, in
which case the exception is that entry's.  (An empty description is accepted: `Network([])`.) -/
theorem C19_load_floating (T : Load.Trig) (es : List J) (hne : es ≠ [])
    (h : ∀ e ∈ es, entryKey e "N1" ≠ some (.str "0") ∧ entryKey e "N2" ≠ some (.str "0")) :
    (loadNetwork T (.arr es)).1 = .error .floatingGround ∨ FirstEntryError T es := by
  cases hl : (loadEntries T es).1 with
  | error x => right; exact ⟨x, hl, by rw [loadNetwork_arr, hl]⟩
  | ok bs =>
    left
    have hmap := loadEntries_ok_map T (fun e => (entryKey e "N1", entryKey e "N2")) (fun b => (some b.n1, some b.n2))
      (entryToBranch_nodes T) es bs hl
    have hbne : bs.isEmpty = false := by
      cases bs with
      | nil => cases es with
        | nil => exact absurd rfl hne
        | cons _ _ => simp at hmap
      | cons _ _ => rfl
    have hany : (bs.any fun b => b.n1 == J.str "0" || b.n2 == J.str "0") = false := by
      rw [List.any_eq_false]
      intro b hb
      have : (some b.n1, some b.n2) ∈ es.map (fun e => (entryKey e "N1", entryKey e "N2")) := by
        rw [← hmap]; exact List.mem_map.mpr ⟨b, hb, rfl⟩
      obtain ⟨e, hem, hee⟩ := List.mem_map.mp this
      simp only [Prod.mk.injEq] at hee
      obtain ⟨q1, q2⟩ := h e hem
      simp only [Bool.or_eq_true, beq_iff_eq, not_or]
      constructor
      · intro hc; apply q1; rw [hee.1, hc]
      · intro hc; apply q2; rw [hee.2, hc]
    rw [loadNetwork_arr, hl]
    simp only [checkLoaded, hbne, hany]
    simp [mapLoadErr_eq]

/-- **C19 (load_network, duplicate ids).**  A description in which two entries carry the same `id` is rejected:
`AmbiguousBranchIDs`, or `FloatingGroundNode` if the reference node is missing as well (checked first by
`Network.__post_init__`), or the exception of the first entry that fails to load.  Uses that a loaded branch
carries the entry's `id` as its name for EVERY row of the generated table (`entryToBranch_name`). -/
theorem C19_load_dup_id (T : Load.Trig) (es : List J) (hd : ¬ (es.map (entryKey · "id")).Nodup) :
    (loadNetwork T (.arr es)).1 = .error .floatingGround ∨ (loadNetwork T (.arr es)).1 = .error .ambiguousIds ∨
    FirstEntryError T es := by
  cases hl : (loadEntries T es).1 with
  | error x => right; right; exact ⟨x, hl, by rw [loadNetwork_arr, hl]⟩
  | ok bs =>
    have hmap := loadEntries_ok_map T (entryKey · "id") (fun b => some b.name) (entryToBranch_name T) es bs hl
    have hnd : ¬ (bs.map (·.name)).Nodup := by
      intro hn
      apply hd
      rw [← hmap]
      have : bs.map (fun b => some b.name) = (bs.map (·.name)).map some := by simp
      rw [this]
      exact hn.map (fun a b hab => Option.some.inj hab)
    have hlen : (dedupL (bs.map (·.name))).length ≠ bs.length := by
      intro he
      apply hnd
      apply (dedupL_length_eq_iff _).mp
      simpa using he
    rw [loadNetwork_arr, hl]
    simp only [checkLoaded]
    by_cases hg : (!bs.isEmpty && !bs.any fun b => b.n1 == J.str "0" || b.n2 == J.str "0") = true
    · left; rw [if_pos hg]; simp [mapLoadErr_eq]
    · right; left; rw [if_neg hg, if_pos hlen]; simp [mapLoadErr_eq]

/-- … for every pair of positions carrying the same `id` -/
theorem C19_load_dup_id_positions (T : Load.Trig) (es : List J) (i j : Nat) (hij : i < j) (hj : j < es.length)
    (h : entryKey (es[i]'(Nat.lt_trans hij hj)) "id" = entryKey (es[j]'hj) "id") :
    ∃ x, (loadNetwork T (.arr es)).1 = .error x := by
  rcases C19_load_dup_id T es (not_nodup_map_of_getElem_eq _ es i j hij hj h) with h | h | ⟨x, _, h⟩ <;>
    exact ⟨_, h⟩

/-- **C19 (load_network, missing required keyword).**  An entry of a known type that lacks a keyword its element
factory requires (a parameter without default other than `name`: `R`, `G`, `Z`, `Y`, `I`, `V`) is rejected,
wherever it stands — for every row of the generated `network_branch_translators` / `elementFactories`.  The
exception class is not stated: it is `KeyError`→`FileExistsError` when the row reads the key itself
(`kwargs.pop('Z')`), `TypeError` when the factory misses its argument, or that of an earlier failing entry. -/
theorem C19_load_missing_value_key (T : Load.Trig) (es : List J) (o : Obj) (id : J) (kind : String) (L : NetLoader)
    (f : ElemFactory) (p : String) (he : J.obj o ∈ es)
    (h3 : Obj.find o "id" = some id) (h4 : Obj.find o "type" = some (.str kind))
    (hL : networkBranchTranslators.find? (fun L => L.kind == kind) = some L)
    (hf : elementFactories.find? (fun f => f.name == L.factory) = some f)
    (hp : (p, none) ∈ f.params) (hpn : p ≠ "name") (hmiss : Obj.find o p = none) :
    ∃ x, (loadNetwork T (.arr es)).1 = .error x := by
  obtain ⟨x, hx⟩ := entryToBranch_missing_value T o id kind L f p h3 h4 hL hf hp hpn hmiss
  exact C19_load_reject_mem T es _ he x hx

open CC.Spec.Load

def c19GoodEntry : J := (⟨.resistor (.num 5), "R1", "1", "0"⟩ : Placed).tree

theorem c19GoodEntry_loads (T : Load.Trig) : ∀ y ∈ [c19GoodEntry], ∃ b, (entryToBranch T y).1 = .ok b := by
  intro y hy
  simp only [List.mem_singleton] at hy
  subst hy
  exact ⟨_, by rw [c19GoodEntry, Load.entryToBranch_faithful]⟩

example (T : Load.Trig) : (loadNetwork T (.arr ([c19GoodEntry] ++
    .obj [("N1", .str "1"), ("N2", .str "0"), ("id", .str "X"), ("type", .str "widget"), ("R", .num 1)] :: [c19GoodEntry]))).1
      = .error .fileExists :=
  C19_load_unknown_type T _ _ _ (.str "1") (.str "0") (.str "X") "widget" (c19GoodEntry_loads T)
    (by decide +kernel) (by decide +kernel) (by decide +kernel) (by decide +kernel) (by decide +kernel)

example (T : Load.Trig) : (loadNetwork T (.arr ([c19GoodEntry] ++
    .obj [("N1", .str "1"), ("id", .str "X"), ("type", .str "resistor"), ("R", .num 1)] :: []))).1
      = .error .fileExists :=
  C19_load_missing_key T _ _ _ "N2" (c19GoodEntry_loads T) (by decide +kernel) (by decide +kernel)

example (T : Load.Trig) : ∃ x, (loadNetwork T (.arr [c19GoodEntry,
    .obj [("N1", .str "1"), ("N2", .str "0"), ("id", .str "X"), ("type", .str "resistor")]])).1 = .error x :=
  C19_load_missing_value_key T _ [("N1", .str "1"), ("N2", .str "0"), ("id", .str "X"), ("type", .str "resistor")]
    (.str "X") "resistor" { kind := "resistor", factory := "resistor" }
    { name := "resistor", params := [("name", none), ("R", none)], norton := true, a := .param "R", b := .const 0, ty := "resistor" }
    "R" (by simp) (by decide +kernel) (by decide +kernel) (by decide +kernel) (by decide +kernel) (by decide +kernel) (by decide +kernel) (by decide +kernel)

/-- two loadable resistors between nodes 1 and 2: the reference node touches nothing -/
example (T : Load.Trig) : (loadNetwork T (.arr (([⟨.resistor (.num 5), "R1", "1", "2"⟩, ⟨.resistor (.num 5), "R2", "2", "1"⟩] :
    List Placed).map Placed.tree))).1 = .error .floatingGround := by
  have hl := Load.loadEntries_faithful T [⟨.resistor (.num 5), "R1", "1", "2"⟩, ⟨.resistor (.num 5), "R2", "2", "1"⟩]
  rcases C19_load_floating T (([⟨.resistor (.num 5), "R1", "1", "2"⟩, ⟨.resistor (.num 5), "R2", "2", "1"⟩] :
    List Placed).map Placed.tree) (by simp) (by decide +kernel) with h | ⟨x, hx, _⟩
  · exact h
  · rw [hl] at hx; cases hx

/-- the same identifier at positions 0 and 2 -/
example (T : Load.Trig) : ∃ x, (loadNetwork T (.arr [c19GoodEntry, (⟨.resistor (.num 5), "R2", "2", "1"⟩ : Placed).tree,
    c19GoodEntry])).1 = .error x :=
  C19_load_dup_id_positions T _ 0 2 (by decide +kernel) (by decide +kernel) rfl

/-- an unknown branch id against a model object (hypothesis of `C19_transient_unknown_voltage`) -/
example : Gen.State.NodalStateSpaceModel.c_row_voltage (L := String) (K := Rat)
    ⟨⟨0, 0, []⟩, ⟨0, 0, []⟩, ⟨0, 0, []⟩, ⟨0, 0, []⟩, ⟨[⟨"1", "0", "R", "", .norton 1 0⟩], "0"⟩, [], [], ⟨["1"]⟩, ⟨[]⟩, ⟨[]⟩⟩ "nope"
      = .error .keyError :=
  (C19_transient_unknown_voltage _ "nope" (by decide +kernel)).1

end CC
