/-
  C18 — the composite texts: polar form, time function and what it denotes, values with a zero part, power texts.

  Theorems about the model `CC.Model.Fmt` over the generated `CC.Gen.Fmt`, against the readers of
  `CC.Spec.Fmt` (`parseBack`, `parseFixed`, `parsePolar`).  What is a *parameter* here (computed by
  libm / numpy in the code and handed to the model as a rational): `abs(value)`, `np.angle(value, deg)`,
  `cmath.phase(value)` plus the quarter turn of the sine form, `math.degrees(phase)`, `w/2/pi`.  Every
  statement below is about the text of the number *handed to the formatter*; that this number is the
  modulus / argument of the complex value is not a statement about these definitions (correspondence
  and oracle).
-/
import Mathlib.Analysis.SpecialFunctions.Complex.Arg
import CC.Properties.C18
import CC.Proofs.FmtPolar

namespace CC
open CC.Fmt CC.Gen.Fmt

/-- the generated cut-off below which `ScientificComplex.__str__` shows no angle -/
def polarCut (deg : Bool) : ℚ := pow10 (if deg then sc_deg_log10_threshold else sc_rad_log10_threshold)
def polarDecimals (deg : Bool) : ℕ := if deg then sc_deg_decimals else sc_rad_decimals
def polarSuffix (deg : Bool) (angle : ℚ) : List Char :=
  if |angle| ≤ polarCut deg then []
  else (if deg then sc_polar_sep_deg else sc_polar_sep_rad) ++ fixedFmt angle (polarDecimals deg)
        ++ (if deg then sc_deg_suffix else [])

/-- the generated constants of the polar form: cut-offs `10^-2` degrees / `10^-5` radians, 2 / 4 decimals,
separator `∠`, degree sign -/
theorem C18_polar_constants :
    polarCut true = 1 / 100 ∧ polarCut false = 1 / 100000 ∧ polarDecimals true = 2 ∧ polarDecimals false = 4
    ∧ sc_polar_sep_deg = ['∠'] ∧ sc_polar_sep_rad = ['∠'] ∧ sc_deg_suffix = ['°'] := by
  decide +kernel

theorem polarSuffix_of_le {deg : Bool} {angle : ℚ} (h : |angle| ≤ polarCut deg) : polarSuffix deg angle = [] :=
  if_pos h

theorem polarSuffix_of_gt {deg : Bool} {angle : ℚ} (h : ¬ |angle| ≤ polarCut deg) :
    polarSuffix deg angle = ['∠'] ++ fixedFmt angle (polarDecimals deg) ++ (if deg then ['°'] else []) := by
  obtain ⟨_, _, _, _, s1, s2, s3⟩ := C18_polar_constants
  rw [polarSuffix, if_neg h, s1, s2, s3, ite_self]

/-- the polar text is the `ScientificFloat` text of the magnitude handed to the formatter
(`c.toSFCfg.str absV`: literally the real path, same unit, precision, table), followed by `polarSuffix`: nothing
when `|angle| ≤` the generated cut-off, else `∠`, the angle in fixed notation with the generated number of decimals,
and `°` in degree mode.  For every configuration and all values; `re`, `im` do not enter. -/
theorem C18_polar_text (c : SCCfg) (re im absV angle : ℚ) (hpol : c.polar = true) :
    c.str re im absV angle = c.toSFCfg.str absV ++ polarSuffix c.deg angle := by
  obtain ⟨k1, k2, d1, d2, s1, s2, s3⟩ := C18_polar_constants
  rw [C18_complex_polar c re im absV angle hpol, polarSuffix]
  -- both sides branch on `deg` and on the cut-off alike; in each branch they differ by the bracketing of `++`
  cases c.deg <;> simp only [↓reduceIte, Bool.false_eq_true, k1, k2, d1, d2, s1, s2, s3] <;> split_ifs <;> simp

/-- all real-path theorems transfer to the magnitude of the polar form: the
magnitude text is a prefix of the polar text and, for a `CfgOK` configuration and a magnitude in the domain, it reads
back (`parseBack`) to a number within half a unit of the `p`-th digit of `absV`, in engineering form, saturating
exactly beyond the range (`RealOK`, all clauses).  `absV` is the number handed to the formatter (a parameter). -/
theorem C18_polar_magnitude_real_path (c : SCCfg) (re im absV angle : ℚ) (hpol : c.polar = true)
    (hcfg : CfgOK c.toSFCfg) (habs : InDomain absV c.precision) :
    c.toSFCfg.str absV <+: c.str re im absV angle
    ∧ RealOK absV c.precision (c.toSFCfg.value3 absV).maxExp c.unit (c.toSFCfg.str absV) := by
  refine ⟨?_, hcfg.realOK habs⟩
  rw [C18_polar_text c re im absV angle hpol]
  exact List.prefix_append _ _

example : InDomain (5 : ℚ) 3 := InDomain.of_one_le 3 (by norm_num) (by norm_num)

/-- the angle is left out exactly when `|angle| ≤ 10^-2` (degrees) / `10^-5` (radians):
the sign of the angle plays no role in the rule, and nothing else suppresses it. -/
theorem C18_polar_omission (c : SCCfg) (re im absV angle : ℚ) (hpol : c.polar = true) :
    (c.str re im absV angle = c.toSFCfg.str absV ↔ |angle| ≤ (if c.deg then 1 / 100 else 1 / 100000)) := by
  rw [C18_polar_text c re im absV angle hpol]
  obtain ⟨k1, k2, _⟩ := C18_polar_constants
  have hcut : polarCut c.deg = if c.deg then 1 / 100 else 1 / 100000 := by
    cases c.deg
    · simpa using k2
    · simpa using k1
  rw [← hcut, List.append_right_eq_self]
  by_cases h : |angle| ≤ polarCut c.deg
  · rw [polarSuffix_of_le h]; exact iff_of_true rfl h
  · rw [polarSuffix_of_gt h]; exact iff_of_false (by simp) h

theorem polarAngle_near (angle : ℚ) (deg : Bool) :
    |roundTo angle (polarDecimals deg) - angle| ≤ (if deg then 1 / 200 else 1 / 20000) := by
  have h := roundTo_near angle (polarDecimals deg)
  cases deg
  · rw [C18_polar_constants.2.2.2.1] at h; norm_num at h ⊢; exact h
  · rw [C18_polar_constants.2.2.1] at h; norm_num at h ⊢; exact h

/-- the angle text `f'{angle:.4f}'` / `f'{angle:.2f}'` is read by `parseFixed` as a number
within `0.5·10^-4` rad / `0.5·10^-2` degrees of the angle handed to the formatter, never of the opposite sign, and it
starts with `-` exactly for a negative angle.  The angle itself (`np.angle`, i.e. `atan2`) is a parameter.  Not
claimed: `p` significant digits — the number of decimals is fixed whatever the precision (`C18_polar_small_angle_text`). -/
theorem C18_polar_angle_text (angle : ℚ) (deg : Bool) :
    ∃ a : ℚ, parseFixed (fixedFmt angle (polarDecimals deg)) = some a
      ∧ |a - angle| ≤ (if deg then 1 / 200 else 1 / 20000)
      ∧ (0 ≤ angle → 0 ≤ a) ∧ (angle < 0 → a ≤ 0)
      ∧ ((fixedFmt angle (polarDecimals deg)).head? = some '-' ↔ angle < 0) := by
  refine ⟨roundTo angle (polarDecimals deg), parseFixed_fixedFmt _ _, polarAngle_near angle deg, (roundTo_sign _ _).1,
    (roundTo_sign _ _).2, ?_⟩
  rw [fixedFmt_eq]
  unfold mantText
  by_cases hx : angle < 0
  · simp [hx]
  · obtain ⟨ch, cs, hc, hne, _⟩ := natDigits_cons (fixedK angle (polarDecimals deg) / 10 ^ polarDecimals deg)
    simp [hx, hc, hne]

/-- a small angle above the cut-off is shown as zero: `2·10^-5` rad is printed `∠0.0000` (within the stated
`0.5·10^-4`, but no significant digit) -/
theorem C18_polar_small_angle_text :
    printComplex 1 (2 / 100000) 1 (2 / 100000) ['V'] 3 true false = ['1', '.', '0', '0', 'V', '∠', '0', '.', '0', '0', '0', '0'] := by
  decide +kernel

/-- (text level) for a `CfgOK` configuration whose unit and prefix letters do not contain
`∠`, and a magnitude in the domain: the polar reader `parsePolar` splits the text into a magnitude that satisfies every
clause of `RealOK` with respect to `absV`, and — exactly when `|angle|` exceeds the cut-off — an angle within
`0.5·10^-4` rad / `0.5·10^-2` degrees of `angle`, with the degree flag of the configuration. -/
theorem C18_polar_reads_back (c : SCCfg) (re im absV angle : ℚ) (hpol : c.polar = true)
    (hcfg : CfgOK c.toSFCfg) (habs : InDomain absV c.precision)
    (hu : '∠' ∉ c.unit) (ht : ∀ p ∈ c.table, '∠' ∉ p.2) :
    ∃ t : Text, realFailures absV c.precision (c.toSFCfg.value3 absV).maxExp (some t) = []
      ∧ (|angle| ≤ polarCut c.deg → parsePolar c.unit (c.str re im absV angle) = some (t, none, false))
      ∧ (¬ |angle| ≤ polarCut c.deg →
          ∃ a : ℚ, parsePolar c.unit (c.str re im absV angle) = some (t, some a, c.deg)
            ∧ |a - angle| ≤ (if c.deg then 1 / 200 else 1 / 20000)
            ∧ (0 ≤ angle → 0 ≤ a) ∧ (angle < 0 → a ≤ 0)) := by
  obtain ⟨t, hpb, hreal⟩ := RealOK.parse (hcfg.realOK habs)
  have hfor : '∠' ∉ c.toSFCfg.str absV := not_mem_str ⟨by decide, by decide, by decide, hu, ht⟩ absV
  refine ⟨t, hreal, ?_, ?_⟩
  · intro hle
    rw [C18_polar_text c re im absV angle hpol, polarSuffix_of_le hle, List.append_nil]
    exact parsePolar_bare _ _ _ hfor hpb
  · intro hgt
    refine ⟨roundTo angle (polarDecimals c.deg), ?_, polarAngle_near angle c.deg, (roundTo_sign _ _).1,
      (roundTo_sign _ _).2⟩
    rw [C18_polar_text c re im absV angle hpol, polarSuffix_of_gt hgt, ← List.append_assoc, ← List.append_assoc]
    exact parsePolar_angle _ _ _ hfor hpb _ _ _

/-- the `ScientificFloat` objects `print_sinosoidal` builds: amplitude and `w = 0` value with the caller's unit
and the `u/m/k` prefixes; phase without unit (radians) or with `°`, no prefixes; frequency in `/s` without prefixes
or in `Hz` with the `m…T` prefixes — all with the caller's precision.  The generated threshold is binary64 `1e-4`. -/
theorem C18_time_configs (unit : List Char) (p : ℕ) :
    cfgOfCall print_sinosoidal_call0 unit p = cfgOfCall print_abs_call0 unit p
    ∧ cfgOfCall print_sinosoidal_call3 unit p = cfgOfCall print_real_call0 unit p
    ∧ cfgOfCall print_sinosoidal_call1 [] p = { unit := ['°'], precision := p, usePrefix := false }
    ∧ cfgOfCall print_sinosoidal_call2 [] p = { unit := [], precision := p, usePrefix := false }
    ∧ cfgOfCall print_sinosoidal_call5 [] p = { unit := ['/', 's'], precision := p, usePrefix := false }
    ∧ cfgOfCall print_sinosoidal_call4 [] p
        = { unit := ['H', 'z'], precision := p, usePrefix := true, table := [(-3, ['m']), (3, ['k']), (6, ['M']), (9, ['G']), (12, ['T'])] }
    ∧ |print_sinosoidal_phase_threshold - 1 / 10000| < 1 / 100000000000000000000 := by
  refine ⟨rfl, rfl, rfl, rfl, rfl, rfl, ?_⟩
  unfold print_sinosoidal_phase_threshold
  rw [abs_lt]; constructor <;> norm_num

/-- at `w = 0` the time-function text is the real-path text of `Re(X)` (with its sign), for
every value, unit, precision and option (the generated formula since /repo 7cf4bc4; `|X|` before it). -/
theorem C18_time_w_zero (re absV phase phaseDeg wHz : ℚ) (unit : List Char) (p : ℕ) (sin deg hertz : Bool) :
    printSinusoidal re absV phase phaseDeg 0 wHz unit p sin deg hertz = printReal re unit p := by
  unfold printSinusoidal
  simp only [↓reduceIte]
  rfl

/-- the phase part of the time-function text: nothing when `|phase| ≤` the generated threshold (binary64 `1e-4`, on
the phase in radians also in degree mode), else the sign character of `phase` and the `ScientificFloat` text of
`|phase|` (radians, no unit) or of `|degrees(phase)|` (unit `°`), with the caller's precision, without prefixes -/
def timePhasePart (phase phaseDeg : ℚ) (p : ℕ) (deg : Bool) : List Char :=
  if |phase| > print_sinosoidal_phase_threshold then
    (if phase > 0 then ['+'] else ['-'])
      ++ (if deg then (cfgOfCall print_sinosoidal_call1 [] p).str (qabs phaseDeg)
          else (cfgOfCall print_sinosoidal_call2 [] p).str (qabs phase))
  else []

theorem timePhasePart_of_gt {phase : ℚ} (h : |phase| > print_sinosoidal_phase_threshold) (phaseDeg : ℚ) (p : ℕ)
    (deg : Bool) :
    timePhasePart phase phaseDeg p deg = (if phase > 0 then ['+'] else ['-'])
      ++ (if deg then (cfgOfCall print_sinosoidal_call1 [] p).str (qabs phaseDeg)
          else (cfgOfCall print_sinosoidal_call2 [] p).str (qabs phase)) :=
  if_pos h

/-- for `w ≠ 0` the time-function text is: the real-path text of the amplitude handed to the
formatter (`print_abs`: same unit, precision, table), `·`, `sin` or `cos`, `(`, the frequency (`2π·` and `w/2/π` in Hz,
or `w` in `/s`), `·t`, the phase part (`timePhasePart`), `)`.  `absV`, `phase` (which in the sine form already contains
the quarter turn, `C18_sine_shift`), `phaseDeg`, `wHz` are parameters. -/
theorem C18_time_text (re absV phase phaseDeg w wHz : ℚ) (unit : List Char) (p : ℕ) (sin deg hertz : Bool)
    (hw : w ≠ 0) :
    printSinusoidal re absV phase phaseDeg w wHz unit p sin deg hertz =
      printAbs absV unit p ++ ['·'] ++ (if sin then ['s', 'i', 'n'] else ['c', 'o', 's']) ++ ['(']
        ++ (if hertz then ['2', 'π', '·'] ++ (cfgOfCall print_sinosoidal_call4 [] p).str wHz
            else (cfgOfCall print_sinosoidal_call5 [] p).str w)
        ++ ['·', 't'] ++ timePhasePart phase phaseDeg p deg ++ [')'] := by
  unfold printSinusoidal timePhasePart
  have e : (cfgOfCall print_sinosoidal_call0 unit p).str absV = printAbs absV unit p := rfl
  simp only [e, hw, ↓reduceIte, qabs_eq_abs, print_sinosoidal_mul, print_sinosoidal_sin, print_sinosoidal_cos,
    print_sinosoidal_open, print_sinosoidal_two_pi, print_sinosoidal_t, print_sinosoidal_plus,
    print_sinosoidal_minus, print_sinosoidal_close]
  -- for each value of the three flags the two sides differ by the bracketing of `++`
  cases sin <;> cases hertz <;> cases deg <;> simp

/-- every number of the time-function text is rendered by the real path with the
caller's precision `p`, and (for a value in the domain) reads back with all clauses of `RealOK`: the amplitude against
`absV` (prefixes up to `k`), the phase against `|phase|` / `|degrees(phase)|` (no prefixes: exponent range 16), the
frequency against `w` / `w/2/π`, and at `w = 0` the whole text against `Re(X)`. -/
theorem C18_time_parts_read_back (unit : List Char) (p : ℕ) (hp : 1 ≤ p) (hunit : UnitOK unit) :
    (∀ absV, InDomain absV p → RealOK absV p 3 unit (printAbs absV unit p))
    ∧ (∀ phase, InDomain phase p → RealOK (qabs phase) p 16 [] ((cfgOfCall print_sinosoidal_call2 [] p).str (qabs phase)))
    ∧ (∀ phaseDeg, InDomain phaseDeg p →
        RealOK (qabs phaseDeg) p 16 ['°'] ((cfgOfCall print_sinosoidal_call1 [] p).str (qabs phaseDeg)))
    ∧ (∀ w, InDomain w p → RealOK w p 16 ['/', 's'] ((cfgOfCall print_sinosoidal_call5 [] p).str w))
    ∧ (∀ wHz, InDomain wHz p → RealOK wHz p 12 ['H', 'z'] ((cfgOfCall print_sinosoidal_call4 [] p).str wHz))
    ∧ (∀ re, InDomain re p → RealOK re p 3 unit (printReal re unit p)) := by
  have c0 : CfgOK (cfgOfCall print_abs_call0 unit p) :=
    cfgOK_of_call hp hunit (by decide)
  have c3 : CfgOK (cfgOfCall print_real_call0 unit p) :=
    cfgOK_of_call hp hunit (by decide)
  have c1 : CfgOK (cfgOfCall print_sinosoidal_call1 [] p) :=
    cfgOK_of_call hp (by decide) (by decide)
  have c2 : CfgOK (cfgOfCall print_sinosoidal_call2 [] p) :=
    cfgOK_of_call hp (by decide) (by decide)
  have c4 : CfgOK (cfgOfCall print_sinosoidal_call4 [] p) :=
    cfgOK_of_call hp (by decide) (by decide)
  have c5 : CfgOK (cfgOfCall print_sinosoidal_call5 [] p) :=
    cfgOK_of_call hp (by decide) (by decide)
  refine ⟨?_, ?_, ?_, ?_, ?_, ?_⟩
  · intro v h; exact c0.realOK h
  · intro v h; exact c2.realOK h.magnitude
  · intro v h; exact c1.realOK h.magnitude
  · intro v h; exact c5.realOK h
  · intro v h; exact c4.realOK h
  · intro v h; exact c3.realOK h

/-- the phase is shown exactly when `|phase|` exceeds the generated threshold, with `+`
for a positive and `-` for a negative phase (decided on the phase in radians handed to the formatter). -/
theorem C18_time_phase_rule (phase phaseDeg : ℚ) (p : ℕ) (deg : Bool) :
    (timePhasePart phase phaseDeg p deg = [] ↔ |phase| ≤ print_sinosoidal_phase_threshold)
    ∧ (|phase| > print_sinosoidal_phase_threshold →
        (timePhasePart phase phaseDeg p deg).head? = some (if phase > 0 then '+' else '-')) := by
  constructor
  · constructor
    · intro h
      by_contra hgt
      rw [timePhasePart_of_gt (not_le.mp hgt)] at h
      split_ifs at h <;> simp at h
    · intro h
      unfold timePhasePart
      rw [if_neg (not_lt.mpr h)]
  · intro h
    rw [timePhasePart_of_gt h]
    split_ifs <;> simp

/-- the Cartesian text of a value whose imaginary part is exactly zero is the sign of the
real part followed by the real-path text of `|re|`: no `j` part is shown (every configuration, every `re`, including
`re = 0`, see `C18_zero_text`). -/
theorem C18_cartesian_zero_im (c : SCCfg) (re absV angle : ℚ) (hpol : c.polar = false) :
    c.str re 0 absV angle =
      (if 0 ≤ re then [] else if c.compact then ['-'] else ['-', ' ']) ++ c.toSFCfg.str (qabs re) := by
  rw [C18_complex c re 0 absV angle hpol]
  simp only [isZero_zero, ↓reduceIte]

theorem cartesian_im_only_text (c : SCCfg) (re im absV angle : ℚ) (hpol : c.polar = false)
    (hzi : (c.toSFCfg.value3 (qabs im)).isZero = false) (hzr : (c.toSFCfg.value3 (qabs re)).isZero = true) :
    c.str re im absV angle =
      (if im < 0 then (if c.compact then ['-'] else [' ', '-', ' ']) ++ ['j'] ++ c.toSFCfg.str (qabs im)
       else ['j'] ++ c.toSFCfg.str (qabs im)) := by
  rw [C18_complex c re im absV angle hpol]
  simp only [hzi, hzr, Bool.false_eq_true, ↓reduceIte]
  by_cases him : im < 0
  · simp only [him, not_le.mpr him, ↓reduceIte]
  · simp only [him, ↓reduceIte]

/-- the Cartesian text of a value whose real part is exactly zero and whose imaginary part
is not suppressed (`is_zero` false) shows exactly the imaginary part: `j` and the real-path text of `|im|`, preceded by
the minus sign for a negative `im`; when the imaginary part is suppressed as well the text is that of the number `0`. -/
theorem C18_cartesian_zero_re (c : SCCfg) (im absV angle : ℚ) (hpol : c.polar = false) :
    ((c.toSFCfg.value3 (qabs im)).isZero = false →
      c.str 0 im absV angle =
        (if im < 0 then (if c.compact then ['-'] else [' ', '-', ' ']) ++ ['j'] ++ c.toSFCfg.str (qabs im)
         else ['j'] ++ c.toSFCfg.str (qabs im)))
    ∧ ((c.toSFCfg.value3 (qabs im)).isZero = true → c.str 0 im absV angle = c.toSFCfg.str 0) := by
  refine ⟨fun hz => cartesian_im_only_text c 0 im absV angle hpol hz (isZero_zero _), fun hz => ?_⟩
  rw [C18_complex c 0 im absV angle hpol]
  simp only [hz, ↓reduceIte, le_refl, List.nil_append]
  rfl

/-- for a `CfgOK` configuration the real-path text of `|x|` satisfies `RealOK` w.r.t. `|x|` for every `x` in the
domain: this is the text of the one part that `C18_cartesian_zero_im` / `_zero_re` show for a purely real / purely
imaginary value (which part is shown, and its sign character, are said there; the two conjuncts here are the same
statement, once read for a real and once for an imaginary part).  Whether a non-zero imaginary part *is* shown still
depends on `is_zero` (`C18_complex_suppression_counterexample`). -/
theorem C18_zero_part_read_back (c : SCCfg) (hcfg : CfgOK c.toSFCfg) :
    (∀ re, InDomain re c.precision →
        RealOK (qabs re) c.precision (c.toSFCfg.value3 (qabs re)).maxExp c.unit (c.toSFCfg.str (qabs re)))
    ∧ (∀ im, InDomain im c.precision →
        RealOK (qabs im) c.precision (c.toSFCfg.value3 (qabs im)).maxExp c.unit (c.toSFCfg.str (qabs im))) := by
  constructor <;>
  · intro v h; exact hcfg.realOK h.magnitude

/-- the number `0` (a zero part, a zero annotation): for every `CfgOK` configuration the text of
`ScientificFloat(0)` is finite, unsigned, reads back (`parseBack`) to exactly `0`, with an exponent that is a multiple of
three; it is `0.` followed by `p` zeros.  (`RealOK` is not defined for `0`: there is no `p`-th significant digit.) -/
theorem C18_zero_text (c : SFCfg) (hcfg : CfgOK c) :
    ∃ q : Parsed, parseBack c.unit (c.str 0) = some (.num q) ∧ q.value = 0 ∧ q.neg = false ∧ q.exp % 3 = 0
      ∧ q.intPart = 0 ∧ q.fracNum = 0 ∧ q.fracLen = c.precision := by
  have hm3 : (c.value3 0).mantissa3 = 0 := by
    show ((fp_mantissa 0 _ : ℤ) : ℚ) * _ = 0
    rw [fp_mantissa, zero_div, rhe_zero, Int.cast_zero, zero_mul]
  obtain ⟨k, hsum, hq⟩ := str_reads_back hcfg 0 (C18_zero_never_infinity c)
  rw [hm3] at hq
  simp only [fixedK_zero, Nat.zero_div, Nat.zero_mod, ite_self] at hq
  exact ⟨_, hq, by simp [Parsed.value, Parsed.mant], by simp, (by show (_ + _) % 3 = 0; rw [hsum]; exact C18_exp3 _ _),
    rfl, rfl, by simp [postOf]⟩

example : ({ unit := ['V'], precision := 4, usePrefix := true, table := print_real_call0.table } : SFCfg).str 0
    = ['0', '.', '0', '0', '0', '0', 'k', 'V'] := by decide +kernel

/-- the semantics behind the sine form, over the reals: a phasor `X` at angular frequency
`w` denotes `Re(X·e^{jwt}) = |X|·cos(wt + arg X)`, and with the *generated* number of quarter turns
(`print_sinosoidal_sin_shift`, /repo 286c55c) this equals `|X|·sin(wt + (arg X + shift·π/2))`: the cosine and the sine
form of the text denote the same function when `absV = |X|`, `phase = arg X (+ shift·π/2)` exactly.  (In the code these
are libm values: parameters of the model.) -/
theorem C18_time_function_denotes (X : ℂ) (w t : ℝ) :
    (X * Complex.exp (Complex.I * ((w * t : ℝ) : ℂ))).re = ‖X‖ * Real.cos (w * t + X.arg)
    ∧ ‖X‖ * Real.cos (w * t + X.arg)
        = ‖X‖ * Real.sin (w * t + (X.arg + ((print_sinosoidal_sin_shift : ℤ) : ℝ) * (Real.pi / 2))) := by
  constructor
  · have h : X * Complex.exp (Complex.I * ((w * t : ℝ) : ℂ))
        = ((‖X‖ : ℝ) : ℂ) * Complex.exp (((w * t + X.arg : ℝ) : ℂ) * Complex.I) := by
      calc X * Complex.exp (Complex.I * ((w * t : ℝ) : ℂ))
          = (((‖X‖ : ℝ) : ℂ) * Complex.exp (X.arg * Complex.I)) * Complex.exp (Complex.I * ((w * t : ℝ) : ℂ)) := by
            rw [Complex.norm_mul_exp_arg_mul_I]
        _ = _ := by
            rw [mul_assoc, ← Complex.exp_add]; congr 2; push_cast; ring
    rw [h, Complex.re_ofReal_mul, Complex.exp_ofReal_mul_I_re]
  · have : ((print_sinosoidal_sin_shift : ℤ) : ℝ) = 1 := by simp [print_sinosoidal_sin_shift]
    rw [this, one_mul, ← add_assoc, Real.sin_add_pi_div_two]

/-- the formula with shift `-1` (the code before /repo 286c55c) denoted the negative of the quantity, for every argument -/
theorem C18_sine_shift_former_sign (x : ℝ) : Real.sin (x + ((-1 : ℤ) : ℝ) * (Real.pi / 2)) = -Real.cos x := by
  push_cast
  rw [neg_one_mul, ← sub_eq_add_neg, Real.sin_sub_pi_div_two]

/-- `print_active_power`: the real-path text of `|P|` in `W` (prefixes `p…T`) followed by
`↓` for `P > 0` and `↑` otherwise (so also for `P = 0`); for `P` in the domain the number reads back (`RealOK`) to `|P|`. -/
theorem C18_active_power_text (v : ℚ) (p : ℕ) (hp : 1 ≤ p) :
    printActivePower v p
      = (cfgOfCall print_active_power_call0 [] p).str (qabs v) ++ (if v > 0 then ['↓'] else ['↑'])
    ∧ (InDomain v p → RealOK (qabs v) p 12 ['W'] ((cfgOfCall print_active_power_call0 [] p).str (qabs v))) := by
  have c0 : CfgOK (cfgOfCall print_active_power_call0 [] p) :=
    cfgOK_of_call hp (by decide) (by decide)
  refine ⟨?_, ?_⟩
  · unfold printActivePower
    by_cases h : v > 0 <;> simp only [h, ↓reduceIte] <;> rfl
  · intro h; exact c0.realOK h.magnitude

/-- `print_active_reactive_power`: `P: `, arrow, the real-path text of `|Re S|` in `W`; then,
exactly when `|Im S|` exceeds the generated absolute threshold (binary64 `1e-4` var, whatever the scale of
`P`), a new line `Q: `, arrow, the real-path text of `|Im S|` in `var`.  Arrows: `↓` for a positive part, `↑`
otherwise.  Parts in the domain read back (`RealOK`) to their magnitudes. -/
theorem C18_active_reactive_text (re im : ℚ) (p : ℕ) (hp : 1 ≤ p) :
    printActiveReactivePower re im p
      = ['P', ':', ' '] ++ (if re > 0 then ['↓'] else ['↑'])
          ++ (cfgOfCall print_active_reactive_power_call0 [] p).str (qabs re)
          ++ (if |im| > print_active_reactive_power_q_threshold then
                ['\n', 'Q', ':', ' '] ++ (if im > 0 then ['↓'] else ['↑'])
                  ++ (cfgOfCall print_active_reactive_power_call1 [] p).str (qabs im)
              else [])
    ∧ (InDomain re p → RealOK (qabs re) p 12 ['W'] ((cfgOfCall print_active_reactive_power_call0 [] p).str (qabs re)))
    ∧ (InDomain im p →
        RealOK (qabs im) p 12 ['v', 'a', 'r'] ((cfgOfCall print_active_reactive_power_call1 [] p).str (qabs im)))
    ∧ |print_active_reactive_power_q_threshold - 1 / 10000| < 1 / 100000000000000000000 := by
  have c0 : CfgOK (cfgOfCall print_active_reactive_power_call0 [] p) :=
    cfgOK_of_call hp (by decide) (by decide)
  have c1 : CfgOK (cfgOfCall print_active_reactive_power_call1 [] p) :=
    cfgOK_of_call hp (by decide) (by decide)
  refine ⟨?_, ?_, ?_, ?_⟩
  · unfold printActiveReactivePower
    simp only [qabs_eq_abs, print_active_reactive_power_p_label, print_active_reactive_power_p_down,
      print_active_reactive_power_p_up, print_active_reactive_power_q_label, print_active_reactive_power_q_down,
      print_active_reactive_power_q_up]
  · intro h; exact c0.realOK h.magnitude
  · intro h; exact c1.realOK h.magnitude
  · unfold print_active_reactive_power_q_threshold
    rw [abs_lt]; constructor <;> norm_num

/-- the hypotheses of `C18_polar_reads_back` are met by `print_complex(5∠0.5, 'V', polar=True)` -/
example : ∃ t : Text, realFailures 5 3 3 (some t) = []
    ∧ ∃ a : ℚ, parsePolar ['V'] (printComplex 4 3 5 (1 / 2) ['V'] 3 true false) = some (t, some a, false)
      ∧ |a - 1 / 2| ≤ 1 / 20000 := by
  have hd : InDomain (5 : ℚ) 3 := InDomain.of_one_le 3 (by norm_num) (by norm_num)
  obtain ⟨t, h1, _, h3⟩ := C18_polar_reads_back (scOfCall print_complex_call0 ['V'] 3 true false) 4 3 5 (1 / 2) rfl
    (cfgOK_print_complex ['V'] 3 true false (by decide) (by decide)) hd (by decide) (by decide)
  have hgt : ¬ |(1 / 2 : ℚ)| ≤ polarCut false := by
    rw [C18_polar_constants.2.1, abs_of_pos (by norm_num)]; norm_num
  obtain ⟨a, ha, hn, _⟩ := h3 hgt
  have hdeg : (scOfCall print_complex_call0 ['V'] 3 true false).deg = false := rfl
  rw [hdeg] at hn
  exact ⟨t, h1, a, ha, by simpa using hn⟩

example : ((cfgOfCall print_complex_call0 ['V'] 3).value3 (qabs 5)).isZero = false := by decide +kernel
example : UnitOK ['V'] ∧ UnitOK ['v', 'a', 'r'] ∧ UnitOK ['°'] ∧ UnitOK ['/', 's'] := by decide
example : printSinusoidal 3 5 (1 / 2) 28 100 16 ['V'] 3 true false false
    = ['5', '.', '0', '0', 'V', '·', 's', 'i', 'n', '(', '1', '0', '0', '/', 's', '·', 't', '+', '5', '0', '0', 'e', '-', '3', ')'] := by
  decide +kernel

end CC
