/-
  C06 (translator tie) — `open_circuit_impedance` and `element_impedance` (Network/NodalAnalysis/node_analysis.py) as
  harness/extract_port.py regenerates them from the Python AST on every run (CC/Gen/Port.lean) equal the hand-written
  model CC/Model/Port.lean that the C06 theorems are about: for every network, all labels, every field and EVERY solver
  function (`np.linalg.solve` is a parameter of both models; nothing is assumed of it), exceptions included
  (`FloatingGroundNode`, `AmbiguousBranchIDs`, `KeyError`, the `IndexError` of `unit_current[i1] = 1` and `…[i1]`,
  `LinAlgError`).  Hypothesis: `LawfulLabelOrd L` — the label order is a total pre-order (`str` order; instances for
  `String` and `Nat`), as in C01Gen.

  Shapes.  The generated functions return the Python value: `XVal.fin z` for a number (the integer `0` of the early
  returns included), `XVal.inf` for `np.inf`.  The hand model returns a field element and reports `np.inf` as
  `Err.other "Infinite"`; `PortGen.portValue` is that reading, `PortGen.ofPortValue` its inverse.  The generated
  functions hand `np.linalg.solve` an array WITH its shape, the hand model a list of rows; the arrays that reach the
  solver are square (`PortGen.rowsSolver`).

  NOT proved: that the idioms of CC/Model/{CoreBase,TransformersBase,PortBase}.lean read numpy / Python correctly
  (trusted base, stated construct by construct in their docstrings); anything about `np.linalg.solve` itself or
  binary64 arithmetic.  The Thevenin/Norton records and the sweep wrappers stay hand-modelled (tied by the run-time
  correspondence only).  The node mapper is fixed to its default (`map.default_node_mapper`), as everywhere in the
  generated core.
-/
import CC.Proofs.PortGen
import CC.Properties.C16Gen

namespace CC
open CC.Gen.Core CC.Gen.Transformers CC.Py CC.PortGen
variable {L K : Type} [DecidableEq L] [LabelOrd L] [Field K] [DecidableEq K]

/-- the numpy idioms of the pruning path are the helper functions of the hand model:
`A.any(axis=0)` is `keepMask`, `A[np.ix_(keep, keep)]` is `subMatrix` (with the shape numpy gives
it), `np.count_nonzero(keep[:k])` is `countBefore`, `np.zeros(m); u[i] = 1` is `unitVec`,
`not A[:, j].any()` is `colZero` -/
theorem C06_gen_idioms (r c : Nat) (A : List (List K)) (keep : List Bool) (k m i : Nat) :
    Py.Mat.anyAxis0 (⟨r, c, A⟩ : Py.Mat K) = keepMask c A
    ∧ Py.Mat.ix (⟨r, c, A⟩ : Py.Mat K) keep keep = ⟨Py.countNonzero keep, Py.countNonzero keep, subMatrix keep A⟩
    ∧ (keep.length = A.length → (subMatrix keep A).length = Py.countNonzero keep)
    ∧ Py.countNonzero (Py.sliceTo keep k) = countBefore keep k
    ∧ (Py.zerosVec m : List K).set i 1 = unitVec m i
    ∧ (!(Py.vecAny (Py.Mat.col (⟨r, c, A⟩ : Py.Mat K) k))) = colZero A k :=
  ⟨anyAxis0_eq_keepMask r c A, ix_eq_subMatrix r c A keep, subMatrix_length keep A, rfl,
    set_zeros_eq_unitVec m i, not_vecAny_col r c A k⟩

/-- `trf.switch_ground_node` / `trf.remove_element` as generated are the two transformer functions
of the port model (which states them independently of CC/Model/Transform.lean) -/
theorem C06_gen_transformers (N : Net L K) (g : L) (id : String) :
    switch_ground_node N g = N.switchGround g ∧ remove_element N id = N.removeElement id :=
  ⟨by rw [C16_gen_switchGround, switchGround_eq], by rw [C16_gen_removeElement, removeElement_eq]⟩

/-- the nested helper `isolated(node, ground)`: re-reference, look the node up, test its column of
the full MNA matrix -/
theorem C06_gen_isolated [LawfulLabelOrd L] (N : Net L K) (node ground : L) :
    Gen.Port.isolated N node ground = N.isolated node ground := by
  unfold Gen.Port.isolated Net.isolated
  rw [C16_gen_switchGround, switchGround_eq]
  cases h : N.switchGround ground with
  | error e => rfl
  | ok Ng =>
    have hids := switchGround_ids h
    simp only [bind, Except.bind, Py.LabelMapping.getitem, gen_nodes]
    cases hi : idxOf? node Ng.nodes with
    | none => rfl
    | some i =>
      simp only [C01_gen_mnaA Ng hids, not_vecAny_col, pure, Except.pure]

/-- **`open_circuit_impedance`, generated = hand model**, for every network, every pair of labels
and every solver on arrays: both early returns, the ground swap, the two `isolated` calls in
short-circuit order, re-referencing, the column mask, the index among the kept unknowns, the
pruned matrix, the unit vector, `solve`, the component read off — exceptions included. -/
theorem C06_gen_open_circuit_impedance [LawfulLabelOrd L] (solve : Py.Mat K → List K → Option (List K))
    (N : Net L K) (n1 n2 : L) :
    Gen.Port.open_circuit_impedance solve N n1 n2
      = portValue (N.openCircuitImpedance (rowsSolver solve) n1 n2) := by
  unfold Gen.Port.open_circuit_impedance Net.openCircuitImpedance Net.portPre
  by_cases h12 : n1 = n2
  · simp only [h12, if_true]; rfl
  · simp only [h12, if_false, anyL_between]
    cases hany : (N.branchesBetween n1 n2).any (·.e.isIdealVS) with
    | true => simp only [if_true]; rfl
    | false =>
      have e1 : (if n1 = N.zero then (n2, n1) else (n1, n2)).1 = if n1 = N.zero then n2 else n1 := by
        split <;> rfl
      have e2 : (if n1 = N.zero then (n2, n1) else (n1, n2)).2 = if n1 = N.zero then n1 else n2 := by
        split <;> rfl
      simp only [Bool.false_eq_true, if_false, gen_is_zero_node, decide_eq_true_eq, C06_gen_isolated, e1, e2]
      generalize (if n1 = N.zero then n2 else n1) = a
      generalize (if n1 = N.zero then n1 else n2) = b
      cases h1 : N.isolated a b with
      | error e => exact portValue_of_noInf (isolated_noInf N a b) h1
      | ok r1 =>
        cases r1 with
        | true => rfl
        | false =>
          simp only [bind, Except.bind, Bool.false_eq_true, if_false]
          cases h2 : N.isolated b a with
          | error e => exact portValue_of_noInf (isolated_noInf N b a) h2
          | ok r2 =>
            cases r2 with
            | true => rfl
            | false =>
              simp only [Bool.false_eq_true, if_false, C16_gen_switchGround, switchGround_eq]
              cases h3 : N.switchGround b with
              | error e => exact portValue_of_noInf (switchGround_noInf N b) h3
              | ok N' => exact gen_port_tail solve N' (switchGround_ids h3) a

/-- the same for every solver of the hand model (a function of the list of rows): every instance
of the hand-written function is an instance of the generated one -/
theorem C06_gen_open_circuit_impedance_rows [LawfulLabelOrd L] (solve : List (List K) → List K → Option (List K))
    (N : Net L K) (n1 n2 : L) :
    Gen.Port.open_circuit_impedance (fun M b => solve M.rows b) N n1 n2
      = portValue (N.openCircuitImpedance solve n1 n2) :=
  C06_gen_open_circuit_impedance (fun M b => solve M.rows b) N n1 n2

/-- **`element_impedance`, generated = hand model**: `remove_element` first, then the two look-ups
`network[element]` on the ORIGINAL network, then `open_circuit_impedance` on the reduced one -/
theorem C06_gen_element_impedance [LawfulLabelOrd L] (solve : Py.Mat K → List K → Option (List K))
    (N : Net L K) (id : String) :
    Gen.Port.element_impedance solve N id = portValue (N.elementImpedance (rowsSolver solve) id) := by
  unfold Gen.Port.element_impedance Net.elementImpedance
  rw [C16_gen_removeElement, removeElement_eq, gen_getitem]
  cases hr : N.removeElement id with
  | error e => exact portValue_of_noInf (removeElement_noInf N id) hr
  | ok N' =>
    cases hg : N.get? id with
    | none => rfl
    | some b =>
      simp only [bind, Except.bind, C06_gen_open_circuit_impedance]

theorem C06_gen_element_impedance_rows [LawfulLabelOrd L] (solve : List (List K) → List K → Option (List K))
    (N : Net L K) (id : String) :
    Gen.Port.element_impedance (fun M b => solve M.rows b) N id = portValue (N.elementImpedance solve id) :=
  C06_gen_element_impedance (fun M b => solve M.rows b) N id

/-- the change of result type loses nothing: the hand model's result is recovered from the
generated function's, so every theorem about `Net.openCircuitImpedance` / `Net.elementImpedance`
is a theorem about the translated code -/
theorem C06_gen_value_lossless [LawfulLabelOrd L] (solve : List (List K) → List K → Option (List K))
    (N : Net L K) (n1 n2 : L) (id : String) :
    (∀ r : Except Err K, ofPortValue (portValue r) = r)
    ∧ N.openCircuitImpedance solve n1 n2
        = ofPortValue (Gen.Port.open_circuit_impedance (fun M b => solve M.rows b) N n1 n2)
    ∧ N.elementImpedance solve id
        = ofPortValue (Gen.Port.element_impedance (fun M b => solve M.rows b) N id) := by
  refine ⟨ofPortValue_portValue, ?_, ?_⟩
  · rw [C06_gen_open_circuit_impedance_rows, ofPortValue_portValue]
  · rw [C06_gen_element_impedance_rows, ofPortValue_portValue]

/-- non-vacuity: the hypothesis `LawfulLabelOrd L` holds of the labels the Python package uses (`str`) -/
example : LawfulLabelOrd String := inferInstance

/-- across an ideal voltage source the generated function takes the second early return -/
example : Gen.Port.open_circuit_impedance (fun _ _ => none)
    (⟨[⟨"1", "0", "V", "voltage_source", Elem.norton (0 : ℚ) 5⟩,
       ⟨"1", "0", "R", "resistor", Elem.norton (2 : ℚ) 0⟩], "0"⟩ : Net String ℚ) "1" "0"
    = .ok (.fin 0) := by
  rw [C06_gen_open_circuit_impedance]; decide

end CC
