/-
  Property C07 — every component becomes exactly one faithful network branch.

  `transform_circuit` (Circuit/circuit.py) with the translators of Circuit/transformers.py is the interpreter of
  CC/Model/Circuit.lean run on the generated tables `Gen.tables`; the intended branch list, branch and reference node
  are `Spec.nonGround`, `Spec.branchOf` and `Spec.groundOf` of CC/Spec/Phasor.lean.
-/
import CC.Proofs.CircuitLemmas
import CC.Proofs.TranslatorDen
import CC.Proofs.ListLemmas
import CC.Proofs.RoundLemmas
import CC.Proofs.Sound
import CC.Proofs.GQField
namespace CC
open Gen

/-- every kind the component module can construct, except `ground`, has a translator -/
def C07_table_total_statement : Prop :=
  ∀ s ∈ ctorSpecs, s.kind ≠ "ground" → Gen.tables.hasKind s.kind = true

theorem C07_table_total : C07_table_total_statement := by
  unfold C07_table_total_statement; decide +kernel

/-- the unconditional reads and, for a periodic translator, the keys handed to the inner constructor -/
def TSpec.allKeys (t : TSpec) : List String :=
  t.reads ++ match t.body with
    | .periodic _ _ _ _ _ _ _ ctorArgs _ => ctorArgs.filterMap fun a => match a.2 with | .key k => some k | _ => none
    | _ => []

/-- the keys of the expression trees and the four keys of a periodic template -/
def TBody.keys : TBody → List String
  | .plain e => e.keys
  | .gated e ws _ off => e.keys ++ ws.keys ++ off.keys
  | .periodic a b c d _ off _ _ _ => [a, b, c, d] ++ off.keys

/-- the `reads` annotation the translator emits is complete: every key the generated body
evaluates is listed in it (so `C07_reads_written`, which is stated over the annotation and the
`HArg.key` arguments, really is about the keys the body reads) -/
theorem C07_body_keys_in_reads :
    ∀ t ∈ Gen.transSpecs, t.body.keys.all (fun k => t.reads.contains k) = true := by decide +kernel

/-- the translator of a kind reads only keys that the constructor of that kind writes
(over `TSpec.allKeys`; complete by `C07_body_keys_in_reads`) -/
def readsWritten (T : Tables) (s : CtorSpec) : Bool :=
  match T.transformers.lookup s.kind with
  | none => true
  | some fn => match T.tspec? fn with
    | none => false
    | some t => t.allKeys.all fun k => (s.values.map (·.1)).contains k

def C07_reads_written_statement : Prop := ∀ s ∈ ctorSpecs, readsWritten Gen.tables s = true

theorem C07_reads_written : C07_reads_written_statement := by
  unfold C07_reads_written_statement; decide +kernel

/-- every translator names its branch after the component itself and takes the terminals in the
component's order -/
def Tables.WellFormed (T : Tables) : Prop :=
  ∀ s ∈ T.trans, s.idSelf = true ∧ s.n1 = 0 ∧ s.n2 = 1

instance (T : Tables) : Decidable T.WellFormed := by unfold Tables.WellFormed; infer_instance

theorem C07_table_wellformed : Gen.tables.WellFormed := by decide

theorem periodicActive_ok {T : Tables} (hT : T.WellFormed) {s : TSpec} (hs : s.idSelf = true ∧ s.n1 = 0 ∧ s.n2 = 1)
    {trig : Trig} {c : Component} {w wres amp ph : Rat} {ctor inner : String} {ctorArgs : List (String × HArg)}
    {b : Branch String GQ} (h : periodicActive T s trig c w wres amp ph ctor ctorArgs inner = .ok b) :
    b.id = c.id ∧ c.nodes[0]? = some b.n1 ∧ c.nodes[1]? = some b.n2 := by
  simp only [periodicActive, bind_eq_ok] at h
  obtain ⟨cs, _, n1, hn1, n2, hn2, args, _, single, hsingle, si, hsi, h⟩ := h
  obtain ⟨hid, hn1', hn2'⟩ := runSimple_ok (hT si (tspec?_mem (tspecE_ok hsi))) h
  obtain ⟨hsid, hsnodes, _⟩ := construct_ok hsingle
  rw [hs.2.1] at hn1; rw [hs.2.2] at hn2
  rw [hsnodes] at hn1' hn2'
  exact ⟨hid.trans hsid, (node_ok hn1).trans hn1', (node_ok hn2).trans hn2'⟩

theorem run_ok {T : Tables} (hT : T.WellFormed) {s : TSpec} (hs : s ∈ T.trans) {trig : Trig} {harm : Harm}
    {c : Component} {w wres : Rat} {b : Branch String GQ} (h : s.run T trig harm c w wres = .ok b) :
    b.id = c.id ∧ c.nodes[0]? = some b.n1 ∧ c.nodes[1]? = some b.n2 := by
  have hwf := hT s hs
  unfold TSpec.run at h
  cases hb : s.body with
  | plain e => rw [hb] at h; exact runSimple_ok hwf h
  | gated e ws cmp off => rw [hb] at h; exact runSimple_ok hwf h
  | periodic waveKey w0Key ampKey phiKey cmp off ctor ctorArgs inner =>
    simp only [hb, bind_eq_ok] at h
    obtain ⟨_, _, w0, _, A, _, phi, _, _, _, h⟩ := h
    split at h
    · cases h
    · split at h
      · obtain ⟨te, _, h⟩ := bind_eq_ok.mp h
        exact mkBranch_ok hwf h
      · exact periodicActive_ok hT hwf h

/-- **C07 (identity and terminals).**  Whatever translator the table selects, a branch it
produces carries the component's own identifier and the component's first and second node,
in that order — for every table that is structurally well-formed (`C07_table_wellformed`
shows the generated one is). -/
theorem C07_branch_id_terminals (T : Tables) (hT : T.WellFormed) (trig : Trig) (harm : Harm)
    (c : Component) (w wres : Rat) (b : Branch String GQ)
    (h : transformComponent T trig harm c w wres = some (.ok b)) :
    b.id = c.id ∧ c.nodes[0]? = some b.n1 ∧ c.nodes[1]? = some b.n2 := by
  unfold transformComponent at h
  cases hl : T.transformers.lookup c.kind with
  | none => rw [hl] at h; cases h
  | some fn =>
    cases hs : T.tspec? fn with
    | none => simp only [hl, hs, Option.some.injEq, reduceCtorEq] at h
    | some s =>
      simp only [hl, hs, Option.some.injEq] at h
      exact run_ok hT (tspec?_mem hs) h

/-- the components that `transform_circuit` translates -/
def translated (T : Tables) (cs : List Component) : List Component := cs.filter T.selects

/-- **C07 (position independence).**  The branch list of the converted circuit is, entry by
entry and in order, the result of the table's translator applied to that entry's own
component: nothing is omitted from, added to, duplicated or permuted within the translated
components, and no component is evaluated with another component's value. -/
theorem C07_position_independent (T : Tables) (trig : Trig) (harm : Harm) (C : Circuit) (w wres : Rat)
    (N : Net String GQ) (h : transformCircuit T trig harm C w wres = .ok N) :
    List.Forall₂ (fun c b => transformComponent T trig harm c w wres = some (.ok b))
      (translated T C.components) N.branches ∧ N.zero = C.ground := by
  unfold transformCircuit at h
  obtain ⟨bs, hbs, h⟩ := bind_eq_ok.mp h
  obtain ⟨_, _, h⟩ := bind_eq_ok.mp h
  cases h
  refine ⟨(mapM_eq_ok.1 hbs).imp fun c b hcb => ?_, rfl⟩
  split at hcb
  · rename_i r hr; rw [hr, hcb]
  · cases hcb

/-- **C07 (one-to-one).**  Same identifiers, same order, same number. -/
theorem C07_one_to_one (T : Tables) (hT : T.WellFormed) (trig : Trig) (harm : Harm) (C : Circuit)
    (w wres : Rat) (N : Net String GQ) (h : transformCircuit T trig harm C w wres = .ok N) :
    N.branches.map (·.id) = (translated T C.components).map (·.id) := by
  have := (C07_position_independent T trig harm C w wres N h).1
  exact forall₂_map_eq (fun c b hcb => (C07_branch_id_terminals T hT trig harm c w wres b hcb).1) this

/-- **C07 (the conversion never drops a component).**  The generated comprehension of
`transform_circuit` selects every non-ground component, whatever its type string … -/
theorem C07_never_drops : Gen.tables.dropUnknown = false := by decide

/-- … so for **every** component list the translated components are exactly the non-ground
components — and hence (`C07_one_to_one`) a successful conversion has exactly one branch per
non-ground component, same identifiers, same order. -/
theorem C07_nothing_dropped (cs : List Component) : translated Gen.tables cs = Spec.nonGround cs := by
  unfold translated Spec.nonGround
  apply List.filter_congr
  intro c _
  simp [Tables.selects, C07_never_drops]

/-- **C07 (an untranslatable component is an error, wherever it stands).**  If some non-ground
component of the circuit has a type without table entry, the conversion raises; it never
returns a network without that component. -/
theorem C07_unknown_kind_raises (T : Tables) (hT : T.dropUnknown = false) (trig : Trig) (harm : Harm)
    (C : Circuit) (w wres : Rat) (c : Component) (hc : c ∈ C.components) (hg : c.kind ≠ "ground")
    (hk : T.transformers.lookup c.kind = none) : ∃ e, transformCircuit T trig harm C w wres = .error e := by
  have hsel : c ∈ C.components.filter T.selects := by
    simp [List.mem_filter, hc, Tables.selects, hT, hg]
  obtain ⟨e, he⟩ : ∃ e, transformBranches T trig harm C.components w wres = .error e :=
    mapM_error_of_mem _ _ c hsel .keyError (by simp only [transformComponent, hk])
  exact ⟨e, by simp only [transformCircuit, he, bind, Except.bind]⟩

/-- `ground` itself has no entry: the filter `component.type != 'ground'` of `transform_circuit` is what
keeps it from the look-up.  Every other kind the component module can construct has one
(`C07_table_total`), so the error above is reserved for type strings that no constructor produces. -/
theorem ground_not_translated : Gen.tables.hasKind "ground" = false := by decide +kernel

/-- `np.cos(0) = 1`, `np.sin(0) = 0` (exact in binary64) -/
def TrigZero (trig : Trig) : Prop := trig 0 = (1, 0)

/-! No two entries of the dispatch table share a kind and no two translators a name, so an entry is found under its key
whatever stands before it: a look-up is a position (`rfl`), not a walk through string comparisons. -/

theorem kinds_distinct : Gen.transformersTable.Pairwise (fun a b : String × String => a.1 ≠ b.1) := by decide +kernel

theorem fns_distinct : Gen.transSpecs.Pairwise (fun a b : TSpec => a.fn ≠ b.fn) := by decide +kernel

theorem kind_at (i : Nat) {k fn : String} (h : Gen.transformersTable[i]? = some (k, fn)) :
    Gen.tables.transformers.lookup k = some fn :=
  lookup_of_pairwise kinds_distinct h

theorem tspec_at (j : Nat) {fn : String} {s : TSpec} (h : Gen.transSpecs[j]? = some s) (hfn : s.fn = fn := by rfl) :
    Gen.tables.tspec? fn = some s :=
  find?_of_pairwise (R := fun a b : TSpec => a.fn ≠ b.fn) (by simp [hfn]) (fun b hb => by simpa [hfn] using hb)
    fns_distinct h

theorem row_at (i j : Nat) {k fn : String} {s : TSpec} (h1 : Gen.transformersTable[i]? = some (k, fn))
    (h2 : Gen.transSpecs[j]? = some s) (hfn : s.fn = fn := by rfl) : Gen.tables.row? k = some s := by
  simp only [Tables.row?, kind_at i h1, tspec_at j h2 hfn, Option.bind_eq_bind, Option.bind_some]

theorem tspec_ac_voltage_source : Gen.tables.tspec? "ac_voltage_source" = some
    { fn := "ac_voltage_source", reads := ["V", "phi", "R", "w"], n1 := 0, n2 := 1, idSelf := true,
      body := .gated (.voltageSource (.polar (.key "V") (.key "phi")) (.polar (.key "R") (.lit 0)))
        (.key "w") .gt .shortCircuit } := tspec_at 7 rfl

theorem tspec_ac_current_source : Gen.tables.tspec? "ac_current_source" = some
    { fn := "ac_current_source", reads := ["I", "G", "w", "phi"], n1 := 0, n2 := 1, idSelf := true,
      body := .gated (.currentSource (.polar (.key "I") (.key "phi")) (.polar (.key "G") (.lit 0)))
        (.key "w") .gt .openCircuit } := tspec_at 11 rfl

theorem isInf_false {c : Component} {k : String} {q : Rat} (h : c.value.lookup k = some (.num q)) :
    Spec.isInf c k = false := by
  simp [Spec.isInf, h]

/-! One `FaithfulRow` (CC/Proofs/TranslatorDen.lean) per kind: where the table keeps the kind's row, and that the row denotes
the specification's element.  The per-kind theorems below are its `transform`, `C07_faithful_nonperiodic` its `of_spec`. -/

theorem faithful_resistor : FaithfulRow "resistor" (.plain (.resistor (.key "R"))) fun _ _ => True where
  row := ⟨_, row_at 0 0 rfl rfl, by decide +kernel, rfl⟩
  spec trig harm c w wres hk _ := by simp only [Spec.elemOf, hk, ↓reduceIte]; rfl

theorem faithful_conductance : FaithfulRow "conductance" (.plain (.conductor (.key "G"))) fun _ _ => True where
  row := ⟨_, row_at 2 2 rfl rfl, by decide +kernel, rfl⟩
  spec trig harm c w wres hk _ := by simp only [Spec.elemOf, hk, String.reduceEq, ↓reduceIte]; rfl

theorem faithful_impedance :
    FaithfulRow "impedance" (.plain (.impedance (.cart (.key "R") (.key "X")))) fun _ _ => True where
  row := ⟨_, row_at 1 1 rfl rfl, by decide +kernel, rfl⟩
  spec trig harm c w wres hk _ := by simp only [Spec.elemOf, hk, String.reduceEq, ↓reduceIte]; rfl

theorem faithful_admittance :
    FaithfulRow "admittance" (.plain (.admittance (.cart (.key "G") (.key "B")))) fun _ _ => True where
  row := ⟨_, row_at 3 3 rfl rfl, by decide +kernel, rfl⟩
  spec trig harm c w wres hk _ := by simp only [Spec.elemOf, hk, String.reduceEq, ↓reduceIte]; rfl

theorem faithful_capacitor :
    FaithfulRow "capacitor" (.plain (.admittance (.cart (.lit 0) (.mul .w (.key "C"))))) fun _ _ => True where
  row := ⟨_, row_at 4 4 rfl rfl, by decide +kernel, rfl⟩
  spec trig harm c w wres hk _ := by simp only [Spec.elemOf, hk, String.reduceEq, ↓reduceIte]; rfl

theorem faithful_inductance :
    FaithfulRow "inductance" (.plain (.impedance (.cart (.lit 0) (.mul .w (.key "L"))))) fun _ _ => True where
  row := ⟨_, row_at 5 5 rfl rfl, by decide +kernel, rfl⟩
  spec trig harm c w wres hk _ := by simp only [Spec.elemOf, hk, String.reduceEq, ↓reduceIte]; rfl

theorem faithful_lamp : FaithfulRow "lamp" (.plain (.load (.key "P") (.key "V_ref"))) fun _ _ => True where
  row := ⟨_, row_at 16 15 rfl rfl, by decide +kernel, rfl⟩
  spec trig harm c w wres hk _ := Spec.elemOf_load_denK trig harm c w wres (.inl hk)

theorem faithful_resistive_load :
    FaithfulRow "resistive_load" (.plain (.load (.key "P") (.key "V_ref"))) fun _ _ => True where
  row := ⟨_, row_at 15 15 rfl rfl, by decide +kernel, rfl⟩
  spec trig harm c w wres hk _ := Spec.elemOf_load_denK trig harm c w wres (.inr hk)

theorem faithful_short_circuit : FaithfulRow "short_circuit" (.plain .shortCircuit) fun _ _ => True where
  row := ⟨_, row_at 14 14 rfl rfl, by decide +kernel, rfl⟩
  spec trig harm c w wres hk _ := by simp only [Spec.elemOf, hk, String.reduceEq, ↓reduceIte, or_self]; rfl

theorem faithful_complex_voltage_source : FaithfulRow "complex_voltage_source"
    (.plain (.voltageSource (.cart (.key "V_real") (.key "V_imag")) (.cart (.key "R") (.key "X")))) fun _ _ => True where
  row := ⟨_, row_at 8 8 rfl rfl, by decide +kernel, rfl⟩
  spec trig harm c w wres hk _ := by simp only [Spec.elemOf, hk, String.reduceEq, ↓reduceIte, or_self]; rfl

theorem faithful_complex_current_source : FaithfulRow "complex_current_source"
    (.plain (.currentSource (.cart (.key "I_real") (.key "I_imag")) (.cart (.key "G") (.key "B")))) fun _ _ => True where
  row := ⟨_, row_at 11 12 rfl rfl, by decide +kernel, rfl⟩
  spec trig harm c w wres hk _ := by simp only [Spec.elemOf, hk, String.reduceEq, ↓reduceIte, or_self]; rfl

/-- a DC source as its constructor writes it (stored frequency 0): the specification does not read the key `w`, the
translator does -/
theorem faithful_dc_voltage_source : FaithfulRow "dc_voltage_source"
    (.gated (.voltageSource (.polar (.key "V") (.lit 0)) (.polar (.key "R") (.lit 0))) (.key "w") .gt .shortCircuit)
    fun trig c => TrigZero trig ∧ c.value.lookup "w" = some (.num 0) where
  row := ⟨_, row_at 6 6 rfl rfl, by decide +kernel, rfl⟩
  spec trig harm c w wres hk h := by
    simp only [Spec.elemOf, hk, String.reduceEq, ↓reduceIte, or_self]
    dsimp only [TBody.denK, EE.denK, CE.denK, RE.denK]
    simp only [holds_gt_dist, ite_bnot_decide, phasor_zero h.1, apply_ite Prod.snd, num?_of_lookup h.2, Option.bind_some]
    rfl

theorem faithful_dc_current_source : FaithfulRow "dc_current_source"
    (.gated (.currentSource (.polar (.key "I") (.lit 0)) (.polar (.key "G") (.lit 0))) (.key "w") .gt .openCircuit)
    fun trig c => TrigZero trig ∧ c.value.lookup "w" = some (.num 0) where
  row := ⟨_, row_at 9 10 rfl rfl, by decide +kernel, rfl⟩
  spec trig harm c w wres hk h := by
    simp only [Spec.elemOf, hk, String.reduceEq, ↓reduceIte, or_self]
    dsimp only [TBody.denK, EE.denK, CE.denK, RE.denK]
    simp only [holds_gt_dist, ite_bnot_decide, phasor_zero h.1, apply_ite Prod.snd, num?_of_lookup h.2, Option.bind_some]
    rfl

theorem faithful_ac_voltage_source : FaithfulRow "ac_voltage_source"
    (.gated (.voltageSource (.polar (.key "V") (.key "phi")) (.polar (.key "R") (.lit 0))) (.key "w") .gt .shortCircuit)
    fun trig _ => TrigZero trig where
  row := ⟨_, row_at 7 7 rfl rfl, by decide +kernel, rfl⟩
  spec trig harm c w wres hk h0 := by
    simp only [Spec.elemOf, hk, String.reduceEq, ↓reduceIte, or_self]
    dsimp only [TBody.denK, EE.denK, CE.denK, RE.denK]
    simp only [holds_gt_dist, ite_bnot_decide, phasor_zero h0, apply_ite Prod.snd]
    -- the specification reads `phi` last, the body right after `V`
    exact congrArg (Option.bind _) (funext fun V => bind_rotate _ _ _ _)

theorem faithful_ac_current_source : FaithfulRow "ac_current_source"
    (.gated (.currentSource (.polar (.key "I") (.key "phi")) (.polar (.key "G") (.lit 0))) (.key "w") .gt .openCircuit)
    fun trig _ => TrigZero trig where
  row := ⟨_, row_at 10 11 rfl rfl, by decide +kernel, rfl⟩
  spec trig harm c w wres hk h0 := by
    simp only [Spec.elemOf, hk, String.reduceEq, ↓reduceIte, or_self]
    dsimp only [TBody.denK, EE.denK, CE.denK, RE.denK]
    simp only [holds_gt_dist, ite_bnot_decide, phasor_zero h0, apply_ite Prod.snd]
    exact congrArg (Option.bind _) (funext fun I => bind_rotate _ _ _ _)

variable (trig : Trig) (harm : Harm) (c : Component) (w wres : Rat) (a b : String)

/-! Each `C07_faithful_<kind>`: for **every** component of that kind with terminals `[a, b]` and the values its
constructor writes, at **every** frequency and resolution, the branch the generated table
produces is the displayed record — and that record is the intended one of CC/Spec/Phasor.lean.
The translator bodies enter through `Gen.tables`: a changed formula, key, gate or table entry
changes the generated definitions and the proofs fail. -/

theorem C07_faithful_resistor (R : Rat)
    (hk : c.kind = "resistor") (hn : c.nodes = [a, b]) (hR : c.value.lookup "R" = some (.num R)) :
    transformComponent Gen.tables trig harm c w wres
      = some (.ok { n1 := a, n2 := b, id := c.id, ty := "resistor", e := .norton ⟨R, 0⟩ 0 })
    ∧ Spec.branchOf trig harm c w wres = some { n1 := a, n2 := b, id := c.id, e := .norton ⟨R, 0⟩ 0 } :=
  faithful_resistor.transform hk trivial hn (by
    dsimp only [TBody.denK, EE.denK, RE.denK, RE.isInfKey]
    simp only [isInf_false hR, Bool.false_eq_true, ↓reduceIte, num?_of_lookup hR, Option.bind_some])

/-- **C07 (limits, open switch).**  A resistor with `R = ∞` (what an open switch is translated
to) becomes a branch whose record is the open circuit `(Y = 0, I = 0)` — the record that
`NortenElement(Z = inf, V = 0)` is for every derived value (`Y = 1/inf = 0`, `I = 0/inf = 0`) and
every predicate of elements.py — and that is what the specification intends. -/
theorem C07_limits_open_switch
    (hk : c.kind = "resistor") (hn : c.nodes = [a, b]) (hR : c.value.lookup "R" = some Val.inf) :
    transformComponent Gen.tables trig harm c w wres
      = some (.ok { n1 := a, n2 := b, id := c.id, ty := "resistor", e := .thevenin 0 0 })
    ∧ Spec.branchOf trig harm c w wres = some { n1 := a, n2 := b, id := c.id, e := .thevenin 0 0 } :=
  faithful_resistor.transform hk trivial hn (by
    have hi : Spec.isInf c "R" = true := by simp [Spec.isInf, hR]
    dsimp only [TBody.denK, EE.denK, RE.denK, RE.isInfKey]
    simp only [hi, ↓reduceIte])

theorem C07_faithful_impedance (R X : Rat)
    (hk : c.kind = "impedance") (hn : c.nodes = [a, b]) (hR : c.value.lookup "R" = some (.num R))
    (hX : c.value.lookup "X" = some (.num X)) :
    transformComponent Gen.tables trig harm c w wres
      = some (.ok { n1 := a, n2 := b, id := c.id, ty := "impedance", e := .norton ⟨R, X⟩ 0 })
    ∧ Spec.branchOf trig harm c w wres = some { n1 := a, n2 := b, id := c.id, e := .norton ⟨R, X⟩ 0 } :=
  faithful_impedance.transform hk trivial hn (by
    dsimp only [TBody.denK, EE.denK, CE.denK, RE.denK]
    rw [num?_of_lookup hR, num?_of_lookup hX]; rfl)

theorem C07_faithful_conductance (G : Rat)
    (hk : c.kind = "conductance") (hn : c.nodes = [a, b]) (hG : c.value.lookup "G" = some (.num G)) :
    transformComponent Gen.tables trig harm c w wres
      = some (.ok { n1 := a, n2 := b, id := c.id, ty := "conductor", e := .thevenin ⟨G, 0⟩ 0 })
    ∧ Spec.branchOf trig harm c w wres = some { n1 := a, n2 := b, id := c.id, e := .thevenin ⟨G, 0⟩ 0 } :=
  faithful_conductance.transform hk trivial hn (by
    dsimp only [TBody.denK, EE.denK, CE.denK, RE.denK]
    rw [num?_of_lookup hG]; rfl)

theorem C07_faithful_admittance (G B : Rat)
    (hk : c.kind = "admittance") (hn : c.nodes = [a, b]) (hG : c.value.lookup "G" = some (.num G))
    (hB : c.value.lookup "B" = some (.num B)) :
    transformComponent Gen.tables trig harm c w wres
      = some (.ok { n1 := a, n2 := b, id := c.id, ty := "admittance", e := .thevenin ⟨G, B⟩ 0 })
    ∧ Spec.branchOf trig harm c w wres = some { n1 := a, n2 := b, id := c.id, e := .thevenin ⟨G, B⟩ 0 } :=
  faithful_admittance.transform hk trivial hn (by
    dsimp only [TBody.denK, EE.denK, CE.denK, RE.denK]
    rw [num?_of_lookup hG, num?_of_lookup hB]; rfl)

/-- a capacitor is the admittance `j·w·C` -/
theorem C07_faithful_capacitor (C : Rat)
    (hk : c.kind = "capacitor") (hn : c.nodes = [a, b]) (hC : c.value.lookup "C" = some (.num C)) :
    transformComponent Gen.tables trig harm c w wres
      = some (.ok { n1 := a, n2 := b, id := c.id, ty := "admittance", e := .thevenin ⟨0, w * C⟩ 0 })
    ∧ Spec.branchOf trig harm c w wres = some { n1 := a, n2 := b, id := c.id, e := .thevenin ⟨0, w * C⟩ 0 } :=
  faithful_capacitor.transform hk trivial hn (by
    dsimp only [TBody.denK, EE.denK, CE.denK, RE.denK]
    rw [num?_of_lookup hC]; rfl)

/-- an inductor is the impedance `j·w·L` -/
theorem C07_faithful_inductance (L : Rat)
    (hk : c.kind = "inductance") (hn : c.nodes = [a, b]) (hL : c.value.lookup "L" = some (.num L)) :
    transformComponent Gen.tables trig harm c w wres
      = some (.ok { n1 := a, n2 := b, id := c.id, ty := "impedance", e := .norton ⟨0, w * L⟩ 0 })
    ∧ Spec.branchOf trig harm c w wres = some { n1 := a, n2 := b, id := c.id, e := .norton ⟨0, w * L⟩ 0 } :=
  faithful_inductance.transform hk trivial hn (by
    dsimp only [TBody.denK, EE.denK, CE.denK, RE.denK]
    rw [num?_of_lookup hL]; rfl)

/-- lamps and resistive loads are the admittance `P / V_ref²` (for a positive rated voltage) -/
theorem C07_faithful_load (P V : Rat)
    (hk : c.kind = "lamp" ∨ c.kind = "resistive_load") (hn : c.nodes = [a, b])
    (hP : c.value.lookup "P" = some (.num P)) (hV : c.value.lookup "V_ref" = some (.num V)) (hpos : 0 < V) :
    transformComponent Gen.tables trig harm c w wres
      = some (.ok { n1 := a, n2 := b, id := c.id, ty := "load", e := .thevenin ⟨P / (V * V), 0⟩ 0 })
    ∧ Spec.branchOf trig harm c w wres = some { n1 := a, n2 := b, id := c.id, e := .thevenin ⟨P / (V * V), 0⟩ 0 } := by
  -- `elm.load(id, P, V_ref)`: `I_ref = -1`, `Q = 0`; with `V_ref > 0` no check raises and the `TheveninElement` is returned (`elmLoad_rated`)
  have hd : TBody.denK trig c w wres (.plain (.load (.key "P") (.key "V_ref"))) some
      = some ("load", .thevenin ⟨P / (V * V), 0⟩ 0) := by
    dsimp only [TBody.denK, EE.denK, RE.denK]
    rw [num?_of_lookup hP, num?_of_lookup hV]
    simp only [Option.bind_some, elmLoad_rated, if_pos hpos]
  rcases hk with hk | hk
  · exact faithful_lamp.transform hk trivial hn hd
  · exact faithful_resistive_load.transform hk trivial hn hd

theorem C07_faithful_short_circuit (hk : c.kind = "short_circuit") (hn : c.nodes = [a, b]) :
    transformComponent Gen.tables trig harm c w wres
      = some (.ok { n1 := a, n2 := b, id := c.id, ty := "short_circuit", e := .norton 0 0 })
    ∧ Spec.branchOf trig harm c w wres = some { n1 := a, n2 := b, id := c.id, e := .norton 0 0 } :=
  faithful_short_circuit.transform hk trivial hn rfl

/-- a DC voltage source is active within the resolution of `w = 0` and a short circuit elsewhere -/
theorem C07_faithful_dc_voltage_source (h0 : TrigZero trig) (V R : Rat)
    (hk : c.kind = "dc_voltage_source") (hn : c.nodes = [a, b])
    (hV : c.value.lookup "V" = some (.num V)) (hR : c.value.lookup "R" = some (.num R))
    (hw : c.value.lookup "w" = some (.num 0)) :
    transformComponent Gen.tables trig harm c w wres
      = some (.ok (if Spec.dist w 0 ≤ wres
          then { n1 := a, n2 := b, id := c.id, ty := "voltage_source", e := .norton ⟨R, 0⟩ ⟨V, 0⟩ }
          else { n1 := a, n2 := b, id := c.id, ty := "short_circuit", e := .norton 0 0 }))
    ∧ Spec.branchOf trig harm c w wres = some { n1 := a, n2 := b, id := c.id, e := (if Spec.dist w 0 ≤ wres then .norton ⟨R, 0⟩ ⟨V, 0⟩ else .norton 0 0) } :=
  faithful_dc_voltage_source.transform_ite hk ⟨h0, hw⟩ hn (by
    dsimp only [TBody.denK, EE.denK, CE.denK, RE.denK]
    rw [num?_of_lookup hV, num?_of_lookup hR, num?_of_lookup hw]
    simp only [Option.bind_some, holds_gt_dist, ite_bnot_decide, phasor_zero h0])

/-- an AC voltage source contributes `V·(cos φ + j sin φ)` behind `R` within the resolution of
its own frequency (boundary included) and is a short circuit at every other frequency -/
theorem C07_faithful_ac_voltage_source (h0 : TrigZero trig) (V R ws phi : Rat)
    (hk : c.kind = "ac_voltage_source") (hn : c.nodes = [a, b])
    (hV : c.value.lookup "V" = some (.num V)) (hR : c.value.lookup "R" = some (.num R))
    (hw : c.value.lookup "w" = some (.num ws)) (hp : c.value.lookup "phi" = some (.num phi)) :
    transformComponent Gen.tables trig harm c w wres
      = some (.ok (if Spec.dist w ws ≤ wres
          then { n1 := a, n2 := b, id := c.id, ty := "voltage_source", e := .norton ⟨R, 0⟩ (Spec.phasor trig V phi) }
          else { n1 := a, n2 := b, id := c.id, ty := "short_circuit", e := .norton 0 0 }))
    ∧ Spec.branchOf trig harm c w wres = some { n1 := a, n2 := b, id := c.id, e := (if Spec.dist w ws ≤ wres then .norton ⟨R, 0⟩ (Spec.phasor trig V phi) else .norton 0 0) } :=
  faithful_ac_voltage_source.transform_ite hk h0 hn (by
    dsimp only [TBody.denK, EE.denK, CE.denK, RE.denK]
    rw [num?_of_lookup hV, num?_of_lookup hp, num?_of_lookup hR, num?_of_lookup hw]
    simp only [Option.bind_some, holds_gt_dist, ite_bnot_decide, phasor_zero h0])

/-- a complex voltage source carries no frequency: it is active at every `w` -/
theorem C07_faithful_complex_voltage_source (Vr Vi R X : Rat)
    (hk : c.kind = "complex_voltage_source") (hn : c.nodes = [a, b])
    (hVr : c.value.lookup "V_real" = some (.num Vr)) (hVi : c.value.lookup "V_imag" = some (.num Vi))
    (hR : c.value.lookup "R" = some (.num R)) (hX : c.value.lookup "X" = some (.num X)) :
    transformComponent Gen.tables trig harm c w wres
      = some (.ok { n1 := a, n2 := b, id := c.id, ty := "voltage_source", e := .norton ⟨R, X⟩ ⟨Vr, Vi⟩ })
    ∧ Spec.branchOf trig harm c w wres = some { n1 := a, n2 := b, id := c.id, e := .norton ⟨R, X⟩ ⟨Vr, Vi⟩ } :=
  faithful_complex_voltage_source.transform hk trivial hn (by
    dsimp only [TBody.denK, EE.denK, CE.denK, RE.denK]
    rw [num?_of_lookup hVr, num?_of_lookup hVi, num?_of_lookup hR, num?_of_lookup hX]; rfl)

/-- a DC current source is active within the resolution of `w = 0` and an open circuit elsewhere -/
theorem C07_faithful_dc_current_source (h0 : TrigZero trig) (I G : Rat)
    (hk : c.kind = "dc_current_source") (hn : c.nodes = [a, b])
    (hI : c.value.lookup "I" = some (.num I)) (hG : c.value.lookup "G" = some (.num G))
    (hw : c.value.lookup "w" = some (.num 0)) :
    transformComponent Gen.tables trig harm c w wres
      = some (.ok (if Spec.dist w 0 ≤ wres
          then { n1 := a, n2 := b, id := c.id, ty := "current_source", e := .thevenin ⟨G, 0⟩ ⟨I, 0⟩ }
          else { n1 := a, n2 := b, id := c.id, ty := "open_circuit", e := .thevenin 0 0 }))
    ∧ Spec.branchOf trig harm c w wres = some { n1 := a, n2 := b, id := c.id, e := (if Spec.dist w 0 ≤ wres then .thevenin ⟨G, 0⟩ ⟨I, 0⟩ else .thevenin 0 0) } :=
  faithful_dc_current_source.transform_ite hk ⟨h0, hw⟩ hn (by
    dsimp only [TBody.denK, EE.denK, CE.denK, RE.denK]
    rw [num?_of_lookup hI, num?_of_lookup hG, num?_of_lookup hw]
    simp only [Option.bind_some, holds_gt_dist, ite_bnot_decide, phasor_zero h0])

/-- an AC current source contributes `I·(cos φ + j sin φ)` beside `G` within the resolution of
its own frequency and is an open circuit at every other frequency -/
theorem C07_faithful_ac_current_source (h0 : TrigZero trig) (I G ws phi : Rat)
    (hk : c.kind = "ac_current_source") (hn : c.nodes = [a, b])
    (hI : c.value.lookup "I" = some (.num I)) (hG : c.value.lookup "G" = some (.num G))
    (hw : c.value.lookup "w" = some (.num ws)) (hp : c.value.lookup "phi" = some (.num phi)) :
    transformComponent Gen.tables trig harm c w wres
      = some (.ok (if Spec.dist w ws ≤ wres
          then { n1 := a, n2 := b, id := c.id, ty := "current_source", e := .thevenin ⟨G, 0⟩ (Spec.phasor trig I phi) }
          else { n1 := a, n2 := b, id := c.id, ty := "open_circuit", e := .thevenin 0 0 }))
    ∧ Spec.branchOf trig harm c w wres = some { n1 := a, n2 := b, id := c.id, e := (if Spec.dist w ws ≤ wres then .thevenin ⟨G, 0⟩ (Spec.phasor trig I phi) else .thevenin 0 0) } :=
  faithful_ac_current_source.transform_ite hk h0 hn (by
    dsimp only [TBody.denK, EE.denK, CE.denK, RE.denK]
    rw [num?_of_lookup hI, num?_of_lookup hp, num?_of_lookup hG, num?_of_lookup hw]
    simp only [Option.bind_some, holds_gt_dist, ite_bnot_decide, phasor_zero h0])

/-- a complex current source carries no frequency: it is active at every `w` -/
theorem C07_faithful_complex_current_source (Ir Ii G B : Rat)
    (hk : c.kind = "complex_current_source") (hn : c.nodes = [a, b])
    (hIr : c.value.lookup "I_real" = some (.num Ir)) (hIi : c.value.lookup "I_imag" = some (.num Ii))
    (hG : c.value.lookup "G" = some (.num G)) (hB : c.value.lookup "B" = some (.num B)) :
    transformComponent Gen.tables trig harm c w wres
      = some (.ok { n1 := a, n2 := b, id := c.id, ty := "current_source", e := .thevenin ⟨G, B⟩ ⟨Ir, Ii⟩ })
    ∧ Spec.branchOf trig harm c w wres = some { n1 := a, n2 := b, id := c.id, e := .thevenin ⟨G, B⟩ ⟨Ir, Ii⟩ } :=
  faithful_complex_current_source.transform hk trivial hn (by
    dsimp only [TBody.denK, EE.denK, CE.denK, RE.denK]
    rw [num?_of_lookup hIr, num?_of_lookup hIi, num?_of_lookup hG, num?_of_lookup hB]; rfl)

/-- the gate of a periodic source at `w` (in the code's own units): the nearest harmonic
`n = np.round(w/w0)` is farther than the resolution -/
def periodicOff (w w0 wres : Rat) : Prop := wres / w0 < absQ (w / w0 - (roundHalfEven (w / w0) : Rat))

instance (w w0 wres : Rat) : Decidable (periodicOff w w0 wres) := by unfold periodicOff; infer_instance

/-- **C07 (harmonic, soundness of the gate).**  When the code treats the source as active,
the harmonic it selected really lies within the resolution of the analysis frequency. -/
theorem C07_harmonic_sound (w w0 wres : Rat) (h0 : 0 < w0) (h : ¬ periodicOff w w0 wres) :
    Spec.dist w ((roundHalfEven (w / w0) : Rat) * w0) ≤ wres := by
  rw [dist_mul_iff w w0 wres _ h0]
  exact not_lt.mp h

/-- **C07 (harmonic, completeness of the gate).**  When *any* harmonic `m·w0` lies within the
resolution of `w`, the code treats the source as active. -/
theorem C07_harmonic_complete (w w0 wres : Rat) (h0 : 0 < w0) (m : Int)
    (h : Spec.dist w ((m : Rat) * w0) ≤ wres) : ¬ periodicOff w w0 wres := by
  unfold periodicOff
  rw [dist_mul_iff w w0 wres _ h0] at h
  exact not_lt.mpr (le_trans (round_nearest _ m) h)

/-- **C07 (harmonic, index).**  With a resolution finer than half the fundamental the harmonic
is unique, and it is the one the specification names. -/
theorem C07_harmonic_index (w w0 wres : Rat) (h0 : 0 < w0) (hres : 2 * wres < w0) :
    Spec.harmonicIndex? w w0 wres = if periodicOff w w0 wres then none else some (roundHalfEven (w / w0)) :=
  harmonicIndex_eq w w0 wres h0 hres

theorem tspec_periodic_voltage_source : Gen.tables.tspec? "periodic_voltage_source" = some
    { fn := "periodic_voltage_source", reads := ["wavetype", "w", "V", "phi"], n1 := 0, n2 := 1, idSelf := true,
      body := .periodic "wavetype" "w" "V" "phi" .gt .shortCircuit
        "ac_voltage_source" [("w", .w), ("phi", .harmPhase), ("V", .harmAmp), ("R", .key "R")] "ac_voltage_source" } := tspec_at 9 rfl

theorem tspec_periodic_current_source : Gen.tables.tspec? "periodic_current_source" = some
    { fn := "periodic_current_source", reads := ["wavetype", "w", "I", "phi"], n1 := 0, n2 := 1, idSelf := true,
      body := .periodic "wavetype" "w" "I" "phi" .gt .openCircuit
        "ac_current_source" [("w", .w), ("phi", .harmPhase), ("I", .harmAmp), ("G", .key "G")] "ac_current_source" } := tspec_at 13 rfl

/-- the constructors `ac_voltage_source` and `ac_current_source` differ in their names for amplitude and internal
immittance only: called with numbers, non-negative where guarded, each returns the component with those values -/
theorem construct_ac_source {k kA kZ : String}
    (h : (k, kA, kZ) = ("ac_voltage_source", "V", "R") ∨ (k, kA, kZ) = ("ac_current_source", "I", "G")) :
    ∃ cs, Gen.tables.ctor? k = some cs ∧
    ∀ (i : String) (ns : List String) (A Z w ph : Rat), 0 ≤ Z → 0 ≤ w →
      cs.construct (some i) (some ns) [("w", .num w), ("phi", .num ph), (kA, .num A), (kZ, .num Z)]
        = .ok ⟨k, i, ns, [(kA, .num A), (kZ, .num Z), ("w", .num w), ("phi", .num ph)]⟩ := by
  rcases h with h | h <;> cases h <;>
  · refine (Option.isSome_iff_exists.mp ?_).imp fun cs hcs => ⟨hcs, fun i ns A Z w ph hZ hw => ?_⟩
    · decide +kernel
    simp only [Tables.ctor?, Gen.tables, Gen.ctorSpecs, List.find?, String.reduceEq, decide_false, decide_true,
      Option.some.injEq] at hcs
    subst hcs
    -- `cs` is the generated row (CC/Gen/Components.lean); for the voltage source
    --   params `V`, `R = 0`, `w = 0`, `phi = 0`;  guards `R < 0`, `w < 0` (in this order);  values `V`, `R`, `w`, `phi`
    -- and the same with `I`, `G` for the current source.  Binding the four keyword arguments and evaluating `values` is
    -- `rfl` (the dictionary comes out in the order of `values`, not of the call); the two guards are what is left.
    refine CtorSpec.construct_eq_ok.2
      ⟨[(_, .num A), (_, .num Z), ("w", .num w), ("phi", .num ph)], _, rfl, ?_, rfl, rfl, rfl⟩
    refine forM_eq_ok.2 ?_
    simp only [List.forall_mem_cons, List.not_mem_nil, false_imp_iff, implies_true, and_true]
    exact ⟨(Guard.check_num (q := Z) rfl).trans (if_neg (Bool.eq_false_iff.1 (decide_eq_false (not_lt.mpr hZ)))),
      (Guard.check_num (q := w) rfl).trans (if_neg (Bool.eq_false_iff.1 (decide_eq_false (not_lt.mpr hw))))⟩

/-- **C07 (harmonic), voltage.**
A periodic voltage source with fundamental `w0 > 0` and internal resistance `R ≥ 0`, analysed at
`w ≥ 0` with a resolution `0 ≤ w_res < w0/2`, becomes: the `n`-th harmonic
`amplitude(n)·(cos phase(n) + j sin phase(n))` behind `R` when `n·w0` is within the resolution of
`w`, a short circuit otherwise — as the specification demands. -/
theorem C07_harmonic_voltage (h0 : TrigZero trig) (wt : String) (V w0 phi R : Rat)
    (hk : c.kind = "periodic_voltage_source") (hn : c.nodes = [a, b])
    (hwt : c.value.lookup "wavetype" = some (.str wt)) (hwave : wt ∈ Gen.waveTypes)
    (hV : c.value.lookup "V" = some (.num V)) (hw0 : c.value.lookup "w" = some (.num w0))
    (hphi : c.value.lookup "phi" = some (.num phi)) (hR : c.value.lookup "R" = some (.num R)) (hRpos : 0 ≤ R)
    (hpos : 0 < w0) (hw : 0 ≤ w) (hres0 : 0 ≤ wres) (hres : 2 * wres < w0) :
    let n := roundHalfEven (w / w0)
    transformComponent Gen.tables trig harm c w wres
      = some (.ok (if periodicOff w w0 wres
          then { n1 := a, n2 := b, id := c.id, ty := "short_circuit", e := .norton 0 0 }
          else { n1 := a, n2 := b, id := c.id, ty := "voltage_source",
                 e := .norton ⟨R, 0⟩ (Spec.phasor trig (harm wt V phi n).1 (harm wt V phi n).2) }))
    ∧ Spec.branchOf trig harm c w wres = some { n1 := a, n2 := b, id := c.id, e := (if periodicOff w w0 wres
          then .norton 0 0 else .norton ⟨R, 0⟩ (Spec.phasor trig (harm wt V phi n).1 (harm wt V phi n).2)) } := by
  intro n
  constructor
  · rw [transformComponent_of_entry hk (kind_at 12 rfl) tspec_periodic_voltage_source,
      TSpec.run_periodic rfl rfl hwt hwave hw0 hpos.ne' hV hphi]
    unfold periodicOff
    by_cases hoff : wres / w0 < absQ (w / w0 - (roundHalfEven (w / w0) : Rat))
    · simp only [Cmp.holds, hoff, decide_true, ↓reduceIte, EE.eval, mkBranch_two hn, bind, Except.bind, pure, Except.pure]
    · simp only [Cmp.holds, hoff, decide_false, Bool.false_eq_true, ↓reduceIte]
      obtain ⟨cs, hcs, hcons⟩ := construct_ac_source (.inl rfl)
      rw [periodicActive_two hcs tspec_ac_voltage_source ⟨rfl, rfl⟩ hn]
      simp only [List.mapM_cons, List.mapM_nil, HArg.eval, float_of_lookup hR, bind, Except.bind, pure, Except.pure]
      rw [hcons _ _ _ _ _ _ hRpos hw]
      -- the inner translator on the single-frequency source is `C07_faithful_ac_voltage_source` at `w_s = w`
      have hin := (C07_faithful_ac_voltage_source trig harm
        ⟨"ac_voltage_source", c.id, [a, b], [("V", .num (harm wt V phi n).1), ("R", .num R), ("w", .num w),
          ("phi", .num (harm wt V phi n).2)]⟩ w wres a b h0 _ R w _ rfl rfl rfl rfl rfl rfl).1
      rw [transformComponent_of_entry (k := "ac_voltage_source") rfl (kind_at 7 rfl) tspec_ac_voltage_source,
        if_pos ((dist_self w).trans_le hres0)] at hin
      exact hin
  · simp only [Spec.branchOf, hn, Spec.elemOf, hk, String.reduceEq, ↓reduceIte, or_self, str?_of_lookup hwt, num?_of_lookup hV,
      num?_of_lookup hw0, num?_of_lookup hphi, num?_of_lookup hR, Option.bind_eq_bind, Option.bind_some, if_pos hpos,
      C07_harmonic_index w w0 wres hpos hres]
    by_cases hoff : periodicOff w w0 wres
    · simp only [if_pos hoff]; rfl
    · simp only [if_neg hoff]; rfl

/-- **C07 (harmonic), current**: the `n`-th harmonic beside `G ≥ 0`, an open circuit otherwise. -/
theorem C07_harmonic_current (h0 : TrigZero trig) (wt : String) (I w0 phi G : Rat)
    (hk : c.kind = "periodic_current_source") (hn : c.nodes = [a, b])
    (hwt : c.value.lookup "wavetype" = some (.str wt)) (hwave : wt ∈ Gen.waveTypes)
    (hI : c.value.lookup "I" = some (.num I)) (hw0 : c.value.lookup "w" = some (.num w0))
    (hphi : c.value.lookup "phi" = some (.num phi)) (hG : c.value.lookup "G" = some (.num G)) (hGpos : 0 ≤ G)
    (hpos : 0 < w0) (hw : 0 ≤ w) (hres0 : 0 ≤ wres) (hres : 2 * wres < w0) :
    let n := roundHalfEven (w / w0)
    transformComponent Gen.tables trig harm c w wres
      = some (.ok (if periodicOff w w0 wres
          then { n1 := a, n2 := b, id := c.id, ty := "open_circuit", e := .thevenin 0 0 }
          else { n1 := a, n2 := b, id := c.id, ty := "current_source",
                 e := .thevenin ⟨G, 0⟩ (Spec.phasor trig (harm wt I phi n).1 (harm wt I phi n).2) }))
    ∧ Spec.branchOf trig harm c w wres = some { n1 := a, n2 := b, id := c.id, e := (if periodicOff w w0 wres
          then .thevenin 0 0 else .thevenin ⟨G, 0⟩ (Spec.phasor trig (harm wt I phi n).1 (harm wt I phi n).2)) } := by
  intro n
  constructor
  · rw [transformComponent_of_entry hk (kind_at 13 rfl) tspec_periodic_current_source,
      TSpec.run_periodic rfl rfl hwt hwave hw0 hpos.ne' hI hphi]
    unfold periodicOff
    by_cases hoff : wres / w0 < absQ (w / w0 - (roundHalfEven (w / w0) : Rat))
    · simp only [Cmp.holds, hoff, decide_true, ↓reduceIte, EE.eval, mkBranch_two hn, bind, Except.bind, pure, Except.pure]
    · simp only [Cmp.holds, hoff, decide_false, Bool.false_eq_true, ↓reduceIte]
      obtain ⟨cs, hcs, hcons⟩ := construct_ac_source (.inr rfl)
      rw [periodicActive_two hcs tspec_ac_current_source ⟨rfl, rfl⟩ hn]
      simp only [List.mapM_cons, List.mapM_nil, HArg.eval, float_of_lookup hG, bind, Except.bind, pure, Except.pure]
      rw [hcons _ _ _ _ _ _ hGpos hw]
      -- the inner translator on the single-frequency source is `C07_faithful_ac_current_source` at `w_s = w`
      have hin := (C07_faithful_ac_current_source trig harm
        ⟨"ac_current_source", c.id, [a, b], [("I", .num (harm wt I phi n).1), ("G", .num G), ("w", .num w),
          ("phi", .num (harm wt I phi n).2)]⟩ w wres a b h0 _ G w _ rfl rfl rfl rfl rfl rfl).1
      rw [transformComponent_of_entry (k := "ac_current_source") rfl (kind_at 10 rfl) tspec_ac_current_source,
        if_pos ((dist_self w).trans_le hres0)] at hin
      exact hin
  · simp only [Spec.branchOf, hn, Spec.elemOf, hk, String.reduceEq, ↓reduceIte, or_self, str?_of_lookup hwt, num?_of_lookup hI,
      num?_of_lookup hw0, num?_of_lookup hphi, num?_of_lookup hG, Option.bind_eq_bind, Option.bind_some, if_pos hpos,
      C07_harmonic_index w w0 wres hpos hres]
    by_cases hoff : periodicOff w w0 wres
    · simp only [if_pos hoff]; rfl
    · simp only [if_neg hoff]; rfl


/-- the kinds whose branch does not depend on a waveform (everything the component module can
construct except `ground` and the two periodic sources) -/
def exactKinds : List String :=
  ["resistor", "conductance", "impedance", "admittance", "capacitor", "inductance", "lamp", "resistive_load",
   "short_circuit", "dc_voltage_source", "ac_voltage_source", "complex_voltage_source", "dc_current_source",
   "ac_current_source", "complex_current_source"]

def periodicKinds : List String := ["periodic_voltage_source", "periodic_current_source"]

/-- a DC source as its constructor writes it: the stored frequency is 0 -/
def Component.dcOK (c : Component) : Prop :=
  (c.kind = "dc_voltage_source" ∨ c.kind = "dc_current_source") → c.value.lookup "w" = some (.num 0)

/-- admissible analysis of a periodic source — a **restriction** of "every frequency and
resolution" that `C07_harmonic` / `C07_faithful` need (see the docstring of `C07_faithful`): what
the constructor and a resolution that separates the harmonics guarantee: known wavetype, non-negative internal R / G, `w ≥ 0`, `0 ≤ w_res < w0/2` -/
def Component.periodicOK (c : Component) (w wres : Rat) : Prop :=
  c.kind ∈ periodicKinds →
    0 ≤ w ∧ 0 ≤ wres ∧ (∀ w0, Spec.num? c "w" = some w0 → 2 * wres < w0) ∧
    (∀ wt, Spec.str? c "wavetype" = some wt → wt ∈ Gen.waveTypes) ∧
    (∀ r, Spec.num? c "R" = some r → 0 ≤ r) ∧ (∀ g, Spec.num? c "G" = some g → 0 ≤ g)

/-- **C07 (faithful, kinds without waveform).**  For every kind in `exactKinds`: whenever the
specification defines the intended branch of a component, the generated translator produces
exactly it (same terminals, identifier and record), at every frequency and every resolution
(no sign or size condition on `w`, `w_res` for these kinds). -/
theorem C07_faithful_nonperiodic (trig : Trig) (harm : Harm) (h0 : TrigZero trig) (c : Component) (w wres : Rat)
    (sb : Branch String GQ) (hk : c.kind ∈ exactKinds) (hdc : c.dcOK)
    (hs : Spec.branchOf trig harm c w wres = some sb) :
    ∃ br, transformComponent Gen.tables trig harm c w wres = some (.ok br) ∧ Spec.erase br = sb := by
  simp only [exactKinds, List.mem_cons, List.mem_nil_iff, or_false] at hk
  rcases hk with hk | hk | hk | hk | hk | hk | hk | hk | hk | hk | hk | hk | hk | hk | hk
  · exact faithful_resistor.of_spec hk trivial hs
  · exact faithful_conductance.of_spec hk trivial hs
  · exact faithful_impedance.of_spec hk trivial hs
  · exact faithful_admittance.of_spec hk trivial hs
  · exact faithful_capacitor.of_spec hk trivial hs
  · exact faithful_inductance.of_spec hk trivial hs
  · exact faithful_lamp.of_spec hk trivial hs
  · exact faithful_resistive_load.of_spec hk trivial hs
  · exact faithful_short_circuit.of_spec hk trivial hs
  · exact faithful_dc_voltage_source.of_spec hk ⟨h0, hdc (.inl hk)⟩ hs
  · exact faithful_ac_voltage_source.of_spec hk h0 hs
  · exact faithful_complex_voltage_source.of_spec hk trivial hs
  · exact faithful_dc_current_source.of_spec hk ⟨h0, hdc (.inr hk)⟩ hs
  · exact faithful_ac_current_source.of_spec hk h0 hs
  · exact faithful_complex_current_source.of_spec hk trivial hs

/-- the harmonic statement: a periodic source under an admissible analysis is translated to the
branch the specification intends -/
def C07_harmonic_statement : Prop :=
  ∀ (trig : Trig) (harm : Harm) (c : Component) (w wres : Rat) (sb : Branch String GQ),
    TrigZero trig → c.kind ∈ periodicKinds → c.periodicOK w wres →
    Spec.branchOf trig harm c w wres = some sb →
    ∃ br, transformComponent Gen.tables trig harm c w wres = some (.ok br) ∧ Spec.erase br = sb

theorem C07_harmonic : C07_harmonic_statement := by
  intro trig harm c w wres sb h0 hk hok hs
  obtain ⟨hw, hres0, hres, hwave, hRpos, hGpos⟩ := hok hk
  obtain ⟨a, b, e, hn, he, rfl⟩ := Spec.branchOf_inv hs
  have hsb : Spec.branchOf trig harm c w wres = some { n1 := a, n2 := b, id := c.id, e := e } :=
    Spec.branchOf_of_elemOf hn he
  simp only [periodicKinds, List.mem_cons, List.mem_nil_iff, or_false] at hk
  -- the Spec entry is defined, so the five keys are there and the fundamental is positive;
  -- `C07_harmonic_voltage` / `_current` give both the translator's branch and the Spec's
  rcases hk with hk | hk
  · simp only [Spec.elemOf, hk, String.reduceEq, ↓reduceIte, or_self] at he
    obtain ⟨wt, hwt, he⟩ := str?_bind_eq_some he
    obtain ⟨V, hV, he⟩ := num?_bind_eq_some he
    obtain ⟨w0, hw0, he⟩ := num?_bind_eq_some he
    obtain ⟨phi, hphi, he⟩ := num?_bind_eq_some he
    obtain ⟨R, hR, he⟩ := num?_bind_eq_some he
    by_cases hpos : 0 < w0
    · obtain ⟨h1, h2⟩ := C07_harmonic_voltage trig harm c w wres a b h0 wt V w0 phi R hk hn hwt
        (hwave wt (str?_of_lookup hwt)) hV hw0 hphi hR
        (hRpos R (num?_of_lookup hR)) hpos hw hres0 (hres w0 (num?_of_lookup hw0))
      refine ⟨_, h1, ?_⟩
      rw [Option.some.inj (hsb.symm.trans h2)]
      split <;> rfl
    · rw [if_neg hpos] at he; cases he
  · simp only [Spec.elemOf, hk, String.reduceEq, ↓reduceIte, or_self] at he
    obtain ⟨wt, hwt, he⟩ := str?_bind_eq_some he
    obtain ⟨I, hI, he⟩ := num?_bind_eq_some he
    obtain ⟨w0, hw0, he⟩ := num?_bind_eq_some he
    obtain ⟨phi, hphi, he⟩ := num?_bind_eq_some he
    obtain ⟨G, hG, he⟩ := num?_bind_eq_some he
    by_cases hpos : 0 < w0
    · obtain ⟨h1, h2⟩ := C07_harmonic_current trig harm c w wres a b h0 wt I w0 phi G hk hn hwt
        (hwave wt (str?_of_lookup hwt)) hI hw0 hphi hG
        (hGpos G (num?_of_lookup hG)) hpos hw hres0 (hres w0 (num?_of_lookup hw0))
      refine ⟨_, h1, ?_⟩
      rw [Option.some.inj (hsb.symm.trans h2)]
      split <;> rfl
    · rw [if_neg hpos] at he; cases he

/-- whenever the specification defines the intended branch of a component (DC sources as their
constructor writes them, periodic sources under an admissible analysis), the conversion
produces it -/
def C07_faithful_statement : Prop :=
  ∀ (trig : Trig) (harm : Harm) (c : Component) (w wres : Rat) (sb : Branch String GQ),
    TrigZero trig → c.dcOK → c.periodicOK w wres → Spec.branchOf trig harm c w wres = some sb →
    ∃ br, transformComponent Gen.tables trig harm c w wres = some (.ok br) ∧ Spec.erase br = sb

theorem branchOf_kind {trig : Trig} {harm : Harm} {c : Component} {w wres : Rat} {sb : Branch String GQ}
    (h : Spec.branchOf trig harm c w wres = some sb) : c.kind ∈ exactKinds ∨ c.kind ∈ periodicKinds := by
  obtain ⟨a, b, e, _, he, _⟩ := Spec.branchOf_inv h
  by_contra hk
  simp only [exactKinds, periodicKinds, List.mem_cons, List.mem_nil_iff, or_false, not_or] at hk
  simp only [Spec.elemOf, hk, ↓reduceIte, or_self, reduceCtorEq] at he

/-- the specification covers every kind the component module can construct: the hypothesis
`Spec.branchOf … = some sb` of the faithfulness theorems cannot fail for want of a Spec entry of
the *kind* (it can for want of the values the kind needs, e.g. a hand-built component without
its keys) -/
theorem C07_spec_covers_kinds :
    ∀ s ∈ ctorSpecs, s.kind ≠ "ground" → s.kind ∈ exactKinds ++ periodicKinds := by decide +kernel

/-- **C07 (faithful).**  Every component kind and every value the Spec gives a branch for
(`C07_spec_covers_kinds`); for the non-periodic kinds every frequency and resolution; for the
two periodic kinds under `periodicOK`: analysis frequency `w ≥ 0` and resolution
`0 ≤ w_res < w0/2`.  Outside that domain model and Spec differ, and neither is "wrong": for
`w < 0` the code raises `ValueError` (the inner `ac_*_source(w=w)` constructor) while the Spec
names the mirrored harmonic — the property quantifies over `w ≥ 0` only; for `w_res ≥ w0/2`
two harmonics lie within the resolution, the code takes the nearest (`np.round`), the Spec's
`harmonicIndex?` the lower one — the Spec's tie-break is arbitrary there (e.g. `w0 = 2`,
`w_res = 3/2`, `w = 31/10`: model harmonic 2, Spec harmonic 1); a resolution that does not
separate the harmonics is outside the property's premise. -/
theorem C07_faithful : C07_faithful_statement := by
  intro trig harm c w wres sb h0 hdc hper hs
  rcases branchOf_kind hs with hk | hk
  · exact C07_faithful_nonperiodic trig harm h0 c w wres sb hk hdc hs
  · exact C07_harmonic trig harm c w wres sb h0 hk hper hs

theorem head?_of_node {c : Component} {n : String} (h : c.node 0 = .ok n) : c.nodes.head? = some n := by
  have := node_ok h
  cases hc : c.nodes with
  | nil => simp [hc] at this
  | cons x l => simpa [hc] using this

/-- **C07 (ground).**  The reference node of an accepted circuit is the ground component's
node, else the first terminal of the first component. -/
theorem C07_ground (cs : List Component) (C : Circuit) (hne : cs ≠ []) (h : Circuit.mk? cs = .ok C) :
    some C.ground = Spec.groundOf cs ∧ C.components = cs := by
  unfold Circuit.mk? at h
  cases cs with
  | nil => exact absurd rfl hne
  | cons c0 rest =>
    simp only at h
    obtain ⟨gs, hgs, h⟩ := bind_eq_ok.mp h
    split at h
    · cases h
    · obtain ⟨g, hg, h⟩ := bind_eq_ok.mp h
      split at h
      · cases h
      · simp only [Except.ok.injEq] at h
        subst h
        refine ⟨?_, rfl⟩
        have hf := mapM_eq_ok.1 hgs
        unfold Spec.groundOf
        cases hfil : (c0 :: rest).filter (fun c => decide (c.kind = "ground")) with
        | nil =>
          rw [hfil] at hf
          cases hf
          simp only [pickGround] at hg
          simp [head?_of_node hg]
        | cons g0 tl =>
          rw [hfil] at hf
          cases hf with
          | cons hg0 _ =>
            simp only [pickGround, Except.ok.injEq] at hg
            subst hg
            simp [head?_of_node hg0]

/-- **C07 (limits, w = 0).**  At `w = 0` an inductor's record `Z = j·0·L` is a short circuit
and a capacitor's record `Y = j·0·C` is an open circuit, for the very predicates the solver
uses (`is_short_circuit`, `is_open_circuit`). -/
theorem C07_limits_dc (L C : Rat) :
    (Elem.norton (⟨0, 0 * L⟩ : GQ) 0).isShort = true ∧ (Elem.thevenin (⟨0, 0 * C⟩ : GQ) 0).isOpen = true := by
  simp [Elem.isShort, Elem.isOpen, GQ.zero_def]

/-- **C07 (limits, R = 0).**  A resistor of zero ohms is a short circuit for the solver. -/
theorem C07_limits_zero_resistance :
    (Elem.norton (⟨0, 0⟩ : GQ) 0).isShort = true ∧ (Elem.norton (⟨0, 0⟩ : GQ) 0).isIdealVS = true := by
  simp [Elem.isShort, Elem.isIdealVS, GQ.zero_def]


/-- **C07 (limits, open switch is electrically open).**  The open-switch record takes part in
no admittance sum (`Yfin = 0`), is no voltage source (ideal or not) and no current source with a
value (`is_current_source` false, so it has no column in the right-hand side), and is what the
solver calls an ideal current source of value 0 — an open circuit. -/
theorem C07_open_switch_record :
    (Elem.thevenin (0 : GQ) 0).Yfin = 0 ∧ (Elem.thevenin (0 : GQ) 0).Ival = 0 ∧
    (Elem.thevenin (0 : GQ) 0).isIdealVS = false ∧ (Elem.thevenin (0 : GQ) 0).isVSrc = false ∧
    (Elem.thevenin (0 : GQ) 0).isCS = false ∧ (Elem.thevenin (0 : GQ) 0).isIdealCS = true ∧
    (Elem.thevenin (0 : GQ) 0).isOpen = true ∧ (Elem.thevenin (0 : GQ) 0).isActive = false := by
  simp [Elem.Yfin, Elem.Ival, Elem.isIdealVS, Elem.isVSrc, Elem.Vval, Elem.isCS, Elem.isIdealCS, Elem.isOpen,
    Elem.isActive]

/-- **C07 (limits, an open switch in a network).**  In every network with distinct ids, a branch
carrying the open-switch record is reported with current 0 whatever the solution vector is, and
removing it changes no entry of the nodal admittance matrix: it adds 0 to every diagonal and
off-diagonal admittance sum. -/
theorem C07_open_switch_network (pre post : List (Branch String GQ)) (z : String) (b : Branch String GQ)
    (he : b.e = .thevenin 0 0) :
    (∀ x : List GQ, (pre ++ b :: post).map (·.id) |>.Nodup →
      Net.current ({ branches := pre ++ b :: post, zero := z } : Net String GQ) x b.id = .ok 0) ∧
    (∀ i j : String, Net.Yentry ({ branches := pre ++ b :: post, zero := z } : Net String GQ) i j
        = Net.Yentry ({ branches := pre ++ post, zero := z } : Net String GQ) i j) := by
  constructor
  · intro x hids
    rw [current_ok ⟨pre ++ b :: post, z⟩ x hids b (List.mem_append_right _ (List.mem_cons_self ..))]
    simp only [Net.curOf, he, Elem.isIdealVS, Elem.isIdealCS, Elem.Ival, Bool.false_eq_true, decide_true, ↓reduceIte]
  · intro i j
    have hg : b.dir i * b.dir j * b.e.Yfin = 0 := by rw [he]; exact mul_zero _
    have hv : (!b.e.isIdealVS) = true := by rw [he]; rfl
    simp only [Yentry_eq, Net.nonVS, List.filter_append, List.filter_cons, hv, if_true, List.map_append, List.map_cons,
      List.sum_append, List.sum_cons, hg, zero_add]

/-- every constructor that takes a `wavetype` (the periodic sources) guards its fundamental with
`if w <= 0: raise ValueError` (generated table) -/
theorem C07_periodic_fundamental_guarded :
    ∀ s ∈ ctorSpecs, ("wavetype", PTy.str, none) ∈ s.params →
      (⟨"w", Cmp.le, 0, "ValueError"⟩ : Guard) ∈ s.guards := by decide +kernel

/-- **C07 (an accepted periodic source has a positive fundamental).**  Whatever a periodic-source
constructor accepts was called with `w > 0` — so the component has a finite period, the
translator's division `2*np.pi/w0` is defined, and `C07_harmonic` applies to it. -/
theorem C07_periodic_fundamental_positive (s : CtorSpec) (hs : s ∈ ctorSpecs)
    (hp : ("wavetype", PTy.str, none) ∈ s.params) (id : String) (nodes : List String)
    (args env : List (String × Val)) (henv : bindParams s.params args = .ok env) (q : Rat)
    (hq : env.lookup "w" = some (.num q)) (c : Component)
    (hok : s.construct (some id) (some nodes) args = .ok c) : 0 < q := by
  by_contra hneg
  have hle : q ≤ 0 := not_lt.mp hneg
  have hg := C07_periodic_fundamental_guarded s hs hp
  have hfire : (⟨"w", Cmp.le, 0, "ValueError"⟩ : Guard).check env = .error .valueError :=
    (Guard.check_num hq).trans (if_pos (decide_eq_true hle))
  obtain ⟨e, he⟩ : ∃ e, s.guards.forM (fun g => g.check env) = .error e := forM_error_of_mem _ _ _ hg _ hfire
  rw [CtorSpec.construct_guard_error henv he] at hok
  cases hok

/-- … and with `w = 0` both constructors raise `ValueError` (model evaluation on the generated table) -/
theorem C07_zero_fundamental_rejected :
    (Gen.tables.ctor? "periodic_voltage_source").map (fun s => s.construct (some "V") (some ["1", "0"])
        [("wavetype", .str "rect"), ("V", .num 1), ("w", .num 0)]) = some (.error .valueError) ∧
    (Gen.tables.ctor? "periodic_current_source").map (fun s => s.construct (some "I") (some ["0", "1"])
        [("wavetype", .str "saw"), ("I", .num 1), ("w", .num 0), ("phi", .num 0)]) = some (.error .valueError) := by
  decide +kernel

/-! ## non-vacuity: concrete inputs that meet the hypotheses -/

section Examples

def exCs : List Component :=
  [⟨"ground", "gnd", ["0"], []⟩,
   ⟨"ac_voltage_source", "V", ["1", "0"], [("V", .num 3), ("R", .num 1), ("w", .num 2), ("phi", .num 0)]⟩,
   ⟨"capacitor", "C", ["1", "0"], [("C", .num 4)]⟩]

theorem exCircuit : Circuit.mk? exCs = .ok ⟨exCs, "0"⟩ := by decide +kernel

theorem exBranches : transformBranches Gen.tables (fun _ => (1, 0)) (fun _ _ _ _ => (0, 0)) exCs 2 0
      = .ok [⟨"1", "0", "V", "voltage_source", .norton ⟨1, 0⟩ ⟨3, 0⟩⟩,
             ⟨"1", "0", "C", "admittance", .thevenin ⟨0, 8⟩ 0⟩] := by
  decide +kernel

/-- hypotheses of `C07_position_independent` / `C07_one_to_one` -/
theorem exNet : transformCircuit Gen.tables (fun _ => (1, 0)) (fun _ _ _ _ => (0, 0)) ⟨exCs, "0"⟩ 2 0
      = .ok ⟨[⟨"1", "0", "V", "voltage_source", .norton ⟨1, 0⟩ ⟨3, 0⟩⟩,
              ⟨"1", "0", "C", "admittance", .thevenin ⟨0, 8⟩ 0⟩], "0"⟩ := by
  simp [transformCircuit, exBranches, bind, Except.bind, Net.check, Net.nodeLabels, sortL, dedupL, Net.ids,
    pure, Except.pure]

example : (⟨[⟨"1", "0", "V", "voltage_source", .norton ⟨1, 0⟩ ⟨3, 0⟩⟩,
             ⟨"1", "0", "C", "admittance", .thevenin ⟨0, 8⟩ 0⟩], "0"⟩ : Net String GQ).branches.map (·.id)
    = (translated Gen.tables exCs).map (·.id) :=
  C07_one_to_one Gen.tables C07_table_wellformed _ _ ⟨exCs, "0"⟩ 2 0 _ exNet

/-- hypotheses of `C07_ground` -/
example : some (⟨exCs, "0"⟩ : Circuit).ground = Spec.groundOf exCs :=
  (C07_ground exCs _ (by decide) exCircuit).1

/-- hypotheses of `C07_faithful_ac_voltage_source` (and of the other per-kind theorems: a
component carrying the keys its constructor writes) -/
example := C07_faithful_ac_voltage_source (fun _ => (1, 0)) (fun _ _ _ _ => (0, 0))
  ⟨"ac_voltage_source", "V", ["1", "0"], [("V", .num 3), ("R", .num 1), ("w", .num 2), ("phi", .num 0)]⟩
  2 0 "1" "0" rfl 3 1 2 0 rfl rfl rfl rfl rfl rfl

/-- hypotheses of `C07_harmonic_voltage`: `rect`, `w0 = 2`, internal `R = 5`, analysed at `w = 6`
with `w_res = 1/1024` -/
example := C07_harmonic_voltage (fun _ => (1, 0)) (fun _ _ _ _ => (1, 0))
  ⟨"periodic_voltage_source", "V", ["1", "0"],
    [("wavetype", .str "rect"), ("V", .num 1), ("w", .num 2), ("phi", .num 0), ("R", .num 5)]⟩
  6 (1 / 1024) "1" "0" rfl "rect" 1 2 0 5 rfl rfl rfl (by decide) rfl rfl rfl rfl (by decide +kernel)
  (by decide +kernel) (by decide +kernel) (by decide +kernel) (by decide +kernel)

/-- a conductance between a current source and a resistor keeps its branch -/
example : (do let bs ← transformBranches Gen.tables (fun _ => (1, 0)) (fun _ _ _ _ => (0, 0))
                [⟨"ground", "gnd", ["0"], []⟩,
                 ⟨"dc_current_source", "I", ["0", "1"], [("I", .num 1), ("G", .num 0), ("w", .num 0), ("phi", .num 0)]⟩,
                 ⟨"conductance", "G", ["1", "0"], [("G", .num 2)]⟩,
                 ⟨"resistor", "R", ["1", "0"], [("R", .num 1)]⟩] 0 Gen.defaultWRes
              pure (bs.map (·.id))) = Except.ok ["I", "G", "R"] := by decide +kernel

/-- hypotheses of `C07_harmonic_sound` / `C07_harmonic_complete`: the third harmonic of `w0 = 2` -/
example : ¬ periodicOff 6 2 (1 / 1024) := by decide +kernel
example : Spec.dist 6 ((3 : Int) * 2) ≤ 1 / 1024 := by decide +kernel

end Examples

end CC
