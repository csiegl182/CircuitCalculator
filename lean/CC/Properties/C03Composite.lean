/-
  Property C03 — the four transformations applied TOGETHER.

  CC/Properties/C03.lean proves the invariance of the circuit equations under each transformation separately
  (`C03_perm`, `C03_rename`, `C03_reverse`, `C03_reref`), CC/Properties/C03State.lean the transfer / sample level
  (`C03_transfer_*`, `C03_sample_*`), each with its own well-posedness hypothesis about its own target network.
  The property quantifies over all four at once.  Here the transformed description is

      N  ──switch_ground_node(g)──▶  N₁  ──reverse the branches f──▶  N₁.flip f  ──permute──▶  N₃  ──rename σ, τ──▶  N₃.rename σ τ

  (`N₃` is ANY network with the reference of `N₁` whose branch list is a permutation of that of `N₁.flip f`), and
  one theorem per level (circuit equations, reported values, state-space transfer, transient sample) relates a report
  `R'` of the transformed description to a report `R` of the original:

      R'.pot (σ n)   = R.pot n − R.pot g              (shift by the potential of the new reference)
      R'.v (τ id)    = ± R.v id,   R'.i (τ id) = ± R.i id      (− exactly for the reversed branches)

  under ONE well-posedness hypothesis, about the original network: uniqueness is used there, so well-posedness of the
  transformed network is not needed.

  `C03_transfer_composite` / `C03_sample_composite` have no example of their own: their hypotheses are `StateModelOK`,
  `SameValues`, `SameInput`, `SameState` and one well-posedness hypothesis, instantiated (for the reversal) in `C03ex` of
  C03State.lean, plus the three structural hypotheses instantiated in `C03cx` below.  Trajectories under the integrator
  (`lsim`) are not compared: the statements are per sample, as in C03State.lean.
-/
import CC.Properties.C03State
set_option linter.unusedSectionVars false

namespace CC
open Matrix Mx

section spec
variable {L L' K : Type} [DecidableEq L] [LabelOrd L] [DecidableEq L'] [LabelOrd L'] [Field K] [DecidableEq K]

/-- the report of the transformed description read BACK to the original: through `σ`, `τ`, the sign flips, and a
shift of the potentials to the original reference `z` -/
def Report.readBack (σ : L → L') (τ : String → String) (f : String → Bool) (z : L) (R' : Report L' K) :
    Report L K :=
  ((R'.comap σ τ).flip f).shift (((R'.comap σ τ).flip f).pot z)

theorem composite_forward (N N₁ N₃ : Net L K) (g : L) (f : String → Bool)
    (hbr : N₁.branches = N.branches) (hg : N₁.zero = g)
    (hz : N₃.zero = N₁.zero) (hp : (N₁.flip f).branches.Perm N₃.branches)
    (σ : L → L') (hσ : Function.Injective σ) (τ : String → String)
    (R : Report L K) (h : CircuitEqs N R) (R' : Report L' K)
    (hR' : R'.comap σ τ = (R.shift (R.pot g)).flip f) :
    CircuitEqs (N₃.rename σ τ) R' := by
  have h1 : CircuitEqs N₁ (R.shift (R.pot g)) := by
    have := h.reref hbr
    rwa [hg] at this
  have h2 := C03_reverse f N₁ _ h1
  have h3 := (C03_perm (N₁.flip f) N₃ hz.symm hp _).mp h2
  rw [C03_rename σ hσ τ N₃ R', hR']
  exact h3

theorem composite_back (N N₁ N₃ : Net L K) (f : String → Bool)
    (hbr : N₁.branches = N.branches)
    (hz : N₃.zero = N₁.zero) (hp : (N₁.flip f).branches.Perm N₃.branches)
    (σ : L → L') (hσ : Function.Injective σ) (τ : String → String)
    (R' : Report L' K) (h' : CircuitEqs (N₃.rename σ τ) R') :
    CircuitEqs N (R'.readBack σ τ f N.zero) := by
  have h3 : CircuitEqs N₃ (R'.comap σ τ) := (C03_rename σ hσ τ N₃ R').mp h'
  have h2 : CircuitEqs (N₁.flip f) (R'.comap σ τ) := (C03_perm (N₁.flip f) N₃ hz.symm hp _).mpr h3
  have h1 := C03_reverse f _ _ h2
  rw [Net.flip_flip] at h1
  exact h1.reref hbr.symm

theorem readBack_forward (M : Net L K) (g : L) (f : String → Bool) (σ : L → L') (τ : String → String)
    (R : Report L K) (R' : Report L' K) (hz' : R'.pot (σ g) = 0)
    (ha : R.AgreeOn M (R'.readBack σ τ f M.zero)) :
    (g ∈ M.allLabels → ∀ n ∈ M.allLabels, R'.pot (σ n) = R.pot n - R.pot g) ∧
    (∀ b ∈ M.branches, R'.v (τ b.id) = if f b.id then - R.v b.id else R.v b.id) ∧
    (∀ b ∈ M.branches, R'.i (τ b.id) = if f b.id then - R.i b.id else R.i b.id) := by
  obtain ⟨ap, ab⟩ := ha
  have key : ∀ (c : Bool) (a a' : K), a = (if c then -a' else a') → a' = if c then -a else a := by
    intro c a a' h
    cases c
    · exact h.symm
    · rw [h, if_pos rfl, if_pos rfl, neg_neg]
  refine ⟨fun hg n hn => ?_, fun b hb => key _ _ _ (ab b hb).1, fun b hb => key _ _ _ (ab b hb).2⟩
  have e1 := ap n hn
  have e2 := ap g hg
  simp only [Report.readBack, Report.shift, Report.flip, Report.comap] at e1 e2
  rw [hz'] at e2
  rw [e1, e2]; ring

/-- the relation between ANY solution of `N` and ANY solution of the transformed network, from uniqueness at `N` -/
theorem composite_unique (N N₁ N₃ : Net L K) (g : L) (f : String → Bool)
    (hbr : N₁.branches = N.branches) (hg : N₁.zero = g)
    (hz : N₃.zero = N₁.zero) (hp : (N₁.flip f).branches.Perm N₃.branches)
    (σ : L → L') (hσ : Function.Injective σ) (τ : String → String)
    (hids : N.ids.Nodup) (hw : WellPosed N) (R : Report L K) (R' : Report L' K)
    (h : CircuitEqs N R) (h' : CircuitEqs (N₃.rename σ τ) R') :
    R.AgreeOn N (R'.readBack σ τ f N.zero) ∧
    (g ∈ N.allLabels → ∀ n ∈ N.allLabels, R'.pot (σ n) = R.pot n - R.pot g) ∧
    (∀ b ∈ N.branches, R'.v (τ b.id) = if f b.id then - R.v b.id else R.v b.id) ∧
    (∀ b ∈ N.branches, R'.i (τ b.id) = if f b.id then - R.i b.id else R.i b.id) := by
  have ha : R.AgreeOn N (R'.readBack σ τ f N.zero) :=
    C01_unique N hids hw _ _ h (composite_back N N₁ N₃ f hbr hz hp σ hσ τ R' h')
  have hz' : R'.pot (σ g) = 0 := by
    have := h'.ref_zero
    rwa [show (N₃.rename σ τ).zero = σ g from by show σ N₃.zero = σ g; rw [hz, hg]] at this
  exact ⟨ha, readBack_forward N g f σ τ R R' hz' ha⟩

/-- **C03 (all four transformations together, circuit equations).**  `N₁` is what `switch_ground_node(N, g)`
returns, `N₃` any network with the reference of `N₁` whose branch list is a permutation of `N₁` with the branches
selected by `f` reversed (terminals swapped, source value negated), `σ` an injective renaming of node labels, `τ`
any renaming of identifiers; the transformed description is `N₃.rename σ τ`.
* forward: if `R` solves `N`, every report `R'` that reads through `σ`, `τ` as `R` shifted by `R.pot g` and negated
  on the reversed branches solves the transformed network;
* backward: if `R'` solves the transformed network, `R'` read back (`Report.readBack`) solves `N`;
* relation: if `N` has distinct identifiers and is well-posed — the ONLY well-posedness hypothesis, about the
  original — then for ANY solutions `R` of `N` and `R'` of the transformed network: `R` agrees on `N` with `R'` read
  back; read forward: every branch voltage and current of the transformed network is that of the original up to `τ`,
  negated exactly on the reversed branches, and (when `g` is a label of `N`) every potential is the original
  potential minus the original potential of the new reference `g`.
Nothing about floating point; the link model ↔ code is C01 / C16. -/
theorem C03_composite (N N₁ N₃ : Net L K) (g : L) (f : String → Bool)
    (hr : switchGround N g = .ok N₁)
    (hz : N₃.zero = N₁.zero) (hp : (N₁.flip f).branches.Perm N₃.branches)
    (σ : L → L') (hσ : Function.Injective σ) (τ : String → String) :
    (∀ (R : Report L K) (R' : Report L' K), CircuitEqs N R →
        R'.comap σ τ = (R.shift (R.pot g)).flip f → CircuitEqs (N₃.rename σ τ) R') ∧
    (∀ R' : Report L' K, CircuitEqs (N₃.rename σ τ) R' → CircuitEqs N (R'.readBack σ τ f N.zero)) ∧
    (N.ids.Nodup → WellPosed N → ∀ (R : Report L K) (R' : Report L' K),
        CircuitEqs N R → CircuitEqs (N₃.rename σ τ) R' →
        R.AgreeOn N (R'.readBack σ τ f N.zero) ∧
        (g ∈ N.allLabels → ∀ n ∈ N.allLabels, R'.pot (σ n) = R.pot n - R.pot g) ∧
        (∀ b ∈ N.branches, R'.v (τ b.id) = if f b.id then - R.v b.id else R.v b.id) ∧
        (∀ b ∈ N.branches, R'.i (τ b.id) = if f b.id then - R.i b.id else R.i b.id)) := by
  have hN₁ : N₁ = ⟨N.branches, g⟩ := mk?_ok hr
  have hbr : N₁.branches = N.branches := by rw [hN₁]
  have hg : N₁.zero = g := by rw [hN₁]
  exact ⟨fun R R' h hR' => composite_forward N N₁ N₃ g f hbr hg hz hp σ hσ τ R h R' hR',
    fun R' h' => composite_back N N₁ N₃ f hbr hz hp σ hσ τ R' h',
    fun hids hw R R' h h' => composite_unique N N₁ N₃ g f hbr hg hz hp σ hσ τ hids hw R R' h h'⟩

/-- **C03 (all four transformations together, reported values).**  `N` valid and well-posed (the only
well-posedness hypothesis), the transformed description `N₃.rename σ τ` valid.  Whatever vectors `x`, `x'` satisfy
the two matrix equations the code builds: the potentials, voltages and currents the accessors report for the
transformed description are those reported for the original, read through `σ`, `τ`, negated on the reversed
branches, potentials shifted by the reported potential of the new reference. -/
theorem C03_reported_composite (N N₁ N₃ : Net L K) (g : L) (f : String → Bool)
    (hr : switchGround N g = .ok N₁)
    (hz : N₃.zero = N₁.zero) (hp : (N₁.flip f).branches.Perm N₃.branches)
    (σ : L → L') (hσ : Function.Injective σ) (τ : String → String)
    (wf : N.WF) (hw : WellPosed N) (wf' : (N₃.rename σ τ).WF) (x x' : List K)
    (hx : x.length = N.nodes.length + N.vsIds.length)
    (hx' : x'.length = (N₃.rename σ τ).nodes.length + (N₃.rename σ τ).vsIds.length)
    (h : matVec N.mnaA x = N.mnaB) (h' : matVec (N₃.rename σ τ).mnaA x' = (N₃.rename σ τ).mnaB) :
    let R := N.reportOf x
    let R' := (N₃.rename σ τ).reportOf x'
    R.AgreeOn N (R'.readBack σ τ f N.zero) ∧
    (g ∈ N.allLabels → ∀ n ∈ N.allLabels, R'.pot (σ n) = R.pot n - R.pot g) ∧
    (∀ b ∈ N.branches, R'.v (τ b.id) = if f b.id then - R.v b.id else R.v b.id) ∧
    (∀ b ∈ N.branches, R'.i (τ b.id) = if f b.id then - R.i b.id else R.i b.id) :=
  (C03_composite N N₁ N₃ g f hr hz hp σ hσ τ).2.2 wf.ids_nodup hw _ _
    (C01_sound N x wf hx h).2.2 (C01_sound (N₃.rename σ τ) x' wf' hx' h').2.2

/-- **C03 for substituted networks, all four transformations together**: beside `subst_perm`, `subst_reref`,
`subst_reverse`, `subst_rename` (CC/Proofs/StateInvariance.lean).  The element substitutions `ge`, `ge'` commute with the
composite transformation (`hrel`); then any solution of `N.mapElems ge` and any solution of the transformed, substituted
network are related as in `C03_composite`. -/
theorem subst_composite {N N₁ N₃ : Net L K} (g : L) (f : String → Bool) (σ : L → L') (hσ : Function.Injective σ)
    (τ : String → String) (hr : switchGround N g = .ok N₁)
    (hz : N₃.zero = N₁.zero) (hp : (N₁.flip f).branches.Perm N₃.branches)
    {ge : Branch L K → Elem K} {ge' : Branch L' K → Elem K}
    (hrel : ∀ b ∈ N.branches, ge' ((b.flip f).rename σ τ) = Elem.rev (f b.id) (ge b))
    (hids : N.ids.Nodup) (hw : WellPosed (N.mapElems ge)) (R : Report L K) (R' : Report L' K)
    (h : CircuitEqs (N.mapElems ge) R) (h' : CircuitEqs ((N₃.rename σ τ).mapElems ge') R') :
    R.AgreeOn (N.mapElems ge) (R'.readBack σ τ f N.zero) ∧
    (g ∈ (N.mapElems ge).allLabels → ∀ n ∈ (N.mapElems ge).allLabels, R'.pot (σ n) = R.pot n - R.pot g) ∧
    (∀ b ∈ (N.mapElems ge).branches, R'.v (τ b.id) = if f b.id then - R.v b.id else R.v b.id) ∧
    (∀ b ∈ (N.mapElems ge).branches, R'.i (τ b.id) = if f b.id then - R.i b.id else R.i b.id) := by
  have hN₁ : N₁ = ⟨N.branches, g⟩ := mk?_ok hr
  have hbr : N₁.branches = N.branches := by rw [hN₁]
  have hg : N₁.zero = g := by rw [hN₁]
  -- the substituted `N₁` and `N₃`: the substitution moves inside the reversal, the permutation and the renaming
  have e1 : (N₁.flip f).mapElems (fun b => ge' (b.rename σ τ)) = (N₁.mapElems ge).flip f :=
    mapElems_flip f N₁ ge _ fun b hb => hrel b (hbr ▸ hb)
  have p3 : ((N₁.mapElems ge).flip f).branches.Perm (N₃.mapElems fun b => ge' (b.rename σ τ)).branches :=
    e1 ▸ mapElems_perm (N₁.flip f) N₃ _ _ hp fun _ _ => rfl
  have e3 : (N₃.rename σ τ).mapElems ge' = (N₃.mapElems fun b => ge' (b.rename σ τ)).rename σ τ :=
    mapElems_rename σ τ N₃ _ ge' fun _ _ => rfl
  exact composite_unique (N.mapElems ge) (N₁.mapElems ge) (N₃.mapElems fun b => ge' (b.rename σ τ)) g f
    (mapElems_branches_congr N N₁ ge ge hbr fun _ _ => rfl) hg hz p3 σ hσ τ
    (mapElems_ids_nodup _ hids) hw R R' h (e3 ▸ h')

end spec

section state
variable {L L' K : Type} [DecidableEq L] [LabelOrd L] [DecidableEq L'] [LabelOrd L'] [Field K] [DecidableEq K]
variable {N N₁ N₃ : Net L K} {cv lv cv' lv' : ValDict K} {Ainv S Delta Ainv' S' Delta' : List (List K)} {m m' : SSMats K}

/-- **C03 (state-space transfer, all four transformations together).**  Two settings (`StateModelOK`): the `w = 0`
network `N` of an RLC + ideal-source circuit and the transformed description `N₃.rename σ τ` (re-referenced at `g`,
branches `f` reversed, branch list permuted, nodes renamed by the injective `σ`, identifiers by `τ`), each with the
matrices `stateSpaceMatrices` returns for valid certificates; the dictionaries give the same C / L to the same
renamed element (`SameValues τ`), the inputs the same amplitude to the same renamed source, negated for a reversed
source (`SameInput τ f`).  For every `s`, `x = (s − A)⁻¹B u`, `x' = (s − A')⁻¹B' u'`: if the phasor network of the
ORIGINAL setting at `s` is well-posed (the only well-posedness hypothesis), the response of the original model
agrees with the response of the transformed model read back; read forward: voltages and currents equal up to `τ`
and the sign of the reversed elements, potentials shifted by the original potential of the new reference. -/
theorem C03_transfer_composite (g : L) (f : String → Bool) (σ : L → L') (hσ : Function.Injective σ)
    (τ : String → String)
    (hr : switchGround N g = .ok N₁)
    (hz : N₃.zero = N₁.zero) (hp : (N₁.flip f).branches.Perm N₃.branches)
    (ok : StateModelOK N cv lv Ainv S Delta m)
    (ok' : StateModelOK (N₃.rename σ τ) cv' lv' Ainv' S' Delta' m')
    (hv : SameValues τ N cv lv cv' lv')
    (s : K) (x : Fin (ssNStates N cv lv) → K) (u : Fin (ssNInputs N lv) → K)
    (x' : Fin (ssNStates (N₃.rename σ τ) cv' lv') → K) (u' : Fin (ssNInputs (N₃.rename σ τ) lv') → K)
    (hu : SameInput τ f N (ssSources N lv) (List.ofFn u) (ssSources (N₃.rename σ τ) lv') (List.ofFn u'))
    (hx : s • x = toM _ _ m.A *ᵥ x + toM _ _ m.B *ᵥ u)
    (hx' : s • x' = toM _ _ m'.A *ᵥ x' + toM _ _ m'.B *ᵥ u')
    (hw : WellPosed (phasorOf N cv lv u s)) :
    let R := transferReport N cv lv m s x u
    let R' := transferReport (N₃.rename σ τ) cv' lv' m' s x' u'
    R.AgreeOn (phasorOf N cv lv u s) (R'.readBack σ τ f N.zero) ∧
    (g ∈ (phasorOf N cv lv u s).allLabels →
      ∀ n ∈ (phasorOf N cv lv u s).allLabels, R'.pot (σ n) = R.pot n - R.pot g) ∧
    (∀ b ∈ (phasorOf N cv lv u s).branches, R'.v (τ b.id) = if f b.id then - R.v b.id else R.v b.id) ∧
    (∀ b ∈ (phasorOf N cv lv u s).branches, R'.i (τ b.id) = if f b.id then - R.i b.id else R.i b.id) :=
  subst_composite g f σ hσ τ hr hz hp
    (fun b hb => phasorElem_rel τ f s hv hu b hb ((b.flip f).rename σ τ) (congrArg τ (flip_id f b)) (flip_e f b))
    ok.rlc.wf.ids_nodup hw _ _ (C03_transfer_solves ok s x u hx) (C03_transfer_solves ok' s x' u' hx')

/-- **C03 (transient sample, all four transformations together).**  Settings and transformation as in
`C03_transfer_composite`; for EVERY pair of states related by the induced state map (`SameState τ f`: same capacitor
voltage / inductor current for the same renamed element, negated for a reversed one) and inputs related by
`SameInput τ f` — hence for every integrator — the per-sample reports (`y = C x + D u`, `ẋ = A x + B u`) are related
as above, provided the ORIGINAL circuit with its states imposed is well-posed. -/
theorem C03_sample_composite (g : L) (f : String → Bool) (σ : L → L') (hσ : Function.Injective σ)
    (τ : String → String)
    (hr : switchGround N g = .ok N₁)
    (hz : N₃.zero = N₁.zero) (hp : (N₁.flip f).branches.Perm N₃.branches)
    (ok : StateModelOK N cv lv Ainv S Delta m)
    (ok' : StateModelOK (N₃.rename σ τ) cv' lv' Ainv' S' Delta' m')
    (x : Fin (ssNStates N cv lv) → K) (u : Fin (ssNInputs N lv) → K)
    (x' : Fin (ssNStates (N₃.rename σ τ) cv' lv') → K) (u' : Fin (ssNInputs (N₃.rename σ τ) lv') → K)
    (hs : SameState τ f N cv lv cv' lv' (List.ofFn x) (List.ofFn x'))
    (hu : SameInput τ f N (ssSources N lv) (List.ofFn u) (ssSources (N₃.rename σ τ) lv') (List.ofFn u'))
    (hw : WellPosed (stateNet N cv lv u x)) :
    let R := sampleReport N cv lv m x u
    let R' := sampleReport (N₃.rename σ τ) cv' lv' m' x' u'
    R.AgreeOn (stateNet N cv lv u x) (R'.readBack σ τ f N.zero) ∧
    (g ∈ (stateNet N cv lv u x).allLabels →
      ∀ n ∈ (stateNet N cv lv u x).allLabels, R'.pot (σ n) = R.pot n - R.pot g) ∧
    (∀ b ∈ (stateNet N cv lv u x).branches, R'.v (τ b.id) = if f b.id then - R.v b.id else R.v b.id) ∧
    (∀ b ∈ (stateNet N cv lv u x).branches, R'.i (τ b.id) = if f b.id then - R.i b.id else R.i b.id) :=
  subst_composite g f σ hσ τ hr hz hp
    (fun b hb => stateElem_rel τ f hs hu b hb ((b.flip f).rename σ τ) (congrArg τ (flip_id f b)) (flip_e f b))
    ok.rlc.wf.ids_nodup hw _ _ (C03_sample_state ok x u) (C03_sample_state ok' x' u')

end state

namespace C03cx

/-- `V = 1` (1,0), `R = 1` (1,2), admittance `1` (0,2) — the phasor network of `C03ex` at `s = 1` -/
def cxN : Net String ℚ := { zero := "0", branches := [
  { n1 := "1", n2 := "0", id := "V", e := .norton 0 1 },
  { n1 := "1", n2 := "2", id := "R", e := .norton 1 0 },
  { n1 := "0", n2 := "2", id := "C", e := .thevenin 1 0 }] }
def cxN1 : Net String ℚ := ⟨cxN.branches, "2"⟩
/-- `R` reversed, then listed in the order `C, V, R` -/
def cxN3 : Net String ℚ := { zero := "2", branches := [
  { n1 := "0", n2 := "2", id := "C", e := .thevenin 1 0 },
  { n1 := "1", n2 := "0", id := "V", e := .norton 0 1 },
  { n1 := "2", n2 := "1", id := "R", e := .norton 1 0 }] }
def cxF : String → Bool := fun id => id == "R"
def cxTau : String → String := fun id => id ++ "'"

def cxR : Report String ℚ :=
  { pot := fun n => if n = "1" then 1 else if n = "2" then 1/2 else 0,
    v := fun id => if id = "V" then 1 else if id = "R" then 1/2 else -1/2,
    i := fun id => if id = "R" then 1/2 else -1/2 }
def cxR' : Report String ℚ :=
  { pot := fun n => if n = "1" then 1/2 else if n = "2" then 0 else -1/2,
    v := fun id => if id = "V'" then 1 else -1/2,
    i := fun _ => -1/2 }

theorem cxN_wellPosed : WellPosed cxN := by
  have := C03ex.rcf_phasor_wellposed
  rw [C03ex.rcf_phasor] at this
  exact this

theorem cx_switch : switchGround cxN "2" = .ok cxN1 := by
  unfold switchGround
  rw [mk?_eq_ok_iff]
  refine ⟨rfl, ?_, by simp [cxN]⟩
  rw [mem_nodeLabels]; right
  exact ⟨⟨"1", "2", "R", "", .norton 1 0⟩, by simp [cxN], Or.inr rfl⟩

theorem cx_perm : (cxN1.flip cxF).branches.Perm cxN3.branches := by
  have e : (cxN1.flip cxF).branches = [
      { n1 := "1", n2 := "0", id := "V", e := .norton 0 1 },
      { n1 := "2", n2 := "1", id := "R", e := .norton 1 0 },
      { n1 := "0", n2 := "2", id := "C", e := .thevenin 1 0 }] := by
    simp [cxN1, cxN, Net.flip, Branch.flip, cxF, Elem.reversed]
  rw [e]
  exact (List.Perm.cons _ (List.Perm.swap _ _ _)).trans (List.Perm.swap _ _ _)

theorem cxR_solves : CircuitEqs cxN cxR := by decide +kernel

theorem cxR'_solves : CircuitEqs (cxN3.rename id cxTau) cxR' := by decide +kernel

/-- **non-vacuity of `C03_composite`**: re-reference at node `2`, reverse `R`, list as `C, V, R`, rename every
identifier `id ↦ id'` (node renaming `σ = id`): every hypothesis holds, both networks are solved, and the relation
read off the theorem is the one between the two explicit solutions — the reversed resistor's voltage is negated
(`−1/2 = −(1/2)`), the potential of node `1` is shifted by the potential of the new reference (`1/2 = 1 − 1/2`). -/
example : switchGround cxN "2" = .ok cxN1 ∧ cxN3.zero = cxN1.zero ∧ (cxN1.flip cxF).branches.Perm cxN3.branches
    ∧ cxN.ids.Nodup ∧ WellPosed cxN ∧ CircuitEqs cxN cxR ∧ CircuitEqs (cxN3.rename id cxTau) cxR'
    ∧ cxR'.v (cxTau "R") = - cxR.v "R" ∧ cxR'.pot "1" = cxR.pot "1" - cxR.pot "2" := by
  have h := (C03_composite cxN cxN1 cxN3 "2" cxF cx_switch rfl cx_perm id Function.injective_id cxTau).2.2
    (by simp [Net.ids, cxN]) cxN_wellPosed cxR cxR' cxR_solves cxR'_solves
  refine ⟨cx_switch, rfl, cx_perm, by simp [Net.ids, cxN], cxN_wellPosed, cxR_solves, cxR'_solves, ?_, ?_⟩
  · have := h.2.2.1 ⟨"1", "2", "R", "", .norton 1 0⟩ (by simp [cxN])
    simpa [cxF] using this
  · exact h.2.1 (by simp [Net.allLabels, cxN]) "1" (by simp [Net.allLabels, cxN])

end C03cx

end CC
