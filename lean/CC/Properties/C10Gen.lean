/-
  C10–C12 (translator tie) — every definition of the hand-written state-space model
  (CC/Model/StateSpace.lean), which the C10 / C11 / C12 theorems are about, equals the definition that
  harness/extract_state.py regenerates from the Python AST on every run (CC/Gen/StateSpace.lean):
    Network/NodalAnalysis/state_space_model.py, Circuit/state_space_model.py,
    SignalProcessing/state_space_model.py.
  `np.linalg.inv` is an arbitrary function `inv` that preserves shapes (`hinv`); the hand-written model is fed
  with the rows of what `inv` returns (its two "certificates").  `.real` is `re`.

  Hypotheses: `N.ids.Nodup` (otherwise `Network(...)` raises), `LawfulLabelOrd L` (total pre-order on
  labels; instances `String`, `Nat`), and for the accessors `SSRel g m`, which `C10_gen_model` /
  `C10_gen_rel` establish for every object `nodal_state_space_model` builds.
-/
import CC.Proofs.StateGen
import CC.Properties.C01Gen
set_option linter.unusedSectionVars false

namespace CC
open CC.Gen.Core CC.Gen.State CC.Py
variable {L K : Type} [DecidableEq L] [LabelOrd L] [Field K] [DecidableEq K]

/-- `element_incidence_matrix`: the `Delta` fill loop (+1 at node1, −1 at node2, second write wins,
`KeyError` for a key that is no branch) and the `hstack` with the zero block -/
theorem C10_gen_Delta [LawfulLabelOrd L] (inv : Py.Mat K → Py.Mat K) (re : K → K) (N : Net L K)
    (hids : N.ids.Nodup) (cvals : ValDict K) :
    element_incidence_matrix inv re N cvals
      = (do let rows ← ssDelta N cvals
            pure ⟨cvals.length, N.nN + N.nV, rows⟩ : Except Err (Py.Mat K)) := by
  unfold element_incidence_matrix ssDelta
  rw [tableM_hstack_zeros, gen_nodes, gen_vsN N hids, show cvals.keys.length = cvals.length from List.length_map _]
  -- row by row: the fill loop over the nodes, padded, is `ssDeltaRow`
  congr 2
  funext id
  cases hn : N.nodes with
  | nil => rfl
  | cons n ns =>
    rw [← hn, gen_getitem]
    cases hg : N.get? id with
    | none => rw [hn, List.mapM_cons]; rfl
    | some b =>
      have he : N.nodes.isEmpty = false := by rw [hn]; rfl
      rw [mapM_ok _ (fun n => if n = b.n2 then (-1 : K) else if n = b.n1 then 1 else 0), he]
      · rfl
      · intro a _
        by_cases h2 : a = b.n2
        · rw [if_pos h2]; exact congrArg Except.ok (if_pos h2)
        · rw [if_neg h2]; exact congrArg Except.ok (if_neg h2)

/-- the block matrix `Q = [[Qi, 0], [0, 1]]` -/
theorem C10_gen_Q (N : Net L K) :
    (Py.Mat.vstack
      (Py.Mat.hstack (⟨N.nN, N.nC, N.nodes.map fun n => N.csSorted.map fun b => N.Qentry b n⟩ : Py.Mat K)
        (Py.Mat.zeros N.nN N.nV))
      (Py.Mat.hstack (Py.Mat.zeros N.nV N.nC) (Py.Mat.identity N.nV)))
      = ⟨N.nN + N.nV, N.nC + N.nV, ssQ N⟩ := by
  have h1 : (Mx.one N.nV : List (List K))
      = (List.range N.nV).map fun i => (List.range N.nV).map fun k => if k = i then (1 : K) else 0 := by
    apply List.map_congr_left; intro i _
    apply List.map_congr_left; intro j _
    exact if_congr eq_comm rfl rfl
  have hz : ∀ (n : Nat) (z : List K), List.replicate n z = (List.range n).map fun _ => z := by
    intro n z; rw [List.map_const', List.length_range]
  unfold Py.Mat.vstack Py.Mat.hstack Py.Mat.zeros Py.Mat.identity ssQ
  dsimp only
  rw [Net.nN, ← List.map_const', zipWith_map_same, h1, hz N.nV, zipWith_map_same]

/-- `source_and_inductance_incidence_matrix`: `QS` / `QL` are `Q[:, ssColsS]` / `Q[:, ssColsL]`
(block positions; `QL` in dictionary order; `KeyError` for an `l_values` key that is no ideal
voltage source) -/
theorem C10_gen_cols [LawfulLabelOrd L] (inv : Py.Mat K → Py.Mat K) (re : K → K) (N : Net L K)
    (hids : N.ids.Nodup) (lvals : ValDict K) :
    source_and_inductance_incidence_matrix inv re N lvals
      = if (ssColsL N lvals).length = lvals.length
        then .ok (⟨N.nY, (ssColsS N lvals).length, ssQS N lvals⟩, ⟨N.nY, (ssColsL N lvals).length, ssQL N lvals⟩)
        else .error .keyError := by
  unfold source_and_inductance_incidence_matrix
  -- the two loops over the maps' own keys always succeed; the one over the keys of `l_values` decides the outcome
  simp only [C01_gen_Qentry N hids, gen_vsN N hids, gen_csN N hids, mapM_getidx, mapM_getitem_idx, gen_csIds N hids,
    gen_vsIds N hids, ← not_has_eq, filterMap_idx_length _ _ (fun _ h => h),
    filterMap_idx_map_length (N.vsIds.filter _) _ (fun _ h => (List.mem_filter.mp h).1), ↓reduceIte, ok_bind,
    show lvals.keys.length = lvals.length from List.length_map _]
  show (if (ssColsL N lvals).length = lvals.length then Except.ok (ssColsL N lvals) else _) >>= _ = _
  by_cases hL : (ssColsL N lvals).length = lvals.length
  · rw [if_pos hL, if_pos hL]
    exact congrArg Except.ok (Prod.ext (congrArg (Py.Mat.selectCols · _) (C10_gen_Q N))
      (congrArg (Py.Mat.selectCols · _) (C10_gen_Q N)))
  · rw [if_neg hL, if_neg hL]
    rfl

/-- `value_matrix` / `invLambda`: the diagonal is `−C…` then `L…` in dictionary order -/
theorem C10_gen_Lambda (inv : Py.Mat K → Py.Mat K) (re : K → K) (N : Net L K) (cvals lvals : ValDict K) :
    Py.Mat.diagOf (value_matrix inv re N cvals lvals) = ssLambda cvals lvals
    ∧ (Py.Mat.diagOf (value_matrix inv re N cvals lvals)).map (fun x => 1 / x) = ssInvLambda cvals lvals :=
  ⟨gen_Lambda inv re N cvals lvals, by rw [gen_Lambda]; rfl⟩

/-- `DQ = hstack(Delta.T, QL)` and `A_tilde = coefficient_matrix.real` -/
theorem C10_gen_DQ (re : K → K) (N : Net L K) (cvals lvals : ValDict K) (Delta : List (List K))
    (hD : Delta.length = cvals.length) :
    Py.Mat.hstack (⟨cvals.length, N.nN + N.nV, Delta⟩ : Py.Mat K).T ⟨N.nY, (ssColsL N lvals).length, ssQL N lvals⟩
      = ⟨N.nY, cvals.length + (ssColsL N lvals).length, ssDQ N cvals lvals Delta⟩
    ∧ Py.Mat.map re ⟨N.nodes.length + N.vsIds.length, N.nodes.length + N.vsIds.length, N.mnaA⟩
      = ⟨N.nY, N.nY, ssAtilde re N⟩ :=
  ⟨gen_DQ N cvals lvals Delta hD, rfl⟩

/-- **`state_space_matrices` = `stateSpaceMatrices`** (with `np.linalg.inv := inv`, `.real := re`) fed with the rows of the
two matrices `inv` returns, shapes included -/
theorem C10_gen_matrices [LawfulLabelOrd L] (inv : Py.Mat K → Py.Mat K) (re : K → K) (N : Net L K)
    (hids : N.ids.Nodup) (cvals lvals : ValDict K)
    (hinv : ∀ M : Py.Mat K, (inv M).nrows = M.nrows ∧ (inv M).ncols = M.ncols) :
    state_space_matrices inv re N cvals lvals
      = (do let Delta ← ssDelta N cvals
            let Ainv := (inv ⟨N.nY, N.nY, ssAtilde re N⟩).rows
            let ns := ssNStates N cvals lvals
            let S := (inv ⟨ns, ns, ssM N cvals lvals Delta Ainv⟩).rows
            let m ← stateSpaceMatrices N cvals lvals Ainv S
            pure ((⟨ns, ns, m.A⟩ : Py.Mat K), (⟨ns, ssNInputs N lvals, m.B⟩ : Py.Mat K),
                  (⟨N.nY, ns, m.C⟩ : Py.Mat K), (⟨N.nY, ssNInputs N lvals, m.D⟩ : Py.Mat K))) := by
  unfold state_space_matrices stateSpaceMatrices
  rw [C10_gen_Delta inv re N hids, C01_gen_mnaA N hids, C10_gen_cols inv re N hids]
  cases hD : ssDelta N cvals with
  | error e => rfl
  | ok Delta =>
    by_cases hL : (ssColsL N lvals).length = lvals.length
    · have hil : (ssInvLambda cvals lvals).length = ssNStates N cvals lvals :=
        (List.length_map _).trans (ssLambda_length_states N cvals hL)
      rw [if_pos hL]
      simp only [if_neg (not_not.mpr hL), ok_bind, pure_bind]
      rw [gen_DQ N cvals lvals Delta (ssDelta_length hD), (C10_gen_Lambda inv re N cvals lvals).2]
      exact congrArg Except.ok (gen_core_step inv hinv hil Mx.ofFn_length)
    · rw [if_neg hL]
      simp only [if_pos hL]
      rfl

/-- `nodal_state_space_model` = `nodalStateSpaceModel` (same errors, same object) -/
theorem C10_gen_model [LawfulLabelOrd L] (inv : Py.Mat K → Py.Mat K) (re : K → K) (N : Net L K)
    (hids : N.ids.Nodup) (cvals lvals : ValDict K)
    (hinv : ∀ M : Py.Mat K, (inv M).nrows = M.nrows ∧ (inv M).ncols = M.ncols) :
    nodal_state_space_model inv re N cvals lvals
      = (do let Delta ← ssDelta N cvals
            let Ainv := (inv ⟨N.nY, N.nY, ssAtilde re N⟩).rows
            let S := (inv ⟨ssNStates N cvals lvals, ssNStates N cvals lvals, ssM N cvals lvals Delta Ainv⟩).rows
            let m ← nodalStateSpaceModel N cvals lvals Ainv S
            pure (ssToGen N cvals lvals m.mats)) := by
  unfold nodal_state_space_model nodalStateSpaceModel
  rw [C10_gen_matrices inv re N hids cvals lvals hinv]
  simp only [bind_assoc, pure_bind]
  apply bind_congr; intro Delta
  apply bind_congr; intro mats
  rfl

theorem C10_gen_rel [LawfulLabelOrd L] (N : Net L K) (hids : N.ids.Nodup) (cvals lvals : ValDict K)
    (Ainv S : List (List K)) (mats : SSMats K) (hm : stateSpaceMatrices N cvals lvals Ainv S = .ok mats) :
    SSRel (ssToGen N cvals lvals mats) ⟨mats, N, cvals, lvals⟩ := by
  obtain ⟨Delta, _, _, rfl⟩ := stateSpaceMatrices_ok hm
  -- the matrices are those of `ssCore`, each an `Mx.ofFn` of the height it is given
  exact ⟨rfl, rfl, rfl, rfl, rfl, rfl, rfl, gen_nodes N, gen_vsIds N hids, gen_csIds N hids,
    Mx.ofFn_length.symm, rfl, le_of_le_of_eq (Nat.le_add_right _ _) Mx.ofFn_length.symm,
    le_of_le_of_eq (Nat.le_add_right _ _) Mx.ofFn_length.symm⟩

/-- `_row_for_potential` / `c_row_for_potential` / `d_row_for_potential`: the row slice `[k:k+1]`,
the zero row of the reference node, `KeyError` for an unknown id -/
theorem C10_gen_row_potential {g : NodalStateSpaceModel L K} {m : NSSM L K} (h : SSRel g m) (node : L) :
    NodalStateSpaceModel.c_row_for_potential g node
        = (do let r ← m.cRowPotential node; pure (Py.Arr.mat [r]) : Except Err (Py.Arr K))
    ∧ NodalStateSpaceModel.d_row_for_potential g node
        = (do let r ← m.dRowPotential node; pure (Py.Arr.mat [r]) : Except Err (Py.Arr K)) :=
  ⟨gen_row_for_potential h node h.hC h.Cw h.Cr, gen_row_for_potential h node h.hD h.Dw h.Dr⟩

theorem C10_gen_row_voltage {g : NodalStateSpaceModel L K} {m : NSSM L K} (h : SSRel g m) (id : String) :
    NodalStateSpaceModel.c_row_voltage g id
        = (do let r ← m.cRowVoltage id; pure (Py.Arr.mat [r]) : Except Err (Py.Arr K))
    ∧ NodalStateSpaceModel.d_row_voltage g id
        = (do let r ← m.dRowVoltage id; pure (Py.Arr.mat [r]) : Except Err (Py.Arr K)) := by
  constructor
  · unfold NodalStateSpaceModel.c_row_voltage NSSM.cRowVoltage
    rw [h.net, gen_getitem]
    cases m.net.get? id with
    | none => rfl
    | some b => exact rows_lift2 (C10_gen_row_potential h b.n1).1 (C10_gen_row_potential h b.n2).1 fun _ _ => rfl
  · unfold NodalStateSpaceModel.d_row_voltage NSSM.dRowVoltage
    rw [h.net, gen_getitem]
    cases m.net.get? id with
    | none => rfl
    | some b => exact rows_lift2 (C10_gen_row_potential h b.n1).2 (C10_gen_row_potential h b.n2).2 fun _ _ => rfl

/-- `c_row_current` / `d_row_current`: the four-way case split, dictionary position of a capacitor,
`n_nodes +` offset of a voltage source, unit row of a current source, `/ Z` otherwise -/
theorem C10_gen_row_current {g : NodalStateSpaceModel L K} {m : NSSM L K} (h : SSRel g m) (hids : m.net.ids.Nodup)
    (id : String) :
    (do let a ← NodalStateSpaceModel.c_row_current g id; pure a.toRows : Except Err (List (List K)))
        = (do let r ← m.cRowCurrent id; pure [r])
    ∧ (do let a ← NodalStateSpaceModel.d_row_current g id; pure a.toRows : Except Err (List (List K)))
        = (do let r ← m.dRowCurrent id; pure [r]) := by
  constructor
  · unfold NodalStateSpaceModel.c_row_current NSSM.cRowCurrent
    rw [vs_filter_all h hids, ok_bind, h.cv]
    cases h1 : idxOf? id m.cvals.keys with
    | some k => rw [if_pos (mem_of_idx h1), cap_row h1, h.hA]; rfl
    | none =>
      rw [if_neg (not_mem_of_idx_none h1), h.vm]
      cases h2 : idxOf? id m.net.vsIds with
      | some k => rw [if_pos (mem_of_idx h2), vs_row h h2, h.hC]; rfl
      | none =>
        rw [if_neg (not_mem_of_idx_none h2), h.cm]
        by_cases h3 : id ∈ m.net.csIds
        · rw [if_pos h3, if_pos (List.contains_iff_mem.mpr h3), h.Cw]; rfl
        · rw [if_neg h3, if_neg (fun hc => h3 (List.contains_iff_mem.mp hc)), h.net, gen_getitem]
          cases m.net.get? id with
          | none => rfl
          | some b => exact rows_of_mat (rows_lift2 (C10_gen_row_potential h b.n1).1 (C10_gen_row_potential h b.n2).1 fun _ _ => divX_mat b.e _)
  · unfold NodalStateSpaceModel.d_row_current NSSM.dRowCurrent
    rw [h.cv]
    cases h1 : idxOf? id m.cvals.keys with
    | some k => rw [if_pos (mem_of_idx h1), cap_row h1, h.hB]; rfl
    | none =>
      rw [if_neg (not_mem_of_idx_none h1), h.vm]
      cases h2 : idxOf? id m.net.vsIds with
      | some k => rw [if_pos (mem_of_idx h2), vs_row h h2, h.hD]; rfl
      | none =>
        rw [if_neg (not_mem_of_idx_none h2), h.cm]
        cases h3 : idxOf? id m.net.csIds with
        | some k =>
          rw [if_pos (mem_of_idx h3), getitem_some h.cm h3, ok_bind, vecSet_zeros, h.Dw]
          by_cases hk : k < m.nInputs
          · simp only [if_pos hk]; rfl
          · simp only [if_neg hk]; rfl
        | none =>
          rw [if_neg (not_mem_of_idx_none h3), h.net, gen_getitem]
          cases m.net.get? id with
          | none => rfl
          | some b => exact rows_of_mat (rows_lift2 (C10_gen_row_potential h b.n1).2 (C10_gen_row_potential h b.n2).2 fun _ _ => divX_mat b.e _)

/-- `sources`: current sources, then the voltage sources that are no `l_values` key — not sorted -/
theorem C10_gen_sources {g : NodalStateSpaceModel L K} {m : NSSM L K} (h : SSRel g m) :
    NodalStateSpaceModel.sources g = m.sources := by
  unfold NodalStateSpaceModel.sources NSSM.sources ssSources
  rw [h.cm, h.vm, h.lv, not_has_eq]

/-- the stacking wrapper of `Circuit/state_space_model.py` -/
theorem C10_gen_wrapper {g : NodalStateSpaceModel L K} {m : NSSM L K} (h : SSRel g m) (hids : m.net.ids.Nodup)
    (pots : List L) (volts curs : List String) :
    circuit_state_space_model g pots volts curs
      = (do let r ← m.circuitModel pots volts curs; pure (g.A, g.B, r.C, r.D)) := by
  unfold circuit_state_space_model NSSM.circuitModel NSSM.stackC NSSM.stackD
  simp only [foldlM_vstack (fun x => rows_of_mat (C10_gen_row_potential h x).1),
    foldlM_vstack (fun x => rows_of_mat (C10_gen_row_voltage h x).1),
    foldlM_vstack (fun x => (C10_gen_row_current h hids x).1),
    foldlM_vstack (fun x => rows_of_mat (C10_gen_row_potential h x).2),
    foldlM_vstack (fun x => rows_of_mat (C10_gen_row_voltage h x).2),
    foldlM_vstack (fun x => (C10_gen_row_current h hids x).2),
    bind_assoc, pure_bind, List.nil_append]

/-- the value dictionaries the wrapper builds -/
theorem C10_gen_circuit_values (comps : List (String × String × (String → K))) :
    circuit_c_values comps = reactiveValues (comps.map fun c => (c.1, c.2.1, c.2.2 "C")) "capacitor"
    ∧ circuit_l_values comps = reactiveValues (comps.map fun c => (c.1, c.2.1, c.2.2 "L")) "inductance" := by
  unfold circuit_c_values circuit_l_values reactiveValues
  constructor
  · rw [List.filter_map, List.map_map]; rfl
  · rw [List.filter_map, List.map_map]; rfl

/-- the five shape checks of the container, in order -/
theorem C10_gen_container (a b c d : Nat × Nat) : container_post_init a b c d = containerCheck a b c d := rfl

/-- **the index maps are forwarded** (fix 4559c7d): inside the state-space builder every callee that takes an index
map of the class of one of the builder's own mapper parameters receives that parameter — `source_incidence_matrix` the
node and current-source maps, `nodal_analysis_coefficient_matrix` the node and voltage-source maps,
`state_space_matrices` (from `nodal_state_space_model`) all three.  The definitions above are stated for the default
maps; the translator refuses a call that leaves such a keyword out, and this table is what it found. -/
theorem C10_gen_mappers_forwarded :
    mapper_forwarding =
      [("source_incidence_matrix", "node_mapper", "node_mapper"),
       ("source_incidence_matrix", "source_mapper", "current_source_mapper"),
       ("nodal_analysis_coefficient_matrix", "node_mapper", "node_mapper"),
       ("nodal_analysis_coefficient_matrix", "source_mapper", "voltage_source_mapper"),
       ("state_space_matrices", "current_source_mapper", "current_source_index_mapper"),
       ("state_space_matrices", "node_mapper", "node_index_mapper"),
       ("state_space_matrices", "voltage_source_mapper", "voltage_source_index_mapper")] := rfl

/-! non-vacuity: `hinv` holds of the identity -/

example : ∀ M : Py.Mat ℚ, ((fun M => M) M).nrows = M.nrows ∧ ((fun M => M) M).ncols = M.ncols := fun _ => ⟨rfl, rfl⟩

end CC
