/-
  Property C03 — results are independent of names, listing order, reference node and
  terminal order.

  Approach: the Spec `CircuitEqs` is invariant under each transformation (theorems below,
  any network, any field, any injective renaming, any permutation, any subset of reversed
  branches, any new reference node); C01 says the code reports a solution of the Spec and,
  for well-posed networks, the Spec has exactly one solution (`C01_unique`).  Hence the
  reported quantities of a transformed description are the transformed quantities.
-/
import CC.Proofs.SpecLemmas
import CC.Properties.C16
import CC.Properties.C01
set_option linter.unusedSectionVars false

namespace CC
variable {L L' K : Type} [DecidableEq L] [DecidableEq L'] [Field K] [DecidableEq K]

/-- **C03 (listing order).**  Networks with the same reference node whose branch lists are permutations of each other
have the same solutions of the circuit equations. -/
theorem C03_perm (N N' : Net L K) (hz : N.zero = N'.zero) (hp : N.branches.Perm N'.branches)
    (R : Report L K) : CircuitEqs N R ↔ CircuitEqs N' R := by
  have key : ∀ (M M' : Net L K), M.zero = M'.zero → M.branches.Perm M'.branches →
      CircuitEqs M R → CircuitEqs M' R := by
    intro M M' hz hp h
    rw [← circuitEqsAll_iff] at h ⊢
    refine ⟨hz ▸ h.ref_zero, fun b hb => h.volt b (hp.mem_iff.mpr hb),
      fun b hb => h.law b (hp.mem_iff.mpr hb), fun n => ?_⟩
    have := h.kcl n
    unfold kclResidual at this ⊢
    rw [← this]
    exact (sum_map_perm hp _).symm
  exact ⟨key N N' hz hp, key N' N hz.symm hp.symm⟩

def Branch.rename (σ : L → L') (τ : String → String) (b : Branch L K) : Branch L' K :=
  { n1 := σ b.n1, n2 := σ b.n2, id := τ b.id, ty := b.ty, e := b.e }

def Net.rename (σ : L → L') (τ : String → String) (N : Net L K) : Net L' K :=
  { branches := N.branches.map (Branch.rename σ τ), zero := σ N.zero }

/-- the report of the renamed network, read through the renaming -/
def Report.comap (σ : L → L') (τ : String → String) (R' : Report L' K) : Report L K :=
  { pot := fun n => R'.pot (σ n), v := fun id => R'.v (τ id), i := fun id => R'.i (τ id) }

/-- renaming with `σ` injective on the labels that occur in the network (the renamings of the drawing front end,
`C13_moved` / `C13_split` / `C13_perm`, are injective on the names used, not on all strings) -/
theorem CircuitEqs.rename_iff_of_injOn (σ : L → L') (τ : String → String) (N : Net L K)
    (hσ : ∀ a ∈ N.allLabels, ∀ b ∈ N.allLabels, σ a = σ b → a = b) (R' : Report L' K) :
    CircuitEqs (N.rename σ τ) R' ↔ CircuitEqs N (R'.comap σ τ) := by
  have hk : ∀ n ∈ N.allLabels, kclResidual (N.rename σ τ) R' (σ n) = kclResidual N (R'.comap σ τ) n := by
    intro n hn
    unfold kclResidual Net.rename
    simp only [List.map_map]
    apply congrArg; apply List.map_congr_left
    intro b hb
    have h1 := mem_allLabels_of_incident N hb (.inl rfl)
    have h2 := mem_allLabels_of_incident N hb (.inr rfl)
    have hinc : incidence (b.rename σ τ) (σ n) = incidence b n := by
      unfold incidence Branch.rename
      have e1 : (σ b.n1 = σ n) ↔ (b.n1 = n) := ⟨hσ _ h1 _ hn, fun h => by rw [h]⟩
      have e2 : (σ b.n2 = σ n) ↔ (b.n2 = n) := ⟨hσ _ h2 _ hn, fun h => by rw [h]⟩
      simp only [e1, e2]
    simp only [Function.comp_apply, hinc]
    rfl
  constructor
  · intro h
    exact ⟨h.ref_zero, fun b hb => h.volt _ (List.mem_map_of_mem hb), fun b hb => h.law _ (List.mem_map_of_mem hb),
      fun n hn => by rw [← hk n hn]; exact h.kcl_all (σ n)⟩
  · intro h
    refine ⟨h.ref_zero, List.forall_mem_map.mpr h.volt, List.forall_mem_map.mpr h.law, ?_⟩
    intro n' hn'
    -- every label of the renamed network is the image of a label
    have : ∃ n ∈ N.allLabels, σ n = n' := by
      unfold Net.allLabels Net.rename at hn'
      simp only [List.map_map, List.mem_cons, List.mem_append, List.mem_map, Function.comp_apply] at hn'
      rcases hn' with rfl | ⟨b, hb, rfl⟩ | ⟨b, hb, rfl⟩
      exacts [⟨N.zero, zero_mem_allLabels N, rfl⟩, ⟨b.n1, mem_allLabels_of_incident N hb (.inl rfl), rfl⟩,
        ⟨b.n2, mem_allLabels_of_incident N hb (.inr rfl), rfl⟩]
    obtain ⟨n, hn, rfl⟩ := this
    rw [hk n hn]; exact h.kcl n hn

/-- **C03 (renaming).**  For every injective renaming `σ` of node labels and any renaming `τ`
of identifiers, a report solves the renamed network iff, read through the renaming, it
solves the original one. -/
theorem C03_rename (σ : L → L') (hσ : Function.Injective σ) (τ : String → String)
    (N : Net L K) (R' : Report L' K) :
    CircuitEqs (N.rename σ τ) R' ↔ CircuitEqs N (R'.comap σ τ) :=
  CircuitEqs.rename_iff_of_injOn σ τ N (fun _ _ _ _ h => hσ h) R'

/-- the record seen from the other terminal: same immittance, source value negated -/
def Elem.reversed : Elem K → Elem K
  | .norton Z V => .norton Z (-V)
  | .thevenin Y I => .thevenin Y (-I)

def Branch.flip (f : String → Bool) (b : Branch L K) : Branch L K :=
  if f b.id then { b with n1 := b.n2, n2 := b.n1, e := b.e.reversed } else b

def Net.flip (f : String → Bool) (N : Net L K) : Net L K :=
  { N with branches := N.branches.map (Branch.flip f) }

def Report.flip (f : String → Bool) (R : Report L K) : Report L K :=
  { pot := R.pot, v := fun id => if f id then -R.v id else R.v id,
    i := fun id => if f id then -R.i id else R.i id }

theorem physLaw_reversed (e : Elem K) (v J : K) : e.reversed.physLaw (-v) (-J) = -e.physLaw v J := by
  cases e with
  | norton Z V => by_cases hZ : Z = 0 <;> simp only [Elem.reversed, Elem.physLaw, hZ, if_true, if_false] <;> ring
  | thevenin Y I => by_cases hY : Y = 0 <;> simp only [Elem.reversed, Elem.physLaw, hY, if_true, if_false] <;> ring

theorem isLossy_reversed (e : Elem K) : e.reversed.isLossy = e.isLossy := by
  cases e with
  | norton Z V => simp only [Elem.reversed, Elem.isLossy, Elem.kind, neg_eq_zero]
  | thevenin Y I => simp only [Elem.reversed, Elem.isLossy, Elem.kind, neg_eq_zero]

theorem physCurrent_reversed (e : Elem K) (i : K) : e.reversed.physCurrent (-i) = -e.physCurrent i := by
  unfold Elem.physCurrent
  rw [isLossy_reversed]
  split <;> rfl

theorem incidence_swap (b : Branch L K) (e : Elem K) (n : L) :
    incidence ({ b with n1 := b.n2, n2 := b.n1, e := e } : Branch L K) n = -incidence b n :=
  (neg_sub _ _).symm

theorem law_reversed (e : Elem K) (v i : K) (h : e.lawResidual v i = 0) :
    e.reversed.lawResidual (-v) (-i) = 0 := by
  rw [← physLaw_zero_iff, physCurrent_reversed, physLaw_reversed, (physLaw_zero_iff _ _ _).mpr h, neg_zero]

theorem combines_flip (f : String → Bool) (R : Report L K) (b : Branch L K) :
    Branch.Combines 1 0 R R (R.flip f) b b (b.flip f) := by
  unfold Branch.flip Report.flip
  by_cases hf : f b.id = true
  · simp only [hf, if_true]
    exact .of_carries (fun h => by unfold voltResidual at h ⊢; simp only [hf, if_true]; linear_combination -h)
      (fun h => by simp only [hf, if_true]; exact law_reversed _ _ _ h)
      fun n => by simp only [hf, if_true]; rw [incidence_swap, physCurrent_reversed, neg_mul_neg]
  · simp only [hf, Bool.false_eq_true, if_false]
    exact .of_carries (fun h => by simpa [voltResidual, hf] using h) (fun h => by simpa [hf] using h)
      fun n => by simp [hf]

/-- **C03 (terminal order).**  Reversing the terminals of any subset of branches and
negating their source values negates exactly those branches' own voltage and current and
changes nothing else. -/
theorem C03_reverse (f : String → Bool) (N : Net L K) (R : Report L K) (h : CircuitEqs N R) :
    CircuitEqs (N.flip f) (R.flip f) :=
  h.carry id fun b _ => combines_flip f R b

theorem Elem.reversed_reversed (e : Elem K) : e.reversed.reversed = e := by
  cases e <;> simp [Elem.reversed]

theorem Branch.flip_flip (f : String → Bool) (b : Branch L K) : (b.flip f).flip f = b := by
  unfold Branch.flip
  by_cases hf : f b.id = true
  · simp only [hf, if_true, Elem.reversed_reversed]
  · simp only [hf, Bool.false_eq_true, if_false]

theorem Net.flip_flip (f : String → Bool) (N : Net L K) : (N.flip f).flip f = N := by
  unfold Net.flip
  simp only [List.map_map]
  have : N.branches.map (Branch.flip f ∘ Branch.flip f) = N.branches := by
    conv_rhs => rw [← List.map_id N.branches]
    apply List.map_congr_left
    intro b _
    exact Branch.flip_flip f b
  rw [this]

theorem Elem.reversed_zeroSources (e : Elem K) : e.zeroSources.reversed = e.reversed.zeroSources := by
  cases e <;> simp [Elem.reversed, Elem.zeroSources]

/-- **C03 (reference node).**  Choosing a different reference node shifts all potentials by
one common constant and changes nothing else. -/
theorem C03_reref [LabelOrd L] (N N' : Net L K) (g : L) (R : Report L K)
    (hr : switchGround N g = .ok N') (h : CircuitEqs N R) :
    CircuitEqs N' (R.shift (R.pot g)) ∧ N'.branches = N.branches ∧ N'.zero = g :=
  C16_switch_ground N N' g R hr h

end CC

namespace CC
variable {L K : Type} [DecidableEq L] [LabelOrd L] [Field K] [DecidableEq K]

/-- **C03 (reported values, terminal order).**  Both networks valid, the REVERSED one well-posed: its report is then its
only solution (`C01_reported_is_the_solution`), and the reversed report of the original is one (`C03_reverse`).  The
next two theorems have the same shape. -/
theorem C03_reported_reverse (f : String → Bool) (N : Net L K) (wf : N.WF) (wf' : (N.flip f).WF)
    (hw' : WellPosed (N.flip f)) (x x' : List K)
    (hx : x.length = N.nodes.length + N.vsIds.length)
    (hx' : x'.length = (N.flip f).nodes.length + (N.flip f).vsIds.length)
    (h : matVec N.mnaA x = N.mnaB) (h' : matVec (N.flip f).mnaA x' = (N.flip f).mnaB) :
    ((N.flip f).reportOf x').AgreeOn (N.flip f) ((N.reportOf x).flip f) :=
  C01_reported_is_the_solution (N.flip f) wf' hw' x' hx' h' _
    (C03_reverse f N _ (C01_sound N x wf hx h).2.2)

/-- **C03 (reported values, listing order).**  Both networks valid, the re-listed one (`N'`) well-posed. -/
theorem C03_reported_perm (N N' : Net L K) (hz : N.zero = N'.zero) (hp : N.branches.Perm N'.branches)
    (wf : N.WF) (wf' : N'.WF) (hw' : WellPosed N') (x x' : List K)
    (hx : x.length = N.nodes.length + N.vsIds.length)
    (hx' : x'.length = N'.nodes.length + N'.vsIds.length)
    (h : matVec N.mnaA x = N.mnaB) (h' : matVec N'.mnaA x' = N'.mnaB) :
    (N'.reportOf x').AgreeOn N' (N.reportOf x) :=
  C01_reported_is_the_solution N' wf' hw' x' hx' h' _
    ((C03_perm N N' hz hp _).mp (C01_sound N x wf hx h).2.2)

/-- **C03 (reported values, reference node).**  Both networks valid, the re-referenced one (`N'`) well-posed; the
potentials are those of the original minus its potential at the new reference. -/
theorem C03_reported_reref (N N' : Net L K) (g : L) (hr : switchGround N g = .ok N')
    (wf : N.WF) (wf' : N'.WF) (hw' : WellPosed N') (x x' : List K)
    (hx : x.length = N.nodes.length + N.vsIds.length)
    (hx' : x'.length = N'.nodes.length + N'.vsIds.length)
    (h : matVec N.mnaA x = N.mnaB) (h' : matVec N'.mnaA x' = N'.mnaB) :
    (N'.reportOf x').AgreeOn N' ((N.reportOf x).shift ((N.reportOf x).pot g)) :=
  C01_reported_is_the_solution N' wf' hw' x' hx' h' _
    (C03_reref N N' g _ hr (C01_sound N x wf hx h).2.2).1

/-- **C03 (reported values, renaming).**  Reading the report of the renamed network back
through the renaming gives the report of the original network.  Both networks valid; here it is the ORIGINAL network
that is assumed well-posed, since the comparison is made on it. -/
theorem C03_reported_rename {L' : Type} [DecidableEq L'] [LabelOrd L'] (σ : L → L')
    (hσ : Function.Injective σ) (τ : String → String) (N : Net L K) (wf : N.WF) (hw : WellPosed N)
    (wf' : (N.rename σ τ).WF) (x x' : List K)
    (hx : x.length = N.nodes.length + N.vsIds.length)
    (hx' : x'.length = (N.rename σ τ).nodes.length + (N.rename σ τ).vsIds.length)
    (h : matVec N.mnaA x = N.mnaB) (h' : matVec (N.rename σ τ).mnaA x' = (N.rename σ τ).mnaB) :
    (N.reportOf x).AgreeOn N (((N.rename σ τ).reportOf x').comap σ τ) :=
  C01_reported_is_the_solution N wf hw x hx h _
    ((C03_rename σ hσ τ N _).mp (C01_sound (N.rename σ τ) x' wf' hx' h').2.2)

end CC
