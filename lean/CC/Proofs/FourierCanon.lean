/-
  CC.Proofs.FourierCanon — coefficients of the canonical pieces: constants, pure harmonics of
  integer frequency, and a function that is piecewise linear on the two half periods (strict `<`
  at `T/2`, as in the code).
-/
import CC.Proofs.FourierInt

namespace CC.Fourier
open Complex Real intervalIntegral MeasureTheory

theorem cexpo_mul_inv (T : ℝ) (hT : T ≠ 0) (n : ℤ) (hn : n ≠ 0) :
    cexpo T n * (I / (2 * π * n) * T) = 1 := by
  have hn' : (n : ℂ) ≠ 0 := Int.cast_ne_zero.mpr hn
  have hpi : (π : ℂ) ≠ 0 := ofReal_ne_zero.mpr Real.pi_ne_zero
  rw [mul_left_comm, cexpo_mul_period T hT, div_mul_eq_mul_div, mul_neg, mul_comm (2 * (π : ℂ)) I, mul_assoc,
    ← mul_assoc I I, I_mul_I, neg_mul, one_mul, neg_neg, div_self (mul_ne_zero (mul_ne_zero two_ne_zero hpi) hn')]

theorem integral_cexp_cexpo (T : ℝ) (hT : T ≠ 0) (m : ℤ) :
    ∫ t in (0:ℝ)..T, cexp (cexpo T m * t) = if m = 0 then (T : ℂ) else 0 := by
  split_ifs with hm
  · subst hm
    simp [cexpo]
  · rw [integral_exp_mul_complex (left_ne_zero_of_mul_eq_one (cexpo_mul_inv T hT m hm)), cexp_cexpo_period T hT m]
    simp

theorem cexpo_add (T : ℝ) (m k : ℤ) : cexpo T (m + k) = cexpo T m + cexpo T k := by
  unfold cexpo; push_cast; ring

theorem integral_cexpo_mul_cexpo (T : ℝ) (hT : T ≠ 0) (m n : ℤ) :
    (1 / T : ℂ) * ∫ t in (0:ℝ)..T, cexp (cexpo T m * t) * cexp (cexpo T n * t)
      = if m + n = 0 then 1 else 0 := by
  simp_rw [← Complex.exp_add, ← add_mul, ← cexpo_add]
  rw [integral_cexp_cexpo T hT, mul_ite, mul_zero, one_div, inv_mul_cancel₀ (ofReal_ne_zero.mpr hT)]

theorem coeff_const (T : ℝ) (hT : T ≠ 0) (a : ℝ) (n : ℤ) :
    coeff (fun _ => a) T n = if n = 0 then (a : ℂ) else 0 := by
  rw [coeff_eq, intervalIntegral.integral_const_mul, integral_cexp_cexpo T hT, mul_left_comm, mul_ite, mul_zero,
    one_div, inv_mul_cancel₀ (ofReal_ne_zero.mpr hT), mul_ite, mul_one, mul_zero]

theorem coeff_cosk (T A φ : ℝ) (hT : T ≠ 0) (k n : ℤ) :
    coeff (fun t => A * Real.cos (2 * π * k / T * t + φ)) T n
      = (if k = n then ((A / 2 : ℝ) : ℂ) * cexp (I * φ) else 0)
        + (if k = -n then ((A / 2 : ℝ) : ℂ) * cexp (-(I * φ)) else 0) := by
  have hpt : ∀ t : ℝ, ((A * Real.cos (2 * π * k / T * t + φ) : ℝ) : ℂ) * cexp (cexpo T n * t)
      = (((A / 2 : ℝ) : ℂ) * cexp (I * φ)) * (cexp (cexpo T (-k) * t) * cexp (cexpo T n * t))
        + (((A / 2 : ℝ) : ℂ) * cexp (-(I * φ))) * (cexp (cexpo T k * t) * cexp (cexpo T n * t)) := fun t => by
    -- a real harmonic of frequency `k` is the sum of the harmonics `−k` and `k`
    have e : ((2 * π * k / T * t + φ : ℝ) : ℂ) * I = I * φ + cexpo T (-k) * t := by
      unfold cexpo; push_cast; ring
    have e' : -((2 * π * k / T * t + φ : ℝ) : ℂ) * I = -(I * φ) + cexpo T k * t := by
      unfold cexpo; push_cast; ring
    rw [ofReal_mul, ofReal_cos, Complex.cos, e, e', Complex.exp_add, Complex.exp_add]
    push_cast
    ring
  rw [coeff_eq]
  simp_rw [hpt]
  rw [intervalIntegral.integral_add
      ((by fun_prop : Continuous _).intervalIntegrable _ _) ((by fun_prop : Continuous _).intervalIntegrable _ _),
    intervalIntegral.integral_const_mul, intervalIntegral.integral_const_mul, mul_add, mul_left_comm,
    integral_cexpo_mul_cexpo T hT, mul_left_comm (1 / (T : ℂ)), integral_cexpo_mul_cexpo T hT]
  simp only [mul_ite, mul_one, mul_zero, add_eq_zero_iff_eq_neg, neg_inj]

theorem coeff_cosk_add_const (T A ψ off : ℝ) (hT : T ≠ 0) (k n : ℤ) :
    coeff (fun t => A * Real.cos (2 * π * k / T * t + ψ) + off) T n
      = (if k = n then ((A / 2 : ℝ) : ℂ) * cexp (I * ψ) else 0)
        + (if k = -n then ((A / 2 : ℝ) : ℂ) * cexp (-(I * ψ)) else 0)
        + (if n = 0 then (off : ℂ) else 0) := by
  rw [coeff_add ((by fun_prop : Continuous _).intervalIntegrable _ _) (continuous_const.intervalIntegrable _ _),
    coeff_cosk T A ψ hT, coeff_const T hT]

noncomputable def plFun (T a1 b1 a2 b2 : ℝ) : ℝ → ℝ :=
  fun u => if u < T / 2 then a1 + b1 * (u / T) else a2 + b2 * (u / T)

theorem coeff_pl_split (T a1 b1 a2 b2 : ℝ) (hT : 0 < T) (n : ℤ) :
    coeff (plFun T a1 b1 a2 b2) T n
      = (1 / T : ℂ) * ((∫ u in (0:ℝ)..(T / 2), ((a1 : ℂ) + (b1 / T : ℂ) * u) * cexp (cexpo T n * u))
          + ∫ u in (T / 2)..T, ((a2 : ℂ) + (b2 / T : ℂ) * u) * cexp (cexpo T n * u)) := by
  have e1 : Set.EqOn (fun u : ℝ => ((a1 : ℂ) + (b1 / T : ℂ) * u) * cexp (cexpo T n * u))
      (fun u => (plFun T a1 b1 a2 b2 u : ℂ) * cexp (cexpo T n * u)) (Set.uIoo 0 (T / 2)) := by
    intro u hu
    rw [Set.uIoo_of_le (half_pos hT).le] at hu
    simp only [plFun, if_pos hu.2]
    push_cast; ring
  have e2 : Set.EqOn (fun u : ℝ => ((a2 : ℂ) + (b2 / T : ℂ) * u) * cexp (cexpo T n * u))
      (fun u => (plFun T a1 b1 a2 b2 u : ℂ) * cexp (cexpo T n * u)) (Set.uIoo (T / 2) T) := by
    intro u hu
    rw [Set.uIoo_of_le (half_le_self hT.le)] at hu
    simp only [plFun, if_neg (not_lt.mpr hu.1.le)]
    push_cast; ring
  rw [coeff_eq, integral_congr_uIoo e1, integral_congr_uIoo e2,
    integral_add_adjacent_intervals (((by fun_prop : Continuous _).intervalIntegrable _ _).congr_uIoo e1)
      (((by fun_prop : Continuous _).intervalIntegrable _ _).congr_uIoo e2)]

theorem coeff_pl (T a1 b1 a2 b2 : ℝ) (hT : 0 < T) (n : ℤ) (hn : n ≠ 0) :
    coeff (plFun T a1 b1 a2 b2) T n
      = I / (2 * π * n) * (((-1) ^ n - 1) * (a1 - a2) + (-1) ^ n * (b1 - b2) / 2 + b2)
        + (I / (2 * π * n)) ^ 2 * ((1 - (-1) ^ n) * (b1 - b2)) := by
  have hT' : (T : ℂ) ≠ 0 := ofReal_ne_zero.mpr hT.ne'
  have hcd := cexpo_mul_inv T hT.ne' n hn
  rw [coeff_pl_split T _ _ _ _ hT, integral_linear_mul_cexp hcd, integral_linear_mul_cexp hcd,
    cexp_cexpo_period T hT.ne' n, cexp_cexpo_half T hT.ne' n, ofReal_zero, mul_zero, Complex.exp_zero, ofReal_div,
    ofReal_ofNat]
  generalize I / (2 * (π : ℂ) * n) = δ
  field_simp
  ring

theorem coeff_pl_zero (T a1 b1 a2 b2 : ℝ) (hT : 0 < T) :
    coeff (plFun T a1 b1 a2 b2) T 0 = ((a1 : ℂ) + a2) / 2 + (b1 : ℂ) / 8 + 3 * (b2 : ℂ) / 8 := by
  have hT' : (T : ℂ) ≠ 0 := ofReal_ne_zero.mpr hT.ne'
  rw [coeff_pl_split T _ _ _ _ hT]
  simp only [cexpo, Int.cast_zero, mul_zero, zero_div, neg_zero, zero_mul, Complex.exp_zero, mul_one]
  rw [integral_linear, integral_linear, ofReal_zero, ofReal_div, ofReal_ofNat]
  field_simp
  ring

end CC.Fourier
