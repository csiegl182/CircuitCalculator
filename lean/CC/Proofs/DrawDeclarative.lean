/-
  CC.Proofs.DrawDeclarative — the declarative front end hands the *whole* description
  (`type`, `direction`, `length`, `place_after` included) to the symbol constructor
  (`element_factory(elm.X, **kwargs)`).  For every handler class and all values: these four
  keys do not reach any circuit-relevant attribute — the constructed symbol is the one the
  programmatic call `elm.X(<values>, name=…, reverse=…)` builds.  This file states it (`DeclSame`,
  `declFrameClasses`); it holds because the constructor reads its keywords by `lookup` at the class's
  own keys only (`construct_congr`, `declSame_of_mem` in CC/Proofs/DrawDeclarative2.lean).
-/
import CC.Model.DrawIO
namespace CC.Draw

def DeclSame (π : Rat) (cls : String) (vals : List (String × Val)) (tv dv lv pv : Val) : Prop :=
  construct π cls (("type", tv) :: vals ++ [("direction", dv), ("length", lv), ("place_after", pv)]) = construct π cls vals

/-- the classes the declarative handlers can build (`DeclSame` holds of each, for every keyword
list: `declSame_of_mem` in CC/Proofs/DrawDeclarative2.lean) -/
def declFrameClasses : List String :=
  ["Resistor", "Conductance", "Impedance", "Admittance", "Capacitor", "Inductance", "Lamp", "VoltageSource",
   "CurrentSource", "ComplexVoltageSource", "ComplexCurrentSource", "ACVoltageSource", "ACCurrentSource",
   "LabeledLine", "Line", "Node", "Ground"]

end CC.Draw
