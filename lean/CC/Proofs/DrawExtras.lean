/-
  CC.Proofs.DrawExtras — save ∘ load of drawing elements that carry extra, opaque keywords
  (placement parameters `d`, `l`, `at`, `label`, … — keys the symbol class does not read).

  * `Merge a ex l`: the keyword list `l` is an interleaving of `a` and `ex` (both in their own
    order).  Every dictionary operation of `dictify_element` / `undictify_element`
    (`userParams`, `serializeVal`, `dictSet`, `dictUpdate`, `combineToComplex`) maps an
    interleaving of `a` and `ex` to an interleaving of *its result on `a`* and the extras —
    provided it touches no key of `ex`; the only thing that happens to the extras themselves is
    `nextEx`: `None` values are dropped, values without serialiser (complex) become `None`.
  * `ExtOf ex x y`: the element `x` is the element `y` with extras `ex` merged in.
  * `saveLoad_ext` / `cycles_ext`: `saveLoad` / `cycles` of a drawing with extras succeed exactly
    when they do on the drawing without, raise the same error otherwise, and the results are
    again related (extras `nextEx ex`).
-/
import CC.Proofs.DrawDeclarative2
import CC.Proofs.DrawLift
import CC.Proofs.DrawLoad
namespace CC.Draw

/-- `l` is an interleaving of `a` and `ex` -/
inductive Merge : List (String × Val) → List (String × Val) → List (String × Val) → Prop
  | nil : Merge [] [] []
  | left (x : String × Val) {a ex l : List (String × Val)} : Merge a ex l → Merge (x :: a) ex (x :: l)
  | right (x : String × Val) {a ex l : List (String × Val)} : Merge a ex l → Merge a (x :: ex) (x :: l)

def NoKey (k : String) (ex : List (String × Val)) : Prop := ∀ kv ∈ ex, kv.1 ≠ k

theorem NoKey.tail {k : String} {x : String × Val} {ex : List (String × Val)} (h : NoKey k (x :: ex)) : NoKey k ex :=
  fun kv hkv => h kv (List.mem_cons_of_mem _ hkv)

theorem NoKey.filter {k : String} {ex : List (String × Val)} (h : NoKey k ex) (p : String × Val → Bool) :
    NoKey k (ex.filter p) := fun kv hkv => h kv (List.mem_filter.mp hkv).1

theorem NoKey.not_mem_keys {k : String} {ex : List (String × Val)} (h : NoKey k ex) : k ∉ ex.map (·.1) := fun hm => by
  obtain ⟨kv, hkv, hk⟩ := List.mem_map.mp hm
  exact h kv hkv hk

theorem Merge.append (a ex : List (String × Val)) : Merge a ex (a ++ ex) := by
  induction a with
  | nil =>
    induction ex with
    | nil => exact .nil
    | cons b bs ih => exact .right b ih
  | cons x xs ih => exact .left x ih

theorem Merge.nil_ex {a l : List (String × Val)} (h : Merge a [] l) : l = a := by
  generalize he : ([] : List (String × Val)) = ex at h
  induction h with
  | nil => rfl
  | left x _ ih => rw [ih he]
  | right x _ _ => cases he

theorem Merge.lookup {a ex l : List (String × Val)} (h : Merge a ex l) (k : String) (hk : NoKey k ex) :
    l.lookup k = a.lookup k := by
  induction h with
  | nil => rfl
  | left x _ ih =>
    obtain ⟨k₀, v₀⟩ := x
    rw [List.lookup_cons, List.lookup_cons, ih hk]
  | right x _ ih =>
    obtain ⟨k₀, v₀⟩ := x
    have hne : k₀ ≠ k := hk (k₀, v₀) List.mem_cons_self
    have hb : (k == k₀) = false := by simp [Ne.symm hne]
    rw [List.lookup_cons, hb]
    exact ih hk.tail

theorem Merge.set {a ex l : List (String × Val)} (h : Merge a ex l) (k : String) (v : Val) (hk : NoKey k ex) :
    Merge (dictSet k v a) ex (dictSet k v l) := by
  induction h with
  | nil => exact .left (k, v) .nil
  | @left x a ex l h ih =>
    obtain ⟨k₀, v₀⟩ := x
    by_cases h0 : k₀ = k
    · subst h0
      simp only [dictSet, ↓reduceIte]
      exact .left _ h
    · simp only [dictSet, h0, ↓reduceIte]
      exact .left _ (ih hk)
  | @right x a ex l h ih =>
    obtain ⟨k₀, v₀⟩ := x
    have hne : k₀ ≠ k := hk (k₀, v₀) List.mem_cons_self
    simp only [dictSet, hne, ↓reduceIte]
    exact .right _ (ih hk.tail)

theorem Merge.filter {a ex l : List (String × Val)} (h : Merge a ex l) (p : String × Val → Bool) :
    Merge (a.filter p) (ex.filter p) (l.filter p) := by
  induction h with
  | nil => exact .nil
  | left x _ ih =>
    simp only [List.filter_cons]
    split
    · exact .left x ih
    · exact ih
  | right x _ ih =>
    simp only [List.filter_cons]
    split
    · exact .right x ih
    · exact ih

theorem Merge.map {a ex l : List (String × Val)} (h : Merge a ex l) (f : String × Val → String × Val) :
    Merge (a.map f) (ex.map f) (l.map f) := by
  induction h with
  | nil => exact .nil
  | left x _ ih => exact .left _ ih
  | right x _ ih => exact .right _ ih

theorem Merge.update {ex : List (String × Val)} (m : List (String × Val)) (hm : ∀ kv ∈ m, NoKey kv.1 ex) :
    ∀ a l, Merge a ex l → Merge (dictUpdate a m) ex (dictUpdate l m) := by
  induction m with
  | nil => intro a l h; exact h
  | cons kv m ih =>
    intro a l h
    unfold dictUpdate
    simp only [List.foldl_cons]
    exact ih (fun kv' h' => hm kv' (List.mem_cons_of_mem _ h')) _ _ (h.set kv.1 kv.2 (hm kv List.mem_cons_self))

/-- the extras after one cycle: `None` values are not user parameters; values without a
serialiser (complex numbers) are stored as `None` -/
def nextEx (ex : List (String × Val)) : List (String × Val) :=
  (ex.filter (fun kv => decide (kv.2 ≠ .none))).map fun kv => (kv.1, serializeVal kv.2)

theorem NoKey.next {k : String} {ex : List (String × Val)} (h : NoKey k ex) : NoKey k (nextEx ex) := by
  intro kv hkv
  unfold nextEx at hkv
  obtain ⟨kv', hm, rfl⟩ := List.mem_map.mp hkv
  exact h kv' (List.mem_filter.mp hm).1

theorem nextEx_self {ex : List (String × Val)} (h : ∀ kv ∈ ex, valKept kv.2 = true) : nextEx ex = ex := by
  induction ex with
  | nil => rfl
  | cons kv ex ih =>
    have h1 := (valKept_iff kv.2).mp (h kv List.mem_cons_self)
    have h2 := ih (fun kv' h' => h kv' (List.mem_cons_of_mem _ h'))
    unfold nextEx at h2 ⊢
    simp only [List.filter_cons, h1.1, ne_eq, not_false_eq_true, decide_true, ↓reduceIte, List.map_cons, h1.2, h2]

theorem Merge.userParams {a ex l : List (String × Val)} (h : Merge a ex l) (c : ElemClass) (hr : NoKey "reverse" ex) :
    Merge (userParams c a) (ex.filter (fun kv => decide (kv.2 ≠ .none))) (userParams c l) := by
  have hl : lookupD l "reverse" (.bool false) = lookupD a "reverse" (.bool false) := by
    unfold lookupD; rw [h.lookup _ hr]
  have hf := h.filter (fun kv => decide (kv.2 ≠ .none))
  unfold CC.Draw.userParams
  simp only [hl]
  split
  · exact hf.set _ _ (hr.filter _)
  · split
    · exact hf.set _ _ (hr.filter _)
    · exact hf

/-- keys of the value dictionaries of the component constructors (they come back as keywords on load) -/
def ctorValueKeys : List String := Gen.ctors.flatMap fun k => k.values.map (·.1)

/-- keys `combine_to_complex` reads, removes and writes -/
def combineKeys : List String :=
  Gen.loaderTypes.flatMap fun lt => match lt.combine with | some (a, b, z) => [a, b, z] | none => []

/-- keys `undictify_element` sets itself -/
def reservedKeys : List String := ["name", "reverse", "deg", "sin"] ++ ctorValueKeys ++ combineKeys

/-- no extra has a key that the class reads or that the loader writes -/
def KeysOK (c : ElemClass) (ex : List (String × Val)) : Prop := ∀ k ∈ usedKeys c ++ reservedKeys, NoKey k ex

def keysOK (c : ElemClass) (ex : List (String × Val)) : Bool := ex.all fun kv => !(usedKeys c ++ reservedKeys).contains kv.1

theorem keysOK_iff (c : ElemClass) (ex : List (String × Val)) : keysOK c ex = true ↔ KeysOK c ex := by
  unfold keysOK KeysOK NoKey
  simp only [List.all_eq_true, Bool.not_eq_true', List.contains_eq_mem, decide_eq_false_iff_not]
  constructor
  · intro h k hk kv hkv heq
    exact h kv hkv (heq ▸ hk)
  · intro h kv hkv hm
    exact h kv.1 hm kv hkv rfl

theorem KeysOK.next {c : ElemClass} {ex : List (String × Val)} (h : KeysOK c ex) : KeysOK c (nextEx ex) :=
  fun k hk => (h k hk).next

theorem KeysOK.used {c : ElemClass} {ex : List (String × Val)} (h : KeysOK c ex) {k : String} (hk : k ∈ usedKeys c) :
    NoKey k ex := h k (List.mem_append_left _ hk)

theorem KeysOK.reserved {c : ElemClass} {ex : List (String × Val)} (h : KeysOK c ex) {k : String} (hk : k ∈ reservedKeys) :
    NoKey k ex := h k (List.mem_append_right _ hk)

/-- the element `x` is the persistable element `y` with the extras `ex` merged into its keywords -/
structure ExtOf (ex : List (String × Val)) (x y : DElem) : Prop where
  cls : x.cls = y.cls
  start : x.start = y.start
  stop : x.stop = y.stop
  kw : Merge y.kwargs ex x.kwargs
  pers : y.cls ∈ persistableClasses
  keys : ∀ c, classInfo y.cls = some c → KeysOK c ex

/-- the saved element `sx` is the saved element `sy` with the extras `ex` merged into its user parameters -/
structure SExtOf (ex : List (String × Val)) (sx sy : SavedElem) : Prop where
  typ : sx.typ = sy.typ
  name : sx.name = sy.name
  rev : sx.rev = sy.rev
  start : sx.start = sy.start
  stop : sx.stop = sy.stop
  kw : Merge sy.userparams ex sx.userparams
  cls : ∃ n c, n ∈ persistableClasses ∧ classInfo n = some c ∧ sy.typ = c.typ ∧ KeysOK c ex

theorem construct_ext (π : Rat) {ex : List (String × Val)} {x y : DElem} (h : ExtOf ex x y) :
    construct π x.cls x.kwargs = construct π y.cls y.kwargs := by
  rw [h.cls]
  cases hc : classInfo y.cls with
  | none => rw [construct_unknown π _ hc, construct_unknown π _ hc]
  | some c =>
    apply construct_congr π _ c hc
    intro k hk
    exact h.kw.lookup k ((h.keys c hc).used hk)

theorem toSym_ext (π : Rat) {ex : List (String × Val)} {x y : DElem} (h : ExtOf ex x y) :
    x.toSym π = y.toSym π := by
  unfold DElem.toSym
  rw [construct_ext π h, h.cls, h.start, h.stop]

theorem dictify_ext (π : Rat) {ex : List (String × Val)} {x y : DElem} (h : ExtOf ex x y) :
    XRel (SExtOf (nextEx ex)) (dictifyElement π x) (dictifyElement π y) := by
  unfold dictifyElement
  rw [construct_ext π h, h.cls]
  cases construct π y.cls y.kwargs with
  | error e => exact rfl
  | ok o =>
    cases hc : classInfo y.cls with
    | none => exact rfl
    | some c =>
      have hk := h.keys c hc
      have hrev : NoKey "reverse" ex := hk.reserved (by simp [reservedKeys])
      have hm := (h.kw.userParams c hrev).map (fun kv => (kv.1, serializeVal kv.2))
      exact ⟨rfl, rfl, rfl, h.start, h.stop, hm, y.cls, c, h.pers, hc, rfl, hk.next⟩

def CircOK (circ : List (String × List (String × Val))) : Prop := ∀ e ∈ circ, ∀ kv ∈ e.2, kv.1 ∈ ctorValueKeys

theorem loadKw_merge {circ : List (String × List (String × Val))} (hcirc : CircOK circ) (name : String) (rev : Bool)
    {c : ElemClass} {ex a l : List (String × Val)} (hk : KeysOK c ex) (h : Merge a ex l) :
    Merge (loadKw circ name rev a) ex (loadKw circ name rev l) := by
  have hname : NoKey "name" ex := hk.reserved (by simp [reservedKeys])
  have hrev : NoKey "reverse" ex := hk.reserved (by simp [reservedKeys])
  have hdeg : NoKey "deg" ex := hk.reserved (by simp [reservedKeys])
  have hsin : NoKey "sin" ex := hk.reserved (by simp [reservedKeys])
  have h1 := (h.set "name" (.str name) hname).set "reverse" (.bool rev) hrev
  unfold loadKw
  cases hl : circ.reverse.lookup name with
  | none => exact h1
  | some vals =>
    have hv : ∀ kv ∈ vals, NoKey kv.1 ex := by
      intro kv hkv
      have hm := mem_of_lookup_some hl
      have := hcirc (name, vals) (List.mem_reverse.mp hm) kv hkv
      exact hk.reserved (by
        unfold reservedKeys
        exact List.mem_append_left _ (List.mem_append_right _ this))
    have h2 := Merge.update vals hv _ _ h1
    simp only
    split
    · exact (h2.set "deg" _ hdeg).set "sin" _ hsin
    · exact h2

theorem combine_ext {ex a l : List (String × Val)} (h : Merge a ex l) (reK imK zK : String)
    (hre : NoKey reK ex) (him : NoKey imK ex) (hz : NoKey zK ex) :
    XRel (fun l' a' => Merge a' ex l') (combineToComplex reK imK zK l) (combineToComplex reK imK zK a) := by
  have hp : ∀ k, NoKey k ex → complexPart l k = complexPart a k := fun k hk => by
    unfold complexPart; rw [h.lookup k hk]
  rw [combineToComplex_eq, combineToComplex_eq, hp reK hre, hp imK him]
  cases complexPart a reK with
  | error e => exact rfl
  | ok re =>
    cases complexPart a imK with
    | error e => exact rfl
    | ok im =>
      have := (h.filter (fun kv => decide (kv.1 ≠ reK))).filter (fun kv => decide (kv.1 ≠ imK))
      rw [filter_key_of_not_mem hre.not_mem_keys, filter_key_of_not_mem him.not_mem_keys] at this
      exact this.set zK _ hz

theorem loader_of_persistable : ∀ n ∈ persistableClasses, (loaderOf n).map (·.1) = some n := by decide +kernel

theorem combine_mem {lt : LoaderType} (hlt : lt ∈ Gen.loaderTypes) {reK imK zK : String} (hc : lt.combine = some (reK, imK, zK)) :
    reK ∈ reservedKeys ∧ imK ∈ reservedKeys ∧ zK ∈ reservedKeys := by
  have : ∀ k ∈ [reK, imK, zK], k ∈ reservedKeys := by
    intro k hk
    unfold reservedKeys combineKeys
    apply List.mem_append_right
    exact List.mem_flatMap.mpr ⟨lt, hlt, by rw [hc]; exact hk⟩
  exact ⟨this _ (by simp), this _ (by simp), this _ (by simp)⟩

theorem undictify_ext {circ : List (String × List (String × Val))} (hcirc : CircOK circ) {ex : List (String × Val)}
    {sx sy : SavedElem} (h : SExtOf ex sx sy) : XRel (ExtOf ex) (undictifyDElem circ sx) (undictifyDElem circ sy) := by
  obtain ⟨n, c, hn, hc, htyp, hk⟩ := h.cls
  have hm := loadKw_merge hcirc sy.name sy.rev hk h.kw
  obtain ⟨⟨_, comb⟩, hL, rfl⟩ := Option.map_eq_some_iff.mp (loader_of_persistable n hn)
  obtain ⟨c', lt, hc', hfind, hcls, -⟩ := loaderOf_eq_some hL
  cases hc.symm.trans hc'
  have hkeys : ∀ c', classInfo lt.cls = some c' → KeysOK c' ex := by
    intro c' hc'
    rw [hcls, hc] at hc'
    cases hc'
    exact hk
  unfold undictifyDElem
  rw [undictifyKwargs_eq, undictifyKwargs_eq, h.typ, h.name, h.rev, h.start, h.stop, htyp, hfind]
  simp only
  cases hcomb : lt.combine with
  | none =>
    exact ⟨rfl, rfl, rfl, hm, hcls ▸ hn, hkeys⟩
  | some t =>
    obtain ⟨reK, imK, zK⟩ := t
    obtain ⟨h1, h2, h3⟩ := combine_mem (List.mem_of_find?_eq_some hfind) hcomb
    have hx := combine_ext hm reK imK zK (hk.reserved h1) (hk.reserved h2) (hk.reserved h3)
    simp only [bind_assoc, pure_bind]
    exact hx.bind fun a b hab => ⟨rfl, rfl, rfl, hab, hcls ▸ hn, hkeys⟩

theorem mapM_keys {α : Type} (g : String × α → Except Err Val) {l : List (String × α)} {v : List (String × Val)}
    (h : List.Forall₂ (fun kv w => (do pure (kv.1, ← g kv) : Except Err (String × Val)) = .ok w) l v) :
    v.map (·.1) = l.map (·.1) :=
  forall₂_map_eq (fun kv w hw => by obtain ⟨x, _, hx⟩ := bind_eq_ok.1 hw; cases hx; rfl) h

theorem ctorValue_keys (spec : CtorSpec) (args v : List (String × Val)) (h : ctorValue spec args = .ok v) :
    v.map (·.1) = spec.values.map (·.1) := by
  unfold ctorValue at h
  dsimp only at h
  split at h
  · cases h
  obtain ⟨env, _, h⟩ := bind_eq_ok.1 h
  obtain ⟨_, _, h⟩ := bind_eq_ok.1 h
  obtain ⟨_, _, h⟩ := bind_eq_ok.1 h
  obtain ⟨_, _, h⟩ := bind_eq_ok.1 h
  exact mapM_keys (fun kv => evalC env kv.2) (mapM_eq_ok.mp h)

theorem compOfSym_keys (π : Rat) (s : Sym) (nodes : List String) (k : Component)
    (h : compOfSym π s nodes = .ok (some k)) : ∀ kv ∈ k.value, kv.1 ∈ ctorValueKeys := by
  obtain ⟨spec, hspec, args, v, hv, _, hval⟩ := compOfSym_built π s nodes k h
  intro kv hkv
  refine List.mem_flatMap.mpr ⟨spec, hspec, ?_⟩
  rw [← ctorValue_keys spec args v hv, ← hval]
  exact List.mem_map.mpr ⟨kv, hkv, rfl⟩

/-- the circuit section stored with a drawing -/
def circOf (c : Circuit) : List (String × List (String × Val)) := c.components.map fun k => (k.id, k.value)

theorem circuit_circOK (π : Rat) (ord : SetOrd Pt) (syms : List Sym) (c : Circuit)
    (h : circuitTranslator π ord syms = .ok c) : CircOK (circOf c) := by
  obtain ⟨r, hr, hc⟩ := circuitTranslator_inv h
  intro e he kv hkv
  unfold circOf at he
  rw [(mkCircuit_ok hc).1] at he
  obtain ⟨k, hk, rfl⟩ := List.mem_map.mp he
  obtain ⟨s, _, hs⟩ := mem_compsOf hr hk
  obtain ⟨la, lb, _, _, hcomp⟩ := translateSym_inv hs
  exact compOfSym_keys π s _ k hcomp kv hkv

inductive All₃ {E α β : Type} (R : E → α → β → Prop) : List E → List α → List β → Prop
  | nil : All₃ R [] [] []
  | cons {e : E} {a : α} {b : β} {es : List E} {as : List α} {bs : List β} :
      R e a b → All₃ R es as bs → All₃ R (e :: es) (a :: as) (b :: bs)

theorem mapM_all3 {E E' α β α' β' : Type} {R : E → α → β → Prop} {S : E' → α' → β' → Prop} (φ : E → E')
    (f : α → Except Err α') (g : β → Except Err β') (hfg : ∀ e a b, R e a b → XRel (S (φ e)) (f a) (g b))
    {es : List E} {as : List α} {bs : List β} (h : All₃ R es as bs) :
    XRel (All₃ S (es.map φ)) (as.mapM f) (bs.mapM g) := by
  induction h with
  | nil => exact All₃.nil
  | @cons e a b es as bs hr _ ih =>
    rw [List.mapM_cons, List.mapM_cons]
    exact (hfg e a b hr).bind fun x y h1 => ih.bind fun xs ys h2 => All₃.cons h1 h2

theorem instantiate_ext (π : Rat) {exs : List (List (String × Val))} {d d0 : List DElem} (h : All₃ ExtOf exs d d0) :
    instantiate π d = instantiate π d0 := by
  unfold instantiate
  induction h with
  | nil => rfl
  | cons hr _ ih => simp only [List.mapM_cons, toSym_ext π hr, ih]

theorem circuitOf_ext (π : Rat) (ord : SetOrd Pt) {exs : List (List (String × Val))} {d d0 : List DElem}
    (h : All₃ ExtOf exs d d0) : circuitOf π ord d = circuitOf π ord d0 := by
  unfold circuitOf
  rw [instantiate_ext π h]

theorem saveLoad_ext (π : Rat) (ord : SetOrd Pt) {exs : List (List (String × Val))} {d d0 : List DElem}
    (h : All₃ ExtOf exs d d0) : XRel (All₃ ExtOf (exs.map nextEx)) (saveLoad π ord d) (saveLoad π ord d0) := by
  unfold saveLoad
  rw [instantiate_ext π h]
  cases instantiate π d0 with
  | error e => exact rfl
  | ok syms =>
    simp only [bind, Except.bind]
    cases hct : circuitTranslator π ord syms with
    | error e => exact rfl
    | ok c =>
      have hcirc : CircOK (circOf c) := circuit_circOK π ord syms c hct
      have h3 := mapM_all3 (S := SExtOf) nextEx (dictifyElement π) (dictifyElement π) (fun e a b hr => dictify_ext π hr) h
      exact h3.bind fun x y h3 => by
        have h4 := mapM_all3 (S := ExtOf) id (undictifyDElem (circOf c)) (undictifyDElem (circOf c))
          (fun e a b hr => undictify_ext hcirc hr) h3
        rw [List.map_id] at h4
        exact h4

def nextExN : Nat → List (String × Val) → List (String × Val)
  | 0, ex => ex
  | n + 1, ex => nextExN n (nextEx ex)

theorem cycles_ext (π : Rat) (ord : SetOrd Pt) (n : Nat) : ∀ {exs : List (List (String × Val))} {d d0 : List DElem},
    All₃ ExtOf exs d d0 → XRel (All₃ ExtOf (exs.map (nextExN n))) (cycles π ord n d) (cycles π ord n d0) := by
  induction n with
  | zero =>
    intro exs d d0 h
    have : exs.map (nextExN 0) = exs := by
      have : nextExN 0 = id := rfl
      rw [this, List.map_id]
    rw [this]
    exact h
  | succ n ih =>
    intro exs d d0 h
    have h1 := saveLoad_ext π ord h
    have hm : exs.map (nextExN (n + 1)) = (exs.map nextEx).map (nextExN n) := by
      rw [List.map_map]; rfl
    rw [hm]
    unfold cycles
    exact h1.bind fun x y h1 => ih h1

theorem nextExN_self {ex : List (String × Val)} (h : ∀ kv ∈ ex, valKept kv.2 = true) (n : Nat) : nextExN n ex = ex := by
  induction n with
  | zero => rfl
  | succ n ih => unfold nextExN; rw [nextEx_self h, ih]

end CC.Draw
