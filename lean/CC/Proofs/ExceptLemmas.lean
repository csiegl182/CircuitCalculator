/-
  CC.Proofs.ExceptLemmas — `Except ε` as the development uses it: `>>=`, `pure`, `throw` on the two constructors, and
  what `List.mapM` and `forM` return: a successful traversal is a `List.Forall₂`, a failed one fails at its first
  failing element.  The other facts about a successful `mapM` (lengths, indices, `cons`, permutations) are Mathlib's
  lemmas about `Forall₂`; the few `Forall₂` facts Mathlib lacks stand here too (`forall₂_mem`, `forall₂_map_eq`,
  `forall₂_filter_map_eq`, `forall₂_mapM_eq`).  A `foldlM` or `forIn` whose steps all succeed is the plain fold
  (`foldlM_eq_ok`, `forIn_yield`).
-/
import Mathlib.Data.List.Forall2
namespace CC

section
variable {ε α β : Type}

theorem ok_bind (a : α) (f : α → Except ε β) : (Except.ok a >>= f) = f a := rfl
theorem error_bind (e : ε) (f : α → Except ε β) : (Except.error e >>= f) = .error e := rfl
theorem pure_eq_ok (a : α) : (pure a : Except ε α) = .ok a := rfl

theorem bind_eq_ok {x : Except ε α} {f : α → Except ε β} {b : β} :
    (x >>= f) = .ok b ↔ ∃ a, x = .ok a ∧ f a = .ok b := by
  cases x <;> simp [bind, Except.bind]

theorem bind_eq_error {x : Except ε α} {f : α → Except ε β} {e : ε} :
    (x >>= f) = .error e ↔ x = .error e ∨ ∃ a, x = .ok a ∧ f a = .error e := by
  cases x <;> simp [bind, Except.bind]

theorem bind_congr_ok {x : Except ε α} {f g : α → Except ε β} (h : ∀ a, x = .ok a → f a = g a) : (x >>= f) = (x >>= g) := by
  cases x with
  | error e => rfl
  | ok a => exact h a rfl

theorem map_eq_ok {x : Except ε α} {f : α → β} {b : β} : x.map f = .ok b ↔ ∃ a, x = .ok a ∧ b = f a := by
  cases x <;> simp [Except.map, eq_comm]

theorem mapM_eq_ok {f : α → Except ε β} : ∀ {l : List α} {bs : List β},
    l.mapM f = .ok bs ↔ List.Forall₂ (fun a b => f a = .ok b) l bs
  | [], bs => by cases bs <;> simp [pure, Except.pure]
  | a :: l, bs => by
    simp only [List.mapM_cons, bind_eq_ok, pure_eq_ok, Except.ok.injEq, List.forall₂_cons_left_iff,
      mapM_eq_ok (l := l), eq_comm (a := bs)]
    exact ⟨fun ⟨b, hb, u, hu, e⟩ => ⟨b, u, hb, hu, e⟩, fun ⟨b, u, hb, hu, e⟩ => ⟨b, hb, u, hu, e⟩⟩

theorem mapM_eq_error {f : α → Except ε β} {e : ε} {l : List α} :
    l.mapM f = .error e ↔
      ∃ pre a post, l = pre ++ a :: post ∧ (∀ x ∈ pre, ∃ b, f x = .ok b) ∧ f a = .error e := by
  constructor
  · intro h
    induction l with
    | nil => cases h
    | cons x l ih =>
      rw [List.mapM_cons] at h
      cases hx : f x with
      | error e' => rw [hx] at h; cases h; exact ⟨[], x, l, rfl, List.forall_mem_nil _, hx⟩
      | ok b =>
        rw [hx, ok_bind] at h
        cases hl : l.mapM f with
        | ok bs => rw [hl] at h; cases h
        | error e' =>
          rw [hl] at h; cases h
          obtain ⟨pre, a, post, rfl, hpre, ha⟩ := ih hl
          exact ⟨x :: pre, a, post, rfl, List.forall_mem_cons.2 ⟨⟨b, hx⟩, hpre⟩, ha⟩
  · rintro ⟨pre, a, post, rfl, hpre, ha⟩
    induction pre with
    | nil => rw [List.nil_append, List.mapM_cons, ha]; rfl
    | cons x pre ih =>
      obtain ⟨⟨b, hb⟩, hpre⟩ := List.forall_mem_cons.1 hpre
      rw [List.cons_append, List.mapM_cons, hb, ih hpre]; rfl

theorem mapM_pointwise {f : α → Except ε β} (g : α → β) {l : List α} (h : ∀ a ∈ l, f a = .ok (g a)) :
    l.mapM f = .ok (l.map g) :=
  mapM_eq_ok.2 (List.forall₂_map_right_iff.2 (List.forall₂_same.2 h))

theorem mapM_ite {f : α → Except ε β} {p : α → Bool} {g : α → β} {e : ε}
    (h : ∀ a, f a = if p a then .ok (g a) else .error e) (l : List α) :
    l.mapM f = if l.all p then .ok (l.map g) else .error e := by
  induction l with
  | nil => rfl
  | cons a l ih =>
    rw [List.mapM_cons, ih, h a, List.all_cons]
    cases p a <;> cases l.all p <;> rfl

theorem mapM_map_left {γ : Type} (F : α → Except ε β) (h : β → γ) (l : List α) :
    List.mapM (fun a => (F a).map h) l = (List.mapM F l).map (List.map h) := by
  induction l with
  | nil => rfl
  | cons a l ih =>
    rw [List.mapM_cons, List.mapM_cons, ih]
    cases F a with
    | error e => rfl
    | ok b => cases List.mapM F l <;> rfl

theorem mapM_isOk {f : α → Except ε β} {l : List α} : (∃ bs, l.mapM f = .ok bs) ↔ ∀ x ∈ l, ∃ b, f x = .ok b := by
  induction l with
  | nil => simp [pure, Except.pure]
  | cons a l ih =>
    rw [List.forall_mem_cons, ← ih]
    constructor
    · rintro ⟨bs, h⟩
      obtain ⟨b, u, hb, hu, rfl⟩ := List.forall₂_cons_left_iff.1 (mapM_eq_ok.1 h)
      exact ⟨⟨b, hb⟩, u, mapM_eq_ok.2 hu⟩
    · rintro ⟨⟨b, hb⟩, u, hu⟩
      exact ⟨b :: u, mapM_eq_ok.2 (.cons hb (mapM_eq_ok.1 hu))⟩

theorem mapM_error_of_mem (f : α → Except ε β) (l : List α) (a : α) (ha : a ∈ l)
    (e : ε) (hf : f a = .error e) : ∃ e', l.mapM f = .error e' := by
  cases h : l.mapM f with
  | error e' => exact ⟨e', rfl⟩
  | ok bs => obtain ⟨b, hb⟩ := mapM_isOk.1 ⟨bs, h⟩ a ha; rw [hf] at hb; cases hb

theorem mapM_pair (f : α → Except ε β) (a b : α) :
    [a, b].mapM f = (do let x ← f a; let y ← f b; pure [x, y]) := by
  simp [List.mapM_cons]

theorem mapM_mapM_ok {α β γ : Type} {f : α → Except ε β} {g : β → Except ε γ} :
    ∀ {l : List α} {m : List β} {r : List γ}, l.mapM f = .ok m → m.mapM g = .ok r →
      List.Forall₂ (fun a c => ∃ b, f a = .ok b ∧ g b = .ok c) l r := by
  intro l m r h1 h2
  have F1 := mapM_eq_ok.mp h1
  have F2 := mapM_eq_ok.mp h2
  clear h1 h2
  induction F1 generalizing r with
  | nil => cases F2; exact .nil
  | cons hab _ ih =>
    cases F2 with
    | cons hbc F2 => exact .cons ⟨_, hab, hbc⟩ (ih F2)

theorem forall₂_exists_mem {R : α → β → Prop} {l : List α} {bs : List β} (h : List.Forall₂ R l bs) :
    ∀ a ∈ l, ∃ b ∈ bs, R a b := by
  induction h with
  | nil => exact fun _ h => nomatch h
  | cons hab _ ih =>
    intro a ha
    rcases List.mem_cons.mp ha with rfl | ha
    · exact ⟨_, List.mem_cons_self, hab⟩
    · obtain ⟨b, hb, hr⟩ := ih a ha
      exact ⟨b, List.mem_cons_of_mem _ hb, hr⟩

theorem forall₂_map_eq_mem {α β γ : Type} {R : α → β → Prop} {g : β → γ} {h : α → γ} :
    ∀ {l : List α} {bs : List β}, List.Forall₂ R l bs →
      (∀ a b, a ∈ l → b ∈ bs → R a b → g b = h a) → bs.map g = l.map h := by
  intro l bs hf
  induction hf with
  | nil => intro _; rfl
  | cons hab _ ih =>
    intro hR
    simp only [List.map_cons]
    rw [hR _ _ (List.mem_cons_self ..) (List.mem_cons_self ..) hab,
      ih (fun a b ha hb => hR a b (List.mem_cons_of_mem _ ha) (List.mem_cons_of_mem _ hb))]

theorem forall₂_map_eq {α β γ : Type} {R : α → β → Prop} {g : β → γ} {h : α → γ}
    (hR : ∀ a b, R a b → g b = h a) {l : List α} {bs : List β} (hf : List.Forall₂ R l bs) : bs.map g = l.map h :=
  forall₂_map_eq_mem hf fun a b _ _ => hR a b

theorem forall₂_mem {R : α → β → Prop} {l : List α} {l' : List β} (h : List.Forall₂ R l l') :
    List.Forall₂ (fun a b => a ∈ l ∧ R a b) l l' := by
  induction h with
  | nil => exact .nil
  | cons hab _ ih =>
    exact .cons ⟨List.mem_cons_self, hab⟩ (ih.imp fun a b h => ⟨List.mem_cons_of_mem _ h.1, h.2⟩)

theorem forall₂_mapM_eq {γ : Type} {R : α → α → Prop} {F : α → Except ε γ} {l l' : List α}
    (h : List.Forall₂ R l l') (hR : ∀ a b, R a b → F b = F a) : l'.mapM F = l.mapM F := by
  induction h with
  | nil => rfl
  | cons hab _ ih => rw [List.mapM_cons, List.mapM_cons, hR _ _ hab, ih]

theorem forall₂_filter_map_eq {α β γ : Type} {R : α → β → Prop} {p : α → Bool} {p' : β → Bool} {f : α → γ} {f' : β → γ}
    {l : List α} {l' : List β} (h : List.Forall₂ R l l') (hR : ∀ a b, R a b → p' b = p a ∧ f' b = f a) :
    (l'.filter p').map f' = (l.filter p).map f := by
  induction h with
  | nil => rfl
  | cons hab _ ih =>
    obtain ⟨hp, hf⟩ := hR _ _ hab
    simp only [List.filter_cons, hp]
    split
    · rw [List.map_cons, List.map_cons, hf, ih]
    · exact ih

theorem foldlM_eq_ok {α γ : Type} {f : γ → α → Except ε γ} (f' : γ → α → γ) :
    ∀ (l : List α) (a : γ), (∀ x ∈ l, ∀ a, f a x = .ok (f' a x)) → l.foldlM f a = .ok (l.foldl f' a)
  | [], _, _ => rfl
  | x :: l, a, h => by
    rw [List.foldlM_cons, h x List.mem_cons_self]
    exact foldlM_eq_ok f' l _ fun y hy => h y (List.mem_cons_of_mem _ hy)

theorem foldlM_flatMap {α β γ : Type} (f : γ → β → Except ε γ) (g : α → List β) :
    ∀ (l : List α) (a : γ), l.foldlM (fun acc x => (g x).foldlM f acc) a = (l.flatMap g).foldlM f a
  | [], _ => rfl
  | x :: l, a => by
    rw [List.foldlM_cons, List.flatMap_cons, List.foldlM_append]
    exact bind_congr fun b => foldlM_flatMap f g l b

theorem foldlM_congr_mem {α β : Type} (f g : β → α → Except ε β) (l : List α)
    (h : ∀ x ∈ l, ∀ a, f a x = g a x) : ∀ a, l.foldlM f a = l.foldlM g a := by
  induction l with
  | nil => intro a; rfl
  | cons x xs ih =>
    intro a
    simp only [List.foldlM_cons, h x List.mem_cons_self a]
    congr 1
    funext a'
    exact ih (fun y hy => h y (List.mem_cons_of_mem _ hy)) a'

theorem forIn_yield {α : Type} {l : List α} {f : α → PUnit → Except ε (ForInStep PUnit)}
    (h : ∀ a ∈ l, f a ⟨⟩ = .ok (.yield ⟨⟩)) : forIn l PUnit.unit f = .ok ⟨⟩ := by
  induction l with
  | nil => rfl
  | cons a l ih =>
    rw [List.forIn_cons, h a List.mem_cons_self]
    exact ih fun b hb => h b (List.mem_cons_of_mem a hb)

theorem forM_eq_ok {f : α → Except ε Unit} {l : List α} : forM l f = .ok () ↔ ∀ x ∈ l, f x = .ok () := by
  induction l with
  | nil => simp [pure, Except.pure]
  | cons a l ih =>
    rw [List.forM_cons, bind_eq_ok, List.forall_mem_cons, ih]
    exact ⟨fun ⟨(), h, h'⟩ => ⟨h, h'⟩, fun ⟨h, h'⟩ => ⟨(), h, h'⟩⟩

theorem forM_eq_error {f : α → Except ε Unit} {e : ε} {l : List α} :
    forM l f = .error e ↔ ∃ pre a post, l = pre ++ a :: post ∧ (∀ x ∈ pre, f x = .ok ()) ∧ f a = .error e := by
  induction l with
  | nil => simp [pure, Except.pure]
  | cons x l ih =>
    rw [List.forM_cons, bind_eq_error, ih]
    constructor
    · rintro (h | ⟨_, hb, pre, a, post, rfl, hpre, ha⟩)
      · exact ⟨[], x, l, rfl, by simp, h⟩
      · exact ⟨x :: pre, a, post, rfl, List.forall_mem_cons.2 ⟨hb, hpre⟩, ha⟩
    · rintro ⟨pre, a, post, hl, hpre, ha⟩
      cases pre with
      | nil => cases hl; exact .inl ha
      | cons y pre =>
        cases hl
        obtain ⟨hb, hpre⟩ := List.forall_mem_cons.1 hpre
        exact .inr ⟨(), hb, pre, a, post, rfl, hpre, ha⟩

theorem forM_error_of_mem (f : α → Except ε Unit) (l : List α) (a : α) (ha : a ∈ l)
    (e : ε) (hf : f a = .error e) : ∃ e', forM l f = .error e' := by
  cases h : forM l f with
  | error e' => exact ⟨e', rfl⟩
  | ok u => rw [forM_eq_ok.1 h a ha] at hf; cases hf

theorem mapM_ok_getElem? {α β ε : Type} (f : α → Except ε β) {l : List α} {out : List β}
    (h : l.mapM f = .ok out) (k : Nat) :
    out[k]? = (l[k]?).bind fun a => match f a with | .ok b => some b | .error _ => none := by
  have hF := mapM_eq_ok.1 h
  clear h
  induction hF generalizing k with
  | nil => rfl
  | cons hb _ ih =>
    cases k with
    | zero => simp only [List.getElem?_cons_zero, Option.bind_some, hb]
    | succ k => simp only [List.getElem?_cons_succ, ih k]

theorem ite_error_eq_ok {p : Prop} [Decidable p] {k : Nat} {rest : Except Nat Unit} :
    (if p then .error k else rest) = .ok () ↔ ¬ p ∧ rest = .ok () := by
  by_cases h : p
  · rw [if_pos h]; exact ⟨nofun, fun h' => absurd h h'.1⟩
  · rw [if_neg h]; exact ⟨fun h' => ⟨h, h'⟩, fun h' => h'.2⟩

end

/-- a traversal with values in `Option` that succeeds carries over to `Except`, element by element -/
theorem mapM_ok_of_mapM_some {α β γ ε : Type} {f : α → Except ε β} {g : α → Option γ} {h : β → γ} :
    ∀ (l : List α) (cs : List γ), (∀ a ∈ l, ∀ c, g a = some c → ∃ b, f a = .ok b ∧ h b = c) →
      l.mapM g = some cs → ∃ bs, l.mapM f = .ok bs ∧ bs.map h = cs
  | [], cs, _, hg => by cases hg; exact ⟨[], rfl, rfl⟩
  | a :: l, cs, H, hg => by
    rw [List.mapM_cons] at hg
    obtain ⟨c, hc, hg⟩ := Option.bind_eq_some_iff.mp hg
    obtain ⟨cs', hcs', hg⟩ := Option.bind_eq_some_iff.mp hg
    cases hg
    obtain ⟨b, hb, rfl⟩ := H a (List.mem_cons_self ..) c hc
    obtain ⟨bs, hbs, rfl⟩ := mapM_ok_of_mapM_some l cs' (fun a ha => H a (List.mem_cons_of_mem _ ha)) hcs'
    exact ⟨b :: bs, by rw [List.mapM_cons, hb, hbs]; rfl, rfl⟩

end CC
