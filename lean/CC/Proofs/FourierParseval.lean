/-
  CC.Proofs.FourierParseval — Parseval's identity for a bounded measurable real function whose
  Fourier coefficients are given by an amplitude/phase sequence (via Mathlib's
  `hasSum_sq_fourierCoeffOn`).
-/
import CC.Proofs.FourierWave
import Mathlib.Analysis.Fourier.AddCircle
import Mathlib.MeasureTheory.Function.Floor

namespace CC.Fourier
open MeasureTheory Complex

theorem fourierCoeffOn_eq_coeff (f : ℝ → ℝ) (T : ℝ) (hT : 0 < T) (n : ℤ) :
    fourierCoeffOn hT (fun t => ((f t : ℝ) : ℂ)) n = coeff f T n := by
  rw [fourierCoeffOn_eq_integral, coeff_eq]
  simp only [fourier_coe_apply, sub_zero, smul_eq_mul, Complex.real_smul]
  congr 1
  · push_cast; rfl
  · apply intervalIntegral.integral_congr
    intro t _
    simp only
    rw [mul_comm]
    congr 2
    unfold cexpo
    push_cast
    ring

theorem norm_half_mul_cexp (r θ : ℝ) : ‖((r / 2 : ℝ) : ℂ) * cexp (I * (θ : ℂ))‖ = |r| / 2 := by
  rw [norm_mul, Complex.norm_real, mul_comm I, Complex.norm_exp_ofReal_mul_I, mul_one, Real.norm_eq_abs,
    abs_div, abs_two]

theorem parseval_of_coeff (f : ℝ → ℝ) (T : ℝ) (hT : 0 < T) (hm : Measurable f) (C : ℝ)
    (hb : ∀ t, |f t| ≤ C) (a φ : ℕ → ℝ) (h0 : coeff f T 0 = (a 0 : ℂ))
    (hn : ∀ n : ℕ, 1 ≤ n → coeff f T n = ((a n / 2 : ℝ) : ℂ) * cexp (I * (φ n : ℂ))) :
    HasSum (fun n : ℕ => if n = 0 then a 0 ^ 2 else a n ^ 2 / 2)
      ((1 / T) * ∫ t in (0:ℝ)..T, f t ^ 2) := by
  have hP := hasSum_sq_fourierCoeffOn (f := fun t => ((f t : ℝ) : ℂ)) hT
    (MemLp.of_bound (Complex.measurable_ofReal.comp hm).aestronglyMeasurable C
      (.of_forall fun t => (Complex.norm_real _).trans_le (hb t)))
  simp only [fourierCoeffOn_eq_coeff f T hT, Complex.norm_real, Real.norm_eq_abs, sq_abs, sub_zero, smul_eq_mul,
    ← one_div] at hP
  -- fold the sum over `ℤ` onto `ℕ`: the orders `n` and `−n` contribute the same, order 0 once
  have h2 := hP.nat_add_neg.sub (hasSum_ite_eq 0 (‖coeff f T 0‖ ^ 2))
  rw [add_sub_cancel_right] at h2
  refine (congrArg (HasSum · _) (funext fun n => ?_)).mpr h2
  rw [coeff_neg, Complex.norm_conj]
  split_ifs with h
  · rw [h, Nat.cast_zero, h0, Complex.norm_real, Real.norm_eq_abs, sq_abs]
    ring
  · rw [hn n (Nat.one_le_iff_ne_zero.mpr h), norm_half_mul_cexp, div_pow, sq_abs]
    ring

theorem measurable_fmodR (T : ℝ) : Measurable fun u : ℝ => fmodR u T :=
  measurable_id.sub (measurable_const.mul
    (measurable_from_top.comp (measurable_id.div_const T).floor : Measurable fun u : ℝ => ((⌊u / T⌋ : ℤ) : ℝ)))

theorem measurable_plFun (T a1 b1 a2 b2 : ℝ) : Measurable (plFun T a1 b1 a2 b2) :=
  Measurable.ite (measurableSet_lt measurable_id measurable_const) (by fun_prop) (by fun_prop)

theorem abs_plFun_le {T a1 b1 a2 b2 u : ℝ} (h0 : 0 ≤ u) (h1 : u < T) :
    |plFun T a1 b1 a2 b2 u| ≤ |a1| + |b1| + (|a2| + |b2|) := by
  have hT : 0 < T := lt_of_le_of_lt h0 h1
  have hx : |u / T| ≤ 1 := by
    rw [abs_of_nonneg (div_nonneg h0 hT.le)]
    exact ((div_lt_one hT).mpr h1).le
  have hlin : ∀ a b : ℝ, |a + b * (u / T)| ≤ |a| + |b| := fun a b =>
    (abs_add_le _ _).trans (add_le_add le_rfl ((abs_mul _ _).le.trans (mul_le_of_le_one_right (abs_nonneg b) hx)))
  unfold plFun
  split_ifs
  · exact (hlin a1 b1).trans (le_add_of_nonneg_right (add_nonneg (abs_nonneg _) (abs_nonneg _)))
  · exact (hlin a2 b2).trans (le_add_of_nonneg_left (add_nonneg (abs_nonneg _) (abs_nonneg _)))

theorem measurable_bounded_plWave (T a1 b1 a2 b2 t0 : ℝ) (hT : 0 < T) :
    Measurable (fun t => plFun T a1 b1 a2 b2 (fmodR (t + t0) T))
      ∧ ∃ C, ∀ t, |plFun T a1 b1 a2 b2 (fmodR (t + t0) T)| ≤ C :=
  ⟨(measurable_plFun _ _ _ _ _).comp ((measurable_fmodR T).comp (measurable_id.add_const t0)), _,
    fun _ => abs_plFun_le (fmodR_nonneg hT) (fmodR_lt hT)⟩

theorem measurable_bounded_cos (A ω ψ off : ℝ) :
    Measurable (fun t => A * Real.cos (ω * t + ψ) + off)
      ∧ ∃ C, ∀ t, |A * Real.cos (ω * t + ψ) + off| ≤ C :=
  ⟨by fun_prop, |A| + |off|, fun t => (abs_add_le _ _).trans (add_le_add
    ((abs_mul _ _).le.trans (mul_le_of_le_one_right (abs_nonneg A) (Real.abs_cos_le_one _))) le_rfl)⟩

theorem measurable_bounded_timeR (w : Gen.Fourier.WaveObj ℝ) (hT : 0 < w.period) :
    Measurable (timeR w) ∧ ∃ C, ∀ t, |timeR w t| ≤ C := by
  obtain ⟨cls, T, A, φ, off⟩ := w
  cases cls
  · rw [timeR_const]
    exact ⟨measurable_const, |A|, fun _ => le_rfl⟩
  · rw [timeR_cos]
    exact measurable_bounded_cos _ _ _ _
  · rw [timeR_sin, timeR_cos]
    exact measurable_bounded_cos _ _ _ _
  · rw [timeR_rect]
    exact measurable_bounded_plWave _ _ _ _ _ _ hT
  · rw [timeR_tri]
    exact measurable_bounded_plWave _ _ _ _ _ _ hT
  · rw [timeR_saw]
    exact measurable_bounded_plWave _ _ _ _ _ _ hT

end CC.Fourier
