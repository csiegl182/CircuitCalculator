/-
  CC.Proofs.DrawRT — `ElemStable` (CC/Proofs/DrawRoundTrip.lean) for an element of each persistable symbol class, for ANY
  keyword list that carries the class's values (in any order, with any further keys).

  One theorem per shape of class — passive element, DC source, AC source, rectangular source, complex source; impedance,
  ground and wire are alone in theirs — over the class name, with what is particular to a class as the one hypothesis that
  it is in the shape's table (`<shape>Classes`, CC/Proofs/DrawInterp.lean), for which the kernel has decided once what every
  class in it reads, its translator's call and its loader entry (`<shape>_cert`).  Each is `ElemStable.of_reads`
  (CC/Proofs/DrawLoad.lean):
  `hreads` is `built_<shape>` with the translator's equation — here the sign flips of `reverse` in the constructor and in
  the translator cancel, a DC amplitude is reduced to its real part, the phase of a source with `deg` / `sin` flags becomes
  `acPhase` —, `hload` is a handful of look-ups in the list the loader builds (`lookup_loadKw`): the loader writes every key
  the class reads.
-/
import CC.Proofs.DrawLoad
import CC.Proofs.DrawInterp
namespace CC.Draw
open CC.Draw.SymSpec

section
variable (π : Rat) {cls kind : String} {kw : List (String × Val)} {name : String} {rev : Bool}

theorem stable_plain {p : String} (ht : (cls, kind, p) ∈ plainClasses) {z : GQ}
    (hp : kw.lookup p = some (.num z)) (hname : kw.lookup "name" = some (.str name))
    (hrev : kw.lookup "reverse" = some (.bool rev)) (h : NonNeg z) (hnd : (kw.map (·.1)).Nodup)
    (hk : ∀ kv ∈ kw, valKept kv.2 = true) (a b : Pt) : ElemStable π ⟨cls, kw, a, b⟩ := by
  obtain ⟨hr, hc, hL, hkey⟩ := plain_cert _ ht
  refine ElemStable.of_reads hL
    (fun kw => kw.lookup p = some (.num z) ∧ kw.lookup "name" = some (.str name) ∧ kw.lookup "reverse" = some (.bool rev))
    (id := name) (rev := rev) (nodeId := "") (vals := [(p, .num z)])
    (F := fun la lb => some ⟨kind, name, if rev then [lb, la] else [la, lb], [(p, .num z)]⟩)
    (fun _ _ _ => rfl) (fun kw hkw => ?_) (fun up => ?_) (by simp [valKept, h.1]) ⟨hp, hname, hrev⟩ hnd
    fun kv hkv => Or.inl (hk kv hkv)
  · obtain ⟨o, ho, hn, hr, hnode, hz⟩ := built_plain π hr hkw.1 hkw.2.1 hkw.2.2
    exact ⟨o, ho, hn, hr, hnode, fun la lb => Eq.trans (comp_plain hc hz h) (by simp only [hn, hr])⟩
  · simp only [draw_eval, hkey.1, hkey.2.1, hkey.2.2.1, hkey.2.2.2.1, hkey.2.2.2.2]

variable {p q : String} {req : List String}

/-- The amplitude may be complex: it is stored as `None` and comes back, as its real part, from the circuit section. -/
theorem stable_dc (ht : (cls, kind, p, q, req) ∈ dcClasses) {z : GQ}
    (hp : kw.lookup p = some (.num z)) (hname : kw.lookup "name" = some (.str name))
    (hrev : kw.lookup "reverse" = some (.bool rev)) (hnd : (kw.map (·.1)).Nodup)
    (hk : ∀ kv ∈ kw, kv.1 ≠ p → valKept kv.2 = true) (a b : Pt) : ElemStable π ⟨cls, kw, a, b⟩ := by
  obtain ⟨hr, hc, hL, hreq, hpq⟩ := dc_cert _ ht
  refine ElemStable.of_reads hL
    (fun kw => (∃ x : GQ, kw.lookup p = some (.num x) ∧ x.re = z.re) ∧ kw.lookup "name" = some (.str name) ∧
      kw.lookup "reverse" = some (.bool rev))
    (id := name) (rev := rev) (nodeId := "") (vals := [(p, .num ⟨z.re, 0⟩), (q, .num 0), ("w", .num 0), ("phi", .num 0)])
    (F := fun la lb => some ⟨kind, name, if rev then [lb, la] else [la, lb],
      [(p, .num ⟨z.re, 0⟩), (q, .num 0), ("w", .num 0), ("phi", .num 0)]⟩)
    (fun _ _ _ => rfl) (fun kw hkw => ?_) (fun up => ?_) (by simp [valKept])
    ⟨⟨z, hp, rfl⟩, hname, hrev⟩ hnd fun kv hkv => ?_
  · obtain ⟨⟨x, hx, hre⟩, hname, hrev⟩ := hkw
    obtain ⟨o, ho, hn, hr, hnode, hx⟩ := built_signed π hr hreq hx hname hrev
    exact ⟨o, ho, hn, hr, hnode, fun la lb => Eq.trans (comp_dc hpq hc hx) (by simp only [hn, hr, GQ.ite_neg_re, hre])⟩
  -- look-ups in the list the loader writes: by the keys themselves
  · rcases hpq with ⟨rfl, rfl⟩ | ⟨rfl, rfl⟩ <;>
      exact ⟨⟨⟨z.re, 0⟩, by simp only [draw_eval], rfl⟩, by simp only [draw_eval], by simp only [draw_eval]⟩
  · by_cases hkey : kv.1 = p
    · exact Or.inr (by rw [hkey]; rcases hpq with ⟨rfl, rfl⟩ | ⟨rfl, rfl⟩ <;> simp)
    · exact Or.inl (hk kv hkv hkey)

variable {z w phi : GQ} {sin deg : Bool}

/-- any `deg` / `sin` flags: the loader writes the phase it saved and clears the flags -/
theorem stable_ac (ht : (cls, kind, p, q) ∈ acClasses)
    (hz : kw.lookup p = some (.num z)) (hw : kw.lookup "w" = some (.num w)) (hphi : kw.lookup "phi" = some (.num phi))
    (hsin : (kw.lookup "sin").or (some (.bool false)) = some (.bool sin))
    (hdeg : (kw.lookup "deg").or (some (.bool false)) = some (.bool deg))
    (hname : kw.lookup "name" = some (.str name)) (hrev : kw.lookup "reverse" = some (.bool rev))
    (hv : z.im = 0) (h : NonNeg w) (hp : phi.im = 0) (hnd : (kw.map (·.1)).Nodup)
    (hk : ∀ kv ∈ kw, valKept kv.2 = true) (a b : Pt) : ElemStable π ⟨cls, kw, a, b⟩ := by
  obtain ⟨hr, hc, hL, hpq⟩ := ac_cert _ ht
  refine ElemStable.of_reads hL
    (fun kw => kw.lookup p = some (.num z) ∧ kw.lookup "w" = some (.num w) ∧
      (∃ (x : GQ) (s d : Bool), kw.lookup "phi" = some (.num x) ∧ (kw.lookup "sin").or (some (.bool false)) = some (.bool s) ∧
        (kw.lookup "deg").or (some (.bool false)) = some (.bool d) ∧ acPhase π s d x = acPhase π sin deg phi) ∧
      kw.lookup "name" = some (.str name) ∧ kw.lookup "reverse" = some (.bool rev))
    (id := name) (rev := rev) (nodeId := "")
    (vals := [(p, .num z), (q, .num 0), ("w", .num w), ("phi", .num (acPhase π sin deg phi))])
    (F := fun la lb => some ⟨kind, name, if rev then [lb, la] else [la, lb],
      [(p, .num z), (q, .num 0), ("w", .num w), ("phi", .num (acPhase π sin deg phi))]⟩)
    (fun _ _ _ => rfl) (fun kw hkw => ?_) (fun up => ?_)
    (by simp [valKept, hv, h.1, acPhase_im π sin deg hp]) ⟨hz, hw, ⟨phi, sin, deg, hphi, hsin, hdeg, rfl⟩, hname, hrev⟩ hnd
    fun kv hkv => Or.inl (hk kv hkv)
  · obtain ⟨hz, hw, ⟨x, s, d, hx, hs, hd, hph⟩, hname, hrev⟩ := hkw
    obtain ⟨o, ho, hn, hr, hnode, hza, hwa, hpa, hda⟩ :=
      built_wave π true (hpq.imp And.left And.left) hr hz hw hx hs hd hname hrev
    refine ⟨o, ho, hn, hr, hnode, fun la lb => Eq.trans (comp_ac hpq hc hza hwa hpa hda h) ?_⟩
    simp only [hn, hr, GQ.ite_neg_ite_neg, ← hph]
    cases d <;> cases s <;> rfl
  · rcases hpq with ⟨rfl, rfl⟩ | ⟨rfl, rfl⟩ <;>
      exact ⟨by simp only [draw_eval], by simp only [draw_eval],
        ⟨acPhase π sin deg phi, false, false, by simp only [draw_eval], by simp only [draw_eval], by simp only [draw_eval], rfl⟩,
        by simp only [draw_eval], by simp only [draw_eval]⟩

theorem stable_rect {phiDefault : Option Rat} (ht : (cls, kind, p, q, "rect", phiDefault) ∈ periodicClasses)
    (hz : kw.lookup p = some (.num z)) (hw : kw.lookup "w" = some (.num w)) (hphi : kw.lookup "phi" = some (.num phi))
    (hdeg : (kw.lookup "deg").or (some (.bool false)) = some (.bool deg))
    (hname : kw.lookup "name" = some (.str name)) (hrev : kw.lookup "reverse" = some (.bool rev))
    (hv : z.im = 0) (h : Pos w) (hp : phi.im = 0) (hnd : (kw.map (·.1)).Nodup)
    (hk : ∀ kv ∈ kw, valKept kv.2 = true) (a b : Pt) : ElemStable π ⟨cls, kw, a, b⟩ := by
  obtain ⟨hr, hc, hwt, hpq, hL⟩ := periodic_cert _ ht
  refine ElemStable.of_reads (hL rfl)
    (fun kw => kw.lookup p = some (.num z) ∧ kw.lookup "w" = some (.num w) ∧
      (∃ (x : GQ) (d : Bool), kw.lookup "phi" = some (.num x) ∧ (kw.lookup "deg").or (some (.bool false)) = some (.bool d) ∧
        acPhase π false d x = acPhase π false deg phi) ∧
      kw.lookup "name" = some (.str name) ∧ kw.lookup "reverse" = some (.bool rev))
    (id := name) (rev := rev) (nodeId := "")
    (vals := [("wavetype", .str "rect"), (p, .num z), ("w", .num w), ("phi", .num (acPhase π false deg phi)), (q, .num 0)])
    (F := fun la lb => some ⟨kind, name, if rev then [lb, la] else [la, lb],
      [("wavetype", .str "rect"), (p, .num z), ("w", .num w), ("phi", .num (acPhase π false deg phi)), (q, .num 0)]⟩)
    (fun _ _ _ => rfl) (fun kw hkw => ?_) (fun up => ?_)
    (by simp [valKept, hv, h.1, acPhase_im π false deg hp]) ⟨hz, hw, ⟨phi, deg, hphi, hdeg, rfl⟩, hname, hrev⟩ hnd
    fun kv hkv => Or.inl (hk kv hkv)
  · obtain ⟨hz, hw, ⟨x, d, hx, hd, hph⟩, hname, hrev⟩ := hkw
    obtain ⟨o, ho, hn, hr, hnode, hza, hwa, hpa, hda⟩ :=
      built_wave π false (hpq.imp And.left And.left) hr hz hw hx rfl hd hname hrev
    refine ⟨o, ho, hn, hr, hnode, fun la lb => Eq.trans (comp_periodic hpq hwt hc hza hwa hpa hda h) ?_⟩
    simp only [hn, hr, GQ.ite_neg_ite_neg, ← hph]
    cases d <;> rfl
  · rcases hpq with ⟨rfl, rfl⟩ | ⟨rfl, rfl⟩ <;>
      exact ⟨by simp only [draw_eval], by simp only [draw_eval],
        ⟨acPhase π false deg phi, false, by simp only [draw_eval], by simp only [draw_eval], rfl⟩,
        by simp only [draw_eval], by simp only [draw_eval]⟩

theorem stable_complex {zp reK imK q₁ q₂ : String}
    (ht : (cls, kind, p, zp, reK, imK, q₁, q₂, req) ∈ complexClasses)
    (hp : kw.lookup p = some (.num z)) (hname : kw.lookup "name" = some (.str name))
    (hrev : kw.lookup "reverse" = some (.bool rev)) (hnd : (kw.map (·.1)).Nodup)
    (hk : ∀ kv ∈ kw, kv.1 ≠ p → valKept kv.2 = true) (a b : Pt) : ElemStable π ⟨cls, kw, a, b⟩ := by
  obtain ⟨hr, hc, hL, hreq, hkeys⟩ := complex_cert _ ht
  refine ElemStable.of_reads_combined hL
    (fun kw => kw.lookup p = some (.num z) ∧ kw.lookup "name" = some (.str name) ∧ kw.lookup "reverse" = some (.bool rev))
    (id := name) (rev := rev) (nodeId := "") (re := z.re) (im := z.im)
    (vals := [(reK, .num ⟨z.re, 0⟩), (imK, .num ⟨z.im, 0⟩), (q₁, .num 0), (q₂, .num 0)])
    (F := fun la lb => ⟨kind, name, if rev then [lb, la] else [la, lb],
      [(reK, .num ⟨z.re, 0⟩), (imK, .num ⟨z.im, 0⟩), (q₁, .num 0), (q₂, .num 0)]⟩)
    (fun _ _ => ⟨rfl, rfl⟩) (fun kw hkw => ?hreads) (fun up => ?_) ?_ ?_ ?_ (by simp [valKept]) ⟨hp, hname, hrev⟩ hnd
    fun kv hkv => ?hk
  case hreads =>
    obtain ⟨o, ho, hn, hr, hnode, hz⟩ := built_signed π hr hreq hkw.1 hkw.2.1 hkw.2.2
    exact ⟨o, ho, hn, hr, hnode, fun la lb => Eq.trans (comp_complex hkeys hc hz) (by simp only [hn, hr, GQ.ite_neg_ite_neg])⟩
  case hk =>
    by_cases hkey : kv.1 = p
    · exact Or.inr (Or.inr hkey)
    · exact Or.inl (hk kv hkv hkey)
  -- look-ups in the list the loader writes and in the component's values: by the keys themselves
  all_goals rcases hkeys with ⟨rfl, -, rfl, rfl, rfl, rfl⟩ | ⟨rfl, -, rfl, rfl, rfl, rfl⟩ <;> simp [draw_eval]

end

theorem stable_Impedance (π : Rat) {kw : List (String × Val)} {Z : GQ} {name : String} {rev : Bool}
    (hZ : kw.lookup "Z" = some (.num Z)) (hname : kw.lookup "name" = some (.str name))
    (hrev : kw.lookup "reverse" = some (.bool rev)) (hnd : (kw.map (·.1)).Nodup)
    (hk : ∀ kv ∈ kw, kv.1 ≠ "Z" → valKept kv.2 = true) (a b : Pt) : ElemStable π ⟨"Impedance", kw, a, b⟩ := by
  refine ElemStable.of_reads_combined (reK := "R") (imK := "X") (zK := "Z") (by decide +kernel)
    (fun kw => kw.lookup "Z" = some (.num Z) ∧ kw.lookup "name" = some (.str name) ∧ kw.lookup "reverse" = some (.bool rev))
    (id := name) (rev := rev) (nodeId := "") (re := Z.re) (im := Z.im)
    (vals := [("R", .num ⟨Z.re, 0⟩), ("X", .num ⟨Z.im, 0⟩)])
    (F := fun la lb => ⟨"impedance", name, if rev then [lb, la] else [la, lb], [("R", .num ⟨Z.re, 0⟩), ("X", .num ⟨Z.im, 0⟩)]⟩)
    (fun _ _ => ⟨rfl, rfl⟩) (fun kw hkw => ?_) (fun up => ?_) rfl rfl (by simp) (by simp [valKept]) ⟨hZ, hname, hrev⟩ hnd
    fun kv hkv => ?_
  · obtain ⟨o, ho, hn, hr, hnode, hz⟩ := built_plain π reads_Impedance hkw.1 hkw.2.1 hkw.2.2
    exact ⟨o, ho, hn, hr, hnode, fun la lb => Eq.trans (comp_impedance rfl hz) (by simp only [hn, hr])⟩
  · simp only [draw_eval]
  · by_cases hkey : kv.1 = "Z"
    · exact Or.inr (Or.inr hkey)
    · exact Or.inl (hk kv hkv hkey)

theorem stable_Ground (π : Rat) {kw : List (String × Val)} {name : String} {rev : Bool}
    (hname : (kw.lookup "name").or (some (.str "0")) = some (.str name))
    (hrev : (kw.lookup "reverse").getD (.bool false) = .bool rev) (hnd : (kw.map (·.1)).Nodup)
    (hk : ∀ kv ∈ kw, valKept kv.2 = true) (a b : Pt) : ElemStable π ⟨"Ground", kw, a, b⟩ := by
  refine ElemStable.of_reads (by decide +kernel)
    (fun kw => (kw.lookup "name").or (some (.str "0")) = some (.str name) ∧ (kw.lookup "reverse").getD (.bool false) = .bool rev)
    (id := name) (rev := rev) (nodeId := name) (vals := []) (F := fun la _ => some ⟨"ground", name, [la], []⟩)
    (fun _ _ _ => rfl) (fun kw hkw => ?_) (fun up => ?_) (by simp) ⟨hname, hrev⟩ hnd
    fun kv hkv => Or.inl (hk kv hkv)
  · exact built_Ground π hkw.1 hkw.2 a b
  · simp only [draw_eval]

/-- a wire has no component: the loader writes name and reversal flag only -/
theorem stable_Line (π : Rat) {kw : List (String × Val)} {rev : Bool} (hrev : kw.lookup "reverse" = some (.bool rev))
    (hnd : (kw.map (·.1)).Nodup) (hk : ∀ kv ∈ kw, valKept kv.2 = true) (a b : Pt) : ElemStable π ⟨"Line", kw, a, b⟩ := by
  refine ElemStable.of_reads (by decide +kernel) (fun kw => kw.lookup "reverse" = some (.bool rev))
    (id := "") (rev := rev) (nodeId := "") (vals := []) (F := fun _ _ => none)
    (fun _ _ up => loadKw_nil "" rev up) (fun kw hkw => ?_) (fun up => ?_) (by simp) hrev hnd
    fun kv hkv => Or.inl (hk kv hkv)
  · obtain ⟨o, ho, hn, hr, hnode⟩ := built_Line π hkw
    exact ⟨o, ho, hn, hr, hnode, fun la lb => compOfSym_none (translator_at 19 rfl)⟩
  · simp only [draw_eval]

end CC.Draw
