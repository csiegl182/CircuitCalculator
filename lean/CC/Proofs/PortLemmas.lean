/-
  Attaching a branch to a network is the same as injecting its current at its terminals (`EqsInj`,
  CC/Proofs/SpecLemmas.lean); the equations of a source-free branch list are linear in `(R, inj)`, and two solutions of a
  list with sources differ by one of the source-free list.  `PortRel` is what a branch list allows at a port (voltage
  against injected current); `PortLine` — `PortZ` without the test source, stated at the unit current — says that for the
  source-free list this is a line through the origin (`rel_iff`); what holds of port impedances in general is proved of
  it.
-/
import CC.Proofs.SpecLemmas
import CC.Proofs.MapElems
import CC.Spec.Port
import CC.Proofs.Linear
set_option linter.unusedSectionVars false

namespace CC
variable {L K : Type} [DecidableEq L] [LabelOrd L] [Field K] [DecidableEq K]

def zs (bs : List (Branch L K)) : List (Branch L K) :=
  bs.map fun b => { b with e := b.e.zeroSources }

theorem port_zeroSources_branches (N : Net L K) : N.zeroSources.branches = zs N.branches := rfl

/-- the current `J` injected at `a` and drawn at `b`, as the `inj` of an `EqsInj` (for `a = b` it is 0 at every node) -/
def injAB (a b : L) (J : K) : L → K :=
  fun n => (if a = n then J else 0) - (if b = n then J else 0)

theorem injAB_eq (a b : L) (J : K) (n : L) :
    injAB a b J n = ((if a = n then 1 else 0) - (if b = n then 1 else 0)) * J := by
  simp only [injAB, sub_mul, ite_mul, one_mul, zero_mul]

theorem eqsInj_iff (bs : List (Branch L K)) (z : L) (R : Report L K) (inj : L → K) :
    EqsInj bs z R inj ↔ R.pot z = 0 ∧ (∀ b ∈ bs, voltResidual R b = 0) ∧
      (∀ b ∈ bs, b.e.lawResidual (R.v b.id) (R.i b.id) = 0) ∧
      ∀ n, (bs.map fun b => incidence b n * b.e.physCurrent (R.i b.id)).sum = inj n :=
  ⟨fun h => ⟨h.1, h.2, h.3, h.4⟩, fun h => ⟨h.1, h.2.1, h.2.2.1, h.2.2.2⟩⟩

theorem eqsInj_append_iff (bs : List (Branch L K)) (x : Branch L K) (z : L) (R : Report L K)
    (inj : L → K) :
    EqsInj (bs ++ [x]) z R inj ↔
      EqsInj bs z R (fun n => inj n - incidence x n * x.e.physCurrent (R.i x.id)) ∧
      voltResidual R x = 0 ∧ x.e.lawResidual (R.v x.id) (R.i x.id) = 0 := by
  simp only [eqsInj_iff, List.forall_mem_append, List.forall_mem_singleton, List.map_append, List.sum_append,
    List.map_cons, List.map_nil, List.sum_cons, List.sum_nil, add_zero, eq_sub_iff_add_eq]
  tauto

def Report.lin (a c : K) (R S : Report L K) : Report L K where
  pot := fun n => a * R.pot n + c * S.pot n
  v := fun id => a * R.v id + c * S.v id
  i := fun id => a * R.i id + c * S.i id

theorem eqsInj_zs_lin (bs : List (Branch L K)) (z : L) (a c : K) (R S : Report L K)
    (inj1 inj2 : L → K) (h1 : EqsInj (zs bs) z R inj1) (h2 : EqsInj (zs bs) z S inj2) :
    EqsInj (zs bs) z (Report.lin a c R S) (fun n => a * inj1 n + c * inj2 n) :=
  EqsInj.comb h1 h2 (fun e1 e2 => by simp only [Report.lin, e1, e2]; ring) fun b _ =>
    .of_lin ⟨rfl, rfl⟩ ⟨rfl, rfl⟩ (fun _ => rfl) rfl (by simp only [zs_not_lossy]; rfl) fun v1 v2 J1 J2 => by
      have := physLaw_setSrc_lin b.e a c 0 0 v1 v2 J1 J2
      simpa only [mul_zero, add_zero, ← zeroSources_eq_setSrc] using this

theorem eqsInj_diff (N : Net L K) (hids : N.ids.Nodup) (R S : Report L K) (inj1 inj2 : L → K)
    (h1 : EqsInj N.branches N.zero R inj1) (h2 : EqsInj N.branches N.zero S inj2) :
    EqsInj (zs N.branches) N.zero (Report.diff N R S) (fun n => inj1 n - inj2 n) := by
  have h1' : EqsInj (N.branches.map id) N.zero R inj1 := by rwa [List.map_id]
  have h2' : EqsInj (N.branches.map id) N.zero S inj2 := by rwa [List.map_id]
  exact eqsInj_congr (EqsInj.comb (a := 1) (c := -1) h1' h2'
    (fun e1 e2 => show R.pot N.zero - S.pot N.zero = 0 by rw [e1, e2, sub_self])
    fun b hb => combines_diff N hids R S hb) fun n => by ring

theorem port_zs_ids (bs : List (Branch L K)) : (zs bs).map (·.id) = bs.map (·.id) := by
  simp [zs, List.map_map, Function.comp_def]

theorem eqsInj_congr_iff {bs : List (Branch L K)} {z : L} {R : Report L K} {inj inj' : L → K}
    (e : ∀ n, inj n = inj' n) : EqsInj bs z R inj ↔ EqsInj bs z R inj' :=
  ⟨fun h => eqsInj_congr h e, fun h => eqsInj_congr h fun n => (e n).symm⟩

theorem attach_iff (M : Net L K) (x : Branch L K) (R : Report L K) :
    CircuitEqs (M.attach x) R ↔
      EqsInj M.branches M.zero R (fun n => -(incidence x n * x.e.physCurrent (R.i x.id))) ∧
      voltResidual R x = 0 ∧ x.e.lawResidual (R.v x.id) (R.i x.id) = 0 := by
  rw [circuitEqs_iff_eqsInj]
  show EqsInj (M.branches ++ [x]) M.zero R _ ↔ _
  simp only [eqsInj_append_iff, zero_sub]

theorem neg_incidence_mul (x : Branch L K) {a b : L} (hx1 : x.n1 = a) (hx2 : x.n2 = b) (J : K) (n : L) :
    -(incidence x n * J) = injAB a b (-J) n := by
  rw [injAB_eq]; simp only [incidence, hx1, hx2]; ring

theorem probeNet_eq_attach (N : Net L K) (pid : String) (a b : L) (J : K) :
    probeNet N pid a b J = N.zeroSources.attach (probeBranch pid a b J) := rfl

theorem probe_iff (N : Net L K) (pid : String) (a b : L) (J : K) (R : Report L K) :
    CircuitEqs (probeNet N pid a b J) R ↔
      EqsInj (zs N.branches) N.zero R (injAB a b (R.i pid)) ∧ R.i pid = J ∧
        R.v pid = R.pot b - R.pot a := by
  rw [probeNet_eq_attach, attach_iff, and_comm (a := R.i pid = J)]
  refine and_congr (eqsInj_congr_iff fun n => ?_) (and_congr sub_eq_zero ?_)
  · rw [neg_incidence_mul (probeBranch pid a b J) rfl rfl]
    show injAB b a (-(Elem.thevenin 0 J).physCurrent (R.i pid)) n = _
    rw [phys_thevenin_ideal]; simp only [injAB_eq]; ring
  · show (Elem.thevenin 0 J).lawResidual (R.v pid) (R.i pid) = 0 ↔ _
    rw [law_thevenin_ideal, sub_eq_zero]

theorem probe_kcl {N : Net L K} {pid : String} {a b : L} {J : K} {R : Report L K}
    (hR : CircuitEqs (probeNet N pid a b J) R) (n : L) :
    (N.branches.map fun x => incidence x n * R.i x.id).sum = injAB a b J n := by
  obtain ⟨h, hi, _⟩ := (probe_iff N pid a b J R).mp hR
  have := h.kcl n
  simp only [zs, List.map_map, Function.comp_def, zs_not_lossy, hi] at this
  exact this

/-- `R` with the voltage `v` and the current `i` entered under the identifier `pid`.  A solution of a branch list under an
injection says nothing of the branch that does the injecting; this is how it becomes a report of the list with that branch
attached (`probe_of_eqsInj`, `attach_of_rel`, `PortLine.series`): the equations of the list do not read `pid`
(`eqsInj_setProbe`). -/
def Report.setProbe (R : Report L K) (pid : String) (v i : K) : Report L K where
  pot := R.pot
  v := fun id => if id = pid then v else R.v id
  i := fun id => if id = pid then i else R.i id

theorem eqsInj_setProbe {bs : List (Branch L K)} {z : L} {R : Report L K} {inj : L → K}
    (pid : String) (hp : pid ∉ bs.map (·.id)) (v i : K) (h : EqsInj bs z R inj) :
    EqsInj bs z (R.setProbe pid v i) inj :=
  h.congr rfl fun b hb =>
    have hne : b.id ≠ pid := fun e => hp (e ▸ List.mem_map_of_mem hb)
    ⟨rfl, rfl, if_neg hne, if_neg hne⟩

theorem Report.setProbe_v_self (R : Report L K) (pid : String) (v i : K) : (R.setProbe pid v i).v pid = v := if_pos rfl
theorem Report.setProbe_i_self (R : Report L K) (pid : String) (v i : K) : (R.setProbe pid v i).i pid = i := if_pos rfl
theorem Report.setProbe_pot (R : Report L K) (pid : String) (v i : K) : (R.setProbe pid v i).pot = R.pot := rfl

theorem probe_of_eqsInj (N : Net L K) (pid : String) (hp : pid ∉ N.ids) (a b : L) (J : K)
    (R : Report L K) (h : EqsInj (zs N.branches) N.zero R (injAB a b J)) :
    CircuitEqs (probeNet N pid a b J) (R.setProbe pid (R.pot b - R.pot a) J) := by
  rw [probe_iff, Report.setProbe_i_self, Report.setProbe_v_self]
  exact ⟨eqsInj_setProbe pid (by rw [port_zs_ids]; exact hp) _ _ h, rfl, rfl⟩

theorem probeNet_zeroSources (N : Net L K) (pid : String) (a b : L) (J : K) :
    (probeNet N pid a b J).zeroSources = probeNet N pid a b 0 := by
  simp only [probeNet, Net.zeroSources, List.map_append, List.map_map, Function.comp_def, zeroSources_idem,
    List.map_cons, List.map_nil, probeBranch]
  rfl

omit [DecidableEq L] [LabelOrd L] [DecidableEq K] in
theorem probeNet_ids_nodup (N : Net L K) (pid : String) (a b : L) (J : K) (hp : pid ∉ N.ids) (hids : N.ids.Nodup) :
    (probeNet N pid a b J).ids.Nodup := by
  have : (probeNet N pid a b J).ids = N.ids ++ [pid] := by
    simp [Net.ids, probeNet, Net.zeroSources, probeBranch, Function.comp_def]
  rw [this]
  exact List.nodup_append.mpr ⟨hids, by simp, by
    intro x hx y hy; simp only [List.mem_singleton] at hy; subst hy; exact fun e => hp (e ▸ hx)⟩

theorem mem_allLabels_probe (N : Net L K) (pid : String) (a b : L) (J : K) :
    a ∈ (probeNet N pid a b J).allLabels ∧ b ∈ (probeNet N pid a b J).allLabels := by
  simp [Net.allLabels, probeNet, probeBranch]

theorem agreeOn_attach {M : Net L K} {x : Branch L K} {R S : Report L K} (h : R.AgreeOn M S)
    (h1 : R.pot x.n1 = S.pot x.n1) (h2 : R.pot x.n2 = S.pot x.n2) (hv : R.v x.id = S.v x.id)
    (hi : R.i x.id = S.i x.id) : R.AgreeOn (M.attach x) S := by
  refine ⟨fun n hn => ?_, fun y hy => ?_⟩
  · simp only [Net.allLabels, Net.attach, List.map_append, List.map_cons, List.map_nil, List.mem_cons,
      List.mem_append, List.not_mem_nil, or_false] at hn
    rcases hn with rfl | (hn | rfl) | hn | rfl
    exacts [h.1 _ (zero_mem_allLabels M), h.1 n (List.mem_cons_of_mem _ (List.mem_append_left _ hn)), h1,
      h.1 n (List.mem_cons_of_mem _ (List.mem_append_right _ hn)), h2]
  · rcases List.mem_append.mp hy with hy | hy
    · exact h.2 y hy
    · rw [List.mem_singleton.mp hy]; exact ⟨hv, hi⟩

theorem wellPosed_probeNet (N : Net L K) (pid : String) (a b : L) (J : K) (hw : WellPosed N)
    (ha : a ∈ N.allLabels) (hb : b ∈ N.allLabels) : WellPosed (probeNet N pid a b J) := by
  intro R hR
  rw [probeNet_zeroSources] at hR
  obtain ⟨h, hi, hv⟩ := (probe_iff N pid a b 0 R).mp hR
  have h0 : EqsInj (zs N.branches) N.zero R (fun _ => 0) :=
    eqsInj_congr h (fun n => by simp [injAB, hi])
  have hz := hw R ((circuitEqs_iff_eqsInj N.zeroSources R).mpr h0)
  exact agreeOn_attach ((zs_agreeOn N).mpr hz) (hz.1 b hb) (hz.1 a ha)
    (hv.trans (by rw [hz.1 a ha, hz.1 b hb]; exact sub_self (0 : K))) hi

theorem port_unique (N : Net L K) (pid : String) (hp : pid ∉ N.ids) (a b : L)
    (hw : WellPosed (probeNet N pid a b 1)) (J : K) (R S : Report L K)
    (h1 : EqsInj (zs N.branches) N.zero R (injAB a b J))
    (h2 : EqsInj (zs N.branches) N.zero S (injAB a b J)) :
    R.pot a - R.pot b = S.pot a - S.pot b := by
  -- `R − S` solves the source-free list under the injection `J − J = 0`, hence (with 0 entered for the test source) the
  -- probe network at test current 0; that network is the source-free version of the probe network at test current 1
  -- (`probeNet_zeroSources`), so `hw` applies: `R − S` has potential 0 at `a` and at `b`
  have hD := eqsInj_zs_lin N.branches N.zero 1 (-1) R S _ _ h1 h2
  have hD0 : EqsInj (zs N.branches) N.zero (Report.lin 1 (-1) R S) (injAB a b 0) := by
    apply eqsInj_congr hD
    intro n; simp [injAB]
  have hP := probe_of_eqsInj N pid hp a b 0 _ hD0
  rw [← probeNet_zeroSources N pid a b 1] at hP
  obtain ⟨hpot, _⟩ := hw _ hP
  obtain ⟨ha, hb⟩ := mem_allLabels_probe N pid a b (1 : K)
  have e1 := hpot a ha
  have e2 := hpot b hb
  simp only [Report.setProbe_pot, Report.lin, Report.zeroRep] at e1 e2
  linear_combination e1 - e2

theorem eqsInj_zero (bs : List (Branch L K)) (z : L) :
    EqsInj (zs bs) z (Report.zeroRep : Report L K) (fun _ => 0) :=
  (circuitEqsAll_iff_eqsInj _ _ _).mp (circuitEqsAll_zero bs z)

/-- what the branch list `bs` (reference `z`) allows at the port `a`, `b`: with the current `J` injected at `a` and drawn at
`b`, some solution has `pot a - pot b = V`.  The probe network (`probe_rel`), the network left open
(`open_rel`) and the network with a load attached (`attach_rel`) are all read as points `(V, J)` of this relation. -/
def PortRel (bs : List (Branch L K)) (z a b : L) (V J : K) : Prop :=
  ∃ S : Report L K, EqsInj bs z S (injAB a b J) ∧ S.pot a - S.pot b = V

namespace PortRel
variable {bs : List (Branch L K)} {z a b : L} {V J V' J' : K}

theorem reref (h : PortRel bs z a b V J) (g : L) : PortRel bs g a b V J := by
  obtain ⟨S, hS, hV⟩ := h
  exact ⟨_, hS.reref g, by simp only [Report.shift]; linear_combination hV⟩

theorem swap (h : PortRel bs z a b V J) : PortRel bs z b a (-V) (-J) := by
  obtain ⟨S, hS, hV⟩ := h
  exact ⟨S, eqsInj_congr hS fun n => by simp only [injAB_eq]; ring, by linear_combination -hV⟩

theorem lin (c d : K) (h : PortRel (zs bs) z a b V J) (h' : PortRel (zs bs) z a b V' J') :
    PortRel (zs bs) z a b (c * V + d * V') (c * J + d * J') := by
  obtain ⟨S, hS, hV⟩ := h
  obtain ⟨S', hS', hV'⟩ := h'
  exact ⟨Report.lin c d S S', eqsInj_congr (eqsInj_zs_lin bs z c d S S' _ _ hS hS')
    fun n => by simp only [injAB_eq]; ring, by simp only [Report.lin]; linear_combination c * hV + d * hV'⟩

theorem flip (h : PortRel (zs bs) z a b V J) : PortRel (zs bs) z b a V J := by
  simpa only [neg_mul, one_mul, neg_neg, zero_mul, add_zero] using h.swap.lin (-1) 0 h.swap

theorem diff {N : Net L K} (hids : N.ids.Nodup) (h : PortRel N.branches N.zero a b V J)
    (h' : PortRel N.branches N.zero a b V' J') : PortRel (zs N.branches) N.zero a b (V - V') (J - J') := by
  obtain ⟨S, hS, hV⟩ := h
  obtain ⟨S', hS', hV'⟩ := h'
  exact ⟨Report.diff N S S', eqsInj_congr (eqsInj_diff N hids S S' _ _ hS hS')
    fun n => by simp only [injAB_eq]; ring, by simp only [Report.diff]; linear_combination hV - hV'⟩

end PortRel

theorem probe_eqsInj {N : Net L K} {pid : String} {a b : L} {J : K} {R : Report L K}
    (hR : CircuitEqs (probeNet N pid a b J) R) : EqsInj (zs N.branches) N.zero R (injAB a b J) := by
  obtain ⟨h, hi, _⟩ := (probe_iff N pid a b J R).mp hR
  exact hi ▸ h

theorem probe_rel (N : Net L K) (pid : String) (hp : pid ∉ N.ids) (a b : L) (V J : K) :
    (∃ R : Report L K, CircuitEqs (probeNet N pid a b J) R ∧ R.pot a - R.pot b = V) ↔
      PortRel (zs N.branches) N.zero a b V J :=
  ⟨fun ⟨R, hR, hV⟩ => ⟨R, probe_eqsInj hR, hV⟩,
   fun ⟨S, hS, hV⟩ => ⟨_, probe_of_eqsInj N pid hp a b J S hS, hV⟩⟩

theorem open_rel {N : Net L K} {R : Report L K} (h : CircuitEqs N R) (a b : L) :
    PortRel N.branches N.zero a b (R.pot a - R.pot b) 0 :=
  ⟨R, eqsInj_congr ((circuitEqs_iff_eqsInj N R).mp h)
    fun n => by simp only [injAB_eq, mul_zero], rfl⟩

theorem attach_rel {M : Net L K} {x : Branch L K} {a b : L} (hx1 : x.n1 = a) (hx2 : x.n2 = b) {R : Report L K}
    (hR : CircuitEqs (M.attach x) R) :
    PortRel M.branches M.zero a b (R.pot a - R.pot b) (-(x.e.physCurrent (R.i x.id))) :=
  ⟨R, eqsInj_congr ((attach_iff M x R).mp hR).1 (neg_incidence_mul x hx1 hx2 _), rfl⟩

/-- `PortZ` without the test source (`portZ_iff_portLine`): with the sources of `bs` zeroed, the unit current goes with the
voltage `Z` and with no other.  By linearity the whole relation is then the line `V = J * Z` (`rel_iff`). -/
def PortLine (bs : List (Branch L K)) (z a b : L) (Z : K) : Prop :=
  ∀ V, PortRel (zs bs) z a b V 1 ↔ V = Z

theorem portZ_iff_portLine (N : Net L K) (pid : String) (hp : pid ∉ N.ids) (a b : L) (Z : K) :
    PortZ N pid a b Z ↔ PortLine N.branches N.zero a b Z := by
  simp only [PortLine, ← probe_rel N pid hp]
  constructor
  · rintro ⟨⟨R, hR⟩, hall⟩ V
    exact ⟨fun ⟨S, hS, hV⟩ => hV ▸ hall S hS, fun e => ⟨R, hR, e ▸ hall R hR⟩⟩
  · intro H
    obtain ⟨R, hR, _⟩ := (H Z).mpr rfl
    exact ⟨⟨R, hR⟩, fun S hS => (H _).mp ⟨S, hS, rfl⟩⟩

theorem PortZ.line {N : Net L K} {pid : String} {a b : L} {Z : K} (h : PortZ N pid a b Z) (hp : pid ∉ N.ids) :
    PortLine N.branches N.zero a b Z :=
  (portZ_iff_portLine N pid hp a b Z).mp h

omit [LabelOrd L] in
theorem PortZ.transport {L' : Type} [DecidableEq L'] {N : Net L K} {N' : Net L' K} {pid pid' : String} {a b : L}
    {a' b' : L'} {z : K} (h : PortZ N pid a b z)
    (fwd : ∀ R, CircuitEqs (probeNet N pid a b 1) R → ∃ R', CircuitEqs (probeNet N' pid' a' b' 1) R')
    (back : ∀ R', CircuitEqs (probeNet N' pid' a' b' 1) R' →
      ∃ R, CircuitEqs (probeNet N pid a b 1) R ∧ R.pot a - R.pot b = R'.pot a' - R'.pot b') :
    PortZ N' pid' a' b' z :=
  ⟨h.1.elim fwd, fun S hS => (back S hS).elim fun R ⟨hR, e⟩ => e ▸ h.2 R hR⟩

namespace PortLine
variable {bs : List (Branch L K)} {z a b : L} {Z : K}

theorem mk (hex : ∃ S : Report L K, EqsInj (zs bs) z S (injAB a b 1))
    (hall : ∀ S : Report L K, EqsInj (zs bs) z S (injAB a b 1) → S.pot a - S.pot b = Z) : PortLine bs z a b Z :=
  fun _ => ⟨fun ⟨S, hS, hV⟩ => hV ▸ hall S hS, fun e => hex.elim fun S hS => ⟨S, hS, e ▸ hall S hS⟩⟩

theorem rel_iff (h : PortLine bs z a b Z) (V J : K) : PortRel (zs bs) z a b V J ↔ V = J * Z := by
  have h1 := (h Z).mpr rfl
  constructor
  · intro r
    -- `(V, J) + (1 - J)·(Z, 1)` carries the unit current
    have := (h _).mp (by simpa only [one_mul, mul_one, add_sub_cancel] using r.lin 1 (1 - J) h1)
    linear_combination this
  · rintro rfl
    simpa only [mul_one, zero_mul, add_zero] using h1.lin J 0 h1

theorem symm (h : PortLine bs z a b Z) : PortLine bs z b a Z :=
  fun V => ⟨fun r => (h V).mp r.flip, fun e => ((h V).mpr e).flip⟩

theorem same_node (bs : List (Branch L K)) (z a : L) : PortLine bs z a a 0 :=
  .mk ⟨_, eqsInj_congr (eqsInj_zero bs z) (fun n => by simp [injAB])⟩ fun R _ => sub_self _

theorem ref_indep (h : PortLine bs z a b Z) (g : L) : PortLine bs g a b Z :=
  fun V => ⟨fun r => (h V).mp (r.reref z), fun e => ((h V).mpr e).reref g⟩

theorem port_equation {N : Net L K} {a b : L} {Z : K} (h : PortLine N.branches N.zero a b Z)
    (hids : N.ids.Nodup) (x : Branch L K) (hx1 : x.n1 = a) (hx2 : x.n2 = b) {Roc Rl : Report L K}
    (hoc : CircuitEqs N Roc) (hl : CircuitEqs (N.attach x) Rl) :
    Rl.pot a - Rl.pot b = (Roc.pot a - Roc.pot b) - Z * x.e.physCurrent (Rl.i x.id) := by
  have := (h.rel_iff _ _).mp ((attach_rel hx1 hx2 hl).diff hids (open_rel hoc a b))
  linear_combination this

end PortLine

theorem zs_append_singleton (bs : List (Branch L K)) (y : Branch L K) :
    zs (bs ++ [y]) = zs bs ++ [{ y with e := y.e.zeroSources }] := by simp [zs]

def Report.setPot (R : Report L K) (c : L) (p : K) : Report L K where
  pot := fun n => if n = c then p else R.pot n
  v := R.v
  i := R.i

theorem eqsInj_setPot {bs : List (Branch L K)} {z : L} {R : Report L K} {inj : L → K} (c : L) (p : K)
    (hcz : z ≠ c) (hc : ∀ x ∈ bs, x.n1 ≠ c ∧ x.n2 ≠ c) (h : EqsInj bs z R inj) :
    EqsInj bs z (R.setPot c p) inj :=
  h.congr (if_neg hcz) fun b hb => ⟨if_neg (hc b hb).1, if_neg (hc b hb).2, rfl, rfl⟩

theorem zs_off {bs : List (Branch L K)} {c : L} (hc : ∀ x ∈ bs, x.n1 ≠ c ∧ x.n2 ≠ c) :
    ∀ x ∈ zs bs, x.n1 ≠ c ∧ x.n2 ≠ c := by
  intro x hx
  obtain ⟨y, hy, rfl⟩ := List.mem_map.mp hx
  exact hc y hy

namespace PortLine
variable {bs : List (Branch L K)} {z a b c : L} {Z : K}

theorem series_value (h : PortLine bs z a b Z) (hc : ∀ x ∈ bs, x.n1 ≠ c ∧ x.n2 ≠ c) (hca : c ≠ a) (hcb : c ≠ b)
    (yid ty : String) (e : Elem K) (hcs : e.isIdealCS = false) {S : Report L K}
    (hS : EqsInj (zs (bs ++ [⟨c, a, yid, ty, e⟩])) z S (injAB c b 1)) : S.pot c - S.pot b = Z + e.Zfin := by
  rw [zs_append_singleton, eqsInj_append_iff] at hS
  obtain ⟨h2, hv, hl⟩ := hS
  -- Kirchhoff at the new node: the whole test current flows through the new branch
  have hkc := h2.kcl c
  rw [sum_incidence_off _ _ c (zs_off hc)] at hkc
  simp only [zs_not_lossy, injAB, incidence, if_true, hca.symm, hcb.symm, if_false] at hkc
  have hiy : S.i yid = 1 := by linear_combination hkc
  have key := (h.rel_iff _ 1).mp ⟨S, eqsInj_congr h2 (fun n => by
    simp only [zs_not_lossy, injAB_eq, incidence, hiy]; ring), rfl⟩
  rw [law_zs_Zfin e hcs, hiy] at hl
  unfold voltResidual at hv
  simp only at hv hl
  linear_combination key + hl - hv

theorem series (h : PortLine bs z a b Z) (hc : ∀ x ∈ bs, x.n1 ≠ c ∧ x.n2 ≠ c) (hca : c ≠ a) (hcb : c ≠ b)
    (yid ty : String) (e : Elem K) (hcs : e.isIdealCS = false) (hy : yid ∉ bs.map (·.id)) :
    PortLine (bs ++ [⟨c, a, yid, ty, e⟩]) z c b (Z + e.Zfin) := by
  refine .mk ?_ fun S hS => h.series_value hc hca hcb yid ty e hcs hS
  -- with reference `b`: the new node sits `Zfin` above `a`, the new branch carries the unit current
  obtain ⟨R, hR, _⟩ := (h.ref_indep b Z).mpr rfl
  have h3 := eqsInj_setProbe yid (port_zs_ids bs ▸ hy) e.Zfin 1
    (eqsInj_setPot c (R.pot a + e.Zfin) hcb.symm (zs_off hc) hR)
  refine ⟨_, EqsInj.reref (z := b) (R := (R.setPot c (R.pot a + e.Zfin)).setProbe yid e.Zfin 1) ?_ z⟩
  rw [zs_append_singleton, eqsInj_append_iff]
  refine ⟨eqsInj_congr h3 (fun n => ?_), ?_, ?_⟩
  · simp only [zs_not_lossy, Report.setProbe_i_self, injAB_eq, incidence]; ring
  · simp only [voltResidual, Report.setProbe, Report.setPot, if_true, hca.symm, if_false]; ring
  · rw [law_zs_Zfin e hcs]; simp only [Report.setProbe, if_true, mul_one]

theorem parallel_value (h : PortLine bs z a b Z) (yid ty : String) (e : Elem K) (hcs : e.isIdealCS = false)
    {S : Report L K} (hS : EqsInj (zs (bs ++ [⟨a, b, yid, ty, e⟩])) z S (injAB a b 1)) :
    (S.pot a - S.pot b) * (Z + e.Zfin) = Z * e.Zfin := by
  rw [zs_append_singleton, eqsInj_append_iff] at hS
  obtain ⟨h2, hv, hl⟩ := hS
  -- into the list itself flows `1 − i`: V = (1 − i)·Z, and V = Zfin·i
  have key := (h.rel_iff _ (1 - S.i yid)).mp ⟨S, eqsInj_congr h2 (fun n => by
    simp only [zs_not_lossy, injAB_eq, incidence]; ring), rfl⟩
  rw [law_zs_Zfin e hcs] at hl
  unfold voltResidual at hv
  simp only at hv hl
  linear_combination Z * (hl - hv) + e.Zfin * key

theorem parallel (h : PortLine bs z a b Z) (yid ty : String) (e : Elem K) (hcs : e.isIdealCS = false)
    (hy : yid ∉ bs.map (·.id)) (hD : Z + e.Zfin ≠ 0) :
    PortLine (bs ++ [⟨a, b, yid, ty, e⟩]) z a b (Z * e.Zfin / (Z + e.Zfin)) := by
  refine .mk ?_ fun S hS => by rw [eq_div_iff hD]; exact h.parallel_value yid ty e hcs hS
  -- the current divides: `Zfin/(Z + Zfin)` into the list, `Z/(Z + Zfin)` through the new branch
  obtain ⟨S, hS, hV⟩ := (h.rel_iff _ (e.Zfin / (Z + e.Zfin))).mpr rfl
  refine ⟨S.setProbe yid (Z * e.Zfin / (Z + e.Zfin)) (Z / (Z + e.Zfin)), ?_⟩
  rw [zs_append_singleton, eqsInj_append_iff]
  have hsum : e.Zfin / (Z + e.Zfin) + Z / (Z + e.Zfin) = 1 := by rw [← add_div, add_comm, div_self hD]
  refine ⟨eqsInj_congr (eqsInj_setProbe yid (port_zs_ids bs ▸ hy) _ _ hS) (fun n => ?_), ?_, ?_⟩
  · simp only [zs_not_lossy, Report.setProbe_i_self, injAB_eq, incidence]
    linear_combination ((if a = n then (1 : K) else 0) - (if b = n then (1 : K) else 0)) * hsum
  · simp only [voltResidual, Report.setProbe, if_true]; linear_combination (-1 : K) * hV
  · rw [law_zs_Zfin e hcs]; simp only [Report.setProbe, if_true]; ring

theorem single (z a b : L) (hab : a ≠ b) (id ty : String) (e : Elem K) (hcs : e.isIdealCS = false) :
    PortLine [⟨a, b, id, ty, e⟩] z a b e.Zfin := by
  have := (same_node [] z b).series (c := a) (fun _ h => nomatch h) hab hab id ty e hcs List.not_mem_nil
  rwa [zero_add] at this

end PortLine

theorem attach_of_rel (E : Net L K) {a b : L} (x : Branch L K) (hx1 : x.n1 = a) (hx2 : x.n2 = b)
    (hxid : x.id ∉ E.ids) (v i : K) (hl : x.e.lawResidual v i = 0)
    (hrel : PortRel E.branches E.zero a b v (-(x.e.physCurrent i))) :
    ∃ R : Report L K, CircuitEqs (E.attach x) R ∧ R.v x.id = v ∧ R.i x.id = i ∧ R.pot a - R.pot b = v := by
  obtain ⟨S, hS, hV⟩ := hrel
  refine ⟨S.setProbe x.id v i, (attach_iff E x _).mpr ?_, S.setProbe_v_self .., S.setProbe_i_self .., hV⟩
  unfold voltResidual
  rw [S.setProbe_v_self, S.setProbe_i_self, hx1, hx2]
  exact ⟨eqsInj_congr (eqsInj_setProbe x.id hxid v i hS) (fun n => (neg_incidence_mul x hx1 hx2 _ n).symm),
    sub_eq_zero.mpr hV.symm, hl⟩

theorem attach_zeroSources (M : Net L K) (x : Branch L K) :
    (M.attach x).zeroSources = M.zeroSources.attach { x with e := x.e.zeroSources } := by
  simp only [Net.zeroSources, Net.attach, List.map_append, List.map_cons, List.map_nil]

/-- `M` need not be well-posed by itself, only determined by its port: the Norton network with `Y = 0` is not. -/
theorem attach_wellPosed_iff_rel (M : Net L K) (a b : L)
    (hM : ∀ R : Report L K, CircuitEqs M.zeroSources R → R.pot a - R.pot b = 0 → R.AgreeOn M Report.zeroRep)
    (ha : a ∈ M.allLabels) (hb : b ∈ M.allLabels) (x : Branch L K) (hx1 : x.n1 = a) (hx2 : x.n2 = b)
    (hxid : x.id ∉ M.ids) :
    WellPosed (M.attach x) ↔
      ∀ V i, PortRel (zs M.branches) M.zero a b V (-i) → x.e.zeroSources.lawResidual V i = 0 → i = 0 ∧ V = 0 := by
  have hmem : x ∈ (M.attach x).branches := List.mem_append_right _ (List.mem_singleton.mpr rfl)
  constructor
  · intro hw V i hrel hl
    obtain ⟨R, hR, hv, hi, _⟩ := attach_of_rel M.zeroSources ({ x with e := x.e.zeroSources } : Branch L K) hx1 hx2
      (by rw [show M.zeroSources.ids = M.ids from port_zs_ids M.branches]; exact hxid) V i hl (by rw [zs_not_lossy]; exact hrel)
    obtain ⟨h1, h2⟩ := (hw R (attach_zeroSources M x ▸ hR)).2 x hmem
    exact ⟨hi.symm.trans h2, hv.symm.trans h1⟩
  · intro H R hR
    rw [attach_zeroSources] at hR
    have hrel := attach_rel (x := ({ x with e := x.e.zeroSources } : Branch L K)) hx1 hx2 hR
    obtain ⟨h1, hv, hl⟩ := (attach_iff _ _ R).mp hR
    unfold voltResidual at hv
    simp only [hx1, hx2, zs_not_lossy] at hv hl hrel h1
    have hV : R.v x.id = R.pot a - R.pot b := by linear_combination hv
    obtain ⟨hi, hV0⟩ := H _ _ hrel (hV ▸ hl)
    -- no current through the load: `R` solves the source-free `M`
    have h0 : CircuitEqs M.zeroSources R :=
      (circuitEqs_iff_eqsInj M.zeroSources R).mpr (eqsInj_congr h1 (fun n => by rw [hi, mul_zero, neg_zero]))
    have hz := hM R h0 hV0
    exact agreeOn_attach hz (hx1 ▸ hz.1 a ha) (hx2 ▸ hz.1 b hb) (hV.trans hV0) hi

end CC
