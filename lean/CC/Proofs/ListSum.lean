import Mathlib.Algebra.Field.Defs
import Mathlib.Algebra.BigOperators.Group.List.Basic
import Mathlib.Algebra.BigOperators.Ring.List
import Mathlib.Tactic.Ring
import Mathlib.Tactic.FieldSimp
import Mathlib.Tactic.LinearCombination
import CC.Model.MNA

/-
  Sums of lists over a field (exchange of two summations, sums in which one term survives: `sum_map_ite_eq` by value,
  `sum_pick_key` by identifier) and the dot product `dotL` of the model's `matVec`; what `KCL` and `SpecLemmas`
  rearrange node balances and matrix rows with.
-/
namespace CC
variable {L K : Type} [DecidableEq L] [Field K]

theorem sum_map_comm {α β : Type} (l1 : List α) (l2 : List β) (f : α → β → K) :
    (l1.map fun a => (l2.map fun b => f a b).sum).sum
      = (l2.map fun b => (l1.map fun a => f a b).sum).sum := by
  induction l1 with
  | nil => simp
  | cons a l1 ih => simp [ih, List.sum_map_add]

theorem sum_filter_eq_sum_ite {α : Type} (l : List α) (p : α → Bool) (f : α → K) :
    ((l.filter p).map f).sum = (l.map fun a => if p a then f a else 0).sum := by
  simp [List.sum_map_ite]

theorem sum_map_ite_eq {l : List L} (hl : l.Nodup) (a : L) (f : L → K) :
    (l.map fun m => if m = a then f m else 0).sum = if a ∈ l then f a else 0 := by
  simp [List.sum_map_ite_eq, hl.count]

theorem sum_single {l : List L} (hl : l.Nodup) (a : L) (c : K) :
    (l.map fun m => if m = a then c else 0).sum = if a ∈ l then c else 0 :=
  sum_map_ite_eq hl a fun _ => c

theorem sum_indicator_mul {l : List L} (hl : l.Nodup) (a : L) (f : L → K) :
    (l.map fun m => (if a = m then (1 : K) else 0) * f m).sum = if a ∈ l then f a else 0 := by
  simpa [ite_mul, eq_comm (a := a)] using sum_map_ite_eq hl a f

theorem neg_sum_map {α : Type} (l : List α) (f : α → K) :
    -(l.map f).sum = (l.map fun a => - f a).sum := by
  simp [List.sum_neg, Function.comp_def]

theorem sum_map_sub' {α : Type} (l : List α) (f g : α → K) :
    (l.map fun a => f a - g a).sum = (l.map f).sum - (l.map g).sum := by
  simp only [sub_eq_add_neg, List.sum_map_add, neg_sum_map]

theorem sum_split_filter {α : Type} (l : List α) (p : α → Bool) (f : α → K) :
    (l.map f).sum = ((l.filter p).map f).sum + ((l.filter (fun a => !p a)).map f).sum := by
  simpa using (List.sum_map_filter_add_sum_map_filter_not (p · = true) f l).symm

theorem sum_map_eq_zero {α : Type} (l : List α) (f : α → K) (h : ∀ a ∈ l, f a = 0) :
    (l.map f).sum = 0 := by
  apply List.sum_eq_zero
  intro y hy
  obtain ⟨a, ha, rfl⟩ := List.mem_map.mp hy
  exact h a ha

theorem sum_map_ite_const {α : Type} (l : List α) (q : α → Bool) (c : K) :
    (l.map fun p => if q p = true then c else 0).sum = ((l.filter q).length : K) * c := by
  simp [List.sum_map_ite]

theorem sum_map_perm {α : Type} {l1 l2 : List α} (h : l1.Perm l2) (f : α → K) :
    (l1.map f).sum = (l2.map f).sum :=
  (h.map f).sum_eq

theorem sum_pick_key {α : Type} (l : List α) (key : α → String) (hl : (l.map key).Nodup) {a0 : α} (h0 : a0 ∈ l)
    (g : α → K) : (l.map fun a => if key a0 = key a then g a else 0).sum = g a0 := by
  induction l with
  | nil => cases h0
  | cons a l ih =>
    obtain ⟨hnot, hnd⟩ := List.nodup_cons.mp (by rwa [List.map_cons] at hl)
    rw [List.map_cons, List.sum_cons]
    rcases List.mem_cons.mp h0 with rfl | h0'
    · rw [if_pos rfl, sum_map_eq_zero _ _ fun a ha => if_neg fun (e : key a0 = key a) =>
        hnot (e ▸ List.mem_map_of_mem ha), add_zero]
    · rw [if_neg fun (e : key a0 = key a) => hnot (e ▸ List.mem_map_of_mem h0'), zero_add, ih hnd h0']

theorem sum_keys_eq_sum_carriers {α : Type} (f : α → String) (l : List α) (hl : (l.map f).Nodup)
    (keys : List String) (hk : keys.Nodup) (hsub : ∀ id ∈ keys, id ∈ l.map f) (H : String → K) :
    (keys.map H).sum = (l.map fun a => if f a ∈ keys then H (f a) else 0).sum := by
  have hp : keys.Perm ((l.map f).filter fun id => decide (id ∈ keys)) := by
    apply (List.perm_ext_iff_of_nodup hk (hl.filter _)).mpr
    intro id
    simp only [List.mem_filter, decide_eq_true_eq]
    exact ⟨fun h => ⟨hsub id h, h⟩, fun h => h.2⟩
  rw [sum_map_perm hp H, sum_filter_eq_sum_ite, List.map_map]
  congr 1
  apply List.map_congr_left
  intro a _
  simp only [decide_eq_true_eq, Function.comp_apply]

theorem dotL_nil_left (x : List K) : dotL ([] : List K) x = 0 := by simp [dotL]

theorem dotL_cons (a : K) (r : List K) (b : K) (x : List K) :
    dotL (a :: r) (b :: x) = a * b + dotL r x := by simp [dotL]

theorem dotL_comm (r x : List K) : dotL r x = dotL x r := by
  unfold dotL; rw [List.zipWith_comm_of_comm mul_comm]

theorem dotL_map_map {α : Type} (l : List α) (f g : α → K) :
    dotL (l.map f) (l.map g) = (l.map fun m => f m * g m).sum := by
  induction l with
  | nil => simp [dotL]
  | cons a l ih => simp [dotL_cons, ih]

theorem dotL_append (r1 r2 x1 x2 : List K) (h : r1.length = x1.length) :
    dotL (r1 ++ r2) (x1 ++ x2) = dotL r1 x1 + dotL r2 x2 := by
  induction r1 generalizing x1 with
  | nil =>
    cases x1 with
    | nil => simp [dotL]
    | cons b x1 => simp at h
  | cons a r1 ih =>
    cases x1 with
    | nil => simp at h
    | cons b x1 =>
      simp only [List.cons_append, dotL_cons]
      rw [ih x1 (by simpa using h)]; ring

theorem dotL_zero_row (r y : List K) (h : ∀ v ∈ r, v = 0) : dotL r y = 0 := by
  induction r generalizing y with
  | nil => simp [dotL]
  | cons a r ih =>
    cases y with
    | nil => simp [dotL]
    | cons b y =>
      rw [dotL_cons, h a (by simp), ih y (fun v hv => h v (List.mem_cons_of_mem _ hv))]; simp

theorem dotL_right_zero (r x : List K) (h : ∀ v ∈ x, v = 0) : dotL r x = 0 := by
  induction r generalizing x with
  | nil => simp [dotL]
  | cons a r ih =>
    cases x with
    | nil => simp [dotL]
    | cons b x =>
      rw [dotL_cons, h b List.mem_cons_self, ih x (fun v hv => h v (List.mem_cons_of_mem _ hv))]; simp

theorem dotL_zeros {α : Type} (l : List α) (x : List K) : dotL (l.map fun _ => (0 : K)) x = 0 :=
  dotL_zero_row _ x fun v hv => by obtain ⟨_, _, rfl⟩ := List.mem_map.mp hv; rfl

theorem dotL_smul_left (c : K) (r x : List K) : dotL (r.map (c * ·)) x = c * dotL r x := by
  simp [dotL, List.zipWith_map_left, mul_assoc, List.sum_zipWith_distrib_left]

theorem getD_zipWith0 (g : K → K → K) (hg : g 0 0 = 0) (a b : List K) (h : a.length = b.length) (k : Nat) :
    (List.zipWith g a b).getD k 0 = g (a.getD k 0) (b.getD k 0) := by
  simp only [List.getD_eq_getElem?_getD, List.getElem?_zipWith]
  by_cases hk : k < a.length
  · simp [hk, h ▸ hk]
  · simp [List.getElem?_eq_none (Nat.le_of_not_lt hk), List.getElem?_eq_none (h ▸ Nat.le_of_not_lt hk), hg]

theorem getD_matVec (A : List (List K)) (x : List K) (k : Nat) :
    (matVec A x).getD k 0 = dotL (A.getD k []) x := by
  simp only [matVec, List.getD_eq_getElem?_getD, List.getElem?_map]
  cases A[k]? <;> simp [dotL]

end CC
