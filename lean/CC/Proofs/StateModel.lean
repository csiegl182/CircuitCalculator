/-
  The algebra of CC/Proofs/StateAlgebra.lean applied to the executable model CC/Model/StateSpace.lean (through
  CC/Proofs/StateBridge.lean): a successful run of `stateSpaceMatrices` whose two inverse arguments pass the
  certificate checks is an instance of it (`ModelCert.alg`).
-/
import CC.Proofs.StateBridge
import CC.Proofs.KCL
import CC.Proofs.Bridge

set_option linter.unusedSectionVars false

namespace CC
open Matrix Mx

section
variable {L K : Type} [DecidableEq L] [LabelOrd L] [Field K] [DecidableEq K]
variable {N : Net L K} {cvals lvals : ValDict K}

theorem ssCore_toM (ny ns nu : Nat) (invLam : List K) (DQ QS Ainv S : List (List K)) :
    let Li : Matrix (Fin ns) (Fin ns) K := diagonal fun i => invLam.getD i 0
    let m := ssCore ny ns nu invLam DQ QS Ainv S
    toM ns ns m.A = StateAlg.ssA Li (toM ns ns S)
    ∧ toM ny ns m.C = StateAlg.ssC (toM ny ns DQ) (toM ny ny Ainv) (toM ns ns S)
    ∧ toM ns nu m.B = StateAlg.ssB (toM ny ns DQ) (toM ny nu QS) (toM ny ny Ainv) Li (toM ns ns S)
    ∧ toM ny nu m.D = StateAlg.ssD (toM ny ns DQ) (toM ny nu QS) (toM ny ny Ainv) (toM ns ns S) := by
  intro Li m
  simp only [m, ssCore, toM_mul, toM_transpose, toM_diagMul, toM_neg, toM_sub]
  exact ⟨rfl, rfl, rfl, rfl⟩

theorem lambda_mul_inv (cvals lvals : ValDict K) (ns : Nat)
    (hlen : (ssLambda cvals lvals).length = ns) (hnz : ∀ v ∈ ssLambda cvals lvals, v ≠ 0) :
    (diagonal fun i : Fin ns => (ssLambda cvals lvals).getD i 0)
      * (diagonal fun i : Fin ns => (ssInvLambda cvals lvals).getD i 0) = 1 := by
  rw [diagonal_mul_diagonal, ← diagonal_one]
  congr 1
  funext i
  have hi : (i : Nat) < (ssLambda cvals lvals).length := hlen ▸ i.2
  have h1 : (ssLambda cvals lvals).getD i 0 = (ssLambda cvals lvals)[(i : Nat)] := by
    simp [List.getD_eq_getElem?_getD, hi]
  have h2 : (ssInvLambda cvals lvals).getD i 0 = 1 / (ssLambda cvals lvals)[(i : Nat)] := by
    simp [ssInvLambda, List.getD_eq_getElem?_getD, hi]
  rw [h1, h2]
  exact mul_one_div_cancel (hnz _ (List.getElem_mem hi))

theorem stateSpaceMatrices_ok {Ainv S : List (List K)} {m : SSMats K}
    (hm : stateSpaceMatrices N cvals lvals Ainv S = .ok m) :
    ∃ Delta, ssDelta N cvals = .ok Delta ∧ (ssColsL N lvals).length = lvals.length ∧
      m = ssCore N.nY (ssNStates N cvals lvals) (ssNInputs N lvals) (ssInvLambda cvals lvals)
        (ssDQ N cvals lvals Delta) (ssQS N lvals) Ainv S := by
  unfold stateSpaceMatrices at hm
  cases hD : ssDelta N cvals with
  | error e => rw [hD] at hm; cases hm
  | ok Delta =>
    rw [hD] at hm
    refine ⟨Delta, rfl, ?_⟩
    by_cases hl : (ssColsL N lvals).length = lvals.length
    · simp only [hl, ne_eq, not_true_eq_false, ite_false] at hm
      refine ⟨hl, ?_⟩
      cases hm; rfl
    · simp only [ne_eq, hl, not_false_eq_true, ite_true] at hm
      cases hm

theorem rows_model_ok {Ainv S : List (List K)} {m : NSSM L K}
    (hm : nodalStateSpaceModel N cvals lvals Ainv S = .ok m) :
    ∃ mats, stateSpaceMatrices N cvals lvals Ainv S = .ok mats ∧ m = ⟨mats, N, cvals, lvals⟩ := by
  unfold nodalStateSpaceModel at hm
  cases hs : stateSpaceMatrices N cvals lvals Ainv S with
  | error e => rw [hs] at hm; cases hm
  | ok mats => rw [hs] at hm; cases hm; exact ⟨mats, rfl, rfl⟩

theorem nodalStateSpaceModel_mats {Ainv S : List (List K)} {M : NSSM L K}
    (hM : nodalStateSpaceModel N cvals lvals Ainv S = .ok M) :
    stateSpaceMatrices N cvals lvals Ainv S = .ok M.mats := by
  obtain ⟨_, h, rfl⟩ := rows_model_ok hM
  exact h

theorem stateSpaceMatrices_eq_ok {Delta : List (List K)}
    (hD : ssDelta N cvals = .ok Delta) (hl : (ssColsL N lvals).length = lvals.length) (Ainv S : List (List K)) :
    stateSpaceMatrices N cvals lvals Ainv S
      = .ok (ssCore N.nY (ssNStates N cvals lvals) (ssNInputs N lvals) (ssInvLambda cvals lvals)
          (ssDQ N cvals lvals Delta) (ssQS N lvals) Ainv S) := by
  unfold stateSpaceMatrices
  rw [hD]
  simp only [hl, ne_eq, not_true_eq_false, if_false]
  rfl

theorem get_map_re (re : K → K) (hre : re 0 = 0) (M : List (List K)) (i j : Nat) :
    Mx.get (M.map fun r => r.map re) i j = re (Mx.get M i j) := by
  unfold Mx.get
  simp only [List.getD_eq_getElem?_getD, List.getElem?_map]
  cases M[i]? with
  | none => simp [hre]
  | some r =>
    simp only [Option.map_some, Option.getD_some, List.getElem?_map]
    cases r[j]? <;> simp [hre]

theorem Atilde_symm (re : K → K) (hre : re 0 = 0) (N : Net L K) (n : Nat) :
    (toM n n (ssAtilde re N))ᵀ = toM n n (ssAtilde re N) := by
  ext i j
  simp only [Matrix.transpose_apply, toM_apply, ssAtilde, get_map_re re hre, get_mnaA_symm N j i]


/-- what the model-level theorems assume besides a successful run of `stateSpaceMatrices`: its two inverse
arguments satisfy the certificate equations (`Ã·Ainv = 1`, `(DQᵀ Ainv DQ)·S = 1`), no zero capacitance /
inductance, and `re 0 = 0` (the real part, the identity).  The symmetry of `Ã` is NOT assumed: it is `Atilde_symm`. -/
structure ModelCert (re : K → K) (N : Net L K) (cvals lvals : ValDict K) (Ainv S Delta : List (List K)) : Prop where
  hA : toM N.nY N.nY (ssAtilde re N) * toM N.nY N.nY Ainv = 1
  hre : re 0 = 0
  hS : ((toM N.nY (ssNStates N cvals lvals) (ssDQ N cvals lvals Delta))ᵀ * toM N.nY N.nY Ainv
          * toM N.nY (ssNStates N cvals lvals) (ssDQ N cvals lvals Delta))
        * toM (ssNStates N cvals lvals) (ssNStates N cvals lvals) S = 1
  hnz : ∀ v ∈ ssLambda cvals lvals, v ≠ 0

/-- the two products the driver checks (`ssCertificates`: `Ã·Ainv = 1`, `ssM·S = 1`, both with `Mx.mul`) give
the certificate equations -/
theorem ModelCert.of_checks {re : K → K} {N : Net L K} {cvals lvals : ValDict K} {Ainv S Delta : List (List K)}
    (hre : re 0 = 0) (hA : Mx.mul N.nY N.nY N.nY (ssAtilde re N) Ainv = Mx.one N.nY)
    (hS : Mx.mul (ssNStates N cvals lvals) (ssNStates N cvals lvals) (ssNStates N cvals lvals)
            (ssM N cvals lvals Delta Ainv) S = Mx.one (ssNStates N cvals lvals))
    (hnz : ∀ v ∈ ssLambda cvals lvals, v ≠ 0) : ModelCert re N cvals lvals Ainv S Delta where
  hA := toM_mul_eq_one hA
  hre := hre
  hS := by
    have := toM_mul_eq_one hS
    rwa [ssM, toM_mul, toM_mul, toM_transpose] at this
  hnz := hnz

theorem ssLambda_length (cvals lvals : ValDict K) :
    (ssLambda cvals lvals).length = cvals.length + lvals.length := by
  simp [ssLambda, ValDict.vals]

theorem ssLambda_length_states (N : Net L K) (cvals : ValDict K) {lvals : ValDict K}
    (hl : (ssColsL N lvals).length = lvals.length) : (ssLambda cvals lvals).length = ssNStates N cvals lvals := by
  rw [ssLambda_length, ← hl]; rfl

/-- a successful run with valid certificates is an instance of the algebra of CC/Proofs/StateAlgebra.lean: the
returned matrices are `ssA … ssD` of the transported arguments, and the remaining hypotheses there hold -/
theorem ModelCert.alg {re : K → K} {N : Net L K} {cvals lvals : ValDict K} {Ainv S Delta : List (List K)}
    {m : SSMats K} (hc : ModelCert re N cvals lvals Ainv S Delta) (hD : ssDelta N cvals = .ok Delta)
    (hm : stateSpaceMatrices N cvals lvals Ainv S = .ok m) :
    let ny := N.nY; let ns := ssNStates N cvals lvals; let nu := ssNInputs N lvals
    let DQ := toM ny ns (ssDQ N cvals lvals Delta)
    let QS := toM ny nu (ssQS N lvals)
    let Li : Matrix (Fin ns) (Fin ns) K := diagonal fun i => (ssInvLambda cvals lvals).getD i 0
    (toM ns ns m.A = StateAlg.ssA Li (toM ns ns S)
      ∧ toM ny ns m.C = StateAlg.ssC DQ (toM ny ny Ainv) (toM ns ns S)
      ∧ toM ns nu m.B = StateAlg.ssB DQ QS (toM ny ny Ainv) Li (toM ns ns S)
      ∧ toM ny nu m.D = StateAlg.ssD DQ QS (toM ny ny Ainv) (toM ns ns S))
    ∧ (ssLambda cvals lvals).length = ns
    ∧ (diagonal fun i : Fin ns => (ssLambda cvals lvals).getD i 0) * Li = 1
    ∧ (toM ny ny (ssAtilde re N))ᵀ = toM ny ny (ssAtilde re N) := by
  intro ny ns nu DQ QS Li
  obtain ⟨Delta', hD', hl, rfl⟩ := stateSpaceMatrices_ok hm
  rw [hD] at hD'; cases hD'
  have hlen : (ssLambda cvals lvals).length = ns := ssLambda_length_states N cvals hl
  exact ⟨ssCore_toM ny ns nu (ssInvLambda cvals lvals) (ssDQ N cvals lvals Delta) (ssQS N lvals) Ainv S, hlen,
    lambda_mul_inv cvals lvals ns hlen hc.hnz, Atilde_symm re hc.hre N N.nY⟩

theorem model_sample_system (re : K → K) {N : Net L K} {cvals lvals : ValDict K} {Ainv S Delta : List (List K)}
    {m : SSMats K} (hD : ssDelta N cvals = .ok Delta)
    (hm : stateSpaceMatrices N cvals lvals Ainv S = .ok m)
    (hc : ModelCert re N cvals lvals Ainv S Delta)
    (x : Fin (ssNStates N cvals lvals) → K) (u : Fin (ssNInputs N lvals) → K) :
    let ny := N.nY; let ns := ssNStates N cvals lvals; let nu := ssNInputs N lvals
    let y := toM ny ns m.C *ᵥ x + toM ny nu m.D *ᵥ u
    let xdot := toM ns ns m.A *ᵥ x + toM ns nu m.B *ᵥ u
    toM ny ny (ssAtilde re N) *ᵥ y
        = toM ny nu (ssQS N lvals) *ᵥ u
          + toM ny ns (ssDQ N cvals lvals Delta) *ᵥ
              ((diagonal fun i : Fin ns => (ssLambda cvals lvals).getD i 0) *ᵥ xdot)
    ∧ (toM ny ns (ssDQ N cvals lvals Delta))ᵀ *ᵥ y = x := by
  obtain ⟨⟨eA, eC, eB, eD⟩, _, hL, hs⟩ := hc.alg hD hm
  simp only [eA, eB, eC, eD]
  exact StateAlg.sample_system hc.hA hs hc.hS hL x u

/-- **C10, state dimension**: `ns = #capacitors + #inductors` (the lengths of the two dictionaries) -/
theorem model_dims {Ainv S : List (List K)} {m : SSMats K}
    (hm : stateSpaceMatrices N cvals lvals Ainv S = .ok m) :
    let ns := cvals.length + lvals.length
    let nu := ssNInputs N lvals
    IsShape m.A ns ns ∧ IsShape m.B ns nu ∧ IsShape m.C N.nY ns ∧ IsShape m.D N.nY nu := by
  obtain ⟨Delta, _, hl, rfl⟩ := stateSpaceMatrices_ok hm
  have e : ssNStates N cvals lvals = cvals.length + lvals.length := by
    show cvals.length + (ssColsL N lvals).length = _; rw [hl]
  simp only [ssCore, e]
  exact ⟨isShape_ofFn, isShape_ofFn, isShape_ofFn, isShape_ofFn⟩

/-- **C10: number of input columns = number of published sources** (every network, every
dictionary) -/
theorem sources_length (N : Net L K) (lvals : ValDict K) :
    ssNInputs N lvals = (ssSources N lvals).length := by
  unfold ssNInputs ssColsS ssSources
  rw [List.length_append, List.length_append, filterMap_idx_length _ _ (fun a ha => ha),
    filterMap_idx_map_length _ _ (fun a ha => (List.mem_filter.mp ha).1)]

theorem rowForPotential_reference (m : NSSM L K) (M : List (List K)) (w : Nat) :
    m.rowForPotential m.net.zero M w = .ok (Mx.zeroVec w) := by
  have h : idxOf? m.net.zero m.net.nodes = none := idxOf?_none_of_not_mem (zero_not_mem_nodes m.net)
  simp [NSSM.rowForPotential, h]

theorem rowForPotential_unknown (m : NSSM L K) (node : L) (M : List (List K)) (w : Nat)
    (h : idxOf? node m.net.nodes = none) (hz : node ≠ m.net.zero) :
    m.rowForPotential node M w = .error .keyError := by
  simp [NSSM.rowForPotential, h, hz]

theorem rowForPotential_mapped (m : NSSM L K) (node : L) (M : List (List K)) (w k : Nat)
    (h : idxOf? node m.net.nodes = some k) : m.rowForPotential node M w = .ok (M.getD k []) := by
  simp [NSSM.rowForPotential, h]

/-- position of an id among the columns of `Q` (block order) -/
def blockPos (N : Net L K) (id : String) : Option Nat := idxOf? id (N.csIds ++ N.vsIds)

/-- the columns `QS` should have: the published `sources`, in their order -/
def specColsS (N : Net L K) (lvals : ValDict K) : List Nat := (ssSources N lvals).filterMap (blockPos N)
/-- the columns `QL` should have: the inductors in the order of the dictionary (the order of `Λ`) -/
def specColsL (N : Net L K) (lvals : ValDict K) : List Nat := lvals.keys.filterMap (blockPos N)

theorem colsS_follow_sources (N : Net L K) (lvals : ValDict K) (hids : N.ids.Nodup) :
    ssColsS N lvals = specColsS N lvals := by
  unfold ssColsS specColsS ssSources blockPos
  rw [List.filterMap_append]
  congr 1
  · exact List.filterMap_congr fun a ha => (idxOf?_append_left _ ha).symm
  · refine List.filterMap_congr fun a ha => ?_
    have hv : a ∈ N.vsIds := (List.mem_filter.mp ha).1
    rw [idxOf?_append_right _ fun hc => csIds_not_vsIds N hids hc hv]; rfl

/-- **C10, input and inductor columns**: column `k` of `QS`
is the block position of `sources[k]`, column `k` of `QL` the block position of the `k`-th key of
`l_values` — for every network with distinct ids and every dictionary whose keys are ideal voltage
sources (short circuits) of the network; no hypothesis on names or listing order -/
theorem cols_follow_sources (N : Net L K) (lvals : ValDict K) (hids : N.ids.Nodup)
    (hkeys : ∀ id ∈ lvals.keys, id ∈ N.vsIds) :
    ssColsS N lvals = specColsS N lvals ∧ ssColsL N lvals = specColsL N lvals := by
  refine ⟨colsS_follow_sources N lvals hids, ?_⟩
  unfold ssColsL specColsL blockPos
  refine List.filterMap_congr fun a ha => ?_
  rw [idxOf?_append_right _ fun hc => csIds_not_vsIds N hids hc (hkeys a ha)]; rfl

theorem blockPos_of_mem {N : Net L K} {id : String} (h : id ∈ N.csIds ++ N.vsIds) :
    blockPos N id = some ((N.csIds ++ N.vsIds).idxOf id) := by
  rw [blockPos, idxOf?_eq, if_pos h]

theorem has_iff_mem (d : ValDict K) (id : String) : d.has id = true ↔ id ∈ d.keys := by
  simp only [ValDict.has, List.contains_eq_mem, decide_eq_true_eq]

theorem mem_ssSources {N : Net L K} {lvals : ValDict K} {id : String} :
    id ∈ ssSources N lvals ↔ id ∈ N.csIds ∨ (id ∈ N.vsIds ∧ id ∉ lvals.keys) := by
  simp only [ssSources, List.mem_append, List.mem_filter, Bool.not_eq_eq_eq_not, Bool.not_true, ← Bool.not_eq_true,
    has_iff_mem]

theorem mem_block_of_source {N : Net L K} {lvals : ValDict K} {id : String} (h : id ∈ ssSources N lvals) :
    id ∈ N.csIds ++ N.vsIds :=
  (mem_ssSources.mp h).elim (List.mem_append_left _) fun h => List.mem_append_right _ h.1

theorem ssColsS_eq_map (N : Net L K) (lvals : ValDict K) (hids : N.ids.Nodup) :
    ssColsS N lvals = (ssSources N lvals).map fun id => (N.csIds ++ N.vsIds).idxOf id := by
  rw [colsS_follow_sources N lvals hids, specColsS, ← List.filterMap_eq_map']
  exact List.filterMap_congr fun id hid => blockPos_of_mem (mem_block_of_source hid)

theorem ssColsL_eq_map (N : Net L K) (lvals : ValDict K) (hids : N.ids.Nodup)
    (hkeys : ∀ id ∈ lvals.keys, id ∈ N.vsIds) :
    ssColsL N lvals = lvals.keys.map fun id => (N.csIds ++ N.vsIds).idxOf id := by
  rw [(cols_follow_sources N lvals hids hkeys).2, specColsL, ← List.filterMap_eq_map']
  exact List.filterMap_congr fun id hid => blockPos_of_mem (List.mem_append_right _ (hkeys id hid))

end
end CC
