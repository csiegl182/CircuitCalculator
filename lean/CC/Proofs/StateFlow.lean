/-
  The real analysis behind the flow clause of C11 (CC/Properties/C11Flow.lean), over ℝ.

  "Solution" means a function with the stated derivative at every time of a set `S` (derivative within `S`, so
  one-sided at the end points): the EXACT flow of the differential equation.  Nothing here speaks about a
  numerical integrator.  Solutions exist: `t ↦ exp(tA) x₀` (Mathlib's matrix exponential) solves `ẋ = A x` through
  every `x₀` (`hasDerivAt_exp_mulVec`).
-/
import CC.Proofs.StateAlgebra
import Mathlib.Analysis.Calculus.Deriv.MeanValue
import Mathlib.Analysis.Calculus.Deriv.Mul
import Mathlib.Analysis.Calculus.Deriv.Add
import Mathlib.Analysis.Calculus.Deriv.Prod
import Mathlib.Analysis.SpecialFunctions.Exponential
import Mathlib.Analysis.Normed.Algebra.MatrixExponential
import Mathlib.Topology.Algebra.Module.FiniteDimension

set_option linter.unusedSectionVars false

namespace CC.StateFlow
open Matrix

variable {n q : Type} [Fintype n] [Fintype q] [DecidableEq n] [DecidableEq q]

theorem hasDerivWithinAt_quad (P : Matrix n n ℝ) {x : ℝ → n → ℝ} {x' : n → ℝ} {S : Set ℝ} {t : ℝ}
    (hx : HasDerivWithinAt x x' S t) :
    HasDerivWithinAt (fun s => x s ⬝ᵥ P *ᵥ x s) (x' ⬝ᵥ P *ᵥ x t + x t ⬝ᵥ P *ᵥ x') S t := by
  have hi : ∀ i, HasDerivWithinAt (fun s => x s i) (x' i) S t := hasDerivWithinAt_pi.1 hx
  have hP : ∀ i, HasDerivWithinAt (fun s => (P *ᵥ x s) i) ((P *ᵥ x') i) S t := fun i =>
    HasDerivWithinAt.fun_sum fun j _ => (hi j).const_mul (P i j)
  exact (HasDerivWithinAt.fun_sum (u := Finset.univ) fun i _ => (hi i).mul (hP i)).congr_deriv
    Finset.sum_add_distrib

theorem unforced (A : Matrix n n ℝ) (B : Matrix n q ℝ) {S : Set ℝ} {x : ℝ → n → ℝ} {u : ℝ → q → ℝ}
    (hx : ∀ t ∈ S, HasDerivWithinAt x (A *ᵥ x t + B *ᵥ u t) S t) (hu : ∀ t ∈ S, u t = 0) :
    ∀ t ∈ S, HasDerivWithinAt x (A *ᵥ x t) S t := fun t ht => by
  have := hx t ht
  rwa [hu t ht, mulVec_zero, add_zero] at this

theorem bounded_of_antitoneOn (P : Matrix n n ℝ) {lam : ℝ} (hlam : 0 < lam)
    (hP : ∀ x : n → ℝ, lam * (x ⬝ᵥ x) ≤ x ⬝ᵥ P *ᵥ x)
    {S : Set ℝ} {x : ℝ → n → ℝ} (hanti : AntitoneOn (fun t => x t ⬝ᵥ P *ᵥ x t) S)
    {t0 t : ℝ} (ht0 : t0 ∈ S) (ht : t ∈ S) (h : t0 ≤ t) :
    x t ⬝ᵥ x t ≤ (x t0 ⬝ᵥ P *ᵥ x t0) / lam := by
  rw [le_div_iff₀ hlam, mul_comm]
  exact (hP (x t)).trans (hanti ht0 ht h)

theorem sq_le_dot_self (x : n → ℝ) (i : n) : x i ^ 2 ≤ x ⬝ᵥ x := by
  unfold dotProduct
  rw [pow_two]
  exact Finset.single_le_sum (f := fun j => x j * x j) (fun j _ => mul_self_nonneg (x j)) (Finset.mem_univ i)

/-- stored energy of the state `x` with the weights `w` (capacitances, inductances).  The statements about the model
(CC/Properties/C11Flow.lean, C11Accessors.lean) spell the sum out; `stored_antitoneOn`, `state_bounded` and
`norm_bounded_after_sources` are applied to them because `stored w x` unfolds to that sum. -/
noncomputable def stored (w x : n → ℝ) : ℝ := (1 / 2) * ∑ k, w k * x k ^ 2

theorem diag_lower (w : n → ℝ) {lam : ℝ} (hw : ∀ k, lam ≤ w k) (x : n → ℝ) :
    lam * (x ⬝ᵥ x) ≤ x ⬝ᵥ diagonal w *ᵥ x := by
  rw [StateAlg.dot_diagonal_mulVec, dotProduct, Finset.mul_sum]
  exact Finset.sum_le_sum fun k _ => by
    rw [← pow_two]
    exact mul_le_mul_of_nonneg_right (hw k) (sq_nonneg _)

theorem stored_nonneg {w : n → ℝ} (hw : ∀ k, 0 ≤ w k) (x : n → ℝ) : 0 ≤ stored w x :=
  mul_nonneg (by norm_num) (Finset.sum_nonneg fun k _ => mul_nonneg (hw k) (sq_nonneg _))

theorem state_bounded {w : n → ℝ} (hw : ∀ k, 0 < w k)
    {S : Set ℝ} {x : ℝ → n → ℝ} (hanti : AntitoneOn (fun t => stored w (x t)) S)
    {t0 t : ℝ} (ht0 : t0 ∈ S) (ht : t ∈ S) (h : t0 ≤ t) (k : n) :
    x t k ^ 2 ≤ 2 * stored w (x t0) / w k := by
  have hk : (1 / 2) * (w k * x t k ^ 2) ≤ stored w (x t) :=
    mul_le_mul_of_nonneg_left (Finset.single_le_sum (f := fun j => w j * x t j ^ 2)
      (fun j _ => mul_nonneg (hw j).le (sq_nonneg _)) (Finset.mem_univ k)) (by norm_num)
  rw [le_div_iff₀ (hw k)]
  calc x t k ^ 2 * w k = 2 * ((1 / 2) * (w k * x t k ^ 2)) := by ring
    _ ≤ 2 * stored w (x t0) := mul_le_mul_of_nonneg_left (hk.trans (hanti ht0 ht h)) zero_le_two

section exp
open NormedSpace
open scoped Matrix.Norms.Operator

theorem hasDerivAt_exp_mulVec (A : Matrix n n ℝ) (x0 : n → ℝ) (t : ℝ) :
    HasDerivAt (fun s : ℝ => exp (s • A) *ᵥ x0) (A *ᵥ (exp (t • A) *ᵥ x0)) t := by
  -- `M ↦ M x₀` is linear, hence continuous in finite dimension; compose it with `d/ds exp(sA) = A·exp(tA)`
  let L : Matrix n n ℝ →L[ℝ] (n → ℝ) := LinearMap.toContinuousLinearMap ((Matrix.mulVecBilin ℝ ℝ).flip x0)
  have := L.hasFDerivAt.comp_hasDerivAt t (hasDerivAt_exp_smul_const' (𝕂 := ℝ) A t)
  rw [mulVec_mulVec]
  exact this

theorem hasDerivAt_exp_mulVec_zero_input (A : Matrix n n ℝ) (B : Matrix n q ℝ) (x0 : n → ℝ) (t : ℝ) :
    HasDerivAt (fun s : ℝ => exp (s • A) *ᵥ x0) (A *ᵥ (exp (t • A) *ᵥ x0) + B *ᵥ 0) t := by
  rw [mulVec_zero, add_zero]
  exact hasDerivAt_exp_mulVec A x0 t

theorem exp_zero_mulVec (A : Matrix n n ℝ) (x0 : n → ℝ) : exp ((0 : ℝ) • A) *ᵥ x0 = x0 := by
  rw [zero_smul, exp_zero, one_mulVec]

end exp

end CC.StateFlow
