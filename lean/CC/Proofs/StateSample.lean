/-
  For the executable model, the output vector `y = C x + D u` of ANY state `x` and input `u` solves the nodal
  equations of the per-sample network (`model_sample_system` + the right-hand side identity `subst_mnaB`), hence by
  C01's soundness theorem (through `sample_is_circuit`) it reports a solution of that network's circuit equations.
-/
import CC.Proofs.StateRhs
set_option linter.unusedSectionVars false

namespace CC
open Matrix Mx

section main
variable {L K : Type} [DecidableEq L] [LabelOrd L] [Field K] [DecidableEq K]
variable {N : Net L K} {cvals lvals : ValDict K}

theorem lambda_getD_cap (cvals lvals : ValDict K) {k : Nat} (hk : k < cvals.length) :
    (ssLambda cvals lvals).getD k 0 = -(cvals.vals.getD k 0) := by
  unfold ssLambda
  have hk' : k < (cvals.vals.map fun c => -c).length := by simpa [ValDict.vals] using hk
  have hk'' : k < cvals.vals.length := by simpa [ValDict.vals] using hk
  simp only [List.getD_eq_getElem?_getD, List.getElem?_append_left hk', List.getElem?_map,
    List.getElem?_eq_getElem hk'', Option.map_some, Option.getD_some]

theorem lambda_getD_ind (cvals lvals : ValDict K) (k : Nat) :
    (ssLambda cvals lvals).getD (cvals.length + k) 0 = lvals.vals.getD k 0 := by
  have hl : cvals.vals.length = cvals.length := List.length_map _
  rw [ssLambda, getD_map_append, List.getElem?_eq_none (by omega), hl, Nat.add_sub_cancel_left]

theorem sampleNet_eq_subst (N : Net L K) (cvals lvals : ValDict K) (sources : List String) (u xdot : List K) :
    sampleNet N cvals lvals sources u xdot
      = N.mapElems (substElem cvals lvals sources u (List.zipWith (· * ·) (ssLambda cvals lvals) xdot)) := by
  unfold sampleNet
  congr 1
  funext b
  unfold substElem reactElem
  cases hc : idxOf? b.id cvals.keys with
  | some k =>
    have hk : k < cvals.length := by have := idxOf?_lt_length hc; simpa [ValDict.keys] using this
    simp only [getD_zipWith_mul, lambda_getD_cap cvals lvals hk]
    congr 1; ring
  | none =>
    cases hl : idxOf? b.id lvals.keys with
    | some k => simp only [getD_zipWith_mul, lambda_getD_ind]
    | none => rfl

/-- **C12_sample_rhs.**  The right-hand side of the per-sample network is the model's
`QS·u + DQ·(Λ·ẋ)`. -/
theorem sample_rhs {Delta : List (List K)} (h : RLC N cvals lvals)
    (hD : ssDelta N cvals = .ok Delta) (u xdot : List K) :
    (sampleNet N cvals lvals (ssSources N lvals) u xdot).mnaB
      = Mx.vecAdd (matVec (ssQS N lvals) u)
          (matVec (ssDQ N cvals lvals Delta) (List.zipWith (· * ·) (ssLambda cvals lvals) xdot)) := by
  rw [sampleNet_eq_subst]
  exact subst_mnaB h hD u _

theorem ssAtilde_id (N : Net L K) : ssAtilde id N = N.mnaA := by
  unfold ssAtilde
  simp only [List.map_id_fun, id_eq, List.map_id_fun']

theorem mnaA_shape (N : Net L K) (hids : N.ids.Nodup) : IsShape N.mnaA N.nY N.nY := by
  have hl := vsSorted_length N hids
  constructor
  · simp only [Net.mnaA, List.map_const', hl, List.length_append, List.length_map, Net.nY, Net.nN, Net.nV]
  · intro r hr
    simp only [Net.mnaA, List.mem_append, List.mem_map] at hr
    rcases hr with ⟨i, _, rfl⟩ | ⟨b, _, rfl⟩ <;> simp [Net.nY, Net.nN, Net.nV, hl]

theorem sample_circuit_of_system {Delta : List (List K)}
    (h : RLC N cvals lvals) (hD : ssDelta N cvals = .ok Delta)
    (y : Fin N.nY → K) (xdot : Fin (ssNStates N cvals lvals) → K) (u : Fin (ssNInputs N lvals) → K)
    (hsys : toM N.nY N.nY N.mnaA *ᵥ y
        = toM N.nY (ssNInputs N lvals) (ssQS N lvals) *ᵥ u
          + toM N.nY (ssNStates N cvals lvals) (ssDQ N cvals lvals Delta) *ᵥ
              ((diagonal fun i : Fin (ssNStates N cvals lvals) => (ssLambda cvals lvals).getD i 0) *ᵥ xdot)) :
    let P := sampleNet N cvals lvals (ssSources N lvals) (List.ofFn u) (List.ofFn xdot)
    CircuitEqs P (P.reportOf (List.ofFn y)) := by
  intro P
  have hids := h.wf.ids_nodup
  apply sample_is_circuit h
  · simp only [List.length_ofFn]; rfl
  · rw [sample_rhs h hD]
    have hlam := ssLambda_length_states N cvals ((colsL_length N lvals h.indKeys).trans (List.length_map _))
    have hQS : IsShape (ssQS N lvals) N.nY (ssNInputs N lvals) := isShape_ofFn
    have hDQ : IsShape (ssDQ N cvals lvals Delta) N.nY (ssNStates N cvals lvals) := isShape_ofFn
    rw [(mnaA_shape N hids).matVec_ofFn, hQS.matVec_ofFn, zipWith_diag_ofFn _ hlam, hDQ.matVec_ofFn, vecAdd_ofFn]
    congr 1

/-- **The executable model solves the per-sample circuit.**  For the `w = 0` network of an RLC +
ideal-source circuit and ANY state `x` and input `u`: the output vector `y = C x + D u` of the model
reports — through the accessors of the sample network (capacitor `k` carries `C_k·ẋ_k`, inductor `k`
has the voltage `L_k·ẋ_k`, `ẋ = A x + B u`, sources at `u`) — potentials, voltages and currents that
satisfy the reference condition, Kirchhoff's voltage law, every element law and Kirchhoff's current
law at every node. -/
theorem model_sample_circuit {Ainv S Delta : List (List K)}
    {m : SSMats K} (h : RLC N cvals lvals) (hD : ssDelta N cvals = .ok Delta)
    (hm : stateSpaceMatrices N cvals lvals Ainv S = .ok m)
    (hc : ModelCert id N cvals lvals Ainv S Delta)
    (x : Fin (ssNStates N cvals lvals) → K) (u : Fin (ssNInputs N lvals) → K) :
    let y := toM N.nY (ssNStates N cvals lvals) m.C *ᵥ x + toM N.nY (ssNInputs N lvals) m.D *ᵥ u
    let xdot := toM (ssNStates N cvals lvals) (ssNStates N cvals lvals) m.A *ᵥ x
                + toM (ssNStates N cvals lvals) (ssNInputs N lvals) m.B *ᵥ u
    let P := sampleNet N cvals lvals (ssSources N lvals) (List.ofFn u) (List.ofFn xdot)
    CircuitEqs P (P.reportOf (List.ofFn y)) := by
  intro y xdot P
  have := (model_sample_system id hD hm hc x u).1
  rw [ssAtilde_id] at this
  exact sample_circuit_of_system h hD y xdot u this

end main
end CC
