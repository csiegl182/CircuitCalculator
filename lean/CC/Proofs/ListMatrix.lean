/-
  CC.Proofs.ListMatrix — the dot product and the matrix-vector product over lists (`dotL`, `matVec`) as sums over
  `Fin n`, entries read with `getD · 0`: the one step from the list-shaped matrices of the model to Mathlib's
  `Finset.sum` (and from there to `Matrix.mulVec`, whose `i`-th entry is such a sum by definition).
-/
import CC.Proofs.ListSum
import Mathlib.Algebra.BigOperators.Fin

namespace CC
variable {K : Type} [Field K]

/-- any `n` from the length of the shorter list on will do: the entries beyond it are read as `0` -/
theorem dotL_eq_sum (r v : List K) (n : Nat) (h : min r.length v.length ≤ n) :
    dotL r v = ∑ j : Fin n, r.getD j 0 * v.getD j 0 := by
  induction r generalizing v n with
  | nil => simp [dotL]
  | cons a r ih =>
    cases v with
    | nil => simp [dotL]
    | cons b v =>
      cases n with
      | zero => simp at h
      | succ n =>
        rw [dotL_cons, Fin.sum_univ_succ, ih v n (by simpa using h)]
        simp

theorem sum_map_eq_sum_getD (g : K → K) (hg : g 0 = 0) (l : List K) (n : Nat) (h : l.length ≤ n) :
    (l.map g).sum = ∑ j : Fin n, g (l.getD j 0) := by
  induction l generalizing n with
  | nil => simp [hg]
  | cons a l ih =>
    cases n with
    | zero => simp at h
    | succ n => rw [List.map_cons, List.sum_cons, Fin.sum_univ_succ, ih n (by simpa using h)]; simp

/-- no hypothesis on the length of `v` -/
theorem matVec_eq_ofFn_sum {r c : Nat} {M : List (List K)} (hr : M.length = r) (hc : ∀ row ∈ M, row.length = c)
    (v : List K) :
    matVec M v = List.ofFn fun i : Fin r => ∑ j : Fin c, (M.getD i []).getD j 0 * v.getD j 0 := by
  apply List.ext_getElem
  · simp [matVec, hr]
  · intro i h1 _
    have hi : i < M.length := by simpa [matVec] using h1
    simp only [matVec, List.getElem_map, List.getElem_ofFn]
    rw [dotL_eq_sum _ v c (by rw [hc _ (List.getElem_mem hi)]; exact Nat.min_le_left ..)]
    simp [List.getD_eq_getElem?_getD, hi]

end CC
