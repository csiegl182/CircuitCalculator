/-
  CC.Proofs.ContractShape — the exact shape of the short-circuit contraction loop
  (`contractAll` of CC/Model/Transform.lean, i.e. the loop of `remove_short_circuit_elements`):

    contractAll z ps bs = (bs.map (Branch.mapNodes (sigmaAll z ps))).filter (ps = [] ∨ n1 ≠ n2)

  where `sigmaAll z ps : L → L` is the node renaming composed from the per-step renamings
  `an → rn` (computed by the same recursion as the loop), and what one needs to know about that renaming:
  it fixes every node that is never absorbed (the reference node, every non-terminal), maps nothing to an
  absorbed node, hence is idempotent, and identifies exactly the nodes joined by the pairs (`sigmaAll_eq_iff`).
-/
import CC.Proofs.SpecLemmas
import CC.Model.Transform
import Mathlib.Logic.Relation
set_option linter.unusedSectionVars false

namespace CC
variable {L K : Type} [DecidableEq L] [LabelOrd L] [Field K] [DecidableEq K]

/-- one renaming step `an → rn` on node labels -/
def renNode (an rn : L) (x : L) : L := if x = an then rn else x

/-- a branch with both terminals renamed by `σ`: identifier, type, element record and
orientation (`n1 ↦ σ n1`, `n2 ↦ σ n2`) untouched -/
def Branch.mapNodes (σ : L → L) (b : Branch L K) : Branch L K := { b with n1 := σ b.n1, n2 := σ b.n2 }

theorem renNode_absorbed (an rn : L) : renNode an rn an = rn := if_pos rfl

theorem renNode_retained (an rn : L) : renNode an rn rn = rn := ite_self rn

theorem renNode_of_ne {an x : L} (rn : L) (h : x ≠ an) : renNode an rn x = x := if_neg h

theorem renNode_cases (an rn x : L) : renNode an rn x = rn ∨ renNode an rn x = x := by
  by_cases h : x = an
  · left; rw [h, renNode_absorbed]
  · right; exact renNode_of_ne rn h

theorem renNode_ne_absorbed {an rn : L} (hne : an ≠ rn) (x : L) : renNode an rn x ≠ an := by
  by_cases h : x = an
  · rw [h, renNode_absorbed]; exact hne.symm
  · rw [renNode_of_ne rn h]; exact h

theorem pot_renNode (R : Report L K) {an rn : L} (hp : R.pot an = R.pot rn) (x : L) :
    R.pot (renNode an rn x) = R.pot x := by
  by_cases h : x = an
  · rw [h, renNode_absorbed, hp]
  · rw [renNode_of_ne rn h]

theorem orient_cases (z : L) (p : L × L) : orient z p = p ∨ orient z p = (p.2, p.1) := by
  unfold orient; by_cases hz : p.1 = z <;> simp [hz]

theorem renNode_orient (z : L) (p : L × L) :
    renNode (orient z p).1 (orient z p).2 p.1 = renNode (orient z p).1 (orient z p).2 p.2 := by
  rcases orient_cases z p with h | h <;> rw [h]
  · exact (renNode_absorbed _ _).trans (renNode_retained _ _).symm
  · exact (renNode_retained _ _).trans (renNode_absorbed _ _).symm

/-- the two list comprehensions of the loop body rename both terminals by `renNode`; the third drops
the self-loops -/
theorem contractStep_eq (bs : List (Branch L K)) (an rn : L) :
    contractStep bs an rn = ((bs.map (Branch.mapNodes (renNode an rn))).filter fun b => b.n1 ≠ b.n2) := by
  unfold contractStep
  simp only [List.map_map]
  congr 1
  apply List.map_congr_left
  intro b _
  unfold Branch.mapNodes renNode
  by_cases h1 : b.n1 = an <;> by_cases h2 : b.n2 = an <;> simp [h1, h2]

theorem mem_contractStep (bs : List (Branch L K)) (an rn : L) (b' : Branch L K) :
    b' ∈ contractStep bs an rn ↔
      ∃ b ∈ bs, b' = b.mapNodes (renNode an rn) ∧ renNode an rn b.n1 ≠ renNode an rn b.n2 := by
  rw [contractStep_eq, List.mem_filter, List.mem_map]
  constructor
  · rintro ⟨⟨b, hb, rfl⟩, hc⟩
    exact ⟨b, hb, rfl, of_decide_eq_true hc⟩
  · rintro ⟨b, hb, rfl, hc⟩
    exact ⟨⟨b, hb, rfl⟩, decide_eq_true hc⟩

theorem contractAll_nil (z : L) (bs : List (Branch L K)) : contractAll z [] bs = bs := by
  rw [contractAll]

theorem contractAll_cons (z : L) (p : L × L) (ps : List (L × L)) (bs : List (Branch L K)) :
    contractAll z (p :: ps) bs =
      contractAll z (ps.map (renPair (orient z p).1 (orient z p).2)) (contractStep bs (orient z p).1 (orient z p).2) := by
  rw [contractAll]

/-- induction along the loop: a step renames the remaining pairs, so structural induction on the pair list does not fit -/
theorem pairs_ind (z : L) (P : List (L × L) → Prop) (nil : P [])
    (step : ∀ p ps, P (ps.map (renPair (orient z p).1 (orient z p).2)) → P (p :: ps)) :
    ∀ ps, P ps := by
  have : ∀ (n : Nat) (ps : List (L × L)), ps.length = n → P ps := by
    intro n
    induction n with
    | zero => intro ps hl; rw [List.length_eq_zero_iff.mp hl]; exact nil
    | succ n ih =>
      intro ps hl
      cases ps with
      | nil => simp at hl
      | cons p ps => exact step p ps (ih _ (by simpa using hl))
  exact fun ps => this ps.length ps rfl

/-- the node renaming performed by the whole loop: the composition of the per-step renamings
`an → rn`, the remaining pairs being renamed along (same recursion as `contractAll`) -/
def sigmaAll (z : L) : List (L × L) → L → L
  | [], x => x
  | p :: ps, x =>
    sigmaAll z (ps.map (renPair (orient z p).1 (orient z p).2)) (renNode (orient z p).1 (orient z p).2 x)
termination_by ps => ps.length
decreasing_by simp

/-- the nodes absorbed by the loop, in order: the `an` of every step that really renames
(`an ≠ rn`) -/
def absorbedAll (z : L) : List (L × L) → List L
  | [] => []
  | p :: ps =>
    (if (orient z p).1 = (orient z p).2 then [] else [(orient z p).1]) ++
      absorbedAll z (ps.map (renPair (orient z p).1 (orient z p).2))
termination_by ps => ps.length
decreasing_by simp

def IsPairTerm (ps : List (L × L)) (x : L) : Prop := ∃ p ∈ ps, x = p.1 ∨ x = p.2

theorem sigmaAll_nil (z : L) (x : L) : sigmaAll z [] x = x := by rw [sigmaAll]
theorem sigmaAll_cons (z : L) (p : L × L) (ps : List (L × L)) (x : L) :
    sigmaAll z (p :: ps) x =
      sigmaAll z (ps.map (renPair (orient z p).1 (orient z p).2)) (renNode (orient z p).1 (orient z p).2 x) := by
  rw [sigmaAll]
theorem absorbedAll_nil (z : L) : absorbedAll z ([] : List (L × L)) = [] := by rw [absorbedAll]
theorem absorbedAll_cons (z : L) (p : L × L) (ps : List (L × L)) :
    absorbedAll z (p :: ps) =
      (if (orient z p).1 = (orient z p).2 then [] else [(orient z p).1]) ++
        absorbedAll z (ps.map (renPair (orient z p).1 (orient z p).2)) := by
  rw [absorbedAll]

@[simp] theorem mapNodes_id (b : Branch L K) : Branch.mapNodes (fun x => x) b = b := rfl
@[simp] theorem mapNodes_n1 (σ : L → L) (b : Branch L K) : (b.mapNodes σ).n1 = σ b.n1 := rfl
@[simp] theorem mapNodes_n2 (σ : L → L) (b : Branch L K) : (b.mapNodes σ).n2 = σ b.n2 := rfl
@[simp] theorem mapNodes_id' (σ : L → L) (b : Branch L K) : (b.mapNodes σ).id = b.id := rfl
@[simp] theorem mapNodes_ty (σ : L → L) (b : Branch L K) : (b.mapNodes σ).ty = b.ty := rfl
@[simp] theorem mapNodes_e (σ : L → L) (b : Branch L K) : (b.mapNodes σ).e = b.e := rfl
@[simp] theorem mapNodes_key (σ : L → L) (b : Branch L K) : (b.mapNodes σ).key = b.key := rfl

theorem orient_absorbs_zero (z : L) (p : L × L) (h : (orient z p).1 = z) : (orient z p).2 = z := by
  unfold orient at h ⊢
  by_cases hz : p.1 = z
  · simp [hz] at h ⊢
  · simp [hz] at h

/-- **the loop is a renaming followed by a filter**; with no pair the list is returned as it is, self-loops included
(the `ps.isEmpty` of the filter) -/
theorem contractAll_eq (z : L) (ps : List (L × L)) (bs : List (Branch L K)) :
    contractAll z ps bs =
      (bs.map (Branch.mapNodes (sigmaAll z ps))).filter fun b => ps.isEmpty || decide (b.n1 ≠ b.n2) := by
  induction ps using pairs_ind z generalizing bs with
  | nil =>
    have : Branch.mapNodes (K := K) (sigmaAll z ([] : List (L × L))) = fun b => b := by
      funext b; unfold Branch.mapNodes; simp only [sigmaAll_nil]
    rw [contractAll_nil, this, List.map_id']
    exact (List.filter_eq_self.mpr fun _ _ => rfl).symm
  | step p ps ih =>
    rw [contractAll_cons, ih, contractStep_eq, filter_map_filter _ _ _
      (fun b : Branch L K => (p :: ps).isEmpty || decide (b.n1 ≠ b.n2)), List.map_map]
    · congr 1
      apply List.map_congr_left
      intro b _
      show b.mapNodes (fun x => sigmaAll z _ (renNode _ _ x)) = b.mapNodes (sigmaAll z (p :: ps))
      congr 1
      funext x
      rw [sigmaAll_cons]
    · -- a self-loop stays one under the later renamings; and with no pair left nothing further is renamed
      intro a _
      simp only [List.isEmpty_cons, Bool.false_or, mapNodes_n1, mapNodes_n2]
      by_cases hloop : a.n1 = a.n2
      · simp [hloop]
      · cases ps with
        | nil => simp [hloop, sigmaAll_nil]
        | cons q qs => simp [hloop]

theorem mem_contractAll {z : L} {ps : List (L × L)} {bs : List (Branch L K)} {b' : Branch L K}
    (h : b' ∈ contractAll z ps bs) : ∃ b ∈ bs, b' = b.mapNodes (sigmaAll z ps) := by
  rw [contractAll_eq] at h
  obtain ⟨b, hb, rfl⟩ := List.mem_map.mp (List.mem_filter.mp h).1
  exact ⟨b, hb, rfl⟩

theorem isTerm_renPair (an rn : L) (ps : List (L × L)) (x : L)
    (h : IsPairTerm (ps.map (renPair an rn)) x) : IsPairTerm ps x ∨ x = rn := by
  obtain ⟨q', hq', hx⟩ := h
  obtain ⟨q, hq, rfl⟩ := List.mem_map.mp hq'
  rcases hx with hx | hx
  · rcases renNode_cases an rn q.1 with e | e
    · exact Or.inr (hx.trans e)
    · exact Or.inl ⟨q, hq, Or.inl (hx.trans e)⟩
  · rcases renNode_cases an rn q.2 with e | e
    · exact Or.inr (hx.trans e)
    · exact Or.inl ⟨q, hq, Or.inr (hx.trans e)⟩

theorem not_isTerm_renPair (an rn : L) (hne : an ≠ rn) (ps : List (L × L)) :
    ¬ IsPairTerm (ps.map (renPair an rn)) an := by
  rintro ⟨q', hq', hx⟩
  obtain ⟨q, _, rfl⟩ := List.mem_map.mp hq'
  rcases hx with hx | hx
  · exact renNode_ne_absorbed hne q.1 hx.symm
  · exact renNode_ne_absorbed hne q.2 hx.symm

theorem isTerm_orient (z : L) (p : L × L) (ps : List (L × L)) :
    IsPairTerm (p :: ps) (orient z p).1 ∧ IsPairTerm (p :: ps) (orient z p).2 := by
  rcases orient_cases z p with h | h <;> rw [h]
  · exact ⟨⟨p, List.mem_cons_self .., Or.inl rfl⟩, ⟨p, List.mem_cons_self .., Or.inr rfl⟩⟩
  · exact ⟨⟨p, List.mem_cons_self .., Or.inr rfl⟩, ⟨p, List.mem_cons_self .., Or.inl rfl⟩⟩

theorem isTerm_tail (p : L × L) (ps : List (L × L)) (x : L) (h : IsPairTerm ps x) : IsPairTerm (p :: ps) x := by
  obtain ⟨q, hq, hx⟩ := h; exact ⟨q, List.mem_cons_of_mem _ hq, hx⟩

theorem mem_absorbedAll_cons (z : L) (p : L × L) (ps : List (L × L)) (x : L) :
    x ∈ absorbedAll z (p :: ps) ↔
      (x = (orient z p).1 ∧ (orient z p).1 ≠ (orient z p).2) ∨
        x ∈ absorbedAll z (ps.map (renPair (orient z p).1 (orient z p).2)) := by
  rw [absorbedAll_cons, List.mem_append]
  by_cases he : (orient z p).1 = (orient z p).2
  · rw [if_pos he]; simp [he]
  · rw [if_neg he]; simp [he]

theorem absorbed_isTerm (z : L) (ps : List (L × L)) : ∀ x ∈ absorbedAll z ps, IsPairTerm ps x := by
  induction ps using pairs_ind z with
  | nil => intro x hx; rw [absorbedAll_nil] at hx; cases hx
  | step p ps ih =>
    intro x hx
    rcases (mem_absorbedAll_cons z p ps x).mp hx with ⟨rfl, _⟩ | hx
    · exact (isTerm_orient z p ps).1
    · rcases isTerm_renPair _ _ ps x (ih x hx) with h | rfl
      · exact isTerm_tail p ps x h
      · exact (isTerm_orient z p ps).2

theorem zero_not_absorbed (z : L) (ps : List (L × L)) : z ∉ absorbedAll z ps := by
  induction ps using pairs_ind z with
  | nil => rw [absorbedAll_nil]; exact List.not_mem_nil
  | step p ps ih =>
    intro hx
    rcases (mem_absorbedAll_cons z p ps z).mp hx with ⟨hz, hne⟩ | hx
    · exact hne (hz.symm.trans (orient_absorbs_zero z p hz.symm).symm)
    · exact ih hx

theorem sigmaAll_fix (z : L) (ps : List (L × L)) : ∀ x, x ∉ absorbedAll z ps → sigmaAll z ps x = x := by
  induction ps using pairs_ind z with
  | nil => intro x _; exact sigmaAll_nil z x
  | step p ps ih =>
    intro x hx
    rw [sigmaAll_cons]
    set an := (orient z p).1
    set rn := (orient z p).2
    have hs : renNode an rn x = x := by
      by_cases hxa : x = an
      · by_cases he : an = rn
        · rw [hxa, renNode_absorbed]; exact he.symm
        · exact absurd ((mem_absorbedAll_cons z p ps x).mpr (Or.inl ⟨hxa, he⟩)) hx
      · exact renNode_of_ne _ hxa
    rw [hs]
    exact ih x fun h => hx ((mem_absorbedAll_cons z p ps x).mpr (Or.inr h))

theorem sigmaAll_fix_nonterm (z : L) (ps : List (L × L)) (x : L) (h : ¬ IsPairTerm ps x) :
    sigmaAll z ps x = x :=
  sigmaAll_fix z ps x fun hx => h (absorbed_isTerm z ps x hx)

theorem sigmaAll_zero (z : L) (ps : List (L × L)) : sigmaAll z ps z = z :=
  sigmaAll_fix z ps z (zero_not_absorbed z ps)

theorem sigmaAll_range (z : L) (ps : List (L × L)) :
    ∀ x, sigmaAll z ps x = x ∨ IsPairTerm ps (sigmaAll z ps x) := by
  induction ps using pairs_ind z with
  | nil => intro x; exact Or.inl (sigmaAll_nil z x)
  | step p ps ih =>
    intro x
    rw [sigmaAll_cons]
    set an := (orient z p).1
    set rn := (orient z p).2
    rcases ih (renNode an rn x) with h | h
    · rw [h]
      rcases renNode_cases an rn x with e | e
      · rw [e]; exact Or.inr (isTerm_orient z p ps).2
      · exact Or.inl e
    · right
      rcases isTerm_renPair _ _ ps _ h with h | h
      · exact isTerm_tail p ps _ h
      · rw [h]; exact (isTerm_orient z p ps).2

theorem sigmaAll_not_absorbed (z : L) (ps : List (L × L)) :
    ∀ x, sigmaAll z ps x ∉ absorbedAll z ps := by
  induction ps using pairs_ind z with
  | nil => intro x; rw [absorbedAll_nil]; exact List.not_mem_nil
  | step p ps ih =>
    intro x hx
    rw [sigmaAll_cons] at hx
    rcases (mem_absorbedAll_cons z p ps _).mp hx with ⟨hx, he⟩ | hx
    · -- the later steps return the renamed `x` (which is not `an`) or a terminal of a remaining pair (none is `an`)
      set an := (orient z p).1
      set rn := (orient z p).2
      rcases sigmaAll_range z (ps.map (renPair an rn)) (renNode an rn x) with h | h
      · rw [h] at hx; exact renNode_ne_absorbed he x hx
      · rw [hx] at h; exact not_isTerm_renPair _ _ he ps h
    · exact ih _ hx

theorem sigmaAll_idem (z : L) (ps : List (L × L)) (x : L) :
    sigmaAll z ps (sigmaAll z ps x) = sigmaAll z ps x :=
  sigmaAll_fix z ps _ (sigmaAll_not_absorbed z ps x)

def PairJoined (ps : List (L × L)) : L → L → Prop := Relation.EqvGen fun a b => (a, b) ∈ ps

theorem eqvGen_elim {α β : Type} {r : α → α → Prop} {e : β → β → Prop} (he : Equivalence e) (f : α → β)
    (h : ∀ a b, r a b → e (f a) (f b)) {x y : α} (hxy : Relation.EqvGen r x y) : e (f x) (f y) :=
  (he.comap f).eqvGen_iff.mp (hxy.mono h)

theorem eqvGen_lift {α : Type} {r : α → α → Prop} {s : α → α → Prop} (f : α → α)
    (h : ∀ a b, r a b → Relation.EqvGen s (f a) (f b)) {x y : α} (hxy : Relation.EqvGen r x y) :
    Relation.EqvGen s (f x) (f y) :=
  eqvGen_elim (Relation.EqvGen.is_equivalence s) f h hxy

theorem eqvGen_of_or_symm {α : Type} {r s : α → α → Prop} (h : ∀ a b, r a b → s a b ∨ s b a) {x y : α}
    (hxy : Relation.EqvGen r x y) : Relation.EqvGen s x y :=
  eqvGen_lift (fun a => a) (fun a b hab => (h a b hab).elim (.rel _ _) fun h' => .symm _ _ (.rel _ _ h')) hxy

theorem eqvGen_congr {α β : Type} {r : α → α → Prop} (f : α → β) (h : ∀ a b, r a b → f a = f b) {x y : α}
    (hxy : Relation.EqvGen r x y) : f x = f y :=
  eqvGen_elim eq_equivalence f h hxy

theorem pairJoined_nil (x y : L) : PairJoined ([] : List (L × L)) x y ↔ x = y :=
  ⟨eqvGen_congr (fun a => a) (fun _ _ hab => nomatch hab), fun h => h ▸ .refl _⟩

theorem pairJoined_renNode (z : L) (p : L × L) (ps : List (L × L)) (a : L) :
    PairJoined (p :: ps) (renNode (orient z p).1 (orient z p).2 a) a := by
  by_cases h : a = (orient z p).1
  · rw [h, renNode_absorbed]
    rcases orient_cases z p with ho | ho <;> rw [ho]
    · exact .symm _ _ (.rel _ _ (List.mem_cons_self ..))
    · exact .rel _ _ (List.mem_cons_self ..)
  · rw [renNode_of_ne _ h]; exact .refl _

theorem sigmaAll_eq_iff (z : L) (ps : List (L × L)) :
    ∀ x y, sigmaAll z ps x = sigmaAll z ps y ↔ PairJoined ps x y := by
  induction ps using pairs_ind z with
  | nil => intro x y; rw [sigmaAll_nil, sigmaAll_nil, pairJoined_nil]
  | step p ps ih =>
    intro x y
    rw [sigmaAll_cons, sigmaAll_cons, ih]
    set ρ := renNode (orient z p).1 (orient z p).2
    have hρ := pairJoined_renNode z p ps
    constructor
    · -- a renamed pair joins the new names of nodes that the pair joined
      intro h
      have h' : PairJoined (p :: ps) (ρ x) (ρ y) := by
        refine eqvGen_lift (fun a => a) ?_ h
        intro a b hab
        obtain ⟨q, hq, hqe⟩ := List.mem_map.mp hab
        obtain ⟨rfl, rfl⟩ : a = ρ q.1 ∧ b = ρ q.2 := ⟨congrArg Prod.fst hqe.symm, congrArg Prod.snd hqe.symm⟩
        exact .trans _ _ _ (hρ q.1) (.trans _ _ _ (.rel _ _ (List.mem_cons_of_mem _ hq)) (.symm _ _ (hρ q.2)))
      exact .trans _ _ _ (.symm _ _ (hρ x)) (.trans _ _ _ h' (hρ y))
    · -- the contracted pair itself: both ends get the same name; any other pair is renamed and stays
      intro h
      refine eqvGen_lift ρ ?_ h
      intro a b hab
      rcases List.mem_cons.mp hab with hab | hab
      · subst hab
        rw [show ρ a = ρ b from renNode_orient z (a, b)]; exact .refl _
      · exact .rel _ _ (List.mem_map.mpr ⟨(a, b), hab, rfl⟩)

end CC
