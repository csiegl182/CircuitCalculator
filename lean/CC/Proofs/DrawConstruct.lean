/-
  CC.Proofs.DrawConstruct — what `construct` (the symbol constructors of Elements.py, interpreted over the generated class
  table) builds, by look-ups.

  `construct` reads its keyword list only through `lookup`, and every user of the symbol it returns — the parser, the
  translators, `dictify_element` — reads only `name`, `rev`, `nodeId` and `attrs.lookup`.  So what is built is described by
  *where each of these values comes from*: a `Src`, a composition of the parameter, field, `sin`-shift and property entries of
  the class and of its ancestors that mentions the table only, and is therefore computed from the table by the kernel
  (`readsOf`), and its value `Src.eval` on the keyword look-up, which mentions the keywords only.  `construct_reads` is the
  theorem that the two together are `construct`, for every class, any keyword list in any order and with any further keys.
-/
import CC.Proofs.Dict
import CC.Proofs.ExceptLemmas
import CC.Proofs.DrawEvalAttr
namespace CC.Draw

/-- the field assignments of the class bodies -/
def fieldsOf (chain : List ElemClass) (env : List (String × Val)) (revParam : Bool) : Except Err (List (String × Val)) :=
  chain.reverse.foldlM (fun acc k =>
      k.fields.foldlM (fun acc (fe : String × FExpr) => do
        match ← evalF env revParam fe.2 with
        | some v => pure (dictSet fe.1 v acc)
        | none => pure acc) acc) ([] : List (String × Val))

/-- one class's `sin` shift: `if self._sin: self._phi -= …` -/
def shiftStep (π : Rat) (env : List (String × Val)) (t : Option (String × String × Option (String × Rat)))
    (acc : List (String × Val)) : Except Err (List (String × Val)) :=
  match t with
  | some (flag, fld, degAlt) =>
    if truthy (lookupD acc flag (.bool false)) then
      let amount : Rat := match degAlt with
        | some (p, n) => if truthy (lookupD env p (.bool false)) then n else π / 2
        | none => π / 2
      match acc.lookup fld with
      | some (.num z) => pure (dictSet fld (.num (z - ⟨amount, 0⟩)) acc)
      | _ => throw Err.typeError
    else pure acc
  | none => pure acc

def shifted (π : Rat) (chain : List ElemClass) (env fields : List (String × Val)) : Except Err (List (String × Val)) :=
  chain.foldlM (fun acc k => shiftStep π env k.sinShift acc) fields

def propsOf (chain : List ElemClass) (fields : List (String × Val)) : List (String × Val) :=
  chain.reverse.foldl (fun acc k =>
    k.props.foldl (fun acc (pe : String × PExpr) =>
      match evalP fields pe.2 with
      | some v => dictSet pe.1 v acc
      | none => acc.filter (·.1 ≠ pe.1)) acc) ([] : List (String × Val))

/-- the attribute dictionary: the plain (non-underscore) fields over the properties -/
def attrsOf (fields props : List (String × Val)) : List (String × Val) :=
  fields.foldl (fun acc (fv : String × Val) => if fv.1.startsWith "_" then acc else dictSet fv.1 fv.2 acc) props

def finish (cls : String) (c : ElemClass) (nameVal revKw : Val) (fields : List (String × Val)) : Except Err SymObj := do
  let props := propsOf (classChain c) fields
  let attrs := attrsOf fields props
  let nameKw := match nameVal with | .str s => s | _ => ""
  let name := match props.lookup "name" with | some (.str s) => s | _ => nameKw
  let rev := match props.lookup "is_reverse" with
    | some (.bool b) => b
    | _ => truthy revKw
  let nodeId := match attrs.lookup "node_id" with | some (.str s) => s | _ => ""
  if !c.named then throw Err.attributeError
  pure { cls := cls, name := name, rev := rev, nodeId := nodeId,
         attrs := attrs.filter fun kv => kv.1 ≠ "name" ∧ kv.1 ≠ "is_reverse" ∧ kv.1 ≠ "type" ∧ kv.1 ≠ "node_id" }

def constructRest (π : Rat) (cls : String) (c : ElemClass) (revKw : Val) (env : List (String × Val)) : Except Err SymObj := do
  let fields ← fieldsOf (classChain c) env (truthy (lookupD env "reverse" (.bool false)))
  let fields ← shifted π (classChain c) env fields
  finish cls c (lookupD env "name" (.str "")) revKw fields

theorem construct_eq (π : Rat) (cls : String) (c : ElemClass) (hc : classInfo cls = some c) (kw : List (String × Val)) :
    construct π cls kw =
      ((classChain c).foldlM (fun env k => bindParams k env) kw >>=
        constructRest π cls c (lookupD kw "reverse" (.bool false))) := by
  unfold construct
  simp only [hc]
  rfl

inductive Src where
  /-- keyword `p`, else the default of the first class of the chain that gives it one -/
  | kw (p : String) (dflt : Option Val)
  /-- `s if not reverse else -s` -/
  | neg (s : Src)
  /-- `1/s` -/
  | inv (s : Src)
  /-- `s - (n if p else π/2)` when `flag` (`alt = false`: always `π/2`) -/
  | shift (s flag p : Src) (n : Rat) (alt : Bool)
  | lit (v : Val)
  /-- `s` if it has a value, else `t` -/
  | or (s t : Src)
  | none
deriving DecidableEq, Repr

/-- `.or` without a `.none` side -/
def Src.orElse : Src → Src → Src
  | .none, t => t
  | s, .none => s
  | s, t => .or s t

def shiftVal (π : Rat) (flag fld p : Option Val) (n : Rat) (alt : Bool) : Option Val :=
  if truthy (flag.getD (.bool false)) then
    match fld with
    | some (.num z) => some (.num (z - ⟨if alt && truthy (p.getD (.bool false)) then n else π / 2, 0⟩))
    | v => v
  else fld

/-- the value, on the keyword look-up `kw` and the `reverse` the class body sees -/
def Src.eval (π : Rat) (kw : String → Option Val) (rev : Bool) : Src → Option Val
  | .kw p d => (kw p).or d
  | .neg s => (s.eval π kw rev).map fun v => match v with
    | .num z => .num (if rev then -z else z)
    | v => v
  | .inv s => match s.eval π kw rev with
    | some (.num z) => if z = 0 then Option.none else some (.num (1 / z))
    | _ => Option.none
  | .shift s flag p n alt => shiftVal π (flag.eval π kw rev) (s.eval π kw rev) (p.eval π kw rev) n alt
  | .lit v => some v
  | .or s t => (s.eval π kw rev).or (t.eval π kw rev)
  | .none => Option.none

section Rows
variable (chain : List ElemClass)

def dfltOf (k : String) : Option Val := chain.findSome? fun c => (c.params.lookup k).bind (·.2)

def kwSrc (p : String) : Src := .kw p (dfltOf chain p)

def requiredOf : List String :=
  (chain.flatMap (·.params)).filterMap fun p => if p.2.2.isNone then some p.1 else Option.none

/-- the field assignments in the order in which they are executed (base class first) -/
def fieldsRow : List (String × FExpr) := chain.reverse.flatMap (·.fields)

/-- the property definitions in the order of method resolution (the class before its bases, a later definition before an
earlier one of the same class) -/
def propsRow : List (String × PExpr) := chain.flatMap fun k => k.props.reverse

def signedOf : List Src := (fieldsRow chain).filterMap fun fe => match fe.2 with
  | .negIfRev p => some (kwSrc chain p)
  | _ => Option.none

/-- field `f` after the assignments -/
def fieldSrc0 (f : String) : Src :=
  match (fieldsRow chain).lookup f with
  | some (.param p) => kwSrc chain p
  | some (.negIfRev p) => .neg (kwSrc chain p)
  | _ => .none

/-- the `sin` shift of the class itself: flag field, shifted field, degree alternative -/
def shiftOf : Option (String × String × Option (String × Rat)) := chain.head?.bind (·.sinShift)

/-- field `f` after the `sin` shift -/
def fieldSrc (f : String) : Src :=
  match shiftOf chain with
  | some (flag, fld, alt) =>
    if f = fld then
      .shift (fieldSrc0 chain fld) (fieldSrc0 chain flag) (match alt with | some (p, _) => kwSrc chain p | Option.none => .none)
        (match alt with | some (_, n) => n | Option.none => 0) alt.isSome
    else fieldSrc0 chain f
  | Option.none => fieldSrc0 chain f

def propSrc (a : String) : Src :=
  match (propsRow chain).lookup a with
  | some (.field f) => fieldSrc chain f
  | some (.inv f) => .inv (fieldSrc chain f)
  | some (.str s) => .lit (.str s)
  | some (.bool b) => .lit (.bool b)
  | _ => .none

/-- attribute `a` as a translator reads it: a plain instance attribute, else the property -/
def attrSrc (a : String) : Src :=
  if a.startsWith "_" then propSrc chain a else (fieldSrc chain a).orElse (propSrc chain a)

end Rows

/-- everything that is read of a constructed symbol of one class -/
structure Reads where
  required : List String
  /-- must be numbers (they are negated under `reverse`) -/
  signed : List Src := []
  /-- flag and field of the `sin` shift: the field must be a number when the flag is set -/
  shift : Option (Src × Src) := Option.none
  /-- `reverse` as the class body sees it -/
  revParam : Src := .kw "reverse" (some (.bool false))
  /-- `name` as the `simple_circuit_element` decorator sees it -/
  nameKw : Src := .kw "name" Option.none
  /-- the properties `name`, `is_reverse` where the class defines them -/
  name : Src := .none
  isRev : Src := .none
  nodeId : Src := .none
  attrs : List (String × Src) := []
deriving DecidableEq, Repr

def Reads.ofChain (chain : List ElemClass) (as : List String) : Reads :=
  { required := requiredOf chain, signed := signedOf chain,
    shift := (shiftOf chain).map fun t => (fieldSrc0 chain t.1, fieldSrc0 chain t.2.1),
    revParam := kwSrc chain "reverse", nameKw := kwSrc chain "name", name := propSrc chain "name",
    isRev := propSrc chain "is_reverse", nodeId := attrSrc chain "node_id",
    attrs := as.map fun a => (a, attrSrc chain a) }

/-- the rows are as `construct_reads` needs them: the class carries a name, the parameter names of each class of the chain
and the field names of the whole chain are distinct, only the class itself shifts a phase; no hidden attribute is asked for -/
def readable (c : ElemClass) (as : List String) : Bool :=
  c.named && (classChain c).all (fun k => decide (k.params.map (·.1)).Nodup) &&
    decide ((fieldsRow (classChain c)).map (·.1)).Nodup && (classChain c).tail.all (·.sinShift.isNone) &&
    as.all (fun a => !["name", "is_reverse", "type", "node_id"].contains a)

def readsOf (cls : String) (as : List String) : Option Reads :=
  (classInfo cls).bind fun c => if readable c as then some (Reads.ofChain (classChain c) as) else Option.none

namespace Reads
variable (r : Reads) (π : Rat) (kw : List (String × Val))

def revb : Bool := truthy ((r.revParam.eval π (fun k => kw.lookup k) false).getD (.bool false))

def val (s : Src) : Option Val := s.eval π (fun k => kw.lookup k) (r.revb π kw)

def nameOf : String :=
  match r.val π kw r.name with
  | some (.str s) => s
  | _ => match (r.val π kw r.nameKw).getD (.str "") with | .str s => s | _ => ""

def revOf : Bool :=
  match r.val π kw r.isRev with
  | some (.bool b) => b
  | _ => truthy (lookupD kw "reverse" (.bool false))

def nodeIdOf : String := match r.val π kw r.nodeId with | some (.str s) => s | _ => ""

end Reads

theorem Src.eval_orElse (π : Rat) (kw : String → Option Val) (rev : Bool) (s t : Src) :
    (s.orElse t).eval π kw rev = (s.eval π kw rev).or (t.eval π kw rev) := by
  unfold Src.orElse; split <;> simp [Src.eval]

/-- `bindParams` is a fold of `dictSet`s: afterwards every key answers with its keyword, else with its default -/
theorem bindParams_ok {c : ElemClass} {kw : List (String × Val)} (hd : (c.params.map (·.1)).Nodup)
    (hreq : ∀ p ∈ c.params, p.2.2 = none → (kw.lookup p.1).isSome) :
    ∃ env, bindParams c kw = .ok env ∧ ∀ k, env.lookup k = (kw.lookup k).or ((c.params.lookup k).bind (·.2)) := by
  refine ⟨_, foldlM_eq_ok (fun env p => ((kw.lookup p.1).or p.2.2).elim env fun v => dictSet p.1 v env)
    c.params kw fun p hp env => ?_, fun k => ?_⟩
  · cases h1 : kw.lookup p.1 with
    | some v => rfl
    | none =>
      cases h2 : p.2.2 with
      | some d => rfl
      | none => have := hreq p hp h2; rw [h1] at this; cases this
  · rw [lookup_foldl_set (fun k (bd : Bool × Option Val) => (kw.lookup k).or bd.2) (fun _ _ => rfl) k _ _ hd]
    cases c.params.lookup k <;> cases kw.lookup k <;> simp

theorem mem_required {chain : List ElemClass} {c : ElemClass} (hc : c ∈ chain) {p : String × Bool × Option Val}
    (hp : p ∈ c.params) (hn : p.2.2 = none) : p.1 ∈ requiredOf chain :=
  List.mem_filterMap.mpr ⟨p, List.mem_flatMap.mpr ⟨c, hc, hp⟩, by simp [hn]⟩

/-- binding along the chain: each class binds its own parameters in what the class before it left -/
theorem chainBind_ok : ∀ (chain : List ElemClass) (kw : List (String × Val)),
    (∀ c ∈ chain, (c.params.map (·.1)).Nodup) → (∀ q ∈ requiredOf chain, (kw.lookup q).isSome) →
    ∃ env, chain.foldlM (fun env k => bindParams k env) kw = .ok env ∧
      ∀ k, env.lookup k = (kw.lookup k).or (dfltOf chain k)
  | [], kw, _, _ => ⟨kw, rfl, fun k => by simp [dfltOf]⟩
  | c :: cs, kw, hd, hreq => by
    obtain ⟨env1, h1, hl1⟩ := bindParams_ok (c := c) (kw := kw) (hd c List.mem_cons_self)
      fun p hp hn => hreq _ (mem_required List.mem_cons_self hp hn)
    obtain ⟨env, h2, hl2⟩ := chainBind_ok cs env1 (fun c' hc' => hd c' (List.mem_cons_of_mem _ hc')) fun q hq => by
      obtain ⟨p, hp, hq'⟩ := List.mem_filterMap.mp hq
      obtain ⟨c', hc', hp'⟩ := List.mem_flatMap.mp hp
      have := hreq q (List.mem_filterMap.mpr ⟨p, List.mem_flatMap.mpr ⟨c', List.mem_cons_of_mem _ hc', hp'⟩, hq'⟩)
      rw [hl1 q]
      cases hk : kw.lookup q with
      | none => rw [hk] at this; cases this
      | some v => rfl
    refine ⟨env, ?_, fun k => ?_⟩
    · rw [List.foldlM_cons, h1]; exact h2
    · rw [hl2 k, hl1 k, Option.or_assoc]
      unfold dfltOf
      rw [List.findSome?_cons]
      cases (c.params.lookup k).bind (·.2) <;> rfl

def fieldOf (env : List (String × Val)) (rev : Bool) : FExpr → Option Val
  | .param p => env.lookup p
  | .negIfRev p => (env.lookup p).map fun v => match v with
    | .num z => .num (if rev then -z else z)
    | v => v
  | .other _ => none

theorem evalF_eq {env : List (String × Val)} {rev : Bool} {e : FExpr}
    (hnum : ∀ p, e = .negIfRev p → ∀ v, env.lookup p = some v → ∃ z, v = .num z) :
    evalF env rev e = .ok (fieldOf env rev e) := by
  cases e with
  | param p => rfl
  | other t => rfl
  | negIfRev p =>
    simp only [evalF, fieldOf]
    cases h : env.lookup p with
    | none => rfl
    | some v =>
      obtain ⟨z, rfl⟩ := hnum p rfl v h
      cases rev <;> rfl

theorem fieldsOf_ok {chain : List ElemClass} {env : List (String × Val)} {rev : Bool}
    (hn : ((fieldsRow chain).map (·.1)).Nodup)
    (hnum : ∀ fe ∈ fieldsRow chain, ∀ p, fe.2 = .negIfRev p → ∀ v, env.lookup p = some v → ∃ z, v = .num z) :
    ∃ fields, fieldsOf chain env rev = .ok fields ∧ (fields.map (·.1)).Nodup ∧
      ∀ f, fields.lookup f = ((fieldsRow chain).lookup f).bind (fieldOf env rev) := by
  refine ⟨(fieldsRow chain).foldl (fun acc fe => (fieldOf env rev fe.2).elim acc fun v => dictSet fe.1 v acc) [], ?_,
    nodup_keys_foldl_set (fun _ => fieldOf env rev) (fun _ _ => rfl) _ [] List.nodup_nil, fun f => ?_⟩
  · unfold fieldsOf
    rw [foldlM_flatMap]
    exact foldlM_eq_ok _ _ _ fun fe hfe acc => by rw [evalF_eq (hnum fe hfe)]; cases fieldOf env rev fe.2 <;> rfl
  · rw [lookup_foldl_set (fun _ => fieldOf env rev) (fun _ _ => rfl) f _ _ hn, List.lookup_nil, Option.or_none]

/-- only the class itself shifts -/
theorem shifted_eq {π : Rat} {chain : List ElemClass} {env fields : List (String × Val)}
    (ht : chain.tail.all (·.sinShift.isNone) = true) : shifted π chain env fields = shiftStep π env (shiftOf chain) fields := by
  have hnone : ∀ (cs : List ElemClass), cs.all (·.sinShift.isNone) = true → ∀ acc : List (String × Val),
      cs.foldlM (fun acc k => shiftStep π env k.sinShift acc) acc = .ok acc := by
    intro cs
    induction cs with
    | nil => intro _ acc; rfl
    | cons k ks ih =>
      intro h acc
      rw [List.all_cons, Bool.and_eq_true, Option.isNone_iff_eq_none] at h
      rw [List.foldlM_cons, h.1]
      exact ih h.2 acc
  cases chain with
  | nil => rfl
  | cons c cs =>
    show (shiftStep π env c.sinShift fields >>= fun acc => cs.foldlM (fun acc k => shiftStep π env k.sinShift acc) acc) =
      shiftStep π env c.sinShift fields
    cases shiftStep π env c.sinShift fields with
    | error e => rfl
    | ok acc => exact hnone cs ht acc

theorem shiftStep_ok {π : Rat} {env acc : List (String × Val)} {flag fld : String} {alt : Option (String × Rat)}
    (ha : (acc.map (·.1)).Nodup)
    (hz : truthy ((acc.lookup flag).getD (.bool false)) = true → ∃ z, acc.lookup fld = some (.num z)) :
    ∃ acc', shiftStep π env (some (flag, fld, alt)) acc = .ok acc' ∧ (acc'.map (·.1)).Nodup ∧
      ∀ f, acc'.lookup f = if f = fld then
          shiftVal π (acc.lookup flag) (acc.lookup fld) (match alt with | some (p, _) => env.lookup p | none => none)
            (match alt with | some (_, n) => n | none => 0) alt.isSome
        else acc.lookup f := by
  unfold shiftStep shiftVal lookupD
  by_cases hf : truthy ((acc.lookup flag).getD (.bool false)) = true
  · obtain ⟨z, hz⟩ := hz hf
    simp only [hf, if_true, hz]
    refine ⟨_, rfl, nodup_keys_dictSet _ _ ha, fun f => ?_⟩
    rw [lookup_dictSet]
    by_cases hk : f = fld
    · simp only [hk, if_true]
      cases alt with
      | none => rfl
      | some pn => rfl
    · simp only [hk, if_false]
  · simp only [hf, Bool.false_eq_true, if_false]
    exact ⟨acc, rfl, ha, fun f => by by_cases hk : f = fld <;> simp [hk]⟩

/-- one property definition, by look-ups: it sets the name or removes it -/
theorem propsStep_lookup (fields : List (String × Val)) (pe : String × PExpr) (acc : List (String × Val)) (a : String) :
    (match evalP fields pe.2 with
      | some v => dictSet pe.1 v acc
      | none => acc.filter (·.1 ≠ pe.1)).lookup a = if a = pe.1 then evalP fields pe.2 else acc.lookup a := by
  cases h : evalP fields pe.2 with
  | some v => exact lookup_dictSet pe.1 a v acc
  | none =>
    refine (lookup_filter_key (fun k : String => decide (k ≠ pe.1)) acc a).trans ?_
    by_cases hk : a = pe.1 <;> simp [hk]

/-- the last definition of a name decides -/
theorem propsOf_lookup (chain : List ElemClass) (fields : List (String × Val)) (a : String) :
    (propsOf chain fields).lookup a = ((propsRow chain).lookup a).bind (evalP fields) := by
  unfold propsOf
  rw [← List.foldl_flatMap, lookup_foldl_last (fun _ => evalP fields) (fun acc pe => propsStep_lookup fields pe acc),
    List.reverse_flatMap, List.reverse_reverse]
  show ((propsRow chain).lookup a).elim none (evalP fields) = _
  cases (propsRow chain).lookup a <;> rfl

theorem attrsOf_lookup (a : String) {fields : List (String × Val)} (props : List (String × Val))
    (hd : (fields.map (·.1)).Nodup) : (attrsOf fields props).lookup a =
      if a.startsWith "_" then props.lookup a else (fields.lookup a).or (props.lookup a) := by
  unfold attrsOf
  rw [lookup_foldl_set (fun k v => if k.startsWith "_" then none else some v)
    (fun acc x => by cases x.1.startsWith "_" <;> rfl) a fields props hd]
  cases a.startsWith "_" <;> cases fields.lookup a <;> simp

theorem finish_ok {cls : String} {c : ElemClass} (hn : c.named = true) (nameVal revKw : Val) (fields : List (String × Val)) :
    finish cls c nameVal revKw fields = .ok
      { cls := cls
        name := match (propsOf (classChain c) fields).lookup "name" with
          | some (.str s) => s
          | _ => match nameVal with | .str s => s | _ => ""
        rev := match (propsOf (classChain c) fields).lookup "is_reverse" with
          | some (.bool b) => b
          | _ => truthy revKw
        nodeId := match (attrsOf fields (propsOf (classChain c) fields)).lookup "node_id" with | some (.str s) => s | _ => ""
        attrs := (attrsOf fields (propsOf (classChain c) fields)).filter fun kv =>
          kv.1 ≠ "name" ∧ kv.1 ≠ "is_reverse" ∧ kv.1 ≠ "type" ∧ kv.1 ≠ "node_id" } := by
  simp only [finish, hn, Bool.not_true, Bool.false_eq_true, if_false]
  rfl

theorem Src.eval_shift (π : Rat) (kw : String → Option Val) (rev : Bool) (s fl p : Src) (n : Rat) (alt : Bool) :
    (Src.shift s fl p n alt).eval π kw rev =
      shiftVal π (fl.eval π kw rev) (s.eval π kw rev) (p.eval π kw rev) n alt := rfl

/-- **`construct` by look-ups**: for a class whose `Reads` the table yields (`h`, decided by the kernel) and ANY keyword list
that names the required parameters, gives numbers where the class negates and a numeric phase where it shifts: the symbol is
built, and its name, reversal flag, node id and the attributes asked for are the values of their sources. -/
theorem construct_reads {π : Rat} {cls : String} {as : List String} {r : Reads} (h : readsOf cls as = some r)
    (kw : List (String × Val)) (hreq : ∀ q ∈ r.required, (kw.lookup q).isSome)
    (hnum : ∀ s ∈ r.signed, ∀ v, r.val π kw s = some v → ∃ z, v = .num z)
    (hshift : ∀ t, r.shift = some t → truthy ((r.val π kw t.1).getD (.bool false)) = true →
      ∃ z, r.val π kw t.2 = some (.num z)) :
    ∃ o, construct π cls kw = .ok o ∧ o.name = r.nameOf π kw ∧ o.rev = r.revOf π kw ∧ o.nodeId = r.nodeIdOf π kw ∧
      ∀ a ∈ as, o.attrs.lookup a = r.val π kw ((r.attrs.lookup a).getD .none) := by
  unfold readsOf at h
  cases hc : classInfo cls with
  | none => rw [hc] at h; cases h
  | some c =>
    rw [hc, Option.bind_some] at h
    split at h
    case isFalse => cases h
    rename_i hok
    cases h
    simp only [readable, Bool.and_eq_true, decide_eq_true_eq, List.all_eq_true] at hok
    obtain ⟨⟨⟨⟨hn, hdp⟩, hdf⟩, htail⟩, has⟩ := hok
    generalize hch : classChain c = chain at *
    set r := Reads.ofChain chain as
    obtain ⟨env, hbind, henv⟩ := chainBind_ok chain kw hdp hreq
    have hkw : ∀ p, env.lookup p = r.val π kw (kwSrc chain p) := fun p => henv p
    have hrevb : truthy (lookupD env "reverse" (.bool false)) = r.revb π kw := by
      unfold lookupD Reads.revb
      rw [henv]
      rfl
    obtain ⟨fields0, hf0, hnd0, hl0⟩ := fieldsOf_ok (chain := chain) (env := env) (rev := r.revb π kw) hdf
      fun fe hfe p hp v hv => hnum (kwSrc chain p)
        (List.mem_filterMap.mpr ⟨fe, hfe, by rw [hp]⟩) v ((hkw p).symm.trans hv)
    have hF0 : ∀ f, fields0.lookup f = r.val π kw (fieldSrc0 chain f) := fun f => by
      rw [hl0 f]
      unfold fieldSrc0
      cases (fieldsRow chain).lookup f with
      | none => rfl
      | some fe =>
        cases fe with
        | param p => exact hkw p
        | negIfRev p => simp only [Option.bind_some, fieldOf, hkw p]; rfl
        | other t => rfl
    obtain ⟨fields, hsh, hnd, hF⟩ : ∃ fields, shifted π chain env fields0 = .ok fields ∧ (fields.map (·.1)).Nodup ∧
        ∀ f, fields.lookup f = r.val π kw (fieldSrc chain f) := by
      rw [shifted_eq (List.all_eq_true.mpr htail)]
      cases hs : shiftOf chain with
      | none => exact ⟨fields0, rfl, hnd0, fun f => by rw [hF0 f]; unfold fieldSrc; rw [hs]⟩
      | some t =>
        obtain ⟨flag, fld, alt⟩ := t
        obtain ⟨fields, hok, hnd, hl⟩ := shiftStep_ok (π := π) (env := env) (flag := flag) (fld := fld) (alt := alt) hnd0
          fun htr => by
            rw [hF0 fld]
            exact hshift (fieldSrc0 chain flag, fieldSrc0 chain fld) (congrArg (Option.map _) hs) (by rw [← hF0 flag]; exact htr)
        refine ⟨fields, hok, hnd, fun f => ?_⟩
        rw [hl f]
        unfold fieldSrc
        rw [hs]
        by_cases hk : f = fld
        · simp only [hk, if_true, Reads.val, Src.eval_shift]
          rw [hF0 flag, hF0 fld]
          cases alt with
          | none => rfl
          | some pn => simp only [Option.isSome_some]; rw [hkw pn.1]; rfl
        · simp only [hk, if_false]; exact hF0 f
    have hP : ∀ a, (propsOf chain fields).lookup a = r.val π kw (propSrc chain a) := fun a => by
      rw [propsOf_lookup]
      unfold propSrc
      cases (propsRow chain).lookup a with
      | none => rfl
      | some pe =>
        cases pe with
        | field f => exact hF f
        | inv f => simp only [Option.bind_some, evalP, hF f]; rfl
        | str s => rfl
        | bool b => rfl
        | other t => rfl
    have hA : ∀ a, (attrsOf fields (propsOf chain fields)).lookup a = r.val π kw (attrSrc chain a) := fun a => by
      unfold attrSrc
      rw [attrsOf_lookup a _ hnd]
      cases a.startsWith "_"
      · simp only [Bool.false_eq_true, if_false, Reads.val, Src.eval_orElse]
        rw [hF a, hP a]; rfl
      · simp only [if_true]; exact hP a
    have hcon : construct π cls kw =
        finish cls c (lookupD env "name" (.str "")) (lookupD kw "reverse" (.bool false)) fields := by
      rw [construct_eq π cls c hc, hch, hbind]
      show constructRest π cls c _ env = _
      unfold constructRest
      rw [hch, hrevb, hf0]
      show (shifted π chain env fields0 >>= _) = _
      rw [hsh]
      rfl
    refine ⟨_, hcon.trans (finish_ok hn _ _ fields), ?_, ?_, ?_, fun a ha => ?_⟩
    · simp only [hch, hP, Reads.nameOf, lookupD, hkw]; rfl
    · simp only [hch, hP, Reads.revOf]; rfl
    · simp only [hch, hA, Reads.nodeIdOf]; rfl
    · rw [show r.attrs = as.map fun a => (a, attrSrc chain a) from rfl, lookup_map_self, if_pos ha, Option.getD_some]
      have hvis : decide (a ≠ "name" ∧ a ≠ "is_reverse" ∧ a ≠ "type" ∧ a ≠ "node_id") = true := by
        have := has a ha
        simp only [Bool.not_eq_true', List.contains_eq_mem, List.mem_cons, List.not_mem_nil, or_false,
          decide_eq_false_iff_not, not_or] at this
        exact decide_eq_true this
      simp only [hch]
      refine (lookup_filter_key (fun k : String => decide (k ≠ "name" ∧ k ≠ "is_reverse" ∧ k ≠ "type" ∧ k ≠ "node_id"))
        _ a).trans ?_
      rw [hvis, if_pos rfl]
      exact hA a

/-! ### evaluating sources on look-up hypotheses

An instance of `construct_reads` has the `Reads` of its class as a literal (decided by the kernel) and knows its keyword
list through hypotheses `kw.lookup "V" = some (.num V)`.  What is left are values of literal sources; `simp only
[draw_eval, <the hypotheses>]` computes them: the equations of `Src.eval` one constructor at a time, look-up in a literal
association list without unfolding string equality, and the membership quantifiers of the three side conditions. -/

section
variable (π : Rat) (kw : String → Option Val) (rev : Bool)

theorem Src.eval_kw (p : String) (d : Option Val) : (Src.kw p d).eval π kw rev = (kw p).or d := rfl
theorem Src.eval_lit (v : Val) : (Src.lit v).eval π kw rev = some v := rfl
theorem Src.eval_none : Src.none.eval π kw rev = Option.none := rfl
theorem Src.eval_or (s t : Src) : (Src.or s t).eval π kw rev = (s.eval π kw rev).or (t.eval π kw rev) := rfl

theorem Src.eval_neg {s : Src} {z : GQ} (h : s.eval π kw rev = some (.num z)) :
    (Src.neg s).eval π kw rev = some (.num (if rev then -z else z)) := by
  simp only [Src.eval, h]; rfl

theorem Src.eval_inv {s : Src} {z : GQ} (h : s.eval π kw rev = some (.num z)) :
    (Src.inv s).eval π kw rev = if z = 0 then Option.none else some (.num (1 / z)) := by
  simp only [Src.eval, h]

end

/-- Not stated by `rfl`, so that `simp` rewrites the condition of an `if truthy … then` through the congruence rule of `ite`
and the `Decidable` instance follows the condition. -/
theorem truthy_bool (b : Bool) : truthy (.bool b) = b := by cases b <;> rfl

/-- With `List.lookup_cons_self` this evaluates a `lookup` in a literal dictionary without a `match` on `k == k'`, which
`simp` would reduce by unfolding string equality. -/
theorem lookup_cons_ne {V : Type} {k k' : String} (h : k ≠ k') (v : V) (l : List (String × V)) :
    List.lookup k ((k', v) :: l) = List.lookup k l := by
  have : (k == k') = false := by simpa using h
  simp [List.lookup, this]

attribute [draw_eval] Reads.val Reads.revb Reads.nameOf Reads.revOf Reads.nodeIdOf Src.eval_kw Src.eval_lit Src.eval_none
  Src.eval_or Src.eval_shift shiftVal lookupD truthy_bool lookup_cons_ne List.lookup_cons_self List.lookup_nil ne_eq
  String.reduceEq not_false_eq_true Option.some_or Option.none_or Option.getD_some Option.getD_none Option.isSome_some
  List.forall_mem_cons List.not_mem_nil IsEmpty.forall_iff implies_true and_self and_true Option.some.injEq forall_eq'
  Val.num.injEq exists_eq' Bool.true_and Bool.false_and Bool.false_eq_true if_false if_true reduceCtorEq false_imp_iff
  List.cons_append List.nil_append

end CC.Draw
