/-
  CC.Proofs.TranslatorDen — what a translator body of `Circuit/transformers.py` *denotes* on a component: a partial
  function of the numbers under the keys it reads.  For the expression trees the denotation is the evaluation of
  CC/Model/Circuit.lean read as an `Option` (`RE/CE/EE.denK_eq`); `TSpec.runSimple_of_den` says that the interpreter, run on
  any `plain` / `gated` row of any table, returns the body's denotation; `FaithfulRow` says that the row the generated table
  holds for a kind denotes what `Spec.elemOf` intends for that kind.  Property C07 rests on the last two.
-/
import CC.Proofs.CircuitLemmas
namespace CC
variable {α : Type}

/-! `e.denK … κ` hands the value of `e` to `κ`; a missing or non-numeric key, a division by zero or a factory that raises
gives `none`.  Written with continuations because on a literal body it then unfolds (`dsimp only`) to the right-nested
chain `(num? c "V").bind fun V => (num? c "phi").bind fun φ => …` in which `Spec.elemOf` is written. -/

def RE.denK (c : Component) (w wres : Rat) : RE → (Rat → Option α) → Option α
  | .key k, κ => (Spec.num? c k).bind κ
  | .w, κ => κ w
  | .wres, κ => κ wres
  | .lit q, κ => κ q
  | .add a b, κ => a.denK c w wres fun x => b.denK c w wres fun y => κ (x + y)
  | .sub a b, κ => a.denK c w wres fun x => b.denK c w wres fun y => κ (x - y)
  | .mul a b, κ => a.denK c w wres fun x => b.denK c w wres fun y => κ (x * y)
  | .div a b, κ => a.denK c w wres fun x => b.denK c w wres fun y => if y = 0 then none else κ (x / y)
  | .neg a, κ => a.denK c w wres fun x => κ (-x)

def CE.denK (trig : Trig) (c : Component) (w wres : Rat) : CE → (GQ → Option α) → Option α
  | .cart a b, κ => a.denK c w wres fun x => b.denK c w wres fun y => κ ⟨x, y⟩
  | .polar x p, κ => x.denK c w wres fun x => p.denK c w wres fun p => κ (Spec.phasor trig x p)
  | .ofReal x, κ => x.denK c w wres fun x => κ ⟨x, 0⟩

/-- the argument of `elm.resistor` is a key that holds `inf` (the open switch) -/
def RE.isInfKey (c : Component) : RE → Bool
  | .key k => Spec.isInf c k
  | _ => false

def EE.denK (trig : Trig) (c : Component) (w wres : Rat) : EE → (String × Elem GQ → Option α) → Option α
  | .resistor R, κ =>
    if R.isInfKey c then κ ("resistor", .thevenin 0 0) else R.denK c w wres fun r => κ ("resistor", .norton ⟨r, 0⟩ 0)
  | .conductor G, κ => G.denK c w wres fun g => κ ("conductor", .thevenin ⟨g, 0⟩ 0)
  | .impedance Z, κ => Z.denK trig c w wres fun z => κ ("impedance", .norton z 0)
  | .admittance Y, κ => Y.denK trig c w wres fun y => κ ("admittance", .thevenin y 0)
  | .voltageSource V Z, κ =>
    V.denK trig c w wres fun v => Z.denK trig c w wres fun z => κ ("voltage_source", .norton z v)
  | .currentSource I Y, κ =>
    I.denK trig c w wres fun i => Y.denK trig c w wres fun y => κ ("current_source", .thevenin y i)
  | .shortCircuit, κ => κ ("short_circuit", .norton 0 0)
  | .openCircuit, κ => κ ("open_circuit", .thevenin 0 0)
  | .load P V, κ => P.denK c w wres fun p => V.denK c w wres fun v =>
    (elmLoad p v (-1) 0).toOption.bind fun e => κ ("load", e)

/-- the replacement element of a gate is evaluated whether or not the gate closes (in the generated table it is a
constant) -/
def TBody.denK (trig : Trig) (c : Component) (w wres : Rat) : TBody → (String × Elem GQ → Option α) → Option α
  | .plain e, κ => e.denK trig c w wres κ
  | .gated e ws cmp off, κ =>
    e.denK trig c w wres fun on => ws.denK c w wres fun wsv => off.denK trig c w wres fun offv =>
      κ (if cmp.holds (Spec.dist w wsv) wres then offv else on)
  | .periodic .., _ => none

theorem float_toOption (c : Component) (k : String) : (c.float k).toOption = Spec.num? c k := by
  unfold Component.float Component.get? Spec.num?
  cases c.value.lookup k with
  | none => rfl
  | some v => cases v <;> rfl

theorem toOption_bind₁ {X Z ε : Type} (x : Except ε X) (g : X → Except ε Z) (κ : Z → Option α) :
    (x.toOption.bind fun a => (g a).toOption.bind κ) = (x >>= g).toOption.bind κ := by
  cases x <;> rfl

theorem toOption_bind₂ {X Y Z ε : Type} (x : Except ε X) (y : Except ε Y) (g : X → Y → Except ε Z) (κ : Z → Option α) :
    (x.toOption.bind fun a => y.toOption.bind fun b => (g a b).toOption.bind κ)
      = (x >>= fun a => y >>= fun b => g a b).toOption.bind κ := by
  cases x <;> cases y <;> rfl

theorem toOption_bind_eq_some {ε X : Type} {x : Except ε X} {κ : X → Option α} {r : α}
    (h : x.toOption.bind κ = some r) : ∃ a, x = .ok a ∧ κ a = some r := by
  cases x with
  | error e => cases h
  | ok a => exact ⟨a, rfl, h⟩

theorem RE.denK_eq (c : Component) (w wres : Rat) :
    ∀ (e : RE) (κ : Rat → Option α), e.denK c w wres κ = (e.eval c w wres).toOption.bind κ := by
  intro e
  induction e with
  | key k => intro κ; rw [RE.eval, float_toOption]; rfl
  | w | wres | lit q => intro κ; rfl
  | add a b iha ihb | sub a b iha ihb | mul a b iha ihb =>
    intro κ; simp only [RE.denK, iha, ihb]; exact toOption_bind₂ _ _ (fun x y => .ok _) κ
  | div a b iha ihb =>
    intro κ; simp only [RE.denK, iha, ihb]
    refine Eq.trans ?_ (toOption_bind₂ _ _ (fun x y => if y = 0 then throw Err.zeroDivision else pure (x / y)) κ)
    refine congrArg _ (funext fun x => congrArg _ (funext fun y => ?_))
    split <;> rfl
  | neg a iha => intro κ; simp only [RE.denK, iha]; exact toOption_bind₁ _ (fun x => .ok _) κ

theorem CE.denK_eq (trig : Trig) (c : Component) (w wres : Rat) (e : CE) (κ : GQ → Option α) :
    e.denK trig c w wres κ = (e.eval trig c w wres).toOption.bind κ := by
  cases e with
  | cart a b | polar a b => simp only [CE.denK, RE.denK_eq]; exact toOption_bind₂ _ _ (fun x y => .ok _) κ
  | ofReal a => simp only [CE.denK, RE.denK_eq]; exact toOption_bind₁ _ (fun x => .ok _) κ

theorem EE.eval_resistor (trig : Trig) (c : Component) (w wres : Rat) (R : RE) :
    (EE.resistor R).eval trig c w wres = if R.isInfKey c then pure ("resistor", .thevenin 0 0)
      else (R.eval c w wres >>= fun r => pure ("resistor", .norton ⟨r, 0⟩ 0)) := by
  cases R <;> rfl

theorem EE.denK_eq (trig : Trig) (c : Component) (w wres : Rat) (e : EE) (κ : String × Elem GQ → Option α) :
    e.denK trig c w wres κ = (e.eval trig c w wres).toOption.bind κ := by
  cases e with
  | resistor R =>
    rw [EE.eval_resistor, EE.denK]
    split
    · rfl
    · simp only [RE.denK_eq]; exact toOption_bind₁ _ (fun x => .ok _) κ
  | conductor G => simp only [EE.denK, RE.denK_eq]; exact toOption_bind₁ _ (fun x => .ok _) κ
  | impedance Z | admittance Z => simp only [EE.denK, CE.denK_eq]; exact toOption_bind₁ _ (fun x => .ok _) κ
  | voltageSource V Z | currentSource V Z =>
    simp only [EE.denK, CE.denK_eq]; exact toOption_bind₂ _ _ (fun x y => .ok _) κ
  | shortCircuit | openCircuit => rfl
  | load P V =>
    simp only [EE.denK, RE.denK_eq]
    refine Eq.trans ?_ (toOption_bind₂ _ _ (fun p v => elmLoad p v (-1) 0 >>= fun e => pure ("load", e)) κ)
    refine congrArg _ (funext fun p => congrArg _ (funext fun v => ?_))
    cases elmLoad p v (-1) 0 <;> rfl

theorem TBody.denK_bind (trig : Trig) (c : Component) (w wres : Rat) (e : TBody) {β : Type}
    (κ : String × Elem GQ → Option β) : e.denK trig c w wres κ = (e.denK trig c w wres some).bind κ := by
  cases e with
  | plain e => simp only [TBody.denK, EE.denK_eq, Option.bind_fun_some]
  | gated e ws cmp off => simp only [TBody.denK, EE.denK_eq, RE.denK_eq, Option.bind_assoc, Option.bind_some]
  | periodic => rfl

/-- a key that `preRead` accepts -/
def Component.readable (c : Component) (k : String) : Prop := (Spec.num? c k).isSome ∨ Spec.isInf c k = true

theorem RE.readable_of_eval {c : Component} {w wres : Rat} :
    ∀ {e : RE} {q : Rat}, e.eval c w wres = .ok q → ∀ k ∈ e.keys, c.readable k := by
  intro e
  induction e with
  | key k =>
    intro q h
    have : Spec.num? c k = some q := by rw [← float_toOption, show c.float k = .ok q from h]; rfl
    simp [RE.keys, Component.readable, this]
  | w | wres | lit _ => intro q h; simp [RE.keys]
  | add a b iha ihb | sub a b iha ihb | mul a b iha ihb | div a b iha ihb =>
    intro q h
    obtain ⟨x, hx, h⟩ := bind_eq_ok.mp h
    obtain ⟨y, hy, h⟩ := bind_eq_ok.mp h
    intro k hk; rcases List.mem_append.mp hk with hk | hk
    exacts [iha hx k hk, ihb hy k hk]
  | neg a iha =>
    intro q h
    obtain ⟨x, hx, h⟩ := bind_eq_ok.mp h
    exact iha hx

theorem CE.readable_of_eval {trig : Trig} {c : Component} {w wres : Rat} {e : CE} {z : GQ}
    (h : e.eval trig c w wres = .ok z) : ∀ k ∈ e.keys, c.readable k := by
  cases e with
  | cart a b | polar a b =>
    obtain ⟨x, hx, h⟩ := bind_eq_ok.mp h
    obtain ⟨y, hy, h⟩ := bind_eq_ok.mp h
    intro k hk; rcases List.mem_append.mp hk with hk | hk
    exacts [RE.readable_of_eval hx k hk, RE.readable_of_eval hy k hk]
  | ofReal a =>
    obtain ⟨x, hx, h⟩ := bind_eq_ok.mp h
    exact RE.readable_of_eval hx

theorem EE.readable_of_eval {trig : Trig} {c : Component} {w wres : Rat} {e : EE} {te : String × Elem GQ}
    (h : e.eval trig c w wres = .ok te) : ∀ k ∈ e.keys, c.readable k := by
  cases e with
  | resistor R =>
    rw [EE.eval_resistor] at h
    split at h
    · rename_i hinf
      cases R <;> simp only [RE.isInfKey, Bool.false_eq_true] at hinf
      simp [EE.keys, RE.keys, Component.readable, hinf]
    · obtain ⟨x, hx, h⟩ := bind_eq_ok.mp h
      exact RE.readable_of_eval hx
  | conductor G =>
    obtain ⟨x, hx, h⟩ := bind_eq_ok.mp h
    exact RE.readable_of_eval hx
  | impedance Z | admittance Z =>
    obtain ⟨x, hx, h⟩ := bind_eq_ok.mp h
    exact CE.readable_of_eval hx
  | voltageSource V Z | currentSource V Z =>
    obtain ⟨x, hx, h⟩ := bind_eq_ok.mp h
    obtain ⟨y, hy, h⟩ := bind_eq_ok.mp h
    intro k hk; rcases List.mem_append.mp hk with hk | hk
    exacts [CE.readable_of_eval hx k hk, CE.readable_of_eval hy k hk]
  | shortCircuit | openCircuit => simp [EE.keys]
  | load P V =>
    obtain ⟨x, hx, h⟩ := bind_eq_ok.mp h
    obtain ⟨y, hy, h⟩ := bind_eq_ok.mp h
    intro k hk; rcases List.mem_append.mp hk with hk | hk
    exacts [RE.readable_of_eval hx k hk, RE.readable_of_eval hy k hk]

theorem preRead_of_readable {c : Component} :
    ∀ {ks : List String}, (∀ k ∈ ks, c.readable k) → preRead c [] ks = .ok ()
  | [], _ => rfl
  | k :: ks, h => by
    have ih := preRead_of_readable (c := c) fun k' hk' => h k' (List.mem_cons_of_mem _ hk')
    rcases h k (List.mem_cons_self ..) with hk | hk
    · obtain ⟨q, hq⟩ := Option.isSome_iff_exists.mp hk
      rw [preRead_cons_num (lookup_of_num? hq), ih]
    · have : c.value.lookup k = some Val.inf := by simpa [Spec.isInf] using hk
      rw [preRead_cons_inf this, ih]

/-- the check on a `plain` / `gated` row: the branch is named after the component, takes its terminals in order, and
every annotated read occurs in the body -/
def TSpec.simpleOK (s : TSpec) : Bool :=
  s.idSelf && s.n1 == 0 && s.n2 == 1 && match s.body with
    | .plain e => s.reads.all fun k => e.keys.contains k
    | .gated e ws _ off => s.reads.all fun k => (e.keys ++ ws.keys ++ off.keys).contains k
    | .periodic .. => false

theorem TSpec.runSimple_of_den {s : TSpec} (hs : s.simpleOK = true) {trig : Trig} {c : Component} {w wres : Rat}
    {a b : String} (hn : c.nodes = [a, b]) {te : String × Elem GQ} (h : s.body.denK trig c w wres some = some te) :
    s.runSimple trig c w wres = .ok { n1 := a, n2 := b, id := c.id, ty := te.1, e := te.2 } := by
  obtain ⟨fn, reads, n1, n2, idSelf, body⟩ := s
  simp only [TSpec.simpleOK, Bool.and_eq_true, beq_iff_eq] at hs
  obtain ⟨⟨⟨rfl, rfl⟩, rfl⟩, hreads⟩ := hs
  cases body with
  | plain e =>
    simp only [List.all_eq_true, List.contains_eq_mem, decide_eq_true_eq] at hreads
    obtain ⟨te, he, ⟨⟩⟩ := toOption_bind_eq_some ((EE.denK_eq trig c w wres e some).symm.trans h)
    simp only [TSpec.runSimple, preRead_of_readable fun k hk => EE.readable_of_eval he k (hreads k hk), he,
      mkBranch_two hn, bind, Except.bind]
  | gated e ws cmp off =>
    simp only [List.all_eq_true, List.contains_eq_mem, decide_eq_true_eq] at hreads
    simp only [TBody.denK, EE.denK_eq, RE.denK_eq] at h
    obtain ⟨on, he, h⟩ := toOption_bind_eq_some h
    obtain ⟨wsv, hw, h⟩ := toOption_bind_eq_some h
    obtain ⟨offv, ho, ⟨⟩⟩ := toOption_bind_eq_some h
    have hpre : preRead c [] reads = .ok () := by
      refine preRead_of_readable fun k hk => ?_
      rcases List.mem_append.mp (hreads k hk) with hk | hk
      · rcases List.mem_append.mp hk with hk | hk
        exacts [EE.readable_of_eval he k hk, RE.readable_of_eval hw k hk]
      · exact EE.readable_of_eval ho k hk
    simp only [TSpec.runSimple, hpre, he, hw, ho, absQ_sub_eq_dist, bind, Except.bind, mkBranch_two hn]
    split <;> rfl
  | periodic => cases hreads

def Tables.row? (T : Tables) (k : String) : Option TSpec := T.transformers.lookup k >>= T.tspec?

theorem transformComponent_of_row {T : Tables} {c : Component} {k : String} {s : TSpec}
    (hk : c.kind = k) (hr : T.row? k = some s) (hok : s.simpleOK = true)
    {trig : Trig} {w wres : Rat} {a b : String} (hn : c.nodes = [a, b]) {te : String × Elem GQ}
    (h : s.body.denK trig c w wres some = some te) (harm : Harm) :
    transformComponent T trig harm c w wres = some (.ok { n1 := a, n2 := b, id := c.id, ty := te.1, e := te.2 }) := by
  obtain ⟨fn, hl, hs⟩ := Option.bind_eq_some_iff.mp hr
  rw [transformComponent_of_entry hk hl hs, ← TSpec.runSimple_of_den hok hn h]
  unfold TSpec.run
  split
  · rename_i hb; rw [hb] at h; cases h
  · rfl

theorem Spec.branchOf_inv {trig : Trig} {harm : Harm} {c : Component} {w wres : Rat} {sb : Branch String GQ}
    (h : Spec.branchOf trig harm c w wres = some sb) :
    ∃ a b e, c.nodes = [a, b] ∧ Spec.elemOf trig harm c w wres = some e ∧
      sb = { n1 := a, n2 := b, id := c.id, e := e } := by
  unfold Spec.branchOf at h
  split at h
  · rename_i a b e hn he
    exact ⟨a, b, e, hn, he, by simpa using h.symm⟩
  · cases h

/-- kind `k` is translated faithfully on the components that satisfy `P`; `spec` is an equation between `Option`s and
asks for no value of the component -/
structure FaithfulRow (k : String) (body : TBody) (P : Trig → Component → Prop) : Prop where
  row : ∃ s, Gen.tables.row? k = some s ∧ s.simpleOK = true ∧ s.body = body
  spec : ∀ (trig : Trig) (harm : Harm) (c : Component) (w wres : Rat), c.kind = k → P trig c →
    Spec.elemOf trig harm c w wres = body.denK trig c w wres fun te => some te.2

namespace FaithfulRow
variable {k : String} {body : TBody} {P : Trig → Component → Prop} {trig : Trig} {harm : Harm} {c : Component}
  {w wres : Rat} {a b : String}

theorem transform (F : FaithfulRow k body P) (hk : c.kind = k) (hP : P trig c) (hn : c.nodes = [a, b])
    {ty : String} {e : Elem GQ} (h : body.denK trig c w wres some = some (ty, e)) :
    transformComponent Gen.tables trig harm c w wres = some (.ok { n1 := a, n2 := b, id := c.id, ty := ty, e := e })
    ∧ Spec.branchOf trig harm c w wres = some { n1 := a, n2 := b, id := c.id, e := e } := by
  obtain ⟨s, hs, hok, rfl⟩ := F.row
  refine ⟨transformComponent_of_row hk hs hok hn h harm, Spec.branchOf_of_elemOf hn ?_⟩
  rw [F.spec trig harm c w wres hk hP, TBody.denK_bind, h]; rfl

theorem of_spec (F : FaithfulRow k body P) (hk : c.kind = k) (hP : P trig c) {sb : Branch String GQ}
    (hs : Spec.branchOf trig harm c w wres = some sb) :
    ∃ br, transformComponent Gen.tables trig harm c w wres = some (.ok br) ∧ Spec.erase br = sb := by
  obtain ⟨a, b, e, hn, he, rfl⟩ := Spec.branchOf_inv hs
  obtain ⟨s, hr, hok, rfl⟩ := F.row
  rw [F.spec trig harm c w wres hk hP, TBody.denK_bind] at he
  obtain ⟨te, hte, ⟨⟩⟩ := Option.bind_eq_some_iff.mp he
  exact ⟨_, transformComponent_of_row hk hr hok hn hte harm, rfl⟩

theorem transform_ite (F : FaithfulRow k body P) (hk : c.kind = k) (hP : P trig c) (hn : c.nodes = [a, b])
    {p : Prop} [Decidable p] {ty₁ ty₂ : String} {e₁ e₂ : Elem GQ}
    (h : body.denK trig c w wres some = some (if p then (ty₂, e₂) else (ty₁, e₁))) :
    transformComponent Gen.tables trig harm c w wres
      = some (.ok (if p then { n1 := a, n2 := b, id := c.id, ty := ty₂, e := e₂ }
          else { n1 := a, n2 := b, id := c.id, ty := ty₁, e := e₁ }))
    ∧ Spec.branchOf trig harm c w wres = some { n1 := a, n2 := b, id := c.id, e := if p then e₂ else e₁ } := by
  by_cases hp : p
  · simp only [if_pos hp] at h ⊢; exact F.transform hk hP hn h
  · simp only [if_neg hp] at h ⊢; exact F.transform hk hP hn h

end FaithfulRow

theorem holds_gt_dist (w ws wres : Rat) : Cmp.gt.holds (Spec.dist w ws) wres = !decide (Spec.dist w ws ≤ wres) := by
  simp only [Cmp.holds, ← Rat.not_le, decide_not]

theorem ite_bnot_decide {α : Type} (p : Prop) [Decidable p] (x y : α) :
    (if (!decide p) = true then x else y) = if p then y else x := by
  by_cases hp : p <;> simp [hp]

/-- `np.cos(0) = 1`, `np.sin(0) = 0` -/
theorem phasor_zero {trig : Trig} (h0 : trig 0 = (1, 0)) (A : Rat) : Spec.phasor trig A 0 = ⟨A, 0⟩ := by
  simp only [Spec.phasor, h0, Rat.mul_one, Rat.mul_zero]

/-- a read moved from last to first -/
theorem bind_rotate {α β γ δ : Type} (o1 : Option α) (o2 : Option β) (o3 : Option γ) (f : α → β → γ → Option δ) :
    (o1.bind fun a => o2.bind fun b => o3.bind fun c => f a b c)
      = o3.bind fun c => o1.bind fun a => o2.bind fun b => f a b c := by
  cases o1 <;> cases o2 <;> cases o3 <;> rfl

/-- `elm.load(id, P, V_ref)` has `I_ref = -1`, `Q = 0`: of the four guards only `V_ref ≤ 0` can fire -/
theorem elmLoad_rated (P V : Rat) :
    (elmLoad P V (-1) 0).toOption = if 0 < V then some (.thevenin ⟨P / (V * V), 0⟩ 0) else none := by
  have g : ¬ (0 : Rat) < -1 := by decide +kernel
  have g' : (-1 : Rat) < 0 := by decide +kernel
  by_cases h : 0 < V
  · have h1 : ¬ V < 0 := by grind
    have h2 : ¬ V = 0 := by grind
    simp [elmLoad, h, h1, h2, g, GQ.divR, GQ.zero_def, Except.toOption, Rat.div_def, Rat.zero_mul]
  · by_cases h0 : V = 0
    · simp [elmLoad, h0, g', Except.toOption]
    · have h1 : V < 0 := by grind
      simp [elmLoad, h, h1, g', Except.toOption]

theorem Spec.elemOf_load_denK (trig : Trig) (harm : Harm) (c : Component) (w wres : Rat)
    (hk : c.kind = "lamp" ∨ c.kind = "resistive_load") :
    Spec.elemOf trig harm c w wres
      = TBody.denK trig c w wres (.plain (.load (.key "P") (.key "V_ref"))) fun te => some te.2 := by
  rw [Spec.elemOf_load hk]
  dsimp only [TBody.denK, EE.denK, RE.denK]
  simp only [elmLoad_rated, Option.bind_eq_bind]
  refine congrArg _ (funext fun P => congrArg _ (funext fun V => ?_))
  split <;> rfl

end CC
