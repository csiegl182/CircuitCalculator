/-
  CC.Proofs.FmtDigits — digit counts: `numDigits`, `lzExact`, `decade`.
-/
import CC.Proofs.FmtArith

namespace CC.Fmt

theorem numDigitsAux_spec : ∀ (fuel n : ℕ), n ≤ fuel → 1 ≤ n →
    10 ^ (numDigitsAux fuel n - 1) ≤ n ∧ n < 10 ^ numDigitsAux fuel n ∧ 1 ≤ numDigitsAux fuel n := by
  intro fuel
  induction fuel with
  | zero => intro n h0 h1; omega
  | succ f ih =>
    intro n hn h1
    unfold numDigitsAux
    split_ifs with h10
    · simp; omega
    · have hq : n / 10 ≤ f := by omega
      have hq1 : 1 ≤ n / 10 := by omega
      obtain ⟨a, b, c⟩ := ih (n / 10) hq hq1
      refine ⟨?_, ?_, by omega⟩
      · have : 1 + numDigitsAux f (n / 10) - 1 = (numDigitsAux f (n / 10) - 1) + 1 := by omega
        rw [this, pow_succ]
        omega
      · rw [Nat.add_comm, pow_succ]; omega

theorem numDigits_spec {n : ℕ} (h : 1 ≤ n) :
    10 ^ (numDigits n - 1) ≤ n ∧ n < 10 ^ numDigits n ∧ 1 ≤ numDigits n :=
  numDigitsAux_spec n n le_rfl h

theorem numDigits_pos (n : ℕ) : 1 ≤ numDigits n := by
  rcases Nat.eq_zero_or_pos n with h | h
  · subst h; decide
  · exact (numDigits_spec h).2.2

theorem numDigits_eq_of_bounds {n k : ℕ} (hk : 1 ≤ k) (h1 : 10 ^ (k - 1) ≤ n) (h2 : n < 10 ^ k) :
    numDigits n = k := by
  obtain ⟨a, b, c⟩ := numDigits_spec (le_trans (Nat.one_le_pow _ _ (by norm_num)) h1)
  have := (Nat.pow_lt_pow_iff_right (by norm_num : 1 < 10)).mp (h1.trans_lt b)
  have := (Nat.pow_lt_pow_iff_right (by norm_num : 1 < 10)).mp (a.trans_lt h2)
  omega

theorem numDigits_le_of_lt {n k : ℕ} (hk : 1 ≤ k) (h : n < 10 ^ k) : numDigits n ≤ k := by
  rcases Nat.eq_zero_or_pos n with rfl | hn
  · exact hk
  · have := (Nat.pow_lt_pow_iff_right (by norm_num : 1 < 10)).mp ((numDigits_spec hn).1.trans_lt h)
    omega

theorem lzAux_spec : ∀ (fuel : ℕ) (x : ℚ) (k : ℕ), 0 < x → x < 1 → 1 ≤ x * 10 ^ fuel →
    ∃ z : ℕ, lzAux fuel x k = k + z ∧ pow10 (-(z : ℤ) - 1) ≤ x ∧ x < pow10 (-(z : ℤ)) := by
  intro fuel
  induction fuel with
  | zero => intro x k _ h1 h; rw [pow_zero, mul_one] at h; exact absurd h1 (not_lt.mpr h)
  | succ f ih =>
    intro x k h0 h1 hf
    unfold lzAux
    split_ifs with h10
    · refine ⟨0, rfl, ?_, by rwa [Nat.cast_zero, neg_zero, pow10_zero]⟩
      rw [Nat.cast_zero, neg_zero, zero_sub, pow10_neg, pow10_one]; linarith
    · obtain ⟨z, hz, a, b⟩ := ih (x * 10) (k + 1) (by positivity) (not_le.mp h10)
        (by rw [pow_succ] at hf; linarith)
      refine ⟨z + 1, by rw [hz]; ring, ?_, ?_⟩
      · rw [show -((z + 1 : ℕ) : ℤ) - 1 = (-(z : ℤ) - 1) - 1 by push_cast; ring, pow10_pred]; linarith
      · rw [show -((z + 1 : ℕ) : ℤ) = -(z : ℤ) - 1 by push_cast; ring, pow10_pred]; linarith

theorem lzExact_spec {x : ℚ} (h0 : 0 < x) (h1 : x < 1) :
    pow10 (-(lzExact x : ℤ) - 1) ≤ x ∧ x < pow10 (-(lzExact x : ℤ)) := by
  -- the fuel suffices: `x·den = num ≥ 1` and `den < 10^(#digits den)`
  have hlt : (x.den : ℚ) < 10 ^ numDigits x.den := by exact_mod_cast (numDigits_spec x.den_pos).2.1
  have hnum : (1 : ℚ) ≤ x * x.den := by
    rw [Rat.mul_den_eq_num]; exact_mod_cast Rat.num_pos.mpr h0
  obtain ⟨z, hz, h⟩ := lzAux_spec (numDigits x.den) x 0 h0 h1
    (hnum.trans (mul_le_mul_of_nonneg_left hlt.le h0.le))
  rw [lzExact, hz, zero_add]; exact h

theorem decade_spec {x : ℚ} (h0 : 0 < x) : pow10 (decade x) ≤ x ∧ x < pow10 (decade x + 1) := by
  unfold decade
  split_ifs with h1
  · have hfl : (1 : ℤ) ≤ ⌊x⌋ := Int.le_floor.mpr (by simpa using h1)
    obtain ⟨n, hn⟩ := Int.eq_ofNat_of_zero_le (by omega : 0 ≤ ⌊x⌋)
    obtain ⟨a, b, c⟩ := numDigits_spec (n := n) (by omega)
    have hle : ((n : ℤ) : ℚ) ≤ x := hn ▸ Int.floor_le x
    have hlt : x < ((n : ℤ) : ℚ) + 1 := hn ▸ Int.lt_floor_add_one x
    rw [floor_eq, hn, Int.toNat_natCast]
    constructor
    · rw [show ((numDigits n : ℕ) : ℤ) - 1 = ((numDigits n - 1 : ℕ) : ℤ) by omega, pow10_natCast']
      exact le_trans (by exact_mod_cast a) hle
    · rw [sub_add_cancel, pow10_natCast']
      exact lt_of_lt_of_le hlt (by exact_mod_cast b)
  · obtain ⟨a, b⟩ := lzExact_spec h0 (not_le.mp h1)
    exact ⟨a, by rwa [sub_add_cancel]⟩

theorem decade_unique {x : ℚ} {d : ℤ} (h1 : pow10 d ≤ x) (h2 : x < pow10 (d + 1)) : decade x = d := by
  obtain ⟨a, b⟩ := decade_spec (lt_of_lt_of_le (pow10_pos d) h1)
  have := lt_of_pow10_lt (h1.trans_lt b)
  have := lt_of_pow10_lt (a.trans_lt h2)
  omega

end CC.Fmt
