/-
  CC.Proofs.ListLemmas — look-ups in a list whose keys are pairwise distinct (the generated tables): the entry at a
  given position is the one `find?` / `lookup` returns for its key; `lookup` in a list mapped to key-value pairs;
  `find?` by key on a member / for a key that is absent; two positions with the same image refute `Nodup`; a `map` that
  moves no member, a `filter` that keeps exactly one, a filter pushed through a `map`; and reading a row made of blocks
  with `getD`, as the matrices of the model are written.
-/
namespace CC

theorem find?_of_pairwise {α : Type} {R : α → α → Prop} {p : α → Bool} {a : α} (hp : p a = true)
    (hR : ∀ b, R b a → p b = false) : ∀ {l : List α} {i : Nat}, l.Pairwise R → l[i]? = some a → l.find? p = some a
  | x :: xs, 0, _, h => by cases h; exact List.find?_cons_of_pos (l := xs) hp
  | x :: xs, i + 1, hl, h => by
    have hx : p x = false := hR x ((List.pairwise_cons.1 hl).1 a (List.mem_of_getElem? h))
    rw [List.find?_cons_of_neg (l := xs) (by rw [hx]; exact Bool.false_ne_true)]
    exact find?_of_pairwise hp hR (List.pairwise_cons.1 hl).2 h

theorem lookup_of_pairwise {α β : Type} [BEq α] [LawfulBEq α] {k : α} {v : β} :
    ∀ {l : List (α × β)} {i : Nat}, l.Pairwise (fun a b : α × β => a.1 ≠ b.1) → l[i]? = some (k, v) → l.lookup k = some v
  | x :: xs, 0, _, h => by cases h; exact List.lookup_cons_self
  | (k', v') :: xs, i + 1, hl, h => by
    have hx : k' ≠ k := (List.pairwise_cons.1 hl).1 (k, v) (List.mem_of_getElem? h)
    rw [List.lookup_cons, show (k == k') = false from beq_false_of_ne (Ne.symm hx)]
    exact lookup_of_pairwise (List.pairwise_cons.1 hl).2 h

theorem lookup_map_key {α κ β : Type} [BEq κ] (key : α → κ) (g : α → β) (k : κ) (l : List α) :
    (l.map fun x => (key x, g x)).lookup k = (l.find? fun x => k == key x).map g := by
  induction l with
  | nil => rfl
  | cons a l ih =>
    rw [List.map_cons, List.lookup_cons, List.find?_cons, ih]
    cases k == key a <;> rfl

theorem map_eq_self {α : Type} {f : α → α} {l : List α} (h : ∀ a ∈ l, f a = a) : l.map f = l :=
  (List.map_congr_left (g := id) h).trans (List.map_id l)

theorem filter_append_cons_eq_singleton {α : Type} {p : α → Bool} {pre post : List α} {g : α} (hg : p g = true)
    (hpre : ∀ s ∈ pre, p s = false) (hpost : ∀ s ∈ post, p s = false) : (pre ++ g :: post).filter p = [g] := by
  rw [List.filter_append, List.filter_cons, if_pos hg, List.filter_eq_nil_iff.mpr fun s hs => (hpre s hs).symm ▸ nofun,
    List.filter_eq_nil_iff.mpr fun s hs => (hpost s hs).symm ▸ nofun]
  rfl

theorem getD_map_append {α β : Type} (f : α → β) (l : List α) (t : List β) (j : Nat) (d : β) :
    (l.map f ++ t).getD j d = match l[j]? with | some a => f a | none => t.getD (j - l.length) d := by
  rw [List.getD_eq_getElem?_getD, List.getElem?_append, List.length_map, List.getElem?_map]
  by_cases h : j < l.length
  · rw [if_pos h, List.getElem?_eq_getElem h]; rfl
  · rw [if_neg h, List.getElem?_eq_none (Nat.le_of_not_lt h), List.getD_eq_getElem?_getD]

theorem getD_map {α β : Type} (f : α → β) (l : List α) (j : Nat) (d : β) :
    (l.map f).getD j d = match l[j]? with | some a => f a | none => d := by
  rw [List.getD_eq_getElem?_getD, List.getElem?_map]; cases l[j]? <;> rfl

theorem getD_replicate_self {β : Type} (n : Nat) (d : β) (j : Nat) : (List.replicate n d).getD j d = d := by
  rw [List.getD_eq_getElem?_getD, List.getElem?_replicate]; split <;> rfl

theorem getD_replicate_append {β : Type} (n : Nat) (d : β) (t : List β) (j : Nat) :
    (List.replicate n d ++ t).getD j d = if j < n then d else t.getD (j - n) d := by
  rw [List.getD_eq_getElem?_getD, List.getElem?_append, List.length_replicate, List.getElem?_replicate]
  by_cases h : j < n
  · rw [if_pos h, if_pos h, if_pos h]; rfl
  · rw [if_neg h, if_neg h, List.getD_eq_getElem?_getD]

theorem filter_map_filter {α β : Type} (f : α → β) (p : α → Bool) (q r : β → Bool) (l : List α)
    (h : ∀ a ∈ l, (q (f a) && p a) = r (f a)) :
    ((l.filter p).map f).filter q = (l.map f).filter r := by
  rw [List.filter_map, List.filter_map, List.filter_filter]
  exact congrArg _ (List.filter_congr h)

theorem mem_zip_map_self {α β : Type} (f : α → β) (l : List α) (p : α × β)
    (h : p ∈ l.zip (l.map f)) : p.2 = f p.1 := by
  induction l with
  | nil => simp at h
  | cons a l ih =>
    simp only [List.map_cons, List.zip_cons_cons, List.mem_cons] at h
    rcases h with rfl | h'
    · rfl
    · exact ih h'

theorem find?_eq_none_of_not_mem_map {ρ κ : Type} [BEq κ] [LawfulBEq κ] {l : List ρ} {key : ρ → κ} {k : κ}
    (h : k ∉ l.map key) : l.find? (fun r => key r == k) = none :=
  List.find?_eq_none.2 fun r hr hk => h (List.mem_map.2 ⟨r, hr, by simpa using hk⟩)

theorem find?_of_mem_nodup {κ α : Type} [BEq κ] [LawfulBEq κ] (l : List (κ × α)) (p : κ) (d : α)
    (hm : (p, d) ∈ l) (hn : (l.map (·.1)).Nodup) :
    l.find? (fun q => q.1 == p) = some (p, d) := by
  obtain ⟨i, hi⟩ := List.getElem?_of_mem hm
  exact find?_of_pairwise (R := fun a b => a.1 ≠ b.1) (p := fun q => q.1 == p) (a := (p, d)) (beq_self_eq_true p)
    (fun b hb => beq_false_of_ne hb) (List.pairwise_map.1 hn) hi

theorem not_nodup_map_of_getElem_eq {α β : Type} (f : α → β) (l : List α) (i j : Nat) (hij : i < j)
    (hj : j < l.length) (h : f (l[i]'(Nat.lt_trans hij hj)) = f (l[j]'hj)) : ¬ (l.map f).Nodup := fun hn =>
  List.pairwise_iff_getElem.1 hn i j (by simpa using Nat.lt_trans hij hj) (by simpa using hj) hij (by simpa using h)

end CC
