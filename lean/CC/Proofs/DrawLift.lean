/-
  CC.Proofs.DrawLift — from one element to whole drawings: if every element of a drawing is
  `ElemStable` (CC/Proofs/DrawRoundTrip.lean) and element names are unique (wires are
  anonymous), one `saveLoad` of the drawing keeps the translated circuit.

  The circuit section of a saved drawing is looked up *by element name*; with unique names the
  entry an element finds is its own component, so `undictify_element` inside the drawing is the
  per-element `reloadFrom`; the reloaded symbols agree with the original ones on everything the
  parser reads (class, anchors, node id), so the node naming is the same, and they translate
  to the same components.
-/
import CC.Proofs.DrawRoundTrip
import CC.Proofs.DrawInvariance
namespace CC.Draw

/-- the two symbols agree on everything the parser reads -/
def PEq (s s' : Sym) : Prop :=
  s'.cls = s.cls ∧ s'.start = s.start ∧ s'.stop = s.stop ∧ s'.nodeId = s.nodeId

theorem PEq.n1 {s s' : Sym} (h : PEq s s') : s'.n1 = s.n1 := congrArg roundPt h.2.1
theorem PEq.n2 {s s' : Sym} (h : PEq s s') : s'.n2 = s.n2 := congrArg roundPt h.2.2.1

theorem parser_inputs_congr {syms syms' : List Sym} (h : List.Forall₂ PEq syms syms') :
    wiresOf syms' = wiresOf syms ∧ allNodes syms' = allNodes syms ∧ nodeSymsOf syms' = nodeSymsOf syms := by
  have hline : ∀ s s', PEq s s' → s'.isLine = s.isLine := fun s s' h => by unfold Sym.isLine; rw [h.1]
  have hname : ∀ s s', PEq s s' → s'.hasName = s.hasName := fun s s' h => by unfold Sym.hasName; rw [h.1]
  have hnode : ∀ s s', PEq s s' → s'.isNode = s.isNode := fun s s' h => by unfold Sym.isNode; rw [h.1]
  refine ⟨?_, ?_, ?_⟩
  · exact forall₂_filter_map_eq h fun s s' hs => ⟨hline s s' hs, by rw [hs.n1, hs.n2]⟩
  · unfold allNodes
    simp only
    rw [forall₂_filter_map_eq (p' := (·.hasName)) (f' := (·.n1)) h fun s s' hs => ⟨hname s s' hs, hs.n1⟩,
        forall₂_filter_map_eq (p' := (·.hasName)) (f' := (·.n2)) h fun s s' hs => ⟨hname s s' hs, hs.n2⟩,
        forall₂_filter_map_eq (p' := (·.isLine)) (f' := (·.n1)) h fun s s' hs => ⟨hline s s' hs, hs.n1⟩,
        forall₂_filter_map_eq (p' := (·.isLine)) (f' := (·.n2)) h fun s s' hs => ⟨hline s s' hs, hs.n2⟩]
  · exact forall₂_filter_map_eq h fun s s' hs => ⟨hnode s s' hs, by rw [hs.n1, hs.2.2.2]⟩

theorem translateSym_congr (π : Rat) (s s' : Sym) (hp : PEq s s')
    (hc : ∀ la lb, compOfSym π s' [la, lb] = compOfSym π s [la, lb]) (L : Pt → Except Err String) :
    translateSym π L s' = translateSym π L s := by
  unfold translateSym
  rw [hp.1, hp.n1, hp.n2, mapM_pair]
  cases Gen.translatorMap.lookup s.cls with
  | none => rfl
  | some f =>
    simp only
    cases L s.n1 with
    | error e => rfl
    | ok la =>
      cases L s.n2 with
      | error e => rfl
      | ok lb => simp only [bind, Except.bind, pure, Except.pure, hc la lb]

theorem compOfSym_built (π : Rat) (s : Sym) (nodes : List String) (k : Component)
    (h : compOfSym π s nodes = .ok (some k)) :
    ∃ spec ∈ Gen.ctors, ∃ args v, ctorValue spec args = .ok v ∧ k.id = s.name ∧ k.value = v := by
  obtain ⟨_, _, c, _, _, _, hc⟩ := compOfSym_some h
  obtain ⟨_, spec, args, v, _, hf, _, _, hv, hk⟩ := runCase_some hc
  exact ⟨spec, List.mem_of_find?_eq_some hf, args, v, hv, by rw [hk], by rw [hk]⟩

theorem compOfSym_id (π : Rat) (s : Sym) (nodes : List String) (k : Component)
    (h : compOfSym π s nodes = .ok (some k)) : k.id = s.name := by
  obtain ⟨_, _, _, _, _, hid, _⟩ := compOfSym_built π s nodes k h
  exact hid

theorem dictify_name (π : Rat) (e : DElem) (s : Sym) (sv : SavedElem) (h : e.toSym π = .ok s)
    (h' : dictifyElement π e = .ok sv) : sv.name = s.name := by
  unfold DElem.toSym at h
  unfold dictifyElement at h'
  obtain ⟨o, hc, h⟩ := bind_eq_ok.1 h
  obtain ⟨o', hc', h'⟩ := bind_eq_ok.1 h'
  cases hc.symm.trans hc'
  cases h
  split at h' <;> cases h'
  rfl

theorem undictifyDElem_congr (X Y : List (String × List (String × Val))) (sv : SavedElem)
    (h : X.reverse.lookup sv.name = Y.reverse.lookup sv.name) :
    undictifyDElem X sv = undictifyDElem Y sv := by
  unfold undictifyDElem undictifyKwargs
  simp only [h]

/-- element names are unique; only wires may share their (empty) name -/
def NamesWF (π : Rat) (d : List DElem) : Prop :=
  ∀ e₁ ∈ d, ∀ e₂ ∈ d, ∀ s₁ s₂, e₁.toSym π = .ok s₁ → e₂.toSym π = .ok s₂ → s₁.name = s₂.name →
    e₁ = e₂ ∨ (e₁.cls = "Line" ∧ e₂.cls = "Line")

def Reloads (π : Rat) (e e' : DElem) : Prop :=
  ∃ la lb k, elemComp π e [la, lb] = .ok k ∧ reloadFrom π e k = .ok e'

/-- save the element and load it with the circuit section `circ` (`reloadFrom π e k` is `reloadIn π (ownCirc k) e`) -/
def reloadIn (π : Rat) (circ : List (String × List (String × Val))) (e : DElem) : Except Err DElem := do
  undictifyDElem circ (← dictifyElement π e)

/-- **one cycle of a drawing with unique names reloads every element from its own component**: the circuit section is
keyed by element name, so the entry an element finds is its own -/
theorem saveLoad_reloads {π : Rat} {ord : SetOrd Pt} {d d' : List DElem} (hn : NamesWF π d)
    (h : saveLoad π ord d = .ok d') :
    ∃ circ, List.Forall₂ (fun e e' => reloadIn π circ e = .ok e' ∧ Reloads π e e') d d' := by
  unfold saveLoad instantiate at h
  obtain ⟨syms, h1, h⟩ := bind_eq_ok.1 h
  obtain ⟨c, h2, h⟩ := bind_eq_ok.1 h
  obtain ⟨saved, h3, h⟩ := bind_eq_ok.1 h
  have F1 := mapM_eq_ok.mp h1
  obtain ⟨_, h4, h5⟩ := circuitTranslator_inv h2
  obtain ⟨r, F4, rfl⟩ := compsOf_eq_ok.mp h4
  have hcomp : c.components = r.filterMap id := (mkCircuit_ok h5).1
  generalize hL : labelOf ord syms = L at h4 F4
  generalize hcirc : c.components.map (fun k => (k.id, k.value)) = circ at h
  have htr : ∀ e ∈ d, ∃ s x, e.toSym π = .ok s ∧ translateSym π L s = .ok x ∧ x ∈ r := fun e he =>
    let ⟨s, hs, hes⟩ := forall₂_exists_mem F1 e he
    let ⟨x, hx, hsx⟩ := forall₂_exists_mem F4 s hs
    ⟨s, x, hes, hsx, hx⟩
  -- the entries of the circuit section come from elements of the drawing
  have hentry : ∀ a b, (a, b) ∈ circ.reverse → ∃ e₂ ∈ d, ∃ s₂ k₂, e₂.toSym π = .ok s₂ ∧
      translateSym π L s₂ = .ok (some k₂) ∧ a = s₂.name ∧ b = k₂.value := by
    intro a b hab
    rw [List.mem_reverse, ← hcirc, hcomp] at hab
    obtain ⟨k₂, hk₂, hab⟩ := List.mem_map.mp hab
    obtain ⟨s₂, hs₂, ht₂⟩ := mem_compsOf h4 hk₂
    obtain ⟨e₂, he₂, hes₂⟩ := forall₂_exists_mem (List.Forall₂.flip (R := flip _) F1) s₂ hs₂
    obtain ⟨la, lb, _, _, hc₂⟩ := translateSym_inv ht₂
    refine ⟨e₂, he₂, s₂, k₂, hes₂, ht₂, ?_, (Prod.mk.inj hab).2.symm⟩
    rw [← compOfSym_id π _ _ _ hc₂]; exact (Prod.mk.inj hab).1.symm
  have hline : ∀ (e : DElem) (s : Sym) (x : Option Component), e.cls = "Line" → e.toSym π = .ok s →
      translateSym π L s = .ok x → x = none := by
    intro e s x hcl hs hx
    obtain ⟨la, lb, h1, h2, _⟩ := translateSym_inv hx
    have hcls : s.cls = "Line" := by rw [(toSym_shell hs).1]; exact hcl
    exact Except.ok.inj (hx.symm.trans (translateSym_line π L hcls h1 h2))
  refine ⟨circ, (forall₂_mem (mapM_mapM_ok h3 h)).imp fun e e' ⟨he, sv, hd, hu⟩ => ?_⟩
  refine ⟨by simp only [reloadIn, hd, bind, Except.bind]; exact hu, ?_⟩
  obtain ⟨s, x, hs, hx, hxr⟩ := htr e he
  obtain ⟨la, lb, _, _, hc⟩ := translateSym_inv hx
  have hname : sv.name = s.name := dictify_name π e _ _ hs hd
  -- the entry found under the element's name is its own component
  have hlook : circ.reverse.lookup sv.name = (ownCirc x).reverse.lookup sv.name := by
    rw [hname]
    -- another element of that name is this element, or both are wires (which have no entry)
    have hsame : ∀ b, (s.name, b) ∈ circ.reverse → ∃ k, x = some k ∧ b = k.value := by
      intro b hb
      obtain ⟨e₂, he₂, s₂, k₂, hs₂, ht₂, hnm, hb₂⟩ := hentry _ _ hb
      rcases hn e he e₂ he₂ _ _ hs hs₂ hnm with heq | ⟨_, hl₂⟩
      · subst heq
        cases hs.symm.trans hs₂
        exact ⟨k₂, Except.ok.inj (hx.symm.trans ht₂), hb₂⟩
      · cases hline e₂ s₂ _ hl₂ hs₂ ht₂
    cases x with
    | none =>
      refine lookup_eq_none_of_not_mem_keys fun hm => ?_
      obtain ⟨p, hp, hn⟩ := List.mem_map.mp hm
      obtain ⟨k, hk, _⟩ := hsame p.2 (by rw [← hn]; exact hp)
      cases hk
    | some k =>
      have hid : k.id = s.name := compOfSym_id π _ _ _ hc
      have hown : (ownCirc (some k)).reverse.lookup s.name = some k.value := by simp [ownCirc, hid]
      rw [hown]
      refine lookup_of_unique _ _ _ ?_ fun b hb => ?_
      · rw [List.mem_reverse, ← hcirc, hcomp]
        exact List.mem_map.mpr ⟨k, List.mem_filterMap.mpr ⟨some k, hxr, rfl⟩, by rw [hid]⟩
      · obtain ⟨k', hk', hb'⟩ := hsame b hb
        cases hk'; exact hb'
  refine ⟨la, lb, x, ?_, ?_⟩
  · unfold elemComp; simp only [hs, bind, Except.bind]; exact hc
  · unfold reloadFrom
    simp only [hd, bind, Except.bind]
    rw [← undictifyDElem_congr _ _ _ hlook]; exact hu


/-- a reload of a stable element reloads to itself whenever it translates, and such an element is stable -/
theorem ElemStable.reload {π : Rat} {e e' : DElem} (hs : ElemStable π e) {la lb : String} {k : Option Component}
    (hk : elemComp π e [la, lb] = .ok k) (hr : reloadFrom π e k = .ok e') : ElemStable π e' := by
  have h : ∀ la' lb' k', elemComp π e' [la', lb'] = .ok k' → reloadFrom π e' k' = .ok e' := by
    intro la' lb' k' hk'
    have := hs.fixed la lb la' lb'
    simp only [hk, hr, hk', bind, Except.bind, pure, Except.pure] at this
    exact this
  clear hk hr
  refine ⟨fun la lb la' lb' => ?_, fun la lb la' lb' => ?_, fun la lb => ?_⟩
  · exact bind_congr_ok fun k hk => by rw [h la lb k hk]; rfl
  · refine bind_congr_ok fun k hk => ?_
    rw [h la lb k hk, ok_bind, ok_bind]
    exact bind_congr_ok fun k' hk' => h la' lb' k' hk'
  · unfold reloadElem
    rw [bind_assoc]
    exact bind_congr_ok fun k hk => by rw [h la lb k hk]; rfl

/-- what (S), (B), (F) say about one reload -/
theorem ElemStable.of_reloads {π : Rat} {e e' : DElem} (h : ElemStable π e) (hr : Reloads π e e') :
    CC.Draw.shell π e' = CC.Draw.shell π e ∧ (∀ la lb, elemComp π e' [la, lb] = elemComp π e [la, lb]) ∧ ElemStable π e' := by
  obtain ⟨la, lb, k, hk, hr⟩ := hr
  refine ⟨?_, fun la' lb' => ?_, h.reload hk hr⟩
  · have hS := h.shell la lb
    have hre : reloadElem π e [la, lb] = .ok e' := by
      unfold reloadElem; simp only [hk, bind, Except.bind]; exact hr
    simp only [hre, hk, bind, Except.bind, pure, Except.pure] at hS
    exact Except.ok.inj hS
  · have hB := h.roundtrip la lb la' lb'
    simp only [hk, hr, bind, Except.bind] at hB
    exact hB


/-- symbols that the parser and the translators cannot tell apart -/
def SymSame (π : Rat) (s s' : Sym) : Prop := PEq s s' ∧ ∀ L, translateSym π L s' = translateSym π L s

theorem circuitTranslator_forall₂ (π : Rat) (ord : SetOrd Pt) {syms syms' : List Sym}
    (h : List.Forall₂ (SymSame π) syms syms') : circuitTranslator π ord syms' = circuitTranslator π ord syms := by
  obtain ⟨h1, h2, h3⟩ := parser_inputs_congr (h.imp fun _ _ hs => hs.1)
  unfold circuitTranslator
  simp only [h1, h2, h3]
  rw [forall₂_mapM_eq h fun s s' hs => hs.2 _]

theorem ElemStable.symSame {π : Rat} {e e' : DElem} (h : ElemStable π e) (hr : Reloads π e e') :
    ∃ s s', e.toSym π = .ok s ∧ e'.toSym π = .ok s' ∧ s'.name = s.name ∧ SymSame π s s' := by
  obtain ⟨hsh, hB, _⟩ := h.of_reloads hr
  obtain ⟨la, lb, k, hk, _⟩ := hr
  unfold elemComp at hk
  obtain ⟨s, hs, _⟩ := bind_eq_ok.1 hk
  unfold CC.Draw.shell at hsh
  rw [hs] at hsh
  cases hs' : e'.toSym π with
  | error x => rw [hs'] at hsh; simp at hsh
  | ok s' =>
    rw [hs'] at hsh
    simp only [Prod.mk.injEq, Option.some.injEq] at hsh
    obtain ⟨hcls, hstart, hstop, hname, _, hnode⟩ := hsh
    obtain ⟨c1, c2, c3⟩ := toSym_shell hs
    obtain ⟨c1', c2', c3'⟩ := toSym_shell hs'
    have hp : PEq s s' := ⟨by rw [c1', c1, hcls], by rw [c2', c2, hstart], by rw [c3', c3, hstop], hnode⟩
    refine ⟨s, s', hs, rfl, hname, hp, translateSym_congr π s s' hp fun la lb => ?_⟩
    have := hB la lb
    unfold elemComp at this
    simpa only [hs, hs', bind, Except.bind] using this

theorem instantiate_reloads {π : Rat} {d d' : List DElem} (hst : ∀ e ∈ d, ElemStable π e)
    (hr : List.Forall₂ (Reloads π) d d') :
    ∃ syms syms', instantiate π d = .ok syms ∧ instantiate π d' = .ok syms' ∧ List.Forall₂ (SymSame π) syms syms' := by
  unfold instantiate
  induction hr with
  | nil => exact ⟨[], [], rfl, rfl, .nil⟩
  | @cons e e' d d' hre _ ih =>
    obtain ⟨s, s', hs, hs', _, hss⟩ := (hst e List.mem_cons_self).symSame hre
    obtain ⟨syms, syms', h1, h2, h3⟩ := ih fun x hx => hst x (List.mem_cons_of_mem _ hx)
    exact ⟨s :: syms, s' :: syms', by rw [List.mapM_cons, hs, h1]; rfl, by rw [List.mapM_cons, hs', h2]; rfl, .cons hss h3⟩

theorem saveLoad_roundtrip (π : Rat) (ord : SetOrd Pt) (d d' : List DElem)
    (hst : ∀ e ∈ d, ElemStable π e) (hn : NamesWF π d) (h : saveLoad π ord d = .ok d') :
    circuitOf π ord d' = circuitOf π ord d := by
  obtain ⟨_, hr⟩ := saveLoad_reloads hn h
  obtain ⟨syms, syms', h1, h2, h3⟩ := instantiate_reloads hst (hr.imp fun _ _ h => h.2)
  unfold circuitOf
  rw [h1, h2]
  exact circuitTranslator_forall₂ π ord h3

def StableDrawing (π : Rat) (d : List DElem) : Prop :=
  (∀ e ∈ d, ElemStable π e) ∧ NamesWF π d

theorem saveLoad_stableDrawing (π : Rat) (ord : SetOrd Pt) (d d' : List DElem) (hd : StableDrawing π d)
    (h : saveLoad π ord d = .ok d') : StableDrawing π d' ∧ circuitOf π ord d' = circuitOf π ord d := by
  refine ⟨?_, saveLoad_roundtrip π ord d d' hd.1 hd.2 h⟩
  obtain ⟨circ, hr⟩ := saveLoad_reloads hd.2 h
  have hback : ∀ e' ∈ d', ∃ e ∈ d, reloadIn π circ e = .ok e' ∧ Reloads π e e' :=
    forall₂_exists_mem (List.Forall₂.flip (R := flip _) hr)
  refine ⟨fun e' he' => ?_, fun e₁' he₁' e₂' he₂' s₁' s₂' hs₁' hs₂' hname => ?_⟩
  · obtain ⟨e, he, _, hre⟩ := hback e' he'
    exact ((hd.1 e he).of_reloads hre).2.2
  · obtain ⟨e₁, he₁, hf₁, hr₁⟩ := hback e₁' he₁'
    obtain ⟨e₂, he₂, hf₂, hr₂⟩ := hback e₂' he₂'
    obtain ⟨s₁, t₁, hs₁, ht₁, hn₁, _⟩ := (hd.1 e₁ he₁).symSame hr₁
    obtain ⟨s₂, t₂, hs₂, ht₂, hn₂, _⟩ := (hd.1 e₂ he₂).symSame hr₂
    cases ht₁.symm.trans hs₁'
    cases ht₂.symm.trans hs₂'
    have hc₁ : e₁'.cls = e₁.cls := congrArg Prod.fst ((hd.1 e₁ he₁).of_reloads hr₁).1
    have hc₂ : e₂'.cls = e₂.cls := congrArg Prod.fst ((hd.1 e₂ he₂).of_reloads hr₂).1
    rcases hd.2 e₁ he₁ e₂ he₂ s₁ s₂ hs₁ hs₂ (by rw [← hn₁, ← hn₂, hname]) with heq | ⟨hl₁, hl₂⟩
    · left; subst heq; exact Except.ok.inj (hf₁.symm.trans hf₂)
    · right; exact ⟨hc₁.trans hl₁, hc₂.trans hl₂⟩

theorem cycles_roundtrip (π : Rat) (ord : SetOrd Pt) (n : Nat) (d d' : List DElem) (hd : StableDrawing π d)
    (h : cycles π ord n d = .ok d') : StableDrawing π d' ∧ circuitOf π ord d' = circuitOf π ord d := by
  induction n generalizing d with
  | zero =>
    simp [cycles, pure, Except.pure] at h
    subst h; exact ⟨hd, rfl⟩
  | succ n ih =>
    unfold cycles at h
    obtain ⟨d1, h1, h⟩ := bind_eq_ok.1 h
    obtain ⟨hd1, hc1⟩ := saveLoad_stableDrawing π ord d d1 hd h1
    obtain ⟨hd', hc'⟩ := ih d1 hd1 h
    exact ⟨hd', hc'.trans hc1⟩

end CC.Draw
