/-
  CC.Proofs.ContractConverse — the CONVERSE of short-circuit contraction (`contractAll` of
  CC/Model/Transform.lean, the loop of `remove_short_circuit_elements`):

    every solution of the circuit equations of the contracted branch list extends to a solution of the
    original branch list.

  The general statements (`step_converse_inj`, `contractAll_converse_inj`) carry a current `inj` injected from outside
  (`EqsInj`, CC/Proofs/SpecLemmas.lean): the argument does not notice it, and the probe network of a port is such an
  injection; `step_converse`, `contractAll_converse` are the case without injection.

  Potentials: `pot x := pot' (σ x)` (σ = `sigmaAll z ps`, CC/Proofs/ContractShape.lean); surviving branches
  keep voltage and current; a dropped branch (a contracted short, or a branch that became a self-loop) gets
  voltage 0.  The CURRENTS of the dropped branches are chosen by induction along the contraction steps:
  at the step `an → rn` every branch dropped by that step that is not the short itself gets its
  zero-voltage current (`Elem.zeroCur`: 0 for an impedance / admittance / short, `I` for an ideal current
  source, `-V/Z` resp. `-I` for a lossy source), and ONE short between `an` and `rn` gets the current that
  balances Kirchhoff's current law at `an` (minus the sum of the other currents leaving `an`); KCL at `rn` then
  holds because the contracted list satisfies KCL at the merged node (`sum_incidence_ren`).  The shorts chosen at
  the steps with `an ≠ rn` form a spanning forest of the short-circuit graph.

  The hypothesis that cannot be dropped: every dropped branch must be consistent at zero voltage
  (`Elem.ZeroVoltOK`: `∃ i, lawResidual e 0 i = 0`).  It fails exactly for an ideal voltage source with
  `V ≠ 0` (`Elem.zeroVoltOK_iff`) — such a source parallel to a chain of shorts makes the original
  unsolvable, while the contracted list (without it) may well be solvable.
-/
import CC.Proofs.Contract
import CC.Proofs.Linear
set_option linter.unusedSectionVars false

namespace CC
variable {L K : Type} [DecidableEq L] [LabelOrd L] [Field K] [DecidableEq K]

/-- the reported current of an element held at voltage 0 (any value would do for `Z = 0`) -/
def Elem.zeroCur : Elem K → K
  | .norton Z V => if Z = 0 then 0 else if V = 0 then 0 else -V / Z
  | .thevenin Y I => if Y = 0 then I else if I = 0 then 0 else -I

def Elem.ZeroVoltOK (e : Elem K) : Prop := ∃ i, e.lawResidual 0 i = 0

theorem Elem.zeroCur_law_of (e : Elem K) (h : ∀ V, e = .norton 0 V → V = 0) :
    e.lawResidual 0 e.zeroCur = 0 := by
  cases e with
  | norton Z V =>
    by_cases hZ : Z = 0
    · subst hZ
      rw [h V rfl]
      simp only [Elem.lawResidual, if_true, sub_zero]
    · by_cases hV : V = 0
      · simp only [Elem.lawResidual, Elem.zeroCur, if_neg hZ, if_pos hV, mul_zero, sub_zero]
      · simp only [Elem.lawResidual, Elem.zeroCur, if_neg hZ, if_neg hV]
        rw [mul_div_cancel₀ _ hZ, zero_add, add_neg_cancel]
  | thevenin Y I =>
    by_cases hY : Y = 0
    · simp only [Elem.lawResidual, Elem.zeroCur, if_pos hY, sub_self]
    · by_cases hI : I = 0
      · simp only [Elem.lawResidual, Elem.zeroCur, if_neg hY, if_pos hI, mul_zero, sub_zero]
      · simp only [Elem.lawResidual, Elem.zeroCur, if_neg hY, if_neg hI, mul_zero, add_zero, neg_add_cancel]

/-- **the only element that is inconsistent at zero voltage is an ideal voltage source with `V ≠ 0`** -/
theorem Elem.zeroVoltOK_iff (e : Elem K) : e.ZeroVoltOK ↔ ∀ V, e = .norton 0 V → V = 0 := by
  constructor
  · rintro ⟨i, hi⟩ V rfl
    simpa [Elem.lawResidual] using hi
  · intro h; exact ⟨_, e.zeroCur_law_of h⟩

theorem Elem.zeroVoltOK_of_sourceFree (e : Elem K) (h : e.zeroSources = e) : e.ZeroVoltOK := by
  rw [Elem.zeroVoltOK_iff]
  rintro V rfl
  simpa [Elem.zeroSources] using h.symm

theorem Elem.zeroVoltOK_zeroSources (e : Elem K) : e.zeroSources.ZeroVoltOK :=
  Elem.zeroVoltOK_of_sourceFree _ (by cases e <;> rfl)

theorem Elem.zeroVoltOK_thevenin (Y I : K) : (Elem.thevenin Y I).ZeroVoltOK := by
  rw [Elem.zeroVoltOK_iff]; intro V h; cases h

theorem Elem.zeroVoltOK_of_Z_ne (Z V : K) (h : Z ≠ 0) : (Elem.norton Z V).ZeroVoltOK := by
  rw [Elem.zeroVoltOK_iff]; intro V' h'; cases h'; exact absurd rfl h

theorem findId_none {bs : List (Branch L K)} {id : String} (h : id ∉ bs.map (·.id)) : findId bs id = none := by
  unfold findId
  rw [List.find?_eq_none]
  intro b hb e
  exact h (List.mem_map.mpr ⟨b, List.mem_reverse.mp hb, of_decide_eq_true e⟩)

theorem sum_ite_id (bs : List (Branch L K)) (hid : (bs.map (·.id)).Nodup) (s : Branch L K) (hs : s ∈ bs)
    (d : K) : (bs.map fun b => if b.id = s.id then d else 0).sum = d := by
  simpa only [eq_comm] using sum_pick_key bs (·.id) hid hs fun _ => d

def extRep (bs : List (Branch L K)) (ρ : L → L) (R' : Report L K) : Report L K where
  pot := fun x => R'.pot (ρ x)
  v := fun id => match findId bs id with
    | some b => if ρ b.n1 = ρ b.n2 then 0 else R'.v id
    | none => R'.v id
  i := fun id => match findId bs id with
    | some b => if ρ b.n1 = ρ b.n2 then b.e.zeroCur else R'.i id
    | none => R'.i id

theorem extRep_v {bs : List (Branch L K)} (hid : (bs.map (·.id)).Nodup) (ρ : L → L) (R' : Report L K)
    {b : Branch L K} (hb : b ∈ bs) :
    (extRep bs ρ R').v b.id = if ρ b.n1 = ρ b.n2 then 0 else R'.v b.id := by
  simp only [extRep, findId_of_mem hid hb]

theorem extRep_i {bs : List (Branch L K)} (hid : (bs.map (·.id)).Nodup) (ρ : L → L) (R' : Report L K)
    {b : Branch L K} (hb : b ∈ bs) :
    (extRep bs ρ R').i b.id = if ρ b.n1 = ρ b.n2 then b.e.zeroCur else R'.i b.id := by
  simp only [extRep, findId_of_mem hid hb]

/-- the zero-voltage extension `R0` of a solution of the contracted list: (E2) and (E3) hold on every branch of the
un-contracted list, and (E4) of the contracted list reads as Kirchhoff sums over the un-contracted one -/
theorem step_ext (bs : List (Branch L K)) (z an rn : L) (R' : Report L K) (inj : L → K)
    (hid : (bs.map (·.id)).Nodup)
    (hd : ∀ b ∈ bs, renNode an rn b.n1 = renNode an rn b.n2 → b.e.ZeroVoltOK)
    (h : EqsInj (contractStep bs an rn) z R' inj) :
    (∀ b ∈ bs, voltResidual (extRep bs (renNode an rn) R') b = 0 ∧
      b.e.lawResidual ((extRep bs (renNode an rn) R').v b.id) ((extRep bs (renNode an rn) R').i b.id) = 0) ∧
    ∀ n, (bs.map fun b => incidence (b.mapNodes (renNode an rn)) n *
      b.e.physCurrent ((extRep bs (renNode an rn) R').i b.id)).sum = inj n := by
  refine ⟨fun b hb => ?_, fun n => ?_⟩
  · rw [extRep_v hid _ _ hb, extRep_i hid _ _ hb]
    unfold voltResidual
    rw [extRep_v hid _ _ hb]
    by_cases hD : renNode an rn b.n1 = renNode an rn b.n2
    · rw [if_pos hD, if_pos hD]
      refine ⟨?_, Elem.zeroCur_law_of _ ((Elem.zeroVoltOK_iff _).mp (hd b hb hD))⟩
      show 0 - (R'.pot (renNode an rn b.n1) - R'.pot (renNode an rn b.n2)) = 0
      rw [hD, sub_self, sub_zero]
    · rw [if_neg hD, if_neg hD]
      have hm : b.mapNodes (renNode an rn) ∈ contractStep bs an rn :=
        (mem_contractStep bs an rn _).mpr ⟨b, hb, rfl, hD⟩
      exact ⟨h.volt _ hm, h.law (b.mapNodes (renNode an rn)) hm⟩
  · refine Eq.trans ?_ ((kcl_contractStep bs z an rn R' n).symm.trans (h.kcl n))
    apply congrArg
    apply List.map_congr_left
    intro b hb
    by_cases hD : renNode an rn b.n1 = renNode an rn b.n2
    · rw [incidence_loop (b.mapNodes (renNode an rn)) hD n, zero_mul, zero_mul]
    · rw [extRep_i hid _ _ hb, if_neg hD]

theorem kcl_update (bs : List (Branch L K)) (z : L) (R0 : Report L K) (s : Branch L K)
    (hid : (bs.map (·.id)).Nodup) (hs : s ∈ bs) (hl : s.e.isLossy = false) (h0 : R0.i s.id = 0)
    (I : K) (n : L) :
    kclResidual ⟨bs, z⟩ { R0 with i := fun id => if id = s.id then I else R0.i id } n =
      kclResidual ⟨bs, z⟩ R0 n + incidence s n * I := by
  unfold kclResidual
  simp only
  have hphys : ∀ x : K, s.e.physCurrent x = x := by
    intro x; unfold Elem.physCurrent; rw [hl]; rfl
  have e : ∀ b ∈ bs, incidence b n * b.e.physCurrent (if b.id = s.id then I else R0.i b.id) =
      incidence b n * b.e.physCurrent (R0.i b.id) + (if b.id = s.id then incidence s n * I else 0) := by
    intro b hb
    by_cases hbs : b.id = s.id
    · have : b = s := List.inj_on_of_nodup_map hid hb hs hbs
      subst this
      rw [if_pos rfl, if_pos rfl, hphys, h0, hphys, mul_zero, zero_add]
    · rw [if_neg hbs, if_neg hbs, add_zero]
  rw [List.map_congr_left e, List.sum_map_add, sum_ite_id bs hid s hs]

/-- a branch between `an` and `rn`, in either orientation, meets no other node -/
theorem incidence_between {s : Branch L K} {an rn : L} (hne : an ≠ rn)
    (hsn : (s.n1 = an ∧ s.n2 = rn) ∨ (s.n1 = rn ∧ s.n2 = an)) :
    incidence s an * incidence s an = 1 ∧
      ∀ n, incidence s n = incidence s an * ((if an = n then 1 else 0) - (if rn = n then 1 else 0)) := by
  unfold incidence
  rcases hsn with ⟨e1, e2⟩ | ⟨e1, e2⟩ <;> rw [e1, e2, if_pos rfl, if_neg hne.symm]
  · exact ⟨by ring, fun n => by ring⟩
  · exact ⟨by ring, fun n => by ring⟩

/-- **one contraction step, converse**; the construction is described at the head of the file.  Nothing is asked of `inj`
at `an`: when `an ≠ rn` the contracted list has no branch there, so its Kirchhoff's current law forces `inj an = 0`. -/
theorem step_converse_inj (bs : List (Branch L K)) (z an rn : L) (R' : Report L K) (inj : L → K)
    (hid : (bs.map (·.id)).Nodup) (hz : an = z → rn = z) (hs : PairShort bs (an, rn))
    (hd : ∀ b ∈ bs, renNode an rn b.n1 = renNode an rn b.n2 → b.e.ZeroVoltOK)
    (h : EqsInj (contractStep bs an rn) z R' inj) :
    ∃ R : Report L K, EqsInj bs z R inj ∧ (∀ x, R.pot x = R'.pot (renNode an rn x)) ∧
      (∀ b' ∈ contractStep bs an rn, R.v b'.id = R'.v b'.id ∧ R.i b'.id = R'.i b'.id) ∧
      ∀ id, id ∉ bs.map (·.id) → R.v id = R'.v id ∧ R.i id = R'.i id := by
  have hz0 : R'.pot (renNode an rn z) = 0 := by
    have : renNode an rn z = z := by
      by_cases hza : z = an
      · rw [hza, renNode_absorbed]; exact (hz hza.symm).trans hza
      · exact renNode_of_ne rn hza
    rw [this]; exact h.ref_zero
  obtain ⟨hvl, hk⟩ := step_ext bs z an rn R' inj hid hd h
  set R0 := extRep bs (renNode an rn) R' with hR0
  have hsurv0 : ∀ b ∈ bs, renNode an rn b.n1 ≠ renNode an rn b.n2 →
      R0.v b.id = R'.v b.id ∧ R0.i b.id = R'.i b.id := by
    intro b hb hD
    rw [hR0, extRep_v hid _ _ hb, extRep_i hid _ _ hb, if_neg hD, if_neg hD]
    exact ⟨rfl, rfl⟩
  have hpot0 : ∀ x, R0.pot x = R'.pot (renNode an rn x) := fun x => by rw [hR0]; rfl
  have hout0 : ∀ id, id ∉ bs.map (·.id) → R0.v id = R'.v id ∧ R0.i id = R'.i id := fun id h => by
    simp only [hR0, extRep, findId_none h, and_self]
  -- Kirchhoff's current law of the contracted list, read on `bs`
  have hK : ∀ n, kclResidual ⟨bs, z⟩ R0 n +
      ((if rn = n then 1 else 0) - (if an = n then 1 else 0)) * kclResidual ⟨bs, z⟩ R0 an = inj n :=
    fun n => (sum_incidence_ren an rn bs (fun b => b.e.physCurrent (R0.i b.id)) n).symm.trans (hk n)
  by_cases hne : an = rn
  · -- nothing is renamed: only self-loops are dropped
    subst hne
    refine ⟨R0, ⟨(hpot0 z).trans hz0, fun b hb => (hvl b hb).1, fun b hb => (hvl b hb).2, fun n => ?_⟩,
      hpot0, fun b' hb' => ?_, hout0⟩
    · rw [← hK n, sub_self, zero_mul, add_zero]; rfl
    · obtain ⟨b, hb, rfl, hD⟩ := (mem_contractStep bs an an b').mp hb'
      exact hsurv0 b hb hD
  · obtain ⟨s, hsm, hse, hsn⟩ := Or.resolve_left hs hne
    -- the short itself is dropped; its voltage and its extended current are 0
    have hDs : renNode an rn s.n1 = renNode an rn s.n2 := by
      rcases hsn with ⟨e1, e2⟩ | ⟨e1, e2⟩ <;> rw [e1, e2, renNode_absorbed, renNode_retained]
    have hs0 : R0.i s.id = 0 := by
      rw [hR0, extRep_i hid _ _ hsm, if_pos hDs, hse]; simp only [Elem.zeroCur, if_true]
    have hsv0 : R0.v s.id = 0 := by
      rw [hR0, extRep_v hid _ _ hsm, if_pos hDs]
    have hsl : s.e.isLossy = false := by rw [hse]; simp [Elem.isLossy, Elem.kind]
    obtain ⟨hA, hB⟩ := incidence_between (K := K) hne hsn
    -- the current through the short takes up the residual at `an`; what is left at `n` is the law of the contracted list
    refine ⟨{ R0 with i := fun id => if id = s.id then -(incidence s an) * kclResidual ⟨bs, z⟩ R0 an else R0.i id },
      ⟨(hpot0 z).trans hz0, fun b hb => (hvl b hb).1, ?_, fun n => ?_⟩, hpot0, ?_, fun id h => ⟨(hout0 id h).1, ?_⟩⟩
    · intro b hb
      show b.e.lawResidual (R0.v b.id) (if b.id = s.id then _ else R0.i b.id) = 0
      by_cases hbs : b.id = s.id
      · have : b = s := List.inj_on_of_nodup_map hid hb hsm hbs
        subst this
        rw [hse, hsv0]; simp only [Elem.lawResidual, if_true, sub_zero]
      · rw [if_neg hbs]; exact (hvl b hb).2
    · show kclResidual ⟨bs, z⟩ _ n = inj n
      rw [kcl_update bs z R0 s hid hsm hsl hs0 _ n, hB n]
      linear_combination hK n - ((if an = n then 1 else 0) - (if rn = n then 1 else 0)) * kclResidual ⟨bs, z⟩ R0 an * hA
    · intro b' hb'
      obtain ⟨b, hb, rfl, hD⟩ := (mem_contractStep bs an rn b').mp hb'
      refine ⟨(hsurv0 b hb hD).1, ?_⟩
      show (if b.id = s.id then _ else R0.i b.id) = R'.i b.id
      have : b.id ≠ s.id := by
        intro e
        have : b = s := List.inj_on_of_nodup_map hid hb hsm e
        subst this
        exact hD hDs
      rw [if_neg this]; exact (hsurv0 b hb hD).2
    · show (if id = s.id then _ else R0.i id) = R'.i id
      rw [if_neg fun e : id = s.id => h (e ▸ List.mem_map_of_mem hsm)]; exact (hout0 id h).2

/-- the step without injection -/
theorem step_converse (bs : List (Branch L K)) (z an rn : L) (R' : Report L K)
    (hid : (bs.map (·.id)).Nodup) (hz : an = z → rn = z)
    (hs : an = rn ∨ ∃ s ∈ bs, s.e = .norton 0 0 ∧ ((s.n1 = an ∧ s.n2 = rn) ∨ (s.n1 = rn ∧ s.n2 = an)))
    (hd : ∀ b ∈ bs, renNode an rn b.n1 = renNode an rn b.n2 → b.e.ZeroVoltOK)
    (h : CircuitEqsAll (contractStep bs an rn) z R') :
    ∃ R : Report L K, CircuitEqsAll bs z R ∧ (∀ x, R.pot x = R'.pot (renNode an rn x)) ∧
      ∀ b' ∈ contractStep bs an rn, R.v b'.id = R'.v b'.id ∧ R.i b'.id = R'.i b'.id := by
  obtain ⟨R, hR, hp, hsv, _⟩ := step_converse_inj bs z an rn R' _ hid hz hs hd h.eqsInj
  exact ⟨R, hR.circuitEqsAll, hp, hsv⟩

theorem pairShort_orient (z : L) (bs : List (Branch L K)) (p : L × L) (h : PairShort bs p) :
    PairShort bs (orient z p) := by
  rcases orient_cases z p with ho | ho <;> rw [ho]
  · exact h
  · rcases h with h | ⟨s, hs, hse, hsn⟩
    · exact Or.inl h.symm
    · exact Or.inr ⟨s, hs, hse, hsn.symm⟩

theorem contractStep_ids_nodup (bs : List (Branch L K)) (an rn : L) (hid : (bs.map (·.id)).Nodup) :
    ((contractStep bs an rn).map (·.id)).Nodup := by
  rw [contractStep_eq]
  have h2 := (List.filter_sublist (l := bs.map (Branch.mapNodes (renNode an rn)))
    (p := fun b => decide (b.n1 ≠ b.n2))).map (·.id)
  rw [List.map_map] at h2
  exact h2.nodup hid

theorem pairShort_step (bs : List (Branch L K)) (an rn : L) (q : L × L) (h : PairShort bs q) :
    PairShort (contractStep bs an rn) (renPair an rn q) := by
  show PairShort _ (renNode an rn q.1, renNode an rn q.2)
  by_cases he : renNode an rn q.1 = renNode an rn q.2
  · exact Or.inl he
  · right
    rcases h with h | ⟨s, hs, hse, hsn⟩
    · exact absurd (by rw [h]) he
    · refine ⟨s.mapNodes (renNode an rn), (mem_contractStep bs an rn _).mpr ⟨s, hs, rfl, ?_⟩, hse, ?_⟩
      · rcases hsn with ⟨e1, e2⟩ | ⟨e1, e2⟩ <;> rw [e1, e2]
        · exact he
        · exact fun e => he e.symm
      · rcases hsn with ⟨e1, e2⟩ | ⟨e1, e2⟩
        · left; exact ⟨by rw [mapNodes_n1, e1], by rw [mapNodes_n2, e2]⟩
        · right; exact ⟨by rw [mapNodes_n1, e1], by rw [mapNodes_n2, e2]⟩

/-- **the contraction loop, converse.**  `hd` speaks of exactly the branches the loop drops (`contractAll_eq`), hence its
`ps ≠ []`: with no pair nothing is dropped, self-loops included. -/
theorem contractAll_converse_inj (z : L) (ps : List (L × L)) (bs : List (Branch L K)) (inj : L → K)
    (hid : (bs.map (·.id)).Nodup) (hps : ∀ p ∈ ps, PairShort bs p)
    (hd : ps ≠ [] → ∀ b ∈ bs, sigmaAll z ps b.n1 = sigmaAll z ps b.n2 → b.e.ZeroVoltOK)
    (R' : Report L K) (h : EqsInj (contractAll z ps bs) z R' inj) :
    ∃ R : Report L K, EqsInj bs z R inj ∧ (∀ x, R.pot x = R'.pot (sigmaAll z ps x)) ∧
      (∀ b' ∈ contractAll z ps bs, R.v b'.id = R'.v b'.id ∧ R.i b'.id = R'.i b'.id) ∧
      ∀ id, id ∉ bs.map (·.id) → R.v id = R'.v id ∧ R.i id = R'.i id := by
  induction ps using pairs_ind z generalizing bs R' with
  | nil =>
    rw [contractAll_nil] at h
    exact ⟨R', h, fun x => by rw [sigmaAll_nil], fun _ _ => ⟨rfl, rfl⟩, fun _ _ => ⟨rfl, rfl⟩⟩
  | step p ps ih =>
    have hd := hd (List.cons_ne_nil _ _)
    rw [contractAll_cons] at h
    -- the later steps first (induction), on the list contracted once
    obtain ⟨R1, hR1, hpot', hsurv', hout'⟩ := ih _ (contractStep_ids_nodup bs _ _ hid)
      (by
        intro q' hq'
        obtain ⟨q, hq, rfl⟩ := List.mem_map.mp hq'
        exact pairShort_step bs _ _ q (hps q (List.mem_cons_of_mem _ hq)))
      (by
        intro _ b1 hb1 he
        obtain ⟨b, hb, rfl, _⟩ := (mem_contractStep bs _ _ b1).mp hb1
        rw [mapNodes_n1, mapNodes_n2, ← sigmaAll_cons, ← sigmaAll_cons] at he
        exact hd b hb he) R' h
    -- then the first step
    obtain ⟨R, hR, hpot, hsurv, hout⟩ := step_converse_inj bs z _ _ R1 inj hid (orient_absorbs_zero z p)
      (pairShort_orient z bs p (hps p (List.mem_cons_self ..)))
      (fun b hb he => hd b hb (by rw [sigmaAll_cons, sigmaAll_cons, he])) hR1
    have hsub : ∀ id, id ∉ bs.map (·.id) → id ∉ (contractStep bs (orient z p).1 (orient z p).2).map (·.id) := by
      intro id h h'
      obtain ⟨b1, hb1, rfl⟩ := List.mem_map.mp h'
      obtain ⟨b, hb, rfl, _⟩ := (mem_contractStep bs _ _ b1).mp hb1
      exact h (List.mem_map.mpr ⟨b, hb, rfl⟩)
    refine ⟨R, hR, fun x => by rw [hpot, hpot', sigmaAll_cons], fun b' hb' => ?_, fun id h =>
      ⟨(hout id h).1.trans (hout' id (hsub id h)).1, (hout id h).2.trans (hout' id (hsub id h)).2⟩⟩
    rw [contractAll_cons] at hb'
    obtain ⟨b1, hb1, rfl⟩ := mem_contractAll hb'
    have := hsurv b1 hb1
    exact ⟨this.1.trans (hsurv' _ hb').1, this.2.trans (hsurv' _ hb').2⟩

/-- the loop without injection -/
theorem contractAll_converse (z : L) (ps : List (L × L)) (bs : List (Branch L K))
    (hid : (bs.map (·.id)).Nodup) (hps : ∀ p ∈ ps, PairShort bs p)
    (hd : ps ≠ [] → ∀ b ∈ bs, sigmaAll z ps b.n1 = sigmaAll z ps b.n2 → b.e.ZeroVoltOK)
    (R' : Report L K) (h : CircuitEqsAll (contractAll z ps bs) z R') :
    ∃ R : Report L K, CircuitEqsAll bs z R ∧ (∀ x, R.pot x = R'.pot (sigmaAll z ps x)) ∧
      ∀ b' ∈ contractAll z ps bs, R.v b'.id = R'.v b'.id ∧ R.i b'.id = R'.i b'.id := by
  obtain ⟨R, hR, hp, hsv, _⟩ := contractAll_converse_inj z ps bs _ hid hps hd R' h.eqsInj
  exact ⟨R, hR.circuitEqsAll, hp, hsv⟩

theorem converse_dropped_voltage (z : L) (ps : List (L × L)) (bs : List (Branch L K)) (R R' : Report L K)
    (hR : CircuitEqsAll bs z R) (hpot : ∀ x, R.pot x = R'.pot (sigmaAll z ps x))
    (b : Branch L K) (hb : b ∈ bs) (he : sigmaAll z ps b.n1 = sigmaAll z ps b.n2) : R.v b.id = 0 :=
  (volt_zero_iff (hR.volt b hb)).mpr (by rw [hpot, hpot, he])

end CC
