/-
  CC.Proofs.DrawDeclarative2 — the model function `declarative` (CC/Model/DrawIO.lean) as a whole.

  * `construct_congr`: the symbol constructor of the interpretive model reads its keyword
    arguments only through `lookup` at the keys the class (and its ancestors inside Elements.py)
    names — its own parameters, the parameters its field assignments mention, `name`, `reverse`.
    Two keyword lists that agree there build the same symbol (or raise the same error), whatever
    else they contain and in whatever order.  Generic over the generated class table.
  * `declStep` / `declFrom`: `declarative` is a left fold; it is restated element by element and
    the restatement is proved equal to the model function.
-/
import CC.Proofs.DrawDeclarative
import CC.Proofs.DrawConstruct
import Mathlib.Tactic.SplitIfs
import CC.Proofs.DrawBasics
namespace CC.Draw

def AgreeOn (S : List String) (a b : List (String × Val)) : Prop := ∀ k ∈ S, a.lookup k = b.lookup k

theorem AgreeOn.refl (S : List String) (a : List (String × Val)) : AgreeOn S a a := fun _ _ => rfl

theorem AgreeOn.mono {S T : List String} {a b : List (String × Val)} (h : AgreeOn T a b) (hs : ∀ k ∈ S, k ∈ T) :
    AgreeOn S a b := fun k hk => h k (hs k hk)

theorem AgreeOn.dictSet {S : List String} {a b : List (String × Val)} (h : AgreeOn S a b) (k : String) (v : Val) :
    AgreeOn S (dictSet k v a) (dictSet k v b) := by
  intro k' hk'
  rw [lookup_dictSet, lookup_dictSet, h k' hk']

def FExpr.keys : FExpr → List String
  | .param p => [p]
  | .negIfRev p => [p]
  | .other _ => []

/-- keys one class of the chain reads: its named parameters, the parameters its field
assignments mention, the parameter of its `sin` shift -/
def ElemClass.ownKeys (c : ElemClass) : List String :=
  c.params.map (·.1) ++ c.fields.flatMap (fun fe => fe.2.keys) ++
    (match c.sinShift with
     | some (_, _, some (p, _)) => [p]
     | _ => [])

/-- keys `construct` reads for class `c` -/
def usedKeys (c : ElemClass) : List String :=
  "name" :: "reverse" :: (classChain c).flatMap ElemClass.ownKeys

theorem ownKeys_sub {c k : ElemClass} (hk : k ∈ classChain c) : ∀ x ∈ k.ownKeys, x ∈ usedKeys c := by
  intro x hx
  unfold usedKeys
  exact List.mem_cons_of_mem _ (List.mem_cons_of_mem _ (List.mem_flatMap.mpr ⟨k, hk, hx⟩))

theorem bindParams_congr (S : List String) (c : ElemClass) (hc : ∀ p ∈ c.params, p.1 ∈ S)
    (kw1 kw2 : List (String × Val)) (h : AgreeOn S kw1 kw2) : XRel (AgreeOn S) (bindParams c kw1) (bindParams c kw2) := by
  unfold bindParams
  refine XRel.foldlM (fun p hp env1 env2 henv => ?_) kw1 kw2 h
  rw [← h p.1 (hc p hp)]
  cases kw1.lookup p.1 with
  | some v => exact henv.dictSet p.1 v
  | none =>
    cases p.2.2 with
    | some d => exact henv.dictSet p.1 d
    | none => exact rfl

theorem chainBind_congr (S : List String) (chain : List ElemClass) (hc : ∀ k ∈ chain, ∀ p ∈ k.params, p.1 ∈ S) :
    ∀ kw1 kw2, AgreeOn S kw1 kw2 →
      XRel (AgreeOn S) (chain.foldlM (fun env k => bindParams k env) kw1) (chain.foldlM (fun env k => bindParams k env) kw2) :=
  XRel.foldlM fun k hk => bindParams_congr S k (hc k hk)

theorem construct_unknown (π : Rat) (cls : String) (hc : classInfo cls = none) (kw : List (String × Val)) :
    construct π cls kw = .error Err.unknownKind := by
  unfold construct
  simp only [hc]
  rfl

theorem evalF_congr (S : List String) (env1 env2 : List (String × Val)) (h : AgreeOn S env1 env2) (r : Bool)
    (fe : FExpr) (hfe : ∀ x ∈ fe.keys, x ∈ S) : evalF env1 r fe = evalF env2 r fe := by
  cases fe with
  | param p => simp only [evalF, h p (hfe p (by simp [FExpr.keys]))]
  | negIfRev p => simp only [evalF, h p (hfe p (by simp [FExpr.keys]))]
  | other s => rfl

theorem lookupD_congr {S : List String} {env1 env2 : List (String × Val)} (h : AgreeOn S env1 env2) {k : String}
    (hk : k ∈ S) (d : Val) : lookupD env1 k d = lookupD env2 k d := by
  unfold lookupD; rw [h k hk]

theorem constructRest_congr (π : Rat) (cls : String) (c : ElemClass) (revKw : Val) (env1 env2 : List (String × Val))
    (h : AgreeOn (usedKeys c) env1 env2) : constructRest π cls c revKw env1 = constructRest π cls c revKw env2 := by
  have hname : "name" ∈ usedKeys c := by simp [usedKeys]
  have hrev : "reverse" ∈ usedKeys c := by simp [usedKeys]
  have h1 : ∀ r, fieldsOf (classChain c) env1 r = fieldsOf (classChain c) env2 r := by
    intro r
    unfold fieldsOf
    apply foldlM_congr_mem
    intro k hk acc
    apply foldlM_congr_mem
    intro fe hfe acc'
    have hk' : k ∈ classChain c := List.mem_reverse.mp hk
    rw [evalF_congr (usedKeys c) env1 env2 h r fe.2 (fun x hx => ownKeys_sub hk' x (by
      unfold ElemClass.ownKeys
      exact List.mem_append_left _ (List.mem_append_right _ (List.mem_flatMap.mpr ⟨fe, hfe, hx⟩))))]
  have h2 : ∀ f, shifted π (classChain c) env1 f = shifted π (classChain c) env2 f := by
    intro f
    unfold shifted
    apply foldlM_congr_mem
    intro k hk acc
    cases hs : k.sinShift with
    | none => rfl
    | some t =>
      obtain ⟨flag, fld, degAlt⟩ := t
      cases degAlt with
      | none => rfl
      | some pn =>
        obtain ⟨p, n⟩ := pn
        have hp : p ∈ usedKeys c := ownKeys_sub hk p (by
          unfold ElemClass.ownKeys
          rw [hs]
          exact List.mem_append_right _ (by simp))
        simp only [shiftStep, lookupD_congr h hp]
  unfold constructRest
  rw [lookupD_congr h hrev, lookupD_congr h hname, h1]
  congr 1
  funext f
  rw [h2]

/-- **the constructor reads its keywords by `lookup` at the class's keys only**: keyword lists
that agree on `usedKeys c` build the same symbol or raise the same error -/
theorem construct_congr (π : Rat) (cls : String) (c : ElemClass) (hc : classInfo cls = some c)
    (kw1 kw2 : List (String × Val)) (h : AgreeOn (usedKeys c) kw1 kw2) : construct π cls kw1 = construct π cls kw2 := by
  rw [construct_eq π cls c hc, construct_eq π cls c hc]
  have hrev : "reverse" ∈ usedKeys c := by simp [usedKeys]
  rw [lookupD_congr h hrev]
  have hb := chainBind_congr (usedKeys c) (classChain c) (fun k hk p hp => ownKeys_sub hk p.1 (by
      unfold ElemClass.ownKeys
      exact List.mem_append_left _ (List.mem_append_left _ (List.mem_map.mpr ⟨p, hp, rfl⟩)))) kw1 kw2 h
  generalize (classChain c).foldlM (fun env k => bindParams k env) kw1 = x at hb
  generalize (classChain c).foldlM (fun env k => bindParams k env) kw2 = y at hb
  cases x with
  | error e => cases y with
    | error e' => simp only [XRel] at hb; subst hb; rfl
    | ok b => simp [XRel] at hb
  | ok a => cases y with
    | error e' => simp [XRel] at hb
    | ok b => exact constructRest_congr π cls c _ a b hb

/-- the keys of a description that `schematic.py` itself interprets -/
def placeKeys : List String := ["type", "direction", "length", "place_after"]

/-- `element_handlers[type]` applied to the description: the class that is instantiated -/
def handlerClass (h : DeclHandler) (e : List (String × Val)) : String :=
  match h.clsIfName with
  | some c => if (e.lookup "name").isSome then c else h.cls
  | none => h.cls

/-- `element_factory`'s defaults added to a keyword list -/
def withDefaults (e : List (String × Val)) : List (String × Val) :=
  Gen.declFactoryDefaults.foldl (fun kw d => if (kw.lookup d.1).isSome then kw else kw ++ [d]) e

/-- the keywords of the corresponding programmatic constructor call: the description without
the placement keys (with `element_factory`'s `name=''`, `reverse=False` when absent) -/
def ctorKw (e : List (String × Val)) : List (String × Val) :=
  withDefaults (e.filter fun kv => !placeKeys.contains kv.1)

/-- the direction method the entry asks for (`""`: none) -/
def entryMethod (e : List (String × Val)) : String :=
  (Gen.declDirections.lookup (match e.lookup "direction" with | some (.str d) => d | _ => "")).getD ""

def entryLen (e : List (String × Val)) : Rat := match e.lookup "length" with | some (.num z) => z.re | _ => 1

/-- `apply_position`: index of the first earlier element named by `place_after` -/
def entryAfter (names : List String) (e : List (String × Val)) : Except Err (Option Nat) :=
  match e.lookup "place_after" with
  | none | some .none => pure none
  | some (.str l) =>
    match names.findIdx? (· = l) with
    | some i => pure (some i)
    | none => throw Err.valueError
  | some _ => throw Err.valueError

/-- one iteration of the loop of `declarative`: the placement and the name of the new symbol -/
def declStep (π : Rat) (unit : Rat) (names : List String) (e : List (String × Val)) : Except Err (Placement × String) := do
  let typ ← match e.lookup "type" with
    | some (.str t) => pure t
    | some _ => throw Err.unknownKind
    | none => throw (Err.other "MissingArgument")
  let h ← match Gen.declHandlers.find? (·.typ = typ) with
    | some h => pure h
    | none => throw Err.unknownKind
  let obj ← match construct π (handlerClass h e) (withDefaults e) with
    | .ok o => pure o
    | .error Err.typeError => throw (Err.other "MissingArgument")
    | .error err => throw err
  if entryMethod e ≠ "" ∧ oneTerminal (handlerClass h e) ∧ Gen.declOneTerminalPlain = false then throw Err.typeError
  let after ← entryAfter names e
  pure ({ cls := handlerClass h e, kwargs := withDefaults e, method := entryMethod e, length := entryLen e * unit,
          plain := oneTerminal (handlerClass h e), after := after }, obj.name)

/-- `declarative` as a recursion over the description list; `names` = names of the symbols built so far -/
def declFrom (π : Rat) (unit : Rat) : List String → List (List (String × Val)) → Except Err (List Placement)
  | _, [] => pure []
  | names, e :: es => do
    let r ← declStep π unit names e
    let ps ← declFrom π unit (names ++ [r.2]) es
    pure (r.1 :: ps)

theorem declarative_fold (π : Rat) (unit : Rat) (elems : List (List (String × Val))) :
    declarative π unit elems =
      (elems.foldlM (fun (acc : List Placement × List String) e => do
          let r ← declStep π unit acc.2 e
          pure (acc.1 ++ [r.1], acc.2 ++ [r.2])) (([] : List Placement), ([] : List String)) >>= fun res => pure res.1) := by
  unfold declarative
  congr 2
  funext acc e
  simp only [declStep, handlerClass, withDefaults, entryMethod, entryLen, entryAfter]
  cases e.lookup "type" with
  | none => rfl
  | some v =>
    cases v with
    | str t =>
      simp only [pure_bind]
      cases Gen.declHandlers.find? (·.typ = t) with
      | none => rfl
      | some h =>
        simp only
        generalize construct π _ _ = r
        cases r with
        | error err => cases err <;> rfl
        | ok o =>
          simp only
          simp only [show Gen.declOneTerminalPlain = true from rfl, Bool.true_eq_false, and_false, if_false]
          cases e.lookup "place_after" with
          | none => rfl
          | some w =>
            cases w with
            | str l =>
              simp only
              cases List.findIdx? (· = l) acc.2 <;> rfl
            | _ => rfl
    | _ => rfl

theorem fold_declFrom (π : Rat) (unit : Rat) (elems : List (List (String × Val))) :
    ∀ (ps : List Placement) (names : List String),
      (elems.foldlM (fun (acc : List Placement × List String) e => do
          let r ← declStep π unit acc.2 e
          pure (acc.1 ++ [r.1], acc.2 ++ [r.2])) (ps, names) >>= fun res => pure res.1) =
      (declFrom π unit names elems >>= fun qs => pure (ps ++ qs)) := by
  induction elems with
  | nil => intro ps names; simp [List.foldlM, declFrom, pure, Except.pure, bind, Except.bind]
  | cons e es ih =>
    intro ps names
    simp only [List.foldlM_cons, declFrom]
    cases hs : declStep π unit names e with
    | error x => rfl
    | ok r =>
      simp only [bind, Except.bind, pure, Except.pure] at ih ⊢
      rw [ih]
      cases declFrom π unit (names ++ [r.2]) es with
      | error x => rfl
      | ok qs => simp

theorem declarative_eq_declFrom (π : Rat) (unit : Rat) (elems : List (List (String × Val))) :
    declarative π unit elems = declFrom π unit [] elems := by
  rw [declarative_fold, fold_declFrom]
  cases declFrom π unit [] elems with
  | error x => rfl
  | ok qs => simp [bind, Except.bind, pure, Except.pure]

/-- the placement `p` and symbol name `n` that entry `e` must produce when the symbols built so
far are named `names`.

There is no clause for the `TypeError` that `declarative` raises for a one-terminal symbol with a direction while
`Gen.declOneTerminalPlain = false`: the generated flag is `true` (the package from f6acf70 on calls the direction method of a
node or ground without a length), and `declarative_fold`, `declStep_ok`, `declStep_of_spec` remove that branch by rewriting
with this value.  What is stated through `EntrySpec` (`C15_declarative_list`) is therefore a statement about that package;
on tables regenerated from an earlier one these three proofs fail, and the characterisation would be false for such entries. -/
def EntrySpec (π : Rat) (unit : Rat) (names : List String) (e : List (String × Val)) (p : Placement) (n : String) : Prop :=
  ∃ t h o a, e.lookup "type" = some (.str t) ∧ Gen.declHandlers.find? (·.typ = t) = some h ∧
    construct π (handlerClass h e) (withDefaults e) = .ok o ∧ entryAfter names e = .ok a ∧
    p = { cls := handlerClass h e, kwargs := withDefaults e, method := entryMethod e, length := entryLen e * unit,
          plain := oneTerminal (handlerClass h e), after := a } ∧ n = o.name

theorem declStep_ok {π unit : Rat} {names : List String} {e : List (String × Val)} {r : Placement × String}
    (h : declStep π unit names e = .ok r) : EntrySpec π unit names e r.1 r.2 := by
  unfold declStep at h
  cases h1 : e.lookup "type" with
  | none => simp [h1, throw, throwThe, MonadExceptOf.throw, bind, Except.bind] at h
  | some v =>
    cases v with
    | str t =>
      simp only [h1, pure_bind] at h
      cases h2 : Gen.declHandlers.find? (·.typ = t) with
      | none => simp [h2, throw, throwThe, MonadExceptOf.throw, bind, Except.bind] at h
      | some hd =>
        simp only [h2] at h
        cases h3 : construct π (handlerClass hd e) (withDefaults e) with
        | error err => cases err <;> simp [h3, throw, throwThe, MonadExceptOf.throw, bind, Except.bind] at h
        | ok o =>
          simp only [h3, show Gen.declOneTerminalPlain = true from rfl, Bool.true_eq_false, and_false, if_false] at h
          cases h4 : entryAfter names e with
          | error err => simp [h4, bind, Except.bind] at h
          | ok a =>
            simp only [h4, pure, Except.pure, bind, Except.bind, Except.ok.injEq] at h
            subst h
            exact ⟨t, hd, o, a, h1, h2, h3, h4, rfl, rfl⟩
    | _ => simp [h1, throw, throwThe, MonadExceptOf.throw, bind, Except.bind] at h

theorem declStep_of_spec {π unit : Rat} {names : List String} {e : List (String × Val)} {p : Placement} {n : String}
    (h : EntrySpec π unit names e p n) : declStep π unit names e = .ok (p, n) := by
  obtain ⟨t, hd, o, a, h1, h2, h3, h4, hp, hn⟩ := h
  subst hp; subst hn
  unfold declStep
  simp only [h1, h2, h3, h4, pure_bind, show Gen.declOneTerminalPlain = true from rfl, Bool.true_eq_false, and_false, if_false]
  rfl

/-- unknown `type` ⇒ `UnknownCircuitElement`, whatever was built before -/
theorem declStep_unknown {π unit : Rat} {names : List String} {e : List (String × Val)} {t : String}
    (h1 : e.lookup "type" = some (.str t)) (h2 : Gen.declHandlers.find? (·.typ = t) = none) :
    declStep π unit names e = .error Err.unknownKind := by
  unfold declStep
  simp only [h1, h2, pure_bind]
  rfl

theorem declStep_untyped {π unit : Rat} {names : List String} {e : List (String × Val)}
    (h1 : e.lookup "type" = none) : declStep π unit names e = .error (Err.other "MissingArgument") := by
  unfold declStep
  simp only [h1]
  rfl

/-- entries and placements correspond one to one, in order; the names of the symbols built so far are threaded through -/
inductive DeclRel (π : Rat) (unit : Rat) : List String → List (List (String × Val)) → List Placement → List String → Prop
  | nil (names : List String) : DeclRel π unit names [] [] names
  | cons {names out : List String} {e : List (String × Val)} {es : List (List (String × Val))} {p : Placement} {ps : List Placement}
      (n : String) : EntrySpec π unit names e p n → DeclRel π unit (names ++ [n]) es ps out → DeclRel π unit names (e :: es) (p :: ps) out

theorem declFrom_ok (π unit : Rat) : ∀ (elems : List (List (String × Val))) (names : List String) (ps : List Placement),
    declFrom π unit names elems = .ok ps → ∃ out, DeclRel π unit names elems ps out := by
  intro elems
  induction elems with
  | nil =>
    intro names ps h
    simp only [declFrom, pure, Except.pure, Except.ok.injEq] at h
    subst h; exact ⟨names, DeclRel.nil names⟩
  | cons e es ih =>
    intro names ps h
    unfold declFrom at h
    obtain ⟨r, hs, h⟩ := bind_eq_ok.1 h
    obtain ⟨qs, hq, h⟩ := bind_eq_ok.1 h
    cases h
    obtain ⟨out, hr⟩ := ih _ _ hq
    exact ⟨out, DeclRel.cons r.2 (declStep_ok hs) hr⟩

theorem declFrom_of_rel {π unit : Rat} {names out : List String} {elems : List (List (String × Val))} {ps : List Placement}
    (h : DeclRel π unit names elems ps out) : declFrom π unit names elems = .ok ps := by
  induction h with
  | nil names => rfl
  | cons n hs _ ih =>
    unfold declFrom
    simp only [declStep_of_spec hs, ih, bind, Except.bind, pure, Except.pure]

theorem DeclRel.length {π unit : Rat} {names out : List String} {elems : List (List (String × Val))} {ps : List Placement}
    (h : DeclRel π unit names elems ps out) : ps.length = elems.length := by
  induction h with
  | nil names => rfl
  | cons n hs _ ih => simp [ih]

theorem declFrom_append {π unit : Rat} {names out : List String} {pre : List (List (String × Val))} {ps : List Placement}
    (h : DeclRel π unit names pre ps out) (rest : List (List (String × Val))) :
    declFrom π unit names (pre ++ rest) = (declFrom π unit out rest >>= fun qs => pure (ps ++ qs)) := by
  induction h with
  | nil names =>
    simp only [List.nil_append]
    cases hq : declFrom π unit names rest with
    | error x => rfl
    | ok qs => simp [bind, Except.bind, pure, Except.pure]
  | @cons names out e es p ps n hs _ ih =>
    simp only [List.cons_append, declFrom, declStep_of_spec hs]
    simp only [bind, Except.bind, pure, Except.pure] at ih ⊢
    rw [ih]
    cases hq : declFrom π unit out rest with
    | error x => rfl
    | ok qs => simp

theorem declFrame_of_mem : ∀ cls ∈ declFrameClasses, ∃ c ∈ classInfo cls,
    (∀ k ∈ placeKeys, k ∉ usedKeys c) ∧ ∀ d ∈ Gen.declFactoryDefaults, d.1 ∈ usedKeys c := by decide +kernel

theorem handler_classes_frame : ∀ h ∈ Gen.declHandlers, ∀ cls ∈ h.cls :: h.clsIfName.toList, cls ∈ declFrameClasses := by
  decide

/-- **the placement keys around the constructor keywords**: for every class of `declFrameClasses` and
*any* keyword list, the four keys `element_factory` hands on with the rest do not reach the symbol -/
theorem declSame_of_mem (π : Rat) {cls : String} (h : cls ∈ declFrameClasses) (vals : List (String × Val))
    (tv dv lv pv : Val) : DeclSame π cls vals tv dv lv pv := by
  obtain ⟨c, hc, hk, _⟩ := declFrame_of_mem _ h
  apply construct_congr π cls c hc
  intro k hku
  have hne : ∀ k' ∈ placeKeys, (k == k') = false := fun k' hk' => by
    simpa using fun heq : k = k' => hk k' hk' (heq ▸ hku)
  simp only [List.lookup_cons, List.lookup_append, List.lookup_nil, hne "type" (by simp [placeKeys]),
    hne "direction" (by simp [placeKeys]), hne "length" (by simp [placeKeys]), hne "place_after" (by simp [placeKeys]),
    Option.or_none]

theorem withDefaults_agree (S : List String) (ds : List (String × Val)) (hds : ∀ d ∈ ds, d.1 ∈ S) :
    ∀ a b, AgreeOn S a b →
      AgreeOn S (ds.foldl (fun kw d => if (kw.lookup d.1).isSome then kw else kw ++ [d]) a)
                (ds.foldl (fun kw d => if (kw.lookup d.1).isSome then kw else kw ++ [d]) b) := by
  induction ds with
  | nil => intro a b h; exact h
  | cons d ds ih =>
    intro a b h
    simp only [List.foldl_cons]
    apply ih (fun d' hd' => hds d' (List.mem_cons_of_mem _ hd'))
    rw [h d.1 (hds d List.mem_cons_self)]
    split
    · exact h
    · intro k hk
      rw [List.lookup_append, List.lookup_append, h k hk]

theorem ctorKw_agree (S : List String) (hS : ∀ k ∈ placeKeys, k ∉ S) (hd : ∀ d ∈ Gen.declFactoryDefaults, d.1 ∈ S)
    (e : List (String × Val)) : AgreeOn S (withDefaults e) (ctorKw e) := by
  unfold ctorKw withDefaults
  apply withDefaults_agree S _ hd
  intro k hk
  rw [lookup_filter_key (fun k => !placeKeys.contains k)]
  have : placeKeys.contains k = false := by
    cases hc : placeKeys.contains k with
    | false => rfl
    | true => exact absurd (List.contains_iff_mem.mp hc) (fun hm => hS k hm hk)
  simp only [this, Bool.not_false, if_true]

theorem handlerClass_mem (h : DeclHandler) (e : List (String × Val)) : handlerClass h e ∈ h.cls :: h.clsIfName.toList := by
  unfold handlerClass
  cases h.clsIfName with
  | none => simp
  | some c => by_cases hn : (e.lookup "name").isSome = true <;> simp [hn]

/-- **frame**: for every handler and every description, the constructor call of the declarative
path (whole description + defaults) builds the symbol of the programmatic call (constructor
keywords only) — any keys, any order, any values -/
theorem declarative_frame (π : Rat) (h : DeclHandler) (hh : h ∈ Gen.declHandlers) (e : List (String × Val)) :
    construct π (handlerClass h e) (withDefaults e) = construct π (handlerClass h e) (ctorKw e) := by
  obtain ⟨c, hc, hk, hd⟩ := declFrame_of_mem _ (handler_classes_frame h hh _ (handlerClass_mem h e))
  exact construct_congr π _ c hc _ _ (ctorKw_agree _ hk hd e)

end CC.Draw
