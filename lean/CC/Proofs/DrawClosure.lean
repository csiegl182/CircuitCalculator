/-
  CC.Proofs.DrawClosure — the wire closure of the drawing parser
  (`_get_equal_electrical_potential_nodes`, model `CC.Draw.eqp`) computes exactly the class of
  a point under "joined by a chain of wires" (`CC.Draw.Joined`): termination within the
  fuel, soundness, completeness.  Core Lean only.
-/
import CC.Model.Draw
import CC.Spec.Draw
set_option linter.unusedSectionVars false
namespace CC.Draw
variable {P : Type} [DecidableEq P]

theorem Joined.trans {ws : List (P × P)} {p q r : P} (h₁ : Joined ws p q) (h₂ : Joined ws q r) :
    Joined ws p r := by
  induction h₂ with
  | refl => exact h₁
  | wire _ hw ih => exact Joined.wire ih hw

theorem Joined.single {ws : List (P × P)} {a b : P} (h : (a, b) ∈ ws ∨ (b, a) ∈ ws) : Joined ws a b :=
  Joined.wire (Joined.refl a) h

theorem Joined.symm {ws : List (P × P)} {p q : P} (h : Joined ws p q) : Joined ws q p := by
  induction h with
  | refl => exact Joined.refl _
  | wire _ hw ih => exact Joined.trans (Joined.single hw.symm) ih

theorem Joined.lift {Q : Type} [DecidableEq Q] {ws : List (P × P)} {ws' : List (Q × Q)} (φ : P → Q)
    (key : ∀ w ∈ ws, Joined ws' (φ w.1) (φ w.2)) {p q : P} (h : Joined ws p q) : Joined ws' (φ p) (φ q) := by
  induction h with
  | refl => exact Joined.refl _
  | wire _ hw ih =>
    rcases hw with hw | hw
    · exact ih.trans (key _ hw)
    · exact ih.trans (key _ hw).symm

theorem Joined.mono {ws ws' : List (P × P)} (hsub : ∀ w, w ∈ ws → w ∈ ws') {p q : P}
    (h : Joined ws p q) : Joined ws' p q :=
  h.lift id fun w hw => Joined.single (Or.inl (hsub w hw))

theorem mem_sadd {a x : P} {l : List P} : x ∈ sadd a l ↔ x = a ∨ x ∈ l := by
  unfold sadd
  split
  · constructor
    · exact Or.inr
    · rintro (rfl | h)
      · assumption
      · exact h
  · simp

theorem sadd_of_mem {a : P} {l : List P} (h : a ∈ l) : sadd a l = l := by
  simp [sadd, h]

theorem sadd_of_not_mem {a : P} {l : List P} (h : a ∉ l) : sadd a l = a :: l := by
  simp [sadd, h]

theorem nodup_sadd {a : P} {l : List P} (h : l.Nodup) : (sadd a l).Nodup := by
  unfold sadd
  split
  · exact h
  · exact List.nodup_cons.mpr ⟨by assumption, h⟩

/-- the body of `for line in self.line_elements` -/
def stp (S : List P) (w : P × P) : List P :=
  if w.1 ∈ S then sadd w.2 S else if w.2 ∈ S then sadd w.1 S else S

theorem sweep_eq_foldl (ws : List (P × P)) (S : List P) : sweep ws S = ws.foldl stp S := rfl

theorem sweep_nil (S : List P) : sweep ([] : List (P × P)) S = S := rfl

theorem sweep_cons (w : P × P) (ws : List (P × P)) (S : List P) :
    sweep (w :: ws) S = sweep ws (stp S w) := rfl

theorem stp_cases (S : List P) (w : P × P) :
    (stp S w = S ∧ (w.1 ∈ S ↔ w.2 ∈ S)) ∨
      ∃ x y, (w = (x, y) ∨ w = (y, x)) ∧ x ∈ S ∧ y ∉ S ∧ stp S w = y :: S := by
  unfold stp
  by_cases h1 : w.1 ∈ S <;> by_cases h2 : w.2 ∈ S
  · exact Or.inl ⟨by rw [if_pos h1, sadd_of_mem h2], iff_of_true h1 h2⟩
  · exact Or.inr ⟨w.1, w.2, Or.inl rfl, h1, h2, by rw [if_pos h1, sadd_of_not_mem h2]⟩
  · exact Or.inr ⟨w.2, w.1, Or.inr rfl, h2, h1, by rw [if_neg h1, if_pos h2, sadd_of_not_mem h1]⟩
  · exact Or.inl ⟨by rw [if_neg h1, if_neg h2], iff_of_false h1 h2⟩

theorem subset_stp {S : List P} {w : P × P} {x : P} (h : x ∈ S) : x ∈ stp S w := by
  rcases stp_cases S w with ⟨e, _⟩ | ⟨_, _, _, _, _, e⟩ <;> rw [e]
  · exact h
  · exact List.mem_cons_of_mem _ h

theorem length_stp_ge (S : List P) (w : P × P) : S.length ≤ (stp S w).length := by
  rcases stp_cases S w with ⟨e, _⟩ | ⟨_, _, _, _, _, e⟩ <;> rw [e]
  · exact Nat.le_refl _
  · exact Nat.le_succ _

theorem nodup_stp {S : List P} {w : P × P} (h : S.Nodup) : (stp S w).Nodup := by
  rcases stp_cases S w with ⟨e, _⟩ | ⟨_, _, _, _, hy, e⟩ <;> rw [e]
  · exact h
  · exact List.nodup_cons.mpr ⟨hy, h⟩

theorem stp_fix {S : List P} {w : P × P} (h : (stp S w).length = S.length) :
    stp S w = S ∧ (w.1 ∈ S ↔ w.2 ∈ S) := by
  rcases stp_cases S w with h' | ⟨_, _, _, _, _, e⟩
  · exact h'
  · rw [e] at h; simp at h

theorem sweep_induction {ws : List (P × P)} {C : List P → Prop} (step : ∀ S, ∀ w ∈ ws, C S → C (stp S w))
    {S : List P} (h : C S) : C (sweep ws S) := by
  induction ws generalizing S with
  | nil => exact h
  | cons w ws ih =>
    exact ih (fun S w' hw' => step S w' (List.mem_cons_of_mem _ hw')) (step S w List.mem_cons_self h)

theorem closureFuel_induction {ws : List (P × P)} {C : List P → Prop} (step : ∀ S, ∀ w ∈ ws, C S → C (stp S w))
    (n : Nat) {S : List P} (h : C S) : C (closureFuel n ws S) := by
  induction n generalizing S with
  | zero => exact h
  | succ n ih =>
    have h' := sweep_induction step h
    unfold closureFuel
    dsimp only
    split
    · exact ih h'
    · exact h'

theorem length_sweep_ge (ws : List (P × P)) (S : List P) : S.length ≤ (sweep ws S).length :=
  sweep_induction (C := fun S' => S.length ≤ S'.length) (fun S' w _ h => Nat.le_trans h (length_stp_ge S' w))
    (Nat.le_refl _)

theorem nodup_sweep (ws : List (P × P)) {S : List P} (h : S.Nodup) : (sweep ws S).Nodup :=
  sweep_induction (fun _ _ _ => nodup_stp) h

def Closed (ws : List (P × P)) (S : List P) : Prop := ∀ w ∈ ws, (w.1 ∈ S ↔ w.2 ∈ S)

theorem sweep_fix (ws : List (P × P)) {S : List P} (h : (sweep ws S).length = S.length) :
    sweep ws S = S ∧ Closed ws S := by
  induction ws generalizing S with
  | nil => exact ⟨rfl, fun w hw => by cases hw⟩
  | cons w ws ih =>
    rw [sweep_cons] at h ⊢
    have h1 : (stp S w).length = S.length :=
      Nat.le_antisymm (h ▸ length_sweep_ge ws (stp S w)) (length_stp_ge S w)
    obtain ⟨hs, hw⟩ := stp_fix h1
    rw [hs] at h ⊢
    obtain ⟨hs', hc⟩ := ih h
    refine ⟨hs', ?_⟩
    intro w' hw'
    rcases List.mem_cons.mp hw' with rfl | hw'
    · exact hw
    · exact hc w' hw'

theorem stp_of_iff {S : List P} {w : P × P} (h : w.1 ∈ S ↔ w.2 ∈ S) : stp S w = S := by
  unfold stp
  by_cases h1 : w.1 ∈ S
  · rw [if_pos h1, sadd_of_mem (h.mp h1)]
  · rw [if_neg h1, if_neg fun h2 => h1 (h.mpr h2)]

theorem sweep_of_closed {l : List (P × P)} {S : List P} (h : Closed l S) : sweep l S = S :=
  sweep_induction (C := (· = S)) (fun _ w hw e => by rw [e]; exact stp_of_iff (h w hw)) rfl

theorem sweep_subset_pts (ws : List (P × P)) {S : List P} {x : P} (h : x ∈ sweep ws S) :
    x ∈ S ∨ ∃ w ∈ ws, x = w.1 ∨ x = w.2 := by
  refine sweep_induction (ws := ws) (C := fun S' => ∀ x ∈ S', x ∈ S ∨ ∃ w ∈ ws, x = w.1 ∨ x = w.2)
    (fun S' w hw hS' => ?_) (fun _ => Or.inl) x h
  rcases stp_cases S' w with ⟨e, _⟩ | ⟨a, y, hxy, _, _, e⟩ <;> rw [e]
  · exact hS'
  · refine List.forall_mem_cons.mpr ⟨Or.inr ⟨w, hw, ?_⟩, hS'⟩
    rcases hxy with rfl | rfl
    · exact Or.inr rfl
    · exact Or.inl rfl

theorem stp_sound {ws : List (P × P)} {p : P} {S : List P} {w : P × P} (hw : w ∈ ws)
    (hS : ∀ x ∈ S, Joined ws p x) : ∀ x ∈ stp S w, Joined ws p x := by
  rcases stp_cases S w with ⟨e, _⟩ | ⟨x, y, hxy, hx, _, e⟩ <;> rw [e]
  · exact hS
  · have : Joined ws p y := Joined.wire (hS x hx) (by rcases hxy with rfl | rfl <;> simp [hw])
    exact List.forall_mem_cons.mpr ⟨this, hS⟩

theorem closureFuel_sound {ws : List (P × P)} {p : P} (n : Nat) {S : List P}
    (hS : ∀ x ∈ S, Joined ws p x) : ∀ x ∈ closureFuel n ws S, Joined ws p x :=
  closureFuel_induction (C := fun S => ∀ x ∈ S, Joined ws p x) (fun _ _ hw => stp_sound hw) n hS

def wirePts (ws : List (P × P)) : List P := ws.flatMap fun w => [w.1, w.2]

theorem length_wirePts (ws : List (P × P)) : (wirePts ws).length = 2 * ws.length := by
  induction ws with
  | nil => rfl
  | cons w ws ih => simp [wirePts, List.flatMap_cons] at ih ⊢; omega

theorem mem_wirePts {ws : List (P × P)} {x : P} : x ∈ wirePts ws ↔ ∃ w ∈ ws, x = w.1 ∨ x = w.2 := by
  simp [wirePts, List.mem_flatMap]

theorem length_le_bound {ws : List (P × P)} {p : P} {S : List P} (hn : S.Nodup)
    (hsub : ∀ x ∈ S, x = p ∨ x ∈ wirePts ws) : S.length ≤ closureBound ws := by
  have : S ⊆ p :: wirePts ws := by
    intro x hx
    rcases hsub x hx with rfl | h
    · exact List.mem_cons_self
    · exact List.mem_cons_of_mem _ h
  have h := List.Nodup.length_le_of_subset hn this
  simp [length_wirePts] at h
  unfold closureBound; omega

/-- the fuel cannot run out: `S` stays duplicate-free inside `p :: wirePts ws`, so it never outgrows
`closureBound ws` (`length_le_bound`), while every sweep but the last trades one unit of fuel for a new point -/
theorem closureFuel_closed {ws : List (P × P)} {p : P} (n : Nat) {S : List P} (hn : S.Nodup)
    (hsub : ∀ x ∈ S, x = p ∨ x ∈ wirePts ws) (hfuel : closureBound ws < S.length + n) :
    Closed ws (closureFuel n ws S) := by
  induction n generalizing S with
  | zero =>
    have := length_le_bound hn hsub
    omega
  | succ n ih =>
    have hn' := nodup_sweep ws hn
    have hsub' : ∀ x ∈ sweep ws S, x = p ∨ x ∈ wirePts ws := by
      intro x hx
      rcases sweep_subset_pts ws hx with h | h
      · exact hsub x h
      · exact Or.inr (mem_wirePts.mpr h)
    unfold closureFuel
    simp only
    split
    · rename_i hlt
      exact ih hn' hsub' (by omega)
    · rename_i hnlt
      have heq : (sweep ws S).length = S.length :=
        Nat.le_antisymm (Nat.not_lt.mp hnlt) (length_sweep_ge ws S)
      obtain ⟨hs, hc⟩ := sweep_fix ws heq
      rw [hs]; exact hc

theorem subset_closureFuel (n : Nat) (ws : List (P × P)) {S : List P} {x : P} (h : x ∈ S) :
    x ∈ closureFuel n ws S :=
  closureFuel_induction (C := fun S => x ∈ S) (fun _ _ _ => subset_stp) n h

theorem closed_complete {ws : List (P × P)} {S : List P} (hc : Closed ws S) {p q : P} (hp : p ∈ S)
    (h : Joined ws p q) : q ∈ S := by
  induction h with
  | refl => exact hp
  | wire _ hw ih =>
    rcases hw with hw | hw
    · exact (hc _ hw).mp ih
    · exact (hc _ hw).mpr ih

/-- the loop of `_get_equal_electrical_potential_nodes` ends because a sweep found nothing new
(never because the fuel ran out): the result is closed under the wires -/
theorem eqp_closed (ws : List (P × P)) (p : P) : Closed ws (eqp ws p) := by
  unfold eqp
  refine closureFuel_closed (p := p) _ (by simp) ?_ ?_
  · intro x hx; exact Or.inl (List.mem_singleton.mp hx)
  · simp [closureBound]

/-- **closure theorem**: `q ∈ _get_equal_electrical_potential_nodes(p)` iff `q` coincides with
`p` or is joined to it by a chain of wires -/
theorem mem_eqp_iff (ws : List (P × P)) (p q : P) : q ∈ eqp ws p ↔ Joined ws p q := by
  constructor
  · intro h
    exact closureFuel_sound (p := p) _ (fun x hx => by
      rw [List.mem_singleton.mp hx]; exact Joined.refl p) q h
  · intro h
    exact closed_complete (eqp_closed ws p) (subset_closureFuel _ _ (List.mem_singleton_self p)) h

theorem closureFuel_stable {ws : List (P × P)} (n : Nat) {S : List P}
    (h : (sweep ws S).length = S.length) : closureFuel (n + 1) ws S = S := by
  unfold closureFuel
  simp only
  have := (sweep_fix ws h).1
  rw [this]; simp

theorem nodup_closureFuel (n : Nat) (ws : List (P × P)) {S : List P} (h : S.Nodup) :
    (closureFuel n ws S).Nodup :=
  closureFuel_induction (fun _ _ _ => nodup_stp) n h

theorem nodup_eqp (ws : List (P × P)) (p : P) : (eqp ws p).Nodup :=
  nodup_closureFuel _ _ (by simp)

end CC.Draw
