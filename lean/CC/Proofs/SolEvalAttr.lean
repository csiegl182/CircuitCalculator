/-
  CC.Proofs.SolEvalAttr — the simp set `sol_eval`: the equations of the reading of CC/Model/SolutionEval.lean part (A)
  (`evalP` and the operations it calls), for running a generated method tree statement by statement
  (CC/Proofs/SolEval.lean fills it; CC/Properties/C09SolGen.lean uses it and adds `lookup_objAttrs`, the attributes of
  the object its methods run on).
-/
import Lean.Meta.Tactic.Simp.RegisterCommand
register_simp_attr sol_eval
