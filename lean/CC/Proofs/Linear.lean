/-
  CC.Proofs.Linear — the circuit equations are linear in the independent sources.
  Stated over a fixed *skeleton* (topology, identifiers, immittances) with the source value
  of every branch given by a function of its identifier; in physical-current form the
  element laws are affine, uniformly for passive elements and linear sources.  The difference of two
  solutions solves the source-free circuit (`Report.diff`, `combines_diff`), from which `C01_unique` follows.
-/
import CC.Proofs.SpecLemmas
import CC.Proofs.NetBasics
set_option linter.unusedSectionVars false

namespace CC
variable {L K : Type} [DecidableEq L] [Field K] [DecidableEq K]

/-- potentials, voltages and *physical* first→second currents -/
structure PhysReport (L K : Type) where
  pot : L → K
  v : String → K
  J : String → K

/-- element law in terms of the physical current: affine, the same formula whether or not
the source value vanishes -/
def Elem.physLaw (e : Elem K) (v J : K) : K :=
  match e with
  | .norton Z V => if Z = 0 then v - V else v + V - Z * J
  | .thevenin Y I => if Y = 0 then J - I else J - Y * v - I

structure PhysEqs (bs : List (Branch L K)) (zero : L) (P : PhysReport L K) : Prop where
  ref_zero : P.pot zero = 0
  volt : ∀ b ∈ bs, P.v b.id = P.pot b.n1 - P.pot b.n2
  law : ∀ b ∈ bs, b.e.physLaw (P.v b.id) (P.J b.id) = 0
  kcl : ∀ n, (bs.map fun b => incidence b n * P.J b.id).sum = 0

theorem physLaw_zero_iff (e : Elem K) (v i : K) :
    e.physLaw v (e.physCurrent i) = 0 ↔ e.lawResidual v i = 0 := by
  unfold Elem.physLaw Elem.lawResidual Elem.physCurrent Elem.isLossy Elem.kind
  cases e with
  | norton Z V =>
    by_cases hZ : Z = 0
    · simp only [hZ, if_true]
    · by_cases hV : V = 0
      · simp only [hZ, hV, if_false, if_true, add_zero, Bool.false_eq_true]
      · simp only [hZ, hV, if_false, if_true, mul_neg, sub_neg_eq_add]
  | thevenin Y I =>
    by_cases hY : Y = 0
    · simp only [hY, if_true, Bool.false_eq_true, if_false]
    · by_cases hI : I = 0
      · simp only [hY, hI, if_false, if_true, sub_zero, Bool.false_eq_true]
      · simp only [hY, hI, if_false, if_true]
        rw [show -i - Y * v - I = -(i + I + Y * v) by ring, neg_eq_zero]

theorem Branch.Combines.of_lin {a c : K} {R1 R2 R : Report L K} {b1 b2 b : Branch L K}
    (hn1 : b1.n1 = b.n1 ∧ b2.n1 = b.n1) (hn2 : b1.n2 = b.n2 ∧ b2.n2 = b.n2)
    (hpot : ∀ n, R.pot n = a * R1.pot n + c * R2.pot n)
    (hv : R.v b.id = a * R1.v b1.id + c * R2.v b2.id)
    (hJ : b.e.physCurrent (R.i b.id) = a * b1.e.physCurrent (R1.i b1.id) + c * b2.e.physCurrent (R2.i b2.id))
    (hl : ∀ v1 v2 J1 J2, b.e.physLaw (a * v1 + c * v2) (a * J1 + c * J2)
      = a * b1.e.physLaw v1 J1 + c * b2.e.physLaw v2 J2) :
    Branch.Combines a c R1 R2 R b1 b2 b := by
  refine ⟨fun e1 e2 => ?_, fun e1 e2 => ?_, fun n => ?_⟩
  · unfold voltResidual at *
    rw [hn1.1, hn2.1] at e1; rw [hn1.2, hn2.2] at e2
    rw [hv, hpot, hpot]; linear_combination a * e1 + c * e2
  · rw [← physLaw_zero_iff, hv, hJ, hl, (physLaw_zero_iff _ _ _).mpr e1, (physLaw_zero_iff _ _ _).mpr e2]; ring
  · simp only [incidence, hJ, hn1.1, hn1.2, hn2.1, hn2.2]; ring

theorem physCurrent_invol (e : Elem K) (i : K) : e.physCurrent (e.physCurrent i) = i := by
  unfold Elem.physCurrent; by_cases h : e.isLossy = true <;> simp [h]

theorem physCurrent_inj (e : Elem K) {i j : K} (h : e.physCurrent i = e.physCurrent j) : i = j := by
  rw [← physCurrent_invol e i, h, physCurrent_invol]

theorem physCurrent_notLossy {e : Elem K} (h : e.isLossy = false) (i : K) : e.physCurrent i = i := by
  simp only [Elem.physCurrent, h, Bool.false_eq_true, ↓reduceIte]

theorem physCurrent_lossy {e : Elem K} (h : e.isLossy = true) (i : K) : e.physCurrent i = -i := by
  simp only [Elem.physCurrent, h, ↓reduceIte]

theorem physCurrent_zero (e : Elem K) : e.physCurrent 0 = 0 := by
  rw [Elem.physCurrent, neg_zero, ite_self]

theorem Elem.not_lossy_of_idealVS {e : Elem K} (h : e.isIdealVS = true) : e.isLossy = false := by
  cases e with
  | norton Z V =>
    have hZ : Z = 0 := of_decide_eq_true h
    simp only [Elem.isLossy, Elem.kind, hZ, if_true]
  | thevenin Y I => exact absurd h Bool.false_ne_true

theorem idealVS_notLossy (V : K) : (Elem.norton (0 : K) V).isLossy = false :=
  Elem.not_lossy_of_idealVS (decide_eq_true rfl)

theorem idealCS_notLossy (I : K) : (Elem.thevenin (0 : K) I).isLossy = false := by
  simp only [Elem.isLossy, Elem.kind, ↓reduceIte]

theorem Elem.physLaw_of_idealVS {e : Elem K} (h : e.isIdealVS = true) (v J : K) :
    e.physLaw v J = v - e.Vval := by
  cases e with
  | norton Z V =>
    have hZ : Z = 0 := of_decide_eq_true h
    simp only [Elem.physLaw, Elem.Vval, hZ, if_true]
  | thevenin Y I => exact absurd h Bool.false_ne_true

/-- the law of every other element, solved for the physical current: the stamp `J = Y·v + I_N` the
matrix equation uses -/
theorem Elem.physLaw_of_not_idealVS {e : Elem K} (h : e.isIdealVS = false) (v J : K) :
    e.physLaw v J = 0 ↔ J = e.Yfin * v + e.Ival := by
  cases e with
  | norton Z V =>
    have hZ : Z ≠ 0 := of_decide_eq_false h
    simp only [Elem.physLaw, Elem.Yfin, Elem.Ival, hZ, if_false]
    rw [sub_eq_zero, div_eq_mul_one_div V Z, mul_comm V, ← mul_add]
    constructor
    · intro hl; rw [hl, ← mul_assoc, one_div_mul_cancel hZ, one_mul]
    · intro hJ; rw [hJ, ← mul_assoc, mul_one_div_cancel hZ, one_mul]
  | thevenin Y I =>
    by_cases hY : Y = 0
    · simp only [Elem.physLaw, Elem.Yfin, Elem.Ival, hY, if_true, zero_mul, zero_add, sub_eq_zero]
    · simp only [Elem.physLaw, Elem.Yfin, Elem.Ival, hY, if_false]
      constructor <;> intro hl <;> linear_combination hl

theorem Elem.physLaw_zeroSources_sub (e : Elem K) (v1 v2 J1 J2 : K) :
    e.zeroSources.physLaw (v1 - v2) (J1 - J2) = e.physLaw v1 J1 - e.physLaw v2 J2 := by
  cases e with
  | norton Z V =>
    by_cases hZ : Z = 0 <;> simp only [Elem.zeroSources, Elem.physLaw, hZ, if_true, if_false] <;> ring
  | thevenin Y I =>
    by_cases hY : Y = 0 <;> simp only [Elem.zeroSources, Elem.physLaw, hY, if_true, if_false] <;> ring

def Elem.setSrc : Elem K → K → Elem K
  | .norton Z _, s => .norton Z s
  | .thevenin Y _, s => .thevenin Y s

def withSrc (bs : List (Branch L K)) (src : String → K) : List (Branch L K) :=
  bs.map fun b => { b with e := b.e.setSrc (src b.id) }

theorem zeroSources_eq_setSrc (e : Elem K) : e.zeroSources = e.setSrc 0 := by cases e <;> rfl

theorem zeroSources_idem (e : Elem K) : e.zeroSources.zeroSources = e.zeroSources := by cases e <;> rfl

theorem circuitEqsAll_zero (bs : List (Branch L K)) (z : L) :
    CircuitEqsAll (bs.map fun b => { b with e := b.e.zeroSources }) z (Report.zeroRep : Report L K) := by
  refine ⟨rfl, fun b _ => ?_, List.forall_mem_map.mpr fun b _ => ?_, fun n => sum_map_eq_zero _ _ fun b _ => ?_⟩
  · simp [voltResidual, Report.zeroRep]
  · cases b.e with
    | norton Z V => by_cases hZ : Z = 0 <;> simp [Elem.zeroSources, Elem.lawResidual, Report.zeroRep, hZ]
    | thevenin Y I => by_cases hY : Y = 0 <;> simp [Elem.zeroSources, Elem.lawResidual, Report.zeroRep, hY]
  · simp [physCurrent_zero, Report.zeroRep]

theorem isLossy_setSrc (e : Elem K) (s : K) :
    (e.setSrc s).isLossy = (!e.isIdealVS && !e.isIdealCS && decide (s ≠ 0)) := by
  cases e with
  | norton Z V =>
    by_cases hZ : Z = 0 <;> by_cases hs : s = 0 <;>
      simp [Elem.setSrc, Elem.isLossy, Elem.kind, Elem.isIdealVS, Elem.isIdealCS, hZ, hs]
  | thevenin Y I =>
    by_cases hY : Y = 0 <;> by_cases hs : s = 0 <;>
      simp [Elem.setSrc, Elem.isLossy, Elem.kind, Elem.isIdealVS, Elem.isIdealCS, hY, hs]

theorem physLaw_setSrc_lin (e : Elem K) (a c s1 s2 v1 v2 J1 J2 : K) :
    (e.setSrc (a * s1 + c * s2)).physLaw (a * v1 + c * v2) (a * J1 + c * J2)
      = a * (e.setSrc s1).physLaw v1 J1 + c * (e.setSrc s2).physLaw v2 J2 := by
  cases e with
  | norton Z V =>
    by_cases hZ : Z = 0 <;> simp only [Elem.setSrc, Elem.physLaw, hZ, if_true, if_false] <;> ring
  | thevenin Y I =>
    by_cases hY : Y = 0 <;> simp only [Elem.setSrc, Elem.physLaw, hY, if_true, if_false] <;> ring

theorem mem_withSrc {bs : List (Branch L K)} (s : String → K) {b : Branch L K} (hb : b ∈ bs) :
    ({ b with e := b.e.setSrc (s b.id) } : Branch L K) ∈ withSrc bs s :=
  List.mem_map.mpr ⟨b, hb, rfl⟩

theorem kcl_withSrc (bs : List (Branch L K)) (s : String → K) (J : String → K) (n : L) :
    ((withSrc bs s).map fun b => incidence b n * J b.id).sum = (bs.map fun b => incidence b n * J b.id).sum := by
  rw [withSrc, List.map_map]; rfl

def PhysReport.lin (a c : K) (P1 P2 : PhysReport L K) : PhysReport L K where
  pot := fun n => a * P1.pot n + c * P2.pot n
  v := fun id => a * P1.v id + c * P2.v id
  J := fun id => a * P1.J id + c * P2.J id

/-- **Linearity** in the vocabulary of physical currents (`PhysReport`, `PhysEqs`): if `P1`, `P2` solve the skeleton `bs`
with source values `s1`, `s2`, then `a·P1 + c·P2` solves it with `a·s1 + c·s2`.  The same at the level of reports, through
`Branch.Combines.of_lin`, is `C04_linear` (CC/Properties/C04.lean), which is what the other C04 theorems use. -/
theorem physEqs_lin (bs : List (Branch L K)) (z : L) (a c : K) (s1 s2 : String → K)
    (P1 P2 : PhysReport L K) (h1 : PhysEqs (withSrc bs s1) z P1) (h2 : PhysEqs (withSrc bs s2) z P2) :
    PhysEqs (withSrc bs fun id => a * s1 id + c * s2 id) z (PhysReport.lin a c P1 P2) := by
  refine ⟨?_, ?_, ?_, ?_⟩
  · simp [PhysReport.lin, h1.ref_zero, h2.ref_zero]
  · intro b' hb'
    obtain ⟨b, hb, rfl⟩ := List.mem_map.mp hb'
    have e1 := h1.volt _ (mem_withSrc s1 hb); have e2 := h2.volt _ (mem_withSrc s2 hb)
    simp only at e1 e2
    simp only [PhysReport.lin]
    rw [e1, e2]; ring
  · intro b' hb'
    obtain ⟨b, hb, rfl⟩ := List.mem_map.mp hb'
    have e1 := h1.law _ (mem_withSrc s1 hb); have e2 := h2.law _ (mem_withSrc s2 hb)
    simp only at e1 e2
    simp only [PhysReport.lin]
    rw [physLaw_setSrc_lin, e1, e2]; ring
  · intro n
    have f1 := h1.kcl n; have f2 := h2.kcl n
    rw [kcl_withSrc] at f1 f2 ⊢
    have e : (bs.map fun b => incidence b n * (PhysReport.lin a c P1 P2).J b.id)
        = bs.map fun b => a * (incidence b n * P1.J b.id) + c * (incidence b n * P2.J b.id) :=
      List.map_congr_left fun b _ => by simp only [PhysReport.lin]; ring
    rw [e, List.sum_map_add, List.sum_map_mul_left, List.sum_map_mul_left, f1, f2, mul_zero, mul_zero, add_zero]

theorem withSrc_ids (bs : List (Branch L K)) (s : String → K) :
    (withSrc bs s).map (·.id) = bs.map (·.id) := by
  simp [withSrc, Function.comp_def]

/-- a source of value 0 counts as passive; the three lemmas after this one are instances -/
theorem Elem.setSrc_zero_not_lossy (e : Elem K) : (e.setSrc 0).isLossy = false := by
  simp only [isLossy_setSrc, ne_eq, not_true_eq_false, decide_false, Bool.and_false]

theorem zeroSources_not_lossy (e : Elem K) : e.zeroSources.isLossy = false :=
  zeroSources_eq_setSrc e ▸ e.setSrc_zero_not_lossy

theorem Elem.thevenin_zero_not_lossy (Y : K) : (Elem.thevenin Y 0).isLossy = false :=
  (Elem.thevenin Y 0).setSrc_zero_not_lossy

theorem Elem.norton_zero_not_lossy (Z : K) : (Elem.norton Z 0).isLossy = false :=
  (Elem.norton Z 0).setSrc_zero_not_lossy

theorem zs_not_lossy (e : Elem K) (i : K) : e.zeroSources.physCurrent i = i :=
  physCurrent_notLossy (zeroSources_not_lossy e) i

theorem law_zs_norton_val (Z V v i : K) : (Elem.norton Z V).zeroSources.lawResidual v i = v - Z * i := by
  by_cases hZ : Z = 0 <;> simp [Elem.zeroSources, Elem.lawResidual, hZ]

theorem law_zs_thevenin_val (Y I v i : K) : (Elem.thevenin Y I).zeroSources.lawResidual v i = i - Y * v := by
  by_cases hY : Y = 0 <;> simp [Elem.zeroSources, Elem.lawResidual, hY]

theorem law_zs_norton (Z V v i : K) : (Elem.norton Z V).zeroSources.lawResidual v i = 0 ↔ v = Z * i := by
  rw [law_zs_norton_val, sub_eq_zero]

theorem law_zs_thevenin (Y I v i : K) : (Elem.thevenin Y I).zeroSources.lawResidual v i = 0 ↔ i = Y * v := by
  rw [law_zs_thevenin_val, sub_eq_zero]

theorem law_norton_zero (Z v i : K) : (Elem.norton Z 0).lawResidual v i = 0 ↔ v = Z * i :=
  law_zs_norton Z 0 v i

theorem law_thevenin_zero (Y v i : K) : (Elem.thevenin Y 0).lawResidual v i = 0 ↔ i = Y * v :=
  law_zs_thevenin Y 0 v i

theorem law_norton_ideal (V v i : K) : (Elem.norton 0 V).lawResidual v i = v - V := by
  simp [Elem.lawResidual]

theorem law_thevenin_ideal (I v i : K) : (Elem.thevenin 0 I).lawResidual v i = i - I := by
  simp [Elem.lawResidual]

theorem law_zs_Zfin (e : Elem K) (h : e.isIdealCS = false) (v i : K) :
    e.zeroSources.lawResidual v i = 0 ↔ v = e.Zfin * i := by
  cases e with
  | norton Z V => rw [law_zs_norton]; rfl
  | thevenin Y I =>
    have hY : Y ≠ 0 := by simpa only [ne_eq, Elem.isIdealCS, decide_eq_false_iff_not] using h
    rw [law_zs_thevenin]
    simp only [Elem.Zfin, hY, if_false]
    constructor
    · intro h; rw [h, ← mul_assoc, one_div_mul_cancel hY, one_mul]
    · intro h; rw [h, ← mul_assoc, mul_one_div_cancel hY, one_mul]

theorem phys_norton_zero (Z i : K) : (Elem.norton Z 0).physCurrent i = i :=
  physCurrent_notLossy (Elem.norton_zero_not_lossy Z) i

theorem phys_norton_ideal (V i : K) : (Elem.norton 0 V).physCurrent i = i :=
  physCurrent_notLossy (idealVS_notLossy V) i

theorem phys_thevenin_zero (Y i : K) : (Elem.thevenin Y 0).physCurrent i = i :=
  physCurrent_notLossy (Elem.thevenin_zero_not_lossy Y) i

theorem phys_thevenin_ideal (I i : K) : (Elem.thevenin 0 I).physCurrent i = i :=
  physCurrent_notLossy (idealCS_notLossy I) i

section
variable [LabelOrd L]

/-- difference of two reports, the currents taken in the physical first→second direction (the direction in which
the source-free network reports them) -/
def Report.diff (N : Net L K) (R S : Report L K) : Report L K where
  pot := fun n => R.pot n - S.pot n
  v := fun id => R.v id - S.v id
  i := fun id => match N.get? id with
    | some b => b.e.physCurrent (R.i id) - b.e.physCurrent (S.i id)
    | none => 0

theorem combines_diff (N : Net L K) (hids : N.ids.Nodup) (R S : Report L K) {b : Branch L K}
    (hb : b ∈ N.branches) :
    Branch.Combines 1 (-1) R S (Report.diff N R S) b b { b with e := b.e.zeroSources } :=
  .of_lin ⟨rfl, rfl⟩ ⟨rfl, rfl⟩ (fun n => show R.pot n - S.pot n = 1 * R.pot n + -1 * S.pot n by ring)
    (show R.v b.id - S.v b.id = 1 * R.v b.id + -1 * S.v b.id by ring)
    (by simp only [Report.diff, get?_of_mem N hids hb, zs_not_lossy]; ring)
    fun v1 v2 J1 J2 => by
      simp only [one_mul, neg_mul, ← sub_eq_add_neg]; exact Elem.physLaw_zeroSources_sub b.e v1 v2 J1 J2

end

end CC
