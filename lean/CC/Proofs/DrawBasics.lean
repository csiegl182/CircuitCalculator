/-
  CC.Proofs.DrawBasics — what the proofs about the interpretive drawing model share and none of the class tables is needed
  for: `elemComp`, the relation `XRel` on `Except` results, `loaderOf`.
-/
import CC.Model.DrawIO
import CC.Proofs.ExceptLemmas
namespace CC.Draw

def elemComp (π : Rat) (d : DElem) (nodes : List String) : Except Err (Option Component) := do
  let s ← d.toSym π
  compOfSym π s nodes

theorem compOfSym_none {π : Rat} {s : Sym} {nodes : List String}
    (h : Gen.translatorMap.lookup s.cls = some "none_translator") : compOfSym π s nodes = .ok none := by
  have ht : Gen.translators.lookup "none_translator" =
      some [{ guard := none, ctor := none, nodes := .pair, args := [] }] := by decide +kernel
  unfold compOfSym
  rw [h]; simp only [ht]; rfl

theorem toSym_shell {π : Rat} {d : DElem} {s : Sym} (h : d.toSym π = .ok s) :
    s.cls = d.cls ∧ s.start = d.start ∧ s.stop = d.stop := by
  unfold DElem.toSym at h
  obtain ⟨o, _, h⟩ := bind_eq_ok.1 h
  cases h
  exact ⟨rfl, rfl, rfl⟩

def XRel {α β : Type} (R : α → β → Prop) : Except Err α → Except Err β → Prop
  | .ok a, .ok b => R a b
  | .error e, .error f => e = f
  | _, _ => False

theorem XRel.ok_left {α β : Type} {R : α → β → Prop} {x : Except Err α} {y : Except Err β} {a : α}
    (h : XRel R x y) (hx : x = .ok a) : ∃ b, y = .ok b ∧ R a b := by
  subst hx
  cases y with
  | error e => exact h.elim
  | ok b => exact ⟨b, rfl, h⟩

theorem XRel.ok_right {α β : Type} {R : α → β → Prop} {x : Except Err α} {y : Except Err β} {b : β}
    (h : XRel R x y) (hy : y = .ok b) : ∃ a, x = .ok a ∧ R a b := by
  subst hy
  cases x with
  | error e => exact h.elim
  | ok a => exact ⟨a, rfl, h⟩

theorem XRel.bind {α β γ δ : Type} {R : α → β → Prop} {S : γ → δ → Prop} {x : Except Err α} {y : Except Err β}
    {f : α → Except Err γ} {g : β → Except Err δ} (h : XRel R x y) (hfg : ∀ a b, R a b → XRel S (f a) (g b)) :
    XRel S (x >>= f) (y >>= g) := by
  cases x with
  | error e => cases y with
    | error e' => exact h
    | ok b => exact h.elim
  | ok a => cases y with
    | error e' => exact h.elim
    | ok b => exact hfg a b h

theorem XRel.foldlM {α β γ : Type} {R : α → β → Prop} {f : α → γ → Except Err α} {g : β → γ → Except Err β}
    {l : List γ} (h : ∀ x ∈ l, ∀ a b, R a b → XRel R (f a x) (g b x)) :
    ∀ a b, R a b → XRel R (l.foldlM f a) (l.foldlM g b) := by
  induction l with
  | nil => exact fun _ _ hab => hab
  | cons x xs ih =>
    intro a b hab
    rw [List.foldlM_cons, List.foldlM_cons]
    exact (h x List.mem_cons_self a b hab).bind (ih fun y hy => h y (List.mem_cons_of_mem _ hy))

/-- the loader's entry for the `type` string of class `cls`: the class it builds and what it recombines (computed from
the class and loader tables) -/
def loaderOf (cls : String) : Option (String × Option (String × String × String)) :=
  (classInfo cls).bind fun c => (Gen.loaderTypes.find? (·.typ = c.typ)).map fun lt => (lt.cls, lt.combine)

theorem loaderOf_eq_some {cls cls' : String} {comb : Option (String × String × String)}
    (h : loaderOf cls = some (cls', comb)) :
    ∃ c lt, classInfo cls = some c ∧ Gen.loaderTypes.find? (·.typ = c.typ) = some lt ∧ lt.cls = cls' ∧ lt.combine = comb := by
  simp only [loaderOf, Option.bind_eq_some_iff, Option.map_eq_some_iff, Prod.mk.injEq] at h
  obtain ⟨c, hc, lt, hlt, h1, h2⟩ := h
  exact ⟨c, lt, hc, hlt, h1, h2⟩

end CC.Draw

namespace CC
open CC.Draw

theorem elemComp_of_construct {π : Rat} {cls : String} {kw : List (String × Val)} {o : SymObj}
    (h : construct π cls kw = .ok o) (a b : Pt) (nodes : List String) :
    elemComp π ⟨cls, kw, a, b⟩ nodes = compOfSym π ⟨cls, o.name, o.rev, o.nodeId, o.attrs, a, b⟩ nodes := by
  unfold elemComp DElem.toSym
  simp only [h, ok_bind]
  rfl

end CC
