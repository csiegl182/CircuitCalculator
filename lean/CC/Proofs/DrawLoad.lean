/-
  CC.Proofs.DrawLoad — `undictify_element` (dump_load.py) by look-ups, and the save/load cycle of one element from what its
  class reads.

  The loader writes `name`, `reverse`, the values of the element's own component and, when there is a `phi` among them, the
  cleared flags `deg` / `sin` into the stored keyword list (`loadKw`), and then recombines a complex value from its parts
  (`combined`).  Two facts about that, for every class: what `lookup` answers in the list it builds (`lookup_loadKw`,
  `lookup_combined`) — which is all a class needs to know to be constructed from it again — and that the list it builds is a
  fixed point of a further cycle with the same component (`loadKw_fixed`, `combined_fixed`): every key the loader writes
  already holds the value it writes.  Both are `dictUpdate_savedParams_fixed`: the loader, and the recombination after it, are
  one `kwargs.update` whose writes do not depend on what was stored (`loadKw_eq_update`, `combined_dictUpdate`).
  `ElemStable.of_reads` puts the two together with the class's own fact (`built_<shape>` + `comp_<shape>`); the loader is
  never evaluated on a concrete list.
-/
import CC.Proofs.DrawRoundTrip
import CC.Proofs.Dict
import CC.Proofs.DrawEvalAttr
namespace CC.Draw

/-- values that a cycle stores and returns unchanged: everything but `None` and numbers with an imaginary part -/
def valKept : Val → Bool
  | .none => false
  | .num z => decide (z.im = 0)
  | _ => true

theorem valKept_iff (v : Val) : valKept v = true ↔ (v ≠ .none ∧ serializeVal v = v) := by
  cases v with
  | num z =>
    by_cases hz : z.im = 0 <;> simp [valKept, serializeVal, hz]
  | _ => simp [valKept, serializeVal]

/-- the keywords of the re-created element before `combine_to_complex` -/
def loadKw (circ : List (String × List (String × Val))) (name : String) (rev : Bool) (up : List (String × Val)) :
    List (String × Val) :=
  let kw := dictSet "name" (.str name) up
  let kw := dictSet "reverse" (.bool rev) kw
  match (circ.reverse).lookup name with
  | some vals =>
    let kw := dictUpdate kw vals
    if Gen.undictifySteps.contains "clear_flags_if_phi" && (vals.lookup "phi").isSome then
      dictSet "sin" (.bool false) (dictSet "deg" (.bool false) kw)
    else kw
  | none => kw

theorem undictifyKwargs_eq (circ : List (String × List (String × Val))) (s : SavedElem) :
    undictifyKwargs circ s =
      (match Gen.loaderTypes.find? (·.typ = s.typ) with
       | none => pure ("Element", loadKw circ s.name s.rev s.userparams)
       | some lt =>
         match lt.combine with
         | none => pure (lt.cls, loadKw circ s.name s.rev s.userparams)
         | some (reK, imK, zK) => do pure (lt.cls, ← combineToComplex reK imK zK (loadKw circ s.name s.rev s.userparams))) := by
  rfl

/-- the real or imaginary part `combine_to_complex` reads under key `k` -/
def complexPart (kw : List (String × Val)) (k : String) : Except Err Rat :=
  match kw.lookup k with
  | none => pure 0
  | some (.num z) => if z.im ≠ 0 then throw Err.typeError else pure z.re
  | some (.bool b) => pure (if b then 1 else 0)
  | some _ => throw Err.typeError

theorem combineToComplex_eq (reK imK zK : String) (kw : List (String × Val)) :
    combineToComplex reK imK zK kw = (do
      let re ← complexPart kw reK
      let im ← complexPart kw imK
      pure (dictSet zK (.num ⟨re, im⟩) ((kw.filter (·.1 ≠ reK)).filter (·.1 ≠ imK)))) := rfl

/-- what `dictify_element` stores of the keywords -/
def savedParams (c : ElemClass) (kw : List (String × Val)) : List (String × Val) :=
  (userParams c kw).map fun kv => (kv.1, serializeVal kv.2)

/-- the keyword list after `combine_to_complex` -/
def combined (reK imK zK : String) (re im : Rat) (kw : List (String × Val)) : List (String × Val) :=
  dictSet zK (.num ⟨re, im⟩) ((kw.filter (·.1 ≠ reK)).filter (·.1 ≠ imK))

/-- `reloadFrom` without running it: the element that is built again carries the loaded keyword list -/
theorem reloadFrom_eq {π : Rat} {d : DElem} {e : SymObj} {c : ElemClass} {lt : LoaderType} (k : Option Component)
    (he : construct π d.cls d.kwargs = .ok e) (hc : classInfo d.cls = some c)
    (hlt : Gen.loaderTypes.find? (·.typ = c.typ) = some lt) :
    reloadFrom π d k =
      (match lt.combine with
        | none => pure (loadKw (ownCirc k) e.name e.rev (savedParams c d.kwargs))
        | some (reK, imK, zK) => combineToComplex reK imK zK (loadKw (ownCirc k) e.name e.rev (savedParams c d.kwargs))) >>=
        fun kw => pure ⟨lt.cls, kw, d.start, d.stop⟩ := by
  simp only [reloadFrom, dictifyElement, he, hc, undictifyDElem, undictifyKwargs_eq, hlt, bind, Except.bind, pure,
    Except.pure, savedParams]
  cases lt.combine with
  | none => rfl
  | some t =>
    obtain ⟨reK, imK, zK⟩ := t
    simp only
    cases combineToComplex reK imK zK _ <;> rfl

/-- what `undictify_element` writes into the stored keyword list, in the order in which it writes: `name`, `reverse`, the
values of the component of that name (the last one in the circuit section) and, when there is a `phi` among them, the
cleared flags -/
def loaderWrites (circ : List (String × List (String × Val))) (name : String) (rev : Bool) : List (String × Val) :=
  ("name", .str name) :: ("reverse", .bool rev) ::
    match circ.reverse.lookup name with
    | some vals =>
      vals ++ (if Gen.undictifySteps.contains "clear_flags_if_phi" && (vals.lookup "phi").isSome then
        [("deg", .bool false), ("sin", .bool false)] else [])
    | none => []

theorem loadKw_eq_update (circ : List (String × List (String × Val))) (name : String) (rev : Bool)
    (up : List (String × Val)) : loadKw circ name rev up = dictUpdate up (loaderWrites circ name rev) := by
  unfold loadKw loaderWrites dictUpdate
  cases circ.reverse.lookup name with
  | none => rfl
  | some vals =>
    simp only [List.foldl_cons, List.foldl_append]
    split <;> rfl

theorem loadKw_nil (id : String) (rev : Bool) (up : List (String × Val)) :
    loadKw [] id rev up = loadKw [(id, [])] id rev up := by
  simp [loadKw, dictUpdate]

theorem lookup_loadKw (id : String) (vals up : List (String × Val)) (rev : Bool) (k : String) :
    (loadKw [(id, vals)] id rev up).lookup k =
      if (vals.lookup "phi").isSome ∧ (k = "sin" ∨ k = "deg") then some (.bool false)
      else (vals.reverse.lookup k).or
        (if k = "reverse" then some (.bool rev) else if k = "name" then some (.str id) else up.lookup k) := by
  -- `loadKw` asks the generated step list whether `undictify_element` clears `sin` / `deg` when the circuit section brings
  -- a `phi` (the package from 5d18a69 on); the statement has no hypothesis for it and is that of such a package: on tables
  -- regenerated without the step this line fails, and so does the first branch of the statement
  have hstep : Gen.undictifySteps.contains "clear_flags_if_phi" = true := by decide +kernel
  simp only [loadKw, List.reverse_singleton, List.lookup, BEq.rfl, hstep, Bool.true_and]
  split
  · rename_i hphi
    simp only [lookup_dictSet, lookup_dictUpdate, hphi, true_and]
    by_cases h1 : k = "sin"
    · simp [h1]
    · by_cases h2 : k = "deg"
      · simp [h2]
      · simp [h1, h2]
  · rename_i hphi
    simp [lookup_dictSet, lookup_dictUpdate, hphi]

theorem lookup_combined (reK imK zK : String) (re im : Rat) (kw : List (String × Val)) (k : String) :
    (combined reK imK zK re im kw).lookup k =
      if k = zK then some (.num ⟨re, im⟩) else if k = reK ∨ k = imK then none else kw.lookup k := by
  unfold combined
  rw [lookup_dictSet]
  by_cases hz : k = zK
  · simp only [hz, if_true]
  · simp only [hz, if_false]
    refine (lookup_filter_key (fun k : String => decide (k ≠ imK)) _ k).trans ?_
    by_cases hi : k = imK
    · simp [hi]
    · simp only [hi, ne_eq, not_false_eq_true, decide_true, if_true, or_false]
      refine (lookup_filter_key (fun k : String => decide (k ≠ reK)) _ k).trans ?_
      by_cases hr : k = reK <;> simp [hr]

attribute [draw_eval] lookup_loadKw lookup_combined List.reverse_cons List.reverse_nil
  Option.isSome_none false_and and_false or_self or_false false_or true_and true_or or_true

theorem userParams_cases (c : ElemClass) (kw : List (String × Val)) :
    userParams c kw = kw.filter (·.2 ≠ .none) ∨
      ∃ b, userParams c kw = dictSet "reverse" (.bool b) (kw.filter (·.2 ≠ .none)) := by
  unfold userParams
  simp only
  split
  · exact Or.inr ⟨_, rfl⟩
  · split
    · exact Or.inr ⟨_, rfl⟩
    · exact Or.inl rfl

theorem nodup_keys_savedParams (c : ElemClass) {kw : List (String × Val)} (h : (kw.map (·.1)).Nodup) :
    ((savedParams c kw).map (·.1)).Nodup := by
  have hf : ((kw.filter (·.2 ≠ .none)).map (·.1)).Nodup := h.sublist (List.filter_sublist.map _)
  unfold savedParams
  rw [List.map_map]
  rcases userParams_cases c kw with e | ⟨b, e⟩ <;> rw [e]
  · exact hf
  · exact nodup_keys_dictSet _ _ hf

theorem nodup_keys_loadKw {id : String} {vals up : List (String × Val)} (rev : Bool) (h : (up.map (·.1)).Nodup) :
    ((loadKw [(id, vals)] id rev up).map (·.1)).Nodup := by
  rw [loadKw_eq_update]
  exact nodup_keys_dictUpdate _ h

theorem savedParams_kept_or (c : ElemClass) (q : String → Prop) {kw : List (String × Val)}
    (h : ∀ kv ∈ kw, valKept kv.2 = true ∨ q kv.1) : ∀ kv ∈ savedParams c kw, valKept kv.2 = true ∨ q kv.1 := by
  have hf : ∀ kv ∈ kw.filter (·.2 ≠ .none), valKept kv.2 = true ∨ q kv.1 := fun kv hkv => h kv (List.mem_filter.mp hkv).1
  have hu : ∀ kv ∈ userParams c kw, valKept kv.2 = true ∨ q kv.1 := by
    rcases userParams_cases c kw with e | ⟨b, e⟩ <;> rw [e]
    · exact hf
    · intro kv hkv
      rcases mem_dictSet hkv with rfl | hm
      · exact Or.inl rfl
      · exact hf kv hm
  intro kv hkv
  obtain ⟨kv', hm, rfl⟩ := List.mem_map.mp hkv
  rcases hu kv' hm with hk | hk
  · exact Or.inl (by rw [((valKept_iff kv'.2).mp hk).2]; exact hk)
  · exact Or.inr hk

/-- The values of the loaded keyword list are kept by the serialiser if the component's values are and every stored
parameter is kept or overwritten by a component value (a complex amplitude is stored as `None` and comes back from the
circuit section) — or has one of the keys `q` set aside. -/
theorem loadKw_kept {id : String} {vals up : List (String × Val)} (rev : Bool) (q : String → Prop)
    (hn : (up.map (·.1)).Nodup) (hv : ∀ kv ∈ vals, valKept kv.2 = true)
    (hu : ∀ kv ∈ up, valKept kv.2 = true ∨ (vals.reverse.lookup kv.1).isSome ∨ q kv.1) :
    ∀ kv ∈ loadKw [(id, vals)] id rev up, valKept kv.2 = true ∨ q kv.1 := by
  intro kv hkv
  obtain ⟨k, v⟩ := kv
  have hl := lookup_of_mem_nodup (nodup_keys_loadKw (id := id) (vals := vals) rev hn) hkv
  simp only at hl ⊢
  rw [lookup_loadKw] at hl
  split at hl
  · cases hl; exact Or.inl rfl
  · cases hr : vals.reverse.lookup k with
    | some v' =>
      rw [hr] at hl
      cases hl
      exact Or.inl (hv _ (List.mem_reverse.mp (mem_of_lookup_some hr)))
    | none =>
      rw [hr, Option.none_or] at hl
      split at hl
      · cases hl; exact Or.inl rfl
      · split at hl
        · cases hl; exact Or.inl rfl
        · rcases hu _ (mem_of_lookup_some hl) with h | h | h
          · exact Or.inl h
          · rw [hr] at h; cases h
          · exact Or.inr h

/-- what is stored of a keyword list without `None` that carries `reverse`: the same keys, the serialised values (but for
`reverse`, which the class may forward changed) -/
theorem savedParams_spec (c : ElemClass) {l : List (String × Val)} (hnone : ∀ kv ∈ l, kv.2 ≠ .none)
    (hrev : "reverse" ∈ l.map (·.1)) :
    (savedParams c l).map (·.1) = l.map (·.1) ∧
      ∀ k, k ≠ "reverse" → (savedParams c l).lookup k = (l.lookup k).map serializeVal := by
  have hfilter : l.filter (fun kv => decide (kv.2 ≠ .none)) = l := by
    rw [List.filter_eq_self]
    intro kv hkv
    simpa using hnone kv hkv
  unfold savedParams
  rcases userParams_cases c l with e | ⟨b, e⟩ <;> rw [e, hfilter]
  · exact ⟨keys_map_val _ _, fun k _ => lookup_map_val _ _ _⟩
  · exact ⟨by rw [keys_map_val, keys_dictSet_of_mem _ hrev],
      fun k hk => by rw [lookup_map_val, lookup_dictSet, if_neg hk]⟩

/-- **An update of what is stored of an updated list gives the updated list again**, when the update writes `reverse`,
nothing in the list is `None` and every value the update does not write is stored as it is. -/
theorem dictUpdate_savedParams_fixed (c : ElemClass) {up W : List (String × Val)} (hn : (up.map (·.1)).Nodup)
    (hrev : "reverse" ∈ W.map (·.1))
    (hkept : ∀ kv ∈ dictUpdate up W, kv.2 ≠ .none ∧ (kv.1 ∉ W.map (·.1) → serializeVal kv.2 = kv.2)) :
    (savedParams c (dictUpdate up W)).map (·.1) = (dictUpdate up W).map (·.1) ∧
      dictUpdate (savedParams c (dictUpdate up W)) W = dictUpdate up W := by
  have hKW : ∀ k v, W.reverse.lookup k = some v → (dictUpdate up W).lookup k = some v := fun k v h => by
    rw [lookup_dictUpdate, h]; rfl
  have hKrev : "reverse" ∈ (dictUpdate up W).map (·.1) := by
    obtain ⟨v, hv⟩ := lookup_reverse_of_mem_keys hrev
    rw [mem_keys_iff_lookup_isSome, hKW _ _ hv]; rfl
  obtain ⟨hSk, hSl⟩ := savedParams_spec c (fun kv h => (hkept kv h).1) hKrev
  refine ⟨hSk, dictUpdate_eq_of_agree hSk (nodup_keys_dictUpdate _ hn) hKW fun k hk => ?_⟩
  rw [hSl k fun h => hk (h ▸ hrev)]
  cases hl : (dictUpdate up W).lookup k with
  | none => rfl
  | some v => rw [Option.map_some, (hkept (k, v) (mem_of_lookup_some hl)).2 hk]

/-- The keyword list the loader built, from any circuit section, is a fixed point of a further save/load cycle with the same
section, name and reversal flag: every key the loader writes is present with the value it writes. -/
theorem loadKw_fixed (c : ElemClass) (circ : List (String × List (String × Val))) (id : String) (up : List (String × Val))
    (rev : Bool) (hup : (up.map (·.1)).Nodup) (hkept : ∀ kv ∈ loadKw circ id rev up, valKept kv.2 = true) :
    loadKw circ id rev (savedParams c (loadKw circ id rev up)) = loadKw circ id rev up := by
  rw [loadKw_eq_update] at hkept
  rw [loadKw_eq_update, loadKw_eq_update]
  exact (dictUpdate_savedParams_fixed c hup (List.mem_cons_of_mem _ List.mem_cons_self) fun kv h =>
    ((valKept_iff kv.2).mp (hkept kv h)).imp_right fun h _ => h).2

/-- recombination is one more write -/
theorem combined_dictUpdate (reK imK zK : String) (re im : Rat) (S W : List (String × Val)) :
    combined reK imK zK re im (dictUpdate S W) = dictUpdate ((S.filter (·.1 ≠ reK)).filter (·.1 ≠ imK))
      ((W.filter (·.1 ≠ reK)).filter (·.1 ≠ imK) ++ [(zK, .num ⟨re, im⟩)]) := by
  unfold combined
  rw [filter_key_dictUpdate, filter_key_dictUpdate]
  unfold dictUpdate
  rw [List.foldl_append]
  rfl

/-- The keyword list the loader built and recombined is a fixed point of a further save/load cycle with the same name,
reversal flag and component values.  The recombined key `zK` may hold a complex number (stored as `None`, written again by the
recombination); the part keys `reK`, `imK` come from the component, are appended by the loader and removed again. -/
theorem combined_fixed (c : ElemClass) (id : String) (vals up : List (String × Val)) (rev : Bool) (reK imK zK : String) (re im : Rat)
    (hup : (up.map (·.1)).Nodup)
    (hflags : ∀ kv ∈ vals, kv.1 ≠ "sin" ∧ kv.1 ≠ "deg" ∧ kv.1 ≠ "name" ∧ kv.1 ≠ "reverse" ∧ kv.1 ≠ zK)
    (hre : reK ∈ vals.map (·.1)) (him : imK ∈ vals.map (·.1))
    (hkept : ∀ kv ∈ combined reK imK zK re im (loadKw [(id, vals)] id rev up), kv.1 ≠ zK → valKept kv.2 = true) :
    combined reK imK zK re im (loadKw [(id, vals)] id rev
        (savedParams c (combined reK imK zK re im (loadKw [(id, vals)] id rev up)))) =
      combined reK imK zK re im (loadKw [(id, vals)] id rev up) := by
  obtain ⟨kvr, hkvr, rfl⟩ := List.mem_map.mp hre
  obtain ⟨kvi, hkvi, rfl⟩ := List.mem_map.mp him
  obtain ⟨-, -, -, hrr, hzr⟩ := hflags kvr hkvr
  obtain ⟨-, -, -, hri, hzi⟩ := hflags kvi hkvi
  have hl := lookup_combined kvr.1 kvi.1 zK re im (loadKw [(id, vals)] id rev up)
  rw [loadKw_eq_update, combined_dictUpdate] at hl hkept
  rw [loadKw_eq_update, loadKw_eq_update, combined_dictUpdate, combined_dictUpdate]
  have hn' : (((up.filter (·.1 ≠ kvr.1)).filter (·.1 ≠ kvi.1)).map (·.1)).Nodup :=
    hup.sublist ((List.filter_sublist.trans List.filter_sublist).map _)
  have hrev : "reverse" ∈ (((loaderWrites [(id, vals)] id rev).filter (·.1 ≠ kvr.1)).filter (·.1 ≠ kvi.1) ++
      [(zK, Val.num ⟨re, im⟩)]).map (·.1) :=
    List.mem_map_of_mem (a := ("reverse", Val.bool rev)) (List.mem_append_left _ (List.mem_filter.mpr ⟨List.mem_filter.mpr
      ⟨List.mem_cons_of_mem _ List.mem_cons_self, decide_eq_true (Ne.symm hrr)⟩, decide_eq_true (Ne.symm hri)⟩))
  obtain ⟨hSk, hfix⟩ := dictUpdate_savedParams_fixed c hn' hrev fun kv h => by
    by_cases hz : kv.1 = zK
    · have hv := lookup_of_mem_nodup (nodup_keys_dictUpdate _ hn') h
      rw [hl, if_pos hz] at hv
      rw [← Option.some.inj hv]
      exact ⟨nofun, fun hh => absurd (hz.symm ▸ List.mem_map_of_mem (a := (zK, Val.num ⟨re, im⟩))
        (List.mem_append_right _ List.mem_cons_self)) hh⟩
    · exact ((valKept_iff kv.2).mp (hkept kv h hz)).imp_right fun h _ => h
  generalize savedParams c _ = S at hSk hfix ⊢
  have hnot : ∀ x, x ≠ zK → x = kvr.1 ∨ x = kvi.1 → x ∉ S.map (·.1) := fun x hz hx => by
    rw [hSk, mem_keys_iff_lookup_isSome, hl, if_neg hz, if_pos hx]; exact Bool.false_ne_true
  rw [filter_key_of_not_mem (hnot _ hzr (Or.inl rfl)), filter_key_of_not_mem (hnot _ hzi (Or.inr rfl)), hfix]

/-- The three facts of `ElemStable` for an element of class `cls`, from a domain `H` of keyword lists on which the class is
built and translated to the component `F` (`hreads`), which one reload `T` maps into itself (`hreload`, `hT`), and on which
a second reload changes nothing (`hfix`). -/
theorem ElemStable.of_reload {π : Rat} {cls : String} {a b : Pt} {F : String → String → Option Component}
    {id nodeId : String} {rev : Bool} {T : List (String × Val) → List (String × Val)} (H : List (String × Val) → Prop)
    (hreads : ∀ kw, H kw → ∃ o, construct π cls kw = .ok o ∧ o.name = id ∧ o.rev = rev ∧ o.nodeId = nodeId ∧
      ∀ la lb, compOfSym π ⟨cls, o.name, o.rev, o.nodeId, o.attrs, a, b⟩ [la, lb] = .ok (F la lb))
    (hreload : ∀ kw, H kw → ∀ la lb, reloadFrom π ⟨cls, kw, a, b⟩ (F la lb) = .ok ⟨cls, T kw, a, b⟩)
    (hT : ∀ kw, H kw → H (T kw)) {kw : List (String × Val)} (h : H kw) (hfix : T (T kw) = T kw) :
    ElemStable π ⟨cls, kw, a, b⟩ := by
  have hcomp : ∀ kw, H kw → ∀ la lb, elemComp π ⟨cls, kw, a, b⟩ [la, lb] = .ok (F la lb) := fun kw hk la lb => by
    obtain ⟨o, ho, -, -, -, hc⟩ := hreads kw hk
    exact (CC.elemComp_of_construct ho a b _).trans (hc la lb)
  have hshell : ∀ kw, H kw → CC.Draw.shell π ⟨cls, kw, a, b⟩ = (cls, a, b, some (id, rev, nodeId)) := fun kw hk => by
    obtain ⟨o, ho, hn, hr, hnode, -⟩ := hreads kw hk
    unfold CC.Draw.shell DElem.toSym
    rw [ho]
    simp only [bind, Except.bind, pure, Except.pure, hn, hr, hnode]
  have h' := hT kw h
  have hrel' := hreload (T kw) h'
  rw [hfix] at hrel'
  refine ⟨fun la lb la' lb' => ?_, fun la lb la' lb' => ?_, fun la lb => ?_⟩
  · simp only [hcomp kw h, hreload kw h, hcomp _ h', bind, Except.bind]
  · simp only [hcomp kw h, hreload kw h, hcomp _ h', hrel', bind, Except.bind, pure, Except.pure]
  · simp only [reloadElem, hcomp kw h, hreload kw h, hshell kw h, hshell _ h', bind, Except.bind]

/-- **(B), (F), (S) for any class that the loader rebuilds without recombining (`hL`, decided by the kernel), and any
keyword list**, from two class facts: `hreads` — on the domain `H` the symbol is built and translated to `F` (a statement
about `construct` and `compOfSym`: `built_<shape>` with `comp_<shape>`) — and `hload` — whatever was stored, the list the
loader builds from that component is in `H` (`lookup_loadKw`: every key the class reads is one the loader writes).  `vals`
are the component's values (`[]` for a symbol without component).  That the keyword list has distinct keys, and that each of
its values is kept by the serialiser or overwritten by a component value, is needed for the fixed point only. -/
theorem ElemStable.of_reads {π : Rat} {cls : String} {a b : Pt} (hL : loaderOf cls = some (cls, none))
    (H : List (String × Val) → Prop) {id nodeId : String} {rev : Bool} {vals : List (String × Val)}
    {F : String → String → Option Component}
    (hF : ∀ la lb up, loadKw (ownCirc (F la lb)) id rev up = loadKw [(id, vals)] id rev up)
    (hreads : ∀ kw, H kw → ∃ o, construct π cls kw = .ok o ∧ o.name = id ∧ o.rev = rev ∧ o.nodeId = nodeId ∧
      ∀ la lb, compOfSym π ⟨cls, o.name, o.rev, o.nodeId, o.attrs, a, b⟩ [la, lb] = .ok (F la lb))
    (hload : ∀ up, H (loadKw [(id, vals)] id rev up))
    (hv : ∀ kv ∈ vals, valKept kv.2 = true) {kw : List (String × Val)} (h : H kw) (hnd : (kw.map (·.1)).Nodup)
    (hk : ∀ kv ∈ kw, valKept kv.2 = true ∨ (vals.reverse.lookup kv.1).isSome) :
    ElemStable π ⟨cls, kw, a, b⟩ := by
  obtain ⟨c, lt, hc, hlt, hcls, hcomb⟩ := loaderOf_eq_some hL
  refine ElemStable.of_reload (T := fun kw => loadKw [(id, vals)] id rev (savedParams c kw)) H hreads
    (fun kw hk la lb => ?_) (fun kw _ => hload _) h ?_
  · obtain ⟨o, ho, hn, hr, -, -⟩ := hreads kw hk
    rw [reloadFrom_eq (π := π) (d := ⟨cls, kw, a, b⟩) (F la lb) ho hc hlt, hcomb, hn, hr, hcls, hF]
    rfl
  · refine loadKw_fixed c _ id (savedParams c kw) rev (nodup_keys_savedParams c hnd) fun kv hkv => ?_
    exact (loadKw_kept rev (fun _ => False) (nodup_keys_savedParams c hnd) hv
      (fun kv hkv => (savedParams_kept_or c (fun k => (vals.reverse.lookup k).isSome = true) hk kv hkv).imp_right
        Or.inl) kv hkv).resolve_right fun hf => hf

/-- The same for a class whose loader entry recombines a complex value `zK` from the component's values `reK`, `imK`
(`combine_to_complex`).  The value under `zK` need not be kept by the serialiser: it is written again by the
recombination. -/
theorem ElemStable.of_reads_combined {π : Rat} {cls : String} {a b : Pt} {reK imK zK : String}
    (hL : loaderOf cls = some (cls, some (reK, imK, zK))) (H : List (String × Val) → Prop) {id nodeId : String}
    {rev : Bool} {vals : List (String × Val)} {re im : Rat} {F : String → String → Component}
    (hF : ∀ la lb, (F la lb).id = id ∧ (F la lb).value = vals)
    (hreads : ∀ kw, H kw → ∃ o, construct π cls kw = .ok o ∧ o.name = id ∧ o.rev = rev ∧ o.nodeId = nodeId ∧
      ∀ la lb, compOfSym π ⟨cls, o.name, o.rev, o.nodeId, o.attrs, a, b⟩ [la, lb] = .ok (some (F la lb)))
    (hload : ∀ up, H (combined reK imK zK re im (loadKw [(id, vals)] id rev up)))
    (hre : vals.reverse.lookup reK = some (.num ⟨re, 0⟩)) (him : vals.reverse.lookup imK = some (.num ⟨im, 0⟩))
    (hflags : ∀ kv ∈ vals, kv.1 ≠ "sin" ∧ kv.1 ≠ "deg" ∧ kv.1 ≠ "name" ∧ kv.1 ≠ "reverse" ∧ kv.1 ≠ zK)
    (hv : ∀ kv ∈ vals, valKept kv.2 = true) {kw : List (String × Val)} (h : H kw) (hnd : (kw.map (·.1)).Nodup)
    (hk : ∀ kv ∈ kw, valKept kv.2 = true ∨ (vals.reverse.lookup kv.1).isSome ∨ kv.1 = zK) :
    ElemStable π ⟨cls, kw, a, b⟩ := by
  have hmem : ∀ {k : String} {v : Val}, vals.reverse.lookup k = some v → k ∈ vals.map (·.1) := fun hl =>
    List.mem_map.mpr ⟨_, List.mem_reverse.mp (mem_of_lookup_some hl), rfl⟩
  -- the parts are read from what the loader wrote
  have hpart : ∀ {k : String} {x : Rat}, vals.reverse.lookup k = some (.num ⟨x, 0⟩) → ∀ up,
      complexPart (loadKw [(id, vals)] id rev up) k = .ok x := fun {k x} hl up => by
    obtain ⟨kv, hkv, rfl⟩ := List.mem_map.mp (hmem hl)
    have hf := hflags kv hkv
    unfold complexPart
    rw [lookup_loadKw, hl]
    simp [hf.1, hf.2.1, pure, Except.pure]
  obtain ⟨c, lt, hc, hlt, hcls, hcomb⟩ := loaderOf_eq_some hL
  refine ElemStable.of_reload (F := fun la lb => some (F la lb))
    (T := fun kw => combined reK imK zK re im (loadKw [(id, vals)] id rev (savedParams c kw))) H hreads
    (fun kw hk la lb => ?_) (fun kw _ => hload _) h ?_
  · obtain ⟨o, ho, hn, hr, -, -⟩ := hreads kw hk
    rw [reloadFrom_eq (π := π) (d := ⟨cls, kw, a, b⟩) (some (F la lb)) ho hc hlt, hcomb, hn, hr, hcls, ownCirc,
      (hF la lb).1, (hF la lb).2]
    simp only [combineToComplex_eq, hpart hre, hpart him, bind, Except.bind, pure, Except.pure, combined]
  · refine combined_fixed c id vals (savedParams c kw) rev reK imK zK re im (nodup_keys_savedParams c hnd) hflags
      (hmem hre) (hmem him) fun kv hkv hz => ?_
    have hK : kv ∈ loadKw [(id, vals)] id rev (savedParams c kw) := by
      rcases mem_dictSet hkv with rfl | hm
      · exact absurd rfl hz
      · exact (List.mem_filter.mp (List.mem_filter.mp hm).1).1
    exact (loadKw_kept rev (· = zK) (nodup_keys_savedParams c hnd) hv
      (savedParams_kept_or c (fun k => (vals.reverse.lookup k).isSome = true ∨ k = zK) hk) kv hK).resolve_right hz

end CC.Draw
