/-
  CC.Proofs.DrawEvalAttr — the simp set `draw_eval`: what one concrete class reads and what the loader writes for it, from
  look-up hypotheses (filled in CC/Proofs/DrawConstruct.lean, DrawInterp.lean, DrawLoad.lean).
-/
import Lean.Meta.Tactic.Simp.RegisterCommand
register_simp_attr draw_eval
