/-
  CC.Proofs.DrawSpec — facts about the Spec relation `Joined` that carry the metamorphic part
  of C13: invariance under injective coordinate maps (rotation, translation, change of
  unit), under splitting a wire through a fresh point, and under reordering of the symbols.
-/
import CC.Proofs.DrawClosure
namespace CC.Draw
variable {P Q : Type}


def mapWires (f : P → Q) (ws : List (P × P)) : List (Q × Q) := ws.map fun w => (f w.1, f w.2)

theorem mem_mapWires {f : P → Q} {ws : List (P × P)} {x y : Q} :
    (x, y) ∈ mapWires f ws ↔ ∃ w ∈ ws, x = f w.1 ∧ y = f w.2 := by
  unfold mapWires
  simp only [List.mem_map, Prod.mk.injEq]
  constructor
  · rintro ⟨w, hw, h1, h2⟩; exact ⟨w, hw, h1.symm, h2.symm⟩
  · rintro ⟨w, hw, h1, h2⟩; exact ⟨w, hw, h1.symm, h2.symm⟩

theorem Joined.map (f : P → Q) {ws : List (P × P)} {p q : P} (h : Joined ws p q) :
    Joined (mapWires f ws) (f p) (f q) := by
  induction h with
  | refl => exact Joined.refl _
  | wire _ hw ih =>
    refine Joined.wire ih ?_
    rcases hw with hw | hw
    · exact Or.inl (mem_mapWires.mpr ⟨_, hw, rfl, rfl⟩)
    · exact Or.inr (mem_mapWires.mpr ⟨_, hw, rfl, rfl⟩)

def CoversWires (D : P → Prop) (ws : List (P × P)) : Prop := ∀ w ∈ ws, D w.1 ∧ D w.2

theorem Joined.unmap_aux {f : P → Q} {D : P → Prop} {ws : List (P × P)}
    (hinj : ∀ x y, D x → D y → f x = f y → x = y) (hD : CoversWires D ws)
    {a b : Q} (h : Joined (mapWires f ws) a b) :
    ∀ p, D p → a = f p → ∃ q, D q ∧ b = f q ∧ Joined ws p q := by
  induction h with
  | refl => intro p hp ha; exact ⟨p, hp, ha, Joined.refl p⟩
  | wire _ hw ih =>
    intro p hp ha
    obtain ⟨q, hq, hc, hpq⟩ := ih p hp ha
    rcases hw with hw | hw
    · obtain ⟨w, hw, h1, h2⟩ := mem_mapWires.mp hw
      have : q = w.1 := hinj q w.1 hq (hD w hw).1 (hc ▸ h1)
      subst this
      exact ⟨w.2, (hD w hw).2, h2, Joined.wire hpq (Or.inl hw)⟩
    · obtain ⟨w, hw, h1, h2⟩ := mem_mapWires.mp hw
      have : q = w.2 := hinj q w.2 hq (hD w hw).2 (hc ▸ h2)
      subst this
      exact ⟨w.1, (hD w hw).1, h1, Joined.wire hpq (Or.inr hw)⟩

/-- **geometry**: a coordinate map that is injective on the points used preserves and
reflects "joined by wires" -/
theorem joined_map_iff {f : P → Q} {D : P → Prop} {ws : List (P × P)}
    (hinj : ∀ x y, D x → D y → f x = f y → x = y) (hD : CoversWires D ws) {p q : P}
    (hp : D p) (hq : D q) : Joined (mapWires f ws) (f p) (f q) ↔ Joined ws p q := by
  constructor
  · intro h
    obtain ⟨q', hq', he, hj⟩ := Joined.unmap_aux hinj hD h p hp rfl
    have : q = q' := hinj q q' hq hq' he
    exact this ▸ hj
  · exact Joined.map f

section Split
variable [DecidableEq P]

def FreshPt (c : P) (ws : List (P × P)) : Prop := ∀ w ∈ ws, w.1 ≠ c ∧ w.2 ≠ c

theorem joined_split_fwd {pre post : List (P × P)} {a b c : P}
    (hfresh : FreshPt c (pre ++ (a, b) :: post)) {x y : P}
    (h : Joined (pre ++ (a, c) :: (c, b) :: post) x y) :
    Joined (pre ++ (a, b) :: post) (if x = c then a else x) (if y = c then a else y) := by
  have hac : a ≠ c := (hfresh (a, b) (by simp)).1
  have hbc : b ≠ c := (hfresh (a, b) (by simp)).2
  have hold : ∀ w, w ∈ pre ∨ w ∈ post → w ∈ pre ++ (a, b) :: post := by
    intro w hw; rcases hw with h | h <;> simp [h]
  refine h.lift (fun x => if x = c then a else x) fun (u, v) huv => ?_
  have : (u, v) ∈ pre ∨ (u, v) = (a, c) ∨ (u, v) = (c, b) ∨ (u, v) ∈ post := by
    simpa [List.mem_append, List.mem_cons] using huv
  rcases this with h | h | h | h
  · have := hfresh (u, v) (hold _ (Or.inl h))
    simp only [this.1, this.2, if_false]
    exact Joined.single (Or.inl (hold _ (Or.inl h)))
  · cases h; simp [hac]; exact Joined.refl a
  · cases h; simp [hbc]; exact Joined.single (Or.inl (by simp))
  · have := hfresh (u, v) (hold _ (Or.inr h))
    simp only [this.1, this.2, if_false]
    exact Joined.single (Or.inl (hold _ (Or.inr h)))

theorem joined_split_bwd {pre post : List (P × P)} {a b c : P} {x y : P}
    (h : Joined (pre ++ (a, b) :: post) x y) :
    Joined (pre ++ (a, c) :: (c, b) :: post) x y := by
  refine h.lift id fun (u, v) huv => ?_
  have : (u, v) ∈ pre ∨ (u, v) = (a, b) ∨ (u, v) ∈ post := by
    simpa [List.mem_append, List.mem_cons] using huv
  rcases this with h | h | h
  · exact Joined.single (Or.inl (by simp [h]))
  · cases h
    exact (Joined.single (a := a) (b := c) (Or.inl (by simp))).trans
      (Joined.single (a := c) (b := b) (Or.inl (by simp)))
  · exact Joined.single (Or.inl (by simp [h]))

/-- **wire split**: replacing the wire `(a, b)` by `(a, c), (c, b)` through a fresh point `c`
does not change which of the original points are joined -/
theorem joined_split_iff {pre post : List (P × P)} {a b c : P}
    (hfresh : FreshPt c (pre ++ (a, b) :: post)) {p q : P} (hp : p ≠ c) (hq : q ≠ c) :
    Joined (pre ++ (a, c) :: (c, b) :: post) p q ↔ Joined (pre ++ (a, b) :: post) p q := by
  constructor
  · intro h
    have := joined_split_fwd hfresh h
    simpa [hp, hq] using this
  · exact joined_split_bwd

end Split

def chainWires : P → List P → P → List (P × P)
  | a, [], b => [(a, b)]
  | a, c :: cs, b => (a, c) :: chainWires c cs b

/-- **wire split, chains**: replacing a wire by a chain through fresh, pairwise distinct points
does not change which of the original points are joined -/
theorem joined_chain_iff [DecidableEq P] {pre post : List (P × P)} (cs : List P) {a b : P}
    (hfresh : ∀ c ∈ cs, FreshPt c (pre ++ (a, b) :: post)) (hnd : cs.Nodup)
    {p q : P} (hp : p ∉ cs) (hq : q ∉ cs) :
    Joined (pre ++ chainWires a cs b ++ post) p q ↔ Joined (pre ++ (a, b) :: post) p q := by
  induction cs generalizing pre a with
  | nil => simp [chainWires]
  | cons c cs ih =>
    have hc : FreshPt c (pre ++ (a, b) :: post) := hfresh c List.mem_cons_self
    have hpc : p ≠ c := fun h => hp (h ▸ List.mem_cons_self)
    have hqc : q ≠ c := fun h => hq (h ▸ List.mem_cons_self)
    have hnd' := (List.nodup_cons.mp hnd)
    rw [← joined_split_iff hc hpc hqc]
    have hf' : ∀ c' ∈ cs, FreshPt c' ((pre ++ [(a, c)]) ++ (c, b) :: post) := by
      intro c' hc' w hw
      have hne : c ≠ c' := fun h => hnd'.1 (h ▸ hc')
      have hfc' := hfresh c' (List.mem_cons_of_mem _ hc')
      have : w ∈ pre ∨ w = (a, c) ∨ w = (c, b) ∨ w ∈ post := by
        simpa [List.mem_append, List.mem_cons] using hw
      rcases this with h | h | h | h
      · exact hfc' w (by simp [h])
      · subst h; exact ⟨(hfc' (a, b) (by simp)).1, hne⟩
      · subst h; exact ⟨hne, (hfc' (a, b) (by simp)).2⟩
      · exact hfc' w (by simp [h])
    have := ih (pre := pre ++ [(a, c)]) (a := c) hf' hnd'.2
      (fun h => hp (List.mem_cons_of_mem _ h)) (fun h => hq (List.mem_cons_of_mem _ h))
    simpa [chainWires, List.append_assoc] using this

theorem joined_perm [DecidableEq P] {ws ws' : List (P × P)} (h : ws.Perm ws') {p q : P} :
    Joined ws p q ↔ Joined ws' p q :=
  ⟨Joined.mono (fun _ hw => h.mem_iff.mp hw), Joined.mono (fun _ hw => h.mem_iff.mpr hw)⟩

end CC.Draw
