/-
  The generated model of `open_circuit_impedance` / `element_impedance` (CC/Gen/Port.lean, translated from the AST of
  node_analysis.py on every run) against the hand-written model CC/Model/Port.lean.  The equalities function by function
  are in CC/Properties/C06Gen.lean.
-/
import CC.Gen.Port
import CC.Model.Port
import CC.Proofs.PortPrune
import CC.Proofs.Bridge
import CC.Properties.C01Gen
import CC.Model.Transform
set_option linter.unusedSectionVars false

namespace CC.PortGen
open CC CC.Gen.Core CC.Gen.Transformers CC.Py

variable {L K : Type} [DecidableEq L] [LabelOrd L] [Field K] [DecidableEq K]

theorem maskSelect_eq_selectL {α : Type} (ks : List Bool) (xs : List α) :
    Py.maskSelect ks xs = selectL ks xs := by
  induction ks generalizing xs with
  | nil => cases xs <;> rfl
  | cons k ks ih =>
    cases xs with
    | nil => cases k <;> rfl
    | cons x xs => cases k <;> simp only [Py.maskSelect, selectL, ih]

theorem countNonzero_take (keep : List Bool) (i : Nat) :
    Py.countNonzero (Py.sliceTo keep i) = countBefore keep i := rfl

theorem anyAxis0_eq_keepMask (r c : Nat) (A : List (List K)) :
    Py.Mat.anyAxis0 (⟨r, c, A⟩ : Py.Mat K) = keepMask c A := by
  simp [Py.Mat.anyAxis0, Py.Mat.col, Py.vecAny, keepMask, List.any_map, Function.comp_def]

theorem not_vecAny_col (r c : Nat) (A : List (List K)) (j : Nat) :
    (!(Py.vecAny (Py.Mat.col (⟨r, c, A⟩ : Py.Mat K) j))) = colZero A j := by
  simp only [Py.Mat.col, Py.vecAny, colZero, List.any_map, Function.comp_def]
  rw [Bool.eq_iff_iff]
  simp [List.all_eq_true]

theorem ix_eq_subMatrix (r c : Nat) (A : List (List K)) (keep : List Bool) :
    Py.Mat.ix (⟨r, c, A⟩ : Py.Mat K) keep keep
      = ⟨Py.countNonzero keep, Py.countNonzero keep, subMatrix keep A⟩ := by
  simp only [Py.Mat.ix, subMatrix, maskSelect_eq_selectL]
  congr 1
  apply List.map_congr_left
  intro x _
  exact maskSelect_eq_selectL keep x

theorem set_zeros_eq_unitVec (m i : Nat) :
    (Py.zerosVec m : List K).set i 1 = unitVec m i := by
  apply List.ext_getElem
  · simp [Py.zerosVec, unitVec]
  · intro k h1 h2
    simp only [Py.zerosVec, unitVec, List.getElem_set, List.getElem_replicate, List.getElem_map,
      List.getElem_range]
    by_cases hk : i = k
    · simp [hk]
    · have : ¬ k = i := fun h => hk h.symm
      simp [hk, this]

theorem anyL_between (N : Net L K) (a b : L) :
    Py.anyL ((Network.branches_between N a b).map fun br => is_ideal_voltage_source br.e)
      = (N.branchesBetween a b).any (·.e.isIdealVS) := by
  rw [gen_branches_between]
  simp only [Py.anyL, Net.branchesBetween, List.any_map, Function.comp_def, gen_isIdealVS]

/-! `switch_ground_node` / `remove_element` of transformers.py have two hand models, CC/Model/Transform.lean and
CC/Model/Port.lean -/

theorem switchGround_eq (N : Net L K) (g : L) : switchGround N g = N.switchGround g := by
  unfold switchGround Net.mk? Net.switchGround
  cases h : (⟨N.branches, g⟩ : Net L K).check with
  | error e => simp [h, bind, Except.bind]
  | ok u => simp [h, bind, Except.bind, pure, Except.pure]

theorem removeFirst_eq_erase {α : Type} [DecidableEq α] (x : α) (l : List α) :
    removeFirst x l = l.erase x := by
  induction l with
  | nil => rfl
  | cons a l ih =>
    by_cases h : a = x
    · simp [removeFirst, h]
    · simp [removeFirst, h, List.erase_cons_tail, ih]

theorem removeElement_eq (N : Net L K) (id : String) : removeElement N id = N.removeElement id := by
  unfold removeElement Net.removeElement Net.mk?
  cases hg : N.get? id with
  | none => rfl
  | some b =>
    simp only [removeFirst_eq_erase]
    cases h : (⟨N.branches.erase b, N.zero⟩ : Net L K).check with
    | error e => simp [bind, Except.bind]
    | ok u => simp [bind, Except.bind, pure, Except.pure]

theorem switchGround_ids {N N' : Net L K} {g : L} (h : N.switchGround g = .ok N') : N'.ids.Nodup :=
  ((Net.check_ok_iff N').mp (switchGround_ok h).2).2

/-- the Python value the hand model's result stands for: a number, or `np.inf`
(`Err.other "Infinite"` in the hand model, whose values are field elements) -/
def portValue : Except Err K → Except Err (Py.XVal K)
  | .ok z => .ok (.fin z)
  | .error (.other "Infinite") => .ok .inf
  | .error e => .error e

/-- the solver of the hand model (on the list of rows) behind a solver on arrays with a shape:
the arrays `open_circuit_impedance` hands over are square -/
def rowsSolver (solve : Py.Mat K → List K → Option (List K)) : List (List K) → List K → Option (List K) :=
  fun A e => solve ⟨A.length, A.length, A⟩ e

/-- the statements of `open_circuit_impedance` after the last `switch_ground_node` (`A = …` to the `return`), on the
re-referenced network -/
theorem gen_port_tail [LawfulLabelOrd L] (solve : Py.Mat K → List K → Option (List K)) (N' : Net L K)
    (hids : N'.ids.Nodup) (a : L) :
    (do
      let r5 ← nodal_analysis_coefficient_matrix N'
      let k6 ← (alphabetic_node_mapper N').getitem a
      let unit_current ← Py.setItem (Py.zerosVec (Py.Mat.ix r5 (Py.Mat.anyAxis0 r5) (Py.Mat.anyAxis0 r5)).nrows)
        (Py.countNonzero (Py.sliceTo (Py.Mat.anyAxis0 r5) k6)) 1
      let x7 ← Py.linalgSolve solve (Py.Mat.ix r5 (Py.Mat.anyAxis0 r5) (Py.Mat.anyAxis0 r5)) unit_current
      let z8 ← Py.getItem x7 (Py.countNonzero (Py.sliceTo (Py.Mat.anyAxis0 r5) k6))
      pure (Py.XVal.fin z8) : Except Err (Py.XVal K))
    = portValue (match N'.portSys a with
        | .error e => .error e
        | .ok .early => .ok 0
        | .ok .infinite => .error (.other "Infinite")
        | .ok (.sys _ _ A e i1) =>
          match rowsSolver solve A e with
          | none => .error .singular
          | some x =>
            match x[i1]? with
            | none => .error .keyError
            | some z => .ok z) := by
  have hlen : N'.mnaA.length = N'.nodes.length + N'.vsIds.length := by
    rw [mnaA_length, vsSorted_length N' hids]
  rw [C01_gen_mnaA N' hids]
  unfold Net.portSys
  simp only [bind, Except.bind, Py.LabelMapping.getitem, gen_nodes, anyAxis0_eq_keepMask, ← hlen,
    ix_eq_subMatrix, countNonzero_take]
  cases hi : idxOf? a N'.nodes with
  | none => rfl
  | some i =>
    -- `Py.countNonzero` unfolds to `countKept`
    have hsub : (subMatrix (keepMask N'.mnaA.length N'.mnaA) N'.mnaA).length = Py.countNonzero _ :=
      subMatrix_length _ N'.mnaA (CC.keepMask_length _ _)
    simp only [Py.setItem, Py.zerosVec, List.length_replicate, ← hsub]
    by_cases hlt : countBefore (keepMask N'.mnaA.length N'.mnaA) i
        < (subMatrix (keepMask N'.mnaA.length N'.mnaA) N'.mnaA).length
    · simp only [hlt, if_true]
      have hu := set_zeros_eq_unitVec (K := K) (subMatrix (keepMask N'.mnaA.length N'.mnaA) N'.mnaA).length
        (countBefore (keepMask N'.mnaA.length N'.mnaA) i)
      simp only [Py.zerosVec] at hu
      simp only [hu, Py.linalgSolve, rowsSolver]
      cases hs : solve ⟨_, _, subMatrix (keepMask N'.mnaA.length N'.mnaA) N'.mnaA⟩
          (unitVec (subMatrix (keepMask N'.mnaA.length N'.mnaA) N'.mnaA).length
            (countBefore (keepMask N'.mnaA.length N'.mnaA) i)) with
      | none => rfl
      | some x =>
        simp only [Py.getItem]
        cases x[countBefore (keepMask N'.mnaA.length N'.mnaA) i]? <;> rfl
    · simp only [hlt, if_false]
      rfl

theorem portValue_error {e : Err} (h : e ≠ .other "Infinite") :
    portValue (K := K) (.error e) = .error e := by
  unfold portValue
  split
  · rename_i heq; cases heq
  · rename_i heq; cases heq; exact absurd rfl h
  · rename_i heq; cases heq; rfl

/-- `r` does not raise the hand model's stand-in for `np.inf`: `portValue` then leaves its error as it is -/
abbrev NoInf {α : Type} (r : Except Err α) : Prop := r ≠ .error (.other "Infinite")

theorem portValue_of_noInf {α : Type} {r : Except Err α} {e : Err} (hr : NoInf r) (h : r = .error e) :
    .error e = portValue (K := K) (.error e) :=
  (portValue_error fun he => hr (h.trans (he ▸ rfl))).symm

theorem NoInf.bind {α β : Type} {x : Except Err α} {f : α → Except Err β} (hx : NoInf x) (hf : ∀ a, NoInf (f a)) :
    NoInf (x >>= f) := by
  cases x with
  | error e => exact fun h => hx (by cases h; rfl)
  | ok a => exact hf a

theorem check_noInf (N : Net L K) : NoInf N.check := by
  unfold Net.check; split_ifs <;> nofun

theorem switchGround_noInf (N : Net L K) (g : L) : NoInf (N.switchGround g) :=
  (check_noInf _).bind fun _ => nofun

theorem isolated_noInf (N : Net L K) (a g : L) : NoInf (N.isolated a g) := by
  unfold Net.isolated
  cases hr : N.switchGround g with
  | error e => exact fun h => switchGround_noInf N g (hr.trans (by cases h; rfl))
  | ok Ng => dsimp only; cases idxOf? a Ng.nodes <;> nofun

theorem removeElement_noInf (N : Net L K) (id : String) : NoInf (N.removeElement id) := by
  unfold Net.removeElement
  cases N.get? id with
  | none => nofun
  | some b => exact (check_noInf _).bind fun _ => nofun

def ofPortValue : Except Err (Py.XVal K) → Except Err K
  | .ok (.fin z) => .ok z
  | .ok .inf => .error (.other "Infinite")
  | .ok .nan => .error (.other "NaN")
  | .error e => .error e

theorem ofPortValue_portValue (r : Except Err K) : ofPortValue (portValue r) = r := by
  cases r with
  | ok z => rfl
  | error e =>
    by_cases h : e = .other "Infinite"
    · subst h; rfl
    · rw [portValue_error h]; rfl

theorem rowsSolver_rows (solve : List (List K) → List K → Option (List K)) :
    rowsSolver (fun M b => solve M.rows b) = solve := rfl

end CC.PortGen
