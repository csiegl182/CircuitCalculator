/-
  CC.Proofs.DrawRoundTrip — one save/load cycle of a single drawing element on the interpretive
  model (CC/Model/DrawIO.lean over the generated tables): definitions and the consequences of
  the per-class facts, for every persistable symbol class and *all* values, flags, names and anchors:

    (B) the reloaded element translates to the same component, for any terminal names  `RoundTrips`
    (F) the reloaded element is a fixed point of further cycles                        `FixedAfter`
    (S) class, anchors, name, reversal flag and node id are kept                       `ShellKept`

  (B) and (F) together give `Idempotent` (`ElemStable.idempotent`): the second reload has to translate first, which is (B).

  All three are established per shape of class, for any keyword list, in CC/Proofs/DrawRT.lean, from what the class reads and
  the loader writes (`ElemStable.of_reads`, CC/Proofs/DrawLoad.lean).
-/
import CC.Proofs.DrawIO
import CC.Proofs.DrawBasics
import CC.Proofs.GQField
namespace CC.Draw

/-- the circuit section that consists of one element's own component -/
def ownCirc : Option Component → List (String × List (String × Val))
  | some k => [(k.id, k.value)]
  | none => []

/-- save the element with circuit section `k` (its own component, if it has one) and load it -/
def reloadFrom (π : Rat) (d : DElem) (k : Option Component) : Except Err DElem := do
  let saved ← dictifyElement π d
  undictifyDElem (ownCirc k) saved

def reloadElem (π : Rat) (d : DElem) (nodes : List String) : Except Err DElem := do
  let k ← elemComp π d nodes
  reloadFrom π d k

/-- what the parser sees of an element besides its translator attributes -/
def shell (π : Rat) (d : DElem) : String × Pt × Pt × Option (String × Bool × String) :=
  (d.cls, d.start, d.stop, match d.toSym π with | .ok s => some (s.name, s.rev, s.nodeId) | .error _ => none)

def RoundTrips (π : Rat) (d : DElem) : Prop :=
  ∀ la lb la' lb' : String,
    (do let k ← elemComp π d [la, lb]; let d' ← reloadFrom π d k; elemComp π d' [la', lb']) =
    (do let _ ← elemComp π d [la, lb]; elemComp π d [la', lb'])

def Idempotent (π : Rat) (d : DElem) : Prop :=
  ∀ la lb : String, (do reloadElem π (← reloadElem π d [la, lb]) [la, lb]) = reloadElem π d [la, lb]

def ShellKept (π : Rat) (d : DElem) : Prop :=
  ∀ la lb : String, (do let d' ← reloadElem π d [la, lb]; pure (shell π d') : Except Err _) =
    (do let _ ← elemComp π d [la, lb]; pure (shell π d))

def FixedAfter (π : Rat) (d : DElem) : Prop :=
  ∀ la lb la' lb' : String,
    (do let k ← elemComp π d [la, lb]; let d' ← reloadFrom π d k
        let k' ← elemComp π d' [la', lb']; reloadFrom π d' k') =
    (do let k ← elemComp π d [la, lb]; let d' ← reloadFrom π d k
        let _ ← elemComp π d' [la', lb']; pure d')

structure ElemStable (π : Rat) (d : DElem) : Prop where
  roundtrip : RoundTrips π d
  fixed : FixedAfter π d
  shell : ShellKept π d

theorem ElemStable.idempotent {π : Rat} {d : DElem} (h : ElemStable π d) : Idempotent π d := by
  intro la lb
  have hF := h.fixed la lb la lb
  have hB := h.roundtrip la lb la lb
  unfold reloadElem
  cases hk : elemComp π d [la, lb] with
  | error e => simp [bind, Except.bind]
  | ok k =>
    simp only [hk, bind, Except.bind] at hF hB ⊢
    cases hd : reloadFrom π d k with
    | error e => simp
    | ok d' =>
      simp only [hd] at hF hB ⊢
      rw [hB] at hF
      simp only [pure, Except.pure] at hF
      rw [hB]; exact hF

def reloadN (π : Rat) (nodes : List String) : Nat → DElem → Except Err DElem
  | 0, d => pure d
  | n + 1, d => do reloadElem π (← reloadN π nodes n d) nodes

theorem reloadN_succ_eq {π : Rat} {d : DElem} (h : Idempotent π d) (la lb : String) (n : Nat) :
    reloadN π [la, lb] (n + 1) d = reloadElem π d [la, lb] := by
  induction n with
  | zero => simp [reloadN, bind, Except.bind, pure, Except.pure]
  | succ n ih =>
    show (do reloadElem π (← reloadN π [la, lb] (n + 1) d) [la, lb]) = _
    rw [ih]; exact h la lb

theorem roundtrip_same_nodes {π : Rat} {d : DElem} (h : RoundTrips π d) (la lb : String) :
    (do elemComp π (← reloadElem π d [la, lb]) [la, lb]) = elemComp π d [la, lb] := by
  have := h la lb la lb
  unfold reloadElem
  cases hk : elemComp π d [la, lb] with
  | error e => simp [bind, Except.bind]
  | ok k =>
    simp only [hk, bind, Except.bind] at this ⊢
    exact this

theorem elem_cycles_stable {π : Rat} {d : DElem} (h : ElemStable π d) (n : Nat) (la lb : String) :
    (do elemComp π (← reloadN π [la, lb] (n + 1) d) [la, lb]) = elemComp π d [la, lb] := by
  rw [reloadN_succ_eq h.idempotent]; exact roundtrip_same_nodes h.roundtrip la lb

theorem GQ.im_zero : (0 : GQ).im = 0 := rfl
theorem GQ.re_zero : (0 : GQ).re = 0 := rfl
theorem GQ.mk_zero : (⟨0, 0⟩ : GQ) = 0 := rfl
theorem GQ.eta (z : GQ) : (⟨z.re, z.im⟩ : GQ) = z := rfl

/-- the phase a source with `deg` / `sin` flags writes to the circuit section: `savedPhase` at the
constants of the model (`np.pi/2`, `90`, `phi*pi/180`) -/
def acPhase (π : Rat) (sin deg : Bool) (phi : GQ) : GQ :=
  savedPhase ⟨π / 2, 0⟩ ⟨90, 0⟩ (fun z => z * ⟨π, 0⟩ / 180) sin deg phi

theorem acPhase_im (π : Rat) (sin deg : Bool) {phi : GQ} (hp : phi.im = 0) : (acPhase π sin deg phi).im = 0 := by
  have h180 : (180 : GQ).im = 0 := rfl
  cases sin <;> cases deg <;>
    simp [acPhase, savedPhase, phaseTrans, phaseField, GQ.sub_def, GQ.mul_def, GQ.div_def, GQ.inv_def, hp, h180]

end CC.Draw
