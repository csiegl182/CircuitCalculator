/-
  The right-hand side of the substituted (per-sample / per-frequency) network is the model's `QS·u + DQ·w`
  (`subst_mnaB`; its users put `w = Λ·ẋ`).
  Every source owns a column of `Q` (`qCol`), every capacitor a column of `Deltaᵀ` (`dCol`); row `i` of `QS·u` and of
  `DQ·w` — node row or voltage-source row alike — is the sum over the branches of column entry times input (`qs_row`,
  `dq_row`), the right-hand side the sum of what the branches stamp into it (`mnaB_mapElems`), and `branch_identity`
  compares the two branch by branch, by the kind of the branch.
-/
import CC.Proofs.StateCircuit
import CC.Proofs.StateModel
import CC.Proofs.ExceptLemmas
set_option linter.unusedSectionVars false

namespace CC
open Mx

section generic
variable {K : Type} [Field K]

theorem sumTo_nodup_list {α : Type} [DecidableEq α] (l : List α) (hl : l.Nodup) (G : α → Nat → K) :
    sumTo l.length (fun j => (l[j]?).elim 0 (fun a => G a j))
      = (l.map fun a => G a ((idxOf? a l).getD 0)).sum := by
  induction l generalizing G with
  | nil => simp only [sumTo, List.length_nil, not_lt_zero, not_false_eq_true, getElem?_neg, Option.elim_none,
    List.range_zero, List.map_nil, List.sum_nil]
  | cons b l ih =>
    have hnd := List.nodup_cons.mp hl
    rw [List.length_cons, sumTo_succ']
    simp only [List.getElem?_cons_zero, List.getElem?_cons_succ, List.map_cons, List.sum_cons, Option.elim_some]
    congr 1
    · simp only [idxOf?, ↓reduceIte, Option.getD_some]
    · rw [ih hnd.2 (fun a j => G a (j + 1))]
      congr 1
      apply List.map_congr_left
      intro a ha
      have hba : ¬ b = a := fun e => hnd.1 (e ▸ ha)
      obtain ⟨k, hk, _, _⟩ := idxOf?_of_mem ha
      simp only [hk, Option.getD_some, idxOf?, hba, ↓reduceIte, Option.map_some]

theorem getD_zipWith_mul (a b : List K) (k : Nat) :
    (List.zipWith (· * ·) a b).getD k 0 = a.getD k 0 * b.getD k 0 := by
  simp only [List.getD_eq_getElem?_getD, List.getElem?_zipWith]
  cases a[k]? <;> cases b[k]? <;> simp

theorem rhs_matVec_ofFn {r c : Nat} {F : Nat → Nat → K} (v : List K) :
    matVec (ofFn r c F) v
      = (List.range r).map fun i => sumTo c fun j => Mx.get (ofFn r c F) i j * v.getD j 0 := by
  unfold matVec
  conv_lhs => unfold ofFn
  rw [List.map_map]
  apply List.map_congr_left
  intro i hi
  rw [Function.comp, dotL_range_map c (F i) v]
  exact sumTo_congr _ fun j hj => by rw [get_ofFn (List.mem_range.mp hi) hj]

end generic

section entries
variable {L K : Type} [DecidableEq L] [LabelOrd L] [Field K] [DecidableEq K]
variable (N : Net L K) (cvals lvals : ValDict K)

/-- the entry of `ssDeltaRow N b` at the node `n` -/
def deltaEntry (b : Branch L K) (n : L) : K := if n = b.n2 then -1 else if n = b.n1 then 1 else 0

theorem get_ssQ (i c : Nat) :
    Mx.get (ssQ N) i c =
      match N.nodes[i]? with
      | some n => (match N.csSorted[c]? with | some b => N.Qentry b n | none => 0)
      | none => if i - N.nN < N.nV ∧ N.nC ≤ c ∧ c - N.nC = i - N.nN then 1 else 0 := by
  unfold ssQ
  rw [Mx.get_map_append]
  cases N.nodes[i]? with
  | some n =>
    simp only [getD_map_append]
    cases N.csSorted[c]? with
    | some b => rfl
    | none => exact getD_replicate_self _ _ _
  | none =>
    unfold Net.nN
    simp only [Mx.get, getD_map]
    by_cases hr : i - N.nodes.length < N.nV
    · simp only [List.getElem?_range hr, getD_replicate_append, getD_map]
      by_cases hc : c < N.nC
      · rw [if_pos hc]; exact (if_neg fun h => Nat.not_le.mpr hc h.2.1).symm
      · rw [if_neg hc]
        by_cases hk : c - N.nC < N.nV
        · rw [List.getElem?_range hk]
          exact if_congr ⟨fun h => ⟨hr, Nat.le_of_not_lt hc, h⟩, fun h => h.2.2⟩ rfl rfl
        · rw [List.getElem?_eq_none (by simpa using Nat.le_of_not_lt hk)]
          exact (if_neg fun h => hk (lt_of_eq_of_lt h.2.2 hr)).symm
    · rw [List.getElem?_eq_none (by simpa using Nat.le_of_not_lt hr)]
      exact (if_neg fun h => hr h.1).symm

theorem nodes_getElem?_vs (r : Nat) : N.nodes[N.nN + r]? = none :=
  List.getElem?_eq_none (Nat.le_add_right N.nodes.length r)

theorem get_ssQ_node {i : Nat} {n : L} (hn : N.nodes[i]? = some n) (c : Nat) :
    Mx.get (ssQ N) i c = match N.csSorted[c]? with | some b => N.Qentry b n | none => 0 := by
  rw [get_ssQ, hn]

theorem get_Delta {N : Net L K} {cvals : ValDict K} {Delta : List (List K)}
    (hD : ssDelta N cvals = .ok Delta) (k i : Nat) :
    Mx.get Delta k i =
      match cvals.keys[k]? with
      | some id => (match N.nodes[i]? with
          | some n => (match N.get? id with | some b => deltaEntry b n | none => 0)
          | none => 0)
      | none => 0 := by
  unfold ssDelta at hD
  have h := mapM_ok_getElem? _ hD k
  unfold Mx.get
  simp only [List.getD_eq_getElem?_getD, h]
  cases hk : cvals.keys[k]? with
  | none => simp only [List.isEmpty_iff, Option.bind_none, Option.getD_none, List.length_nil, not_lt_zero,
    not_false_eq_true, getElem?_neg]
  | some id =>
    simp only [Option.bind_some]
    by_cases he : N.nodes.isEmpty = true
    · have hn : N.nodes = [] := List.isEmpty_iff.mp he
      simp only [hn, List.isEmpty_nil, ↓reduceIte, Option.getD_some, ← List.getD_eq_getElem?_getD, getD_replicate_self]
      rfl
    · simp only [he]
      cases hg : N.get? id with
      | none => cases N.nodes[i]? <;> simp
      | some b =>
        simp only [Bool.false_eq_true, if_false, Option.getD_some, ssDeltaRow, ← List.getD_eq_getElem?_getD,
          getD_map_append, getD_replicate_self, deltaEntry]
        cases N.nodes[i]? <;> rfl

theorem get_ssQS {i j : Nat} (hi : i < N.nY) (hj : j < ssNInputs N lvals) :
    Mx.get (ssQS N lvals) i j = Mx.get (ssQ N) i ((ssColsS N lvals).getD j 0) := by
  unfold ssQS Mx.selectCols
  exact get_ofFn hi hj

theorem get_ssDQ (Delta : List (List K)) {i j : Nat}
    (hi : i < N.nY) (hj : j < ssNStates N cvals lvals) :
    Mx.get (ssDQ N cvals lvals Delta) i j =
      if j < cvals.length then Mx.get Delta j i
      else Mx.get (ssQ N) i ((ssColsL N lvals).getD (j - cvals.length) 0) := by
  have hj' : j < cvals.length + (ssColsL N lvals).length := hj
  unfold ssDQ Mx.hstack
  rw [get_ofFn hi hj']
  by_cases h : j < cvals.length
  · simp only [h, if_true]
    unfold Mx.transpose
    exact get_ofFn hi h
  · simp only [h, if_false]
    unfold ssQL Mx.selectCols
    exact get_ofFn hi (by omega)

end entries
section rows
variable {L K : Type} [DecidableEq L] [LabelOrd L] [Field K] [DecidableEq K]
variable (N : Net L K) (cvals lvals : ValDict K)

theorem csSorted_length (h : N.ids.Nodup) : N.csSorted.length = N.nC := by
  unfold Net.nC; rw [← csSorted_ids N h]; simp only [List.length_map]

theorem ssSources_nodup (hids : N.ids.Nodup) : (ssSources N lvals).Nodup := by
  unfold ssSources
  refine List.Nodup.append (csIds_nodup N hids) ((vsIds_nodup N hids).filter _) ?_
  intro a ha hb
  exact csIds_not_vsIds N hids ha (List.mem_filter.mp hb).1

theorem colsL_ge {c : Nat} (hc : c ∈ ssColsL N lvals) : N.nC ≤ c := by
  unfold ssColsL at hc
  obtain ⟨l, _, hl⟩ := List.mem_filterMap.mp hc
  cases h : idxOf? l N.vsIds with
  | none => rw [h] at hl; cases hl
  | some k => rw [h] at hl; simp only [Option.map_some, Option.some.injEq] at hl; omega

theorem ssDQ_cap_vsrow_zero {Delta : List (List K)}
    (hD : ssDelta N cvals = .ok Delta) {i k : Nat} (hi : i < N.nY) (hge : N.nN ≤ i) (hk : k < cvals.length) :
    Mx.get (ssDQ N cvals lvals Delta) i k = 0 := by
  have hks : k < ssNStates N cvals lvals := by unfold ssNStates; omega
  have hnone : N.nodes[i]? = none := List.getElem?_eq_none (by unfold Net.nN at hge; omega)
  rw [get_ssDQ N cvals lvals Delta hi hks, if_pos hk, get_Delta hD, hnone]
  cases cvals.keys[k]? <;> rfl

theorem ssDQ_ind_noderow_zero (Delta : List (List K)) (hids : N.ids.Nodup)
    {i k : Nat} (hi : i < N.nN) (hk : cvals.length ≤ k) (hks : k < ssNStates N cvals lvals) :
    Mx.get (ssDQ N cvals lvals Delta) i k = 0 := by
  have hiy : i < N.nY := by unfold Net.nY; omega
  have hj : k - cvals.length < (ssColsL N lvals).length := by unfold ssNStates at hks; omega
  have hc : (ssColsL N lvals).getD (k - cvals.length) 0 ∈ ssColsL N lvals := by
    rw [List.getD_eq_getElem?_getD, List.getElem?_eq_getElem hj]; exact List.getElem_mem hj
  rw [get_ssDQ N cvals lvals Delta hiy hks, if_neg (by omega),
    get_ssQ_node N (List.getElem?_eq_getElem (show i < N.nodes.length from hi)),
    List.getElem?_eq_none (by rw [csSorted_length N hids]; exact colsL_ge N lvals hc)]

theorem colsL_length (hkeys : ∀ id ∈ lvals.keys, id ∈ N.vsIds) :
    (ssColsL N lvals).length = lvals.keys.length := by
  unfold ssColsL
  exact filterMap_idx_map_length _ _ hkeys _

/-- the column of `Q = diag(Qi, 1)` that belongs to the source `b`: the incidence pattern of a current source in
the node rows, the unit vector of its own row for an ideal voltage source -/
def qCol (b : Branch L K) (i : Nat) : K :=
  match N.nodes[i]? with
  | some n => if b.e.isCS then N.Qentry b n else 0
  | none => if N.vsIds[i - N.nN]? = some b.id then 1 else 0

theorem qCol_vs (hids : N.ids.Nodup) {b : Branch L K} (hb : b ∈ N.branches) {r : Nat}
    (hr : idxOf? b.id N.vsIds = some r) (i : Nat) : qCol N b i = if i = N.nN + r then 1 else 0 := by
  have hcs : ¬ b.e.isCS = true := fun h =>
    csIds_not_vsIds N hids ((id_mem_csIds_iff N hids b hb).mpr h) (mem_of_idx hr)
  unfold qCol
  cases hn : N.nodes[i]? with
  | some n =>
    have hlt : i < N.nN := (List.getElem?_eq_some_iff.mp hn).1
    simp only [if_neg hcs, if_neg (show ¬ i = N.nN + r by omega)]
  | none =>
    have hge : N.nN ≤ i := List.getElem?_eq_none_iff.mp hn
    refine if_congr ⟨fun h => ?_, fun h => ?_⟩ rfl rfl
    · obtain ⟨hlt, hget⟩ := List.getElem?_eq_some_iff.mp h
      have := idxOf?_getElem N.vsIds (vsIds_nodup N hids) _ hlt
      rw [hget, hr] at this
      have := Option.some.inj this
      omega
    · subst h
      rw [Nat.add_sub_cancel_left]
      exact (idxOf?_some hr).2.2

theorem get_ssQ_blockPos (hids : N.ids.Nodup) {b : Branch L K} (hb : b ∈ N.branches) {c : Nat}
    (hc : blockPos N b.id = some c) (i : Nat) : Mx.get (ssQ N) i c = qCol N b i := by
  unfold qCol
  by_cases hcs : b.e.isCS = true
  · -- a current source: column `c` of the first block, where `csSorted` lists `b`
    have hmem : b.id ∈ N.csIds := (id_mem_csIds_iff N hids b hb).mpr hcs
    have hbs : b ∈ N.csSorted := (mem_csSorted N hids).mpr ⟨hb, hcs⟩
    have hnd : (N.csSorted.map (·.id)).Nodup := by rw [csSorted_ids N hids]; exact csIds_nodup N hids
    have hget := getElem?_idx_of_key (·.id) N.csSorted hnd hbs
    unfold blockPos at hc
    rw [idxOf?_append_left _ hmem] at hc
    rw [csSorted_ids N hids, hc, Option.getD_some] at hget
    rw [get_ssQ, hget]
    cases hn : N.nodes[i]? with
    | some n => exact (if_pos hcs).symm
    | none =>
      show ite _ _ _ = ite _ _ _
      have hlt : c < N.nC := idxOf?_lt_length hc
      rw [if_neg fun h => Nat.not_le.mpr hlt h.2.1, if_neg fun h =>
        csIds_not_vsIds N hids hmem (List.mem_of_getElem? h)]
  · -- an ideal voltage source: column `nC + r`
    have hnc : b.id ∉ N.csIds := fun h => hcs ((id_mem_csIds_iff N hids b hb).mp h)
    unfold blockPos at hc
    rw [idxOf?_append_right _ hnc] at hc
    obtain ⟨r, hr, rfl⟩ := Option.map_eq_some_iff.mp hc
    obtain ⟨_, hrlt, hrget⟩ := idxOf?_some hr
    rw [get_ssQ]
    cases hn : N.nodes[i]? with
    | some n => simp only [List.getElem?_eq_none (show N.csSorted.length ≤ N.csIds.length + r by
        rw [csSorted_length N hids]; exact Nat.le_add_right _ r), if_neg hcs]
    | none =>
      show ite _ _ _ = ite _ _ _
      simp only [show N.csIds.length = N.nC from rfl, Nat.le_add_right, Nat.add_sub_cancel_left, true_and]
      refine if_congr ⟨fun h => h.2 ▸ hrget, fun h => ?_⟩ rfl rfl
      have hlt : i - N.nN < N.vsIds.length := (List.getElem?_eq_some_iff.mp h).1
      refine ⟨hlt, ?_⟩
      have := idxOf?_getElem N.vsIds (vsIds_nodup N hids) _ hlt
      rw [(List.getElem?_eq_some_iff.mp h).2, hr] at this
      exact Option.some.inj this

theorem src_branch {id : String} (h : id ∈ ssSources N lvals) :
    ∃ b ∈ N.branches, b.id = id := by
  rcases List.mem_append.mp h with h | h
  · exact List.mem_map.mp (sorted_filter_ids_subset N _ h)
  · exact List.mem_map.mp (sorted_filter_ids_subset N _ (List.mem_filter.mp h).1)

theorem get_ssQS_src (hids : N.ids.Nodup) {b : Branch L K} (hb : b ∈ N.branches) {i j : Nat} (hi : i < N.nY)
    (hj : (ssSources N lvals)[j]? = some b.id) : Mx.get (ssQS N lvals) i j = qCol N b i := by
  rw [get_ssQS N lvals hi (by rw [sources_length]; exact (List.getElem?_eq_some_iff.mp hj).1),
    ssColsS_eq_map N lvals hids, List.getD_eq_getElem?_getD, List.getElem?_map, hj]
  exact get_ssQ_blockPos N hids hb (blockPos_of_mem (mem_block_of_source (List.mem_of_getElem? hj))) i

theorem sumTo_keys (hids : N.ids.Nodup) (keys : List String) (hk : keys.Nodup) (hsub : ∀ id ∈ keys, id ∈ N.ids)
    (F : Branch L K → Nat → K) (f : Nat → K)
    (hf : ∀ b ∈ N.branches, ∀ j, keys[j]? = some b.id → f j = F b j) :
    sumTo keys.length f = (N.branches.map fun b => (idxOf? b.id keys).elim 0 (F b)).sum := by
  rw [sumTo_congr (fun j => (keys[j]?).elim 0 fun id => (N.get? id).elim 0 fun b => F b j) fun j hj => by
      obtain ⟨b, hb, hid⟩ := List.mem_map.mp (hsub _ (List.getElem_mem hj))
      have hkj : keys[j]? = some b.id := (List.getElem?_eq_getElem hj).trans (congrArg some hid.symm)
      rw [hf b hb j hkj, hkj, Option.elim_some, get?_of_mem N hids hb, Option.elim_some],
    sumTo_nodup_list keys hk fun id j => (N.get? id).elim 0 fun b => F b j,
    sum_keys_eq_sum_carriers (fun b : Branch L K => b.id) N.branches hids keys hk hsub]
  refine congrArg List.sum (List.map_congr_left fun b hb => ?_)
  by_cases hm : b.id ∈ keys
  · obtain ⟨k, hk', _, _⟩ := idxOf?_of_mem hm
    rw [if_pos hm, hk', get?_of_mem N hids hb]; rfl
  · rw [if_neg hm, idxOf?_none_of_not_mem hm]; rfl

theorem qs_row (hids : N.ids.Nodup) (u : List K) {i : Nat} (hi : i < N.nY) :
    sumTo (ssNInputs N lvals) (fun j => Mx.get (ssQS N lvals) i j * u.getD j 0)
      = (N.branches.map fun b =>
          (idxOf? b.id (ssSources N lvals)).elim 0 fun j => qCol N b i * u.getD j 0).sum := by
  rw [sources_length]
  exact sumTo_keys N hids _ (ssSources_nodup N lvals hids)
    (fun id h => by obtain ⟨b, hb, e⟩ := src_branch N lvals h; exact e ▸ List.mem_map_of_mem hb) _ _
    fun b hb j hj => by rw [get_ssQS_src N lvals hids hb hi hj]

def dCol (b : Branch L K) (i : Nat) : K := (N.nodes[i]?).elim 0 (deltaEntry b)

theorem get_ssDQ_cap {Delta : List (List K)} (hids : N.ids.Nodup) (hD : ssDelta N cvals = .ok Delta)
    {b : Branch L K} (hb : b ∈ N.branches) {i k : Nat} (hi : i < N.nY) (hk : cvals.keys[k]? = some b.id) :
    Mx.get (ssDQ N cvals lvals Delta) i k = dCol N b i := by
  have hkl : k < cvals.length := by simpa [ValDict.keys] using (List.getElem?_eq_some_iff.mp hk).1
  rw [get_ssDQ N cvals lvals Delta hi (by unfold ssNStates; omega), if_pos hkl, get_Delta hD, hk, dCol]
  simp only [get?_of_mem N hids hb]
  cases N.nodes[i]? <;> rfl

theorem get_ssDQ_ind (Delta : List (List K)) (hids : N.ids.Nodup) (hkeys : ∀ id ∈ lvals.keys, id ∈ N.vsIds)
    {b : Branch L K} (hb : b ∈ N.branches) {i k : Nat} (hi : i < N.nY) (hk : lvals.keys[k]? = some b.id) :
    Mx.get (ssDQ N cvals lvals Delta) i (cvals.length + k) = qCol N b i := by
  have hkl := (List.getElem?_eq_some_iff.mp hk).1
  rw [get_ssDQ N cvals lvals Delta hi (by unfold ssNStates; rw [colsL_length N lvals hkeys]; omega),
    if_neg (by omega), Nat.add_sub_cancel_left, ssColsL_eq_map N lvals hids hkeys, List.getD_eq_getElem?_getD,
    List.getElem?_map, hk]
  exact get_ssQ_blockPos N hids hb (blockPos_of_mem (List.mem_append_right _ (hkeys _ (List.mem_of_getElem? hk)))) i

theorem dq_row {Delta : List (List K)} (h : RLC N cvals lvals) (hD : ssDelta N cvals = .ok Delta) (w : List K)
    {i : Nat} (hi : i < N.nY) :
    sumTo (ssNStates N cvals lvals) (fun k => Mx.get (ssDQ N cvals lvals Delta) i k * w.getD k 0)
      = (N.branches.map fun b =>
          ((idxOf? b.id cvals.keys).elim 0 fun k => dCol N b i * w.getD k 0)
          + (idxOf? b.id lvals.keys).elim 0 fun k => qCol N b i * w.getD (cvals.length + k) 0).sum := by
  have hids := h.wf.ids_nodup
  unfold ssNStates
  rw [sumTo_add, colsL_length N lvals h.indKeys, show cvals.length = cvals.keys.length from (List.length_map _).symm,
    List.sum_map_add,
    sumTo_keys N hids _ h.capNodup h.capMem (fun b k => dCol N b i * w.getD k 0) _ fun b hb k hk => by
      rw [get_ssDQ_cap N cvals lvals hids hD hb hi hk],
    sumTo_keys N hids _ h.indNodup h.indMem (fun b k => qCol N b i * w.getD (cvals.keys.length + k) 0) _
      fun b hb k hk => by
        rw [show cvals.keys.length = cvals.length from List.length_map _,
          get_ssDQ_ind N cvals lvals Delta hids h.indKeys hb hi hk]]

end rows

section main
variable {L K : Type} [DecidableEq L] [LabelOrd L] [Field K] [DecidableEq K]
variable {N : Net L K} {cvals lvals : ValDict K}

/-- the substituted element: capacitor `k` ↦ ideal current source of value `−w[k]`, inductor `k` ↦
ideal voltage source of value `w[nc + k]`, source `sources[m]` ↦ value `u[m]` -/
def substElem (cvals lvals : ValDict K) (sources : List String) (u w : List K) : Branch L K → Elem K :=
  reactElem cvals lvals (fun k => .thevenin 0 (-(w.getD k 0))) (fun k => .norton 0 (w.getD (cvals.length + k) 0))
    sources u

theorem substElem_keeps (h : RLC N cvals lvals)
    (sources : List String) (u w : List K) : KeepsStructure N (substElem cvals lvals sources u w) :=
  reactElem_keeps h (fun _ => ⟨rfl, rfl⟩) (fun _ => ⟨by simp [Elem.isIdealVS], by simp [Elem.Yfin]⟩) sources u

theorem deltaEntry_eq_dir (b : Branch L K) (n : L) (hsl : b.n1 ≠ b.n2) : deltaEntry b n = b.dir n := by
  rw [dir_of_ne b n hsl]
  unfold deltaEntry
  by_cases h2 : n = b.n2
  · subst h2
    simp only [↓reduceIte, hsl]
  · by_cases h1 : n = b.n1
    · subst h1
      simp only [hsl, ↓reduceIte]
    · have h1' : ¬ b.n1 = n := fun e => h1 e.symm
      have h2' : ¬ b.n2 = n := fun e => h2 e.symm
      simp only [h2, ↓reduceIte, h1, h1', h2']

theorem deltaEntry_eq_neg_Q (N : Net L K) (b : Branch L K) (n : L) (hn : n ≠ N.zero) (hsl : b.n1 ≠ b.n2) :
    deltaEntry b n = - N.Qentry b n := by
  rw [deltaEntry_eq_dir b n hsl, Q_eq_neg_dir_all N b n hn, neg_neg]

theorem branch_identity (h : RLC N cvals lvals) (u w : List K) {b : Branch L K} (hb : b ∈ N.branches) (i : Nat) :
    N.stamp (substElem cvals lvals (ssSources N lvals) u w b) b i
      = ((idxOf? b.id (ssSources N lvals)).elim 0 fun j => qCol N b i * u.getD j 0)
        + (((idxOf? b.id cvals.keys).elim 0 fun k => dCol N b i * w.getD k 0)
          + (idxOf? b.id lvals.keys).elim 0 fun k => qCol N b i * w.getD (cvals.length + k) 0) := by
  unfold substElem Net.stamp qCol dCol
  cases h.kind hb with
  | cap k hc he hv hcs hl hs =>
    rw [reactElem_of_cap hc, hc, hs, hl]
    cases hn : N.nodes[i]? with
    | some n =>
      have hnz : n ≠ N.zero := ne_zero_of_mem_nodes (List.mem_of_getElem? hn)
      simp only [Elem.Ival, mul_neg, Option.elim_none, Option.elim_some,
        deltaEntry_eq_neg_Q N b n hnz (h.wf.no_self_loop b hb), neg_mul, add_zero, zero_add]
    | none =>
      have hnv : ¬ N.vsIds[i - N.nN]? = some b.id := fun e => not_mem_of_idx_none hv (List.mem_of_getElem? e)
      simp only [hnv, ↓reduceIte, Option.elim_none, Option.elim_some, zero_mul, add_zero]
  | ind k r hc hl he hv hs =>
    rw [reactElem_of_ind hc hl, hc, hl, hs, he]
    cases N.nodes[i]? with
    | some n => simp only [Elem.Ival, Elem.isCS, ↓reduceIte, mul_zero, ne_eq, not_true_eq_false, decide_false,
        Bool.false_eq_true, zero_mul, Option.elim_none, Option.elim_some, add_zero]
    | none => simp only [Elem.Vval, ite_mul, one_mul, zero_mul, Option.elim_none, Option.elim_some, zero_add]
  | vsrc r m V hc hl he hv hs =>
    rw [reactElem_of_other hc hl, setSource_some hs, hc, hl, hs, he]
    cases N.nodes[i]? with
    | some n => simp only [Elem.Ival, Elem.setSrc, Elem.isCS, ↓reduceIte, mul_zero, ne_eq, not_true_eq_false,
        decide_false, Bool.false_eq_true, zero_mul, Option.elim_some, Option.elim_none, add_zero]
    | none => simp only [Elem.Vval, Elem.setSrc, ite_mul, one_mul, zero_mul, Option.elim_some, Option.elim_none,
        add_zero]
  | csrc k I hc hl he hI hv hk hs =>
    rw [reactElem_of_other hc hl, setSource_some hs, hc, hl, hs, he]
    cases N.nodes[i]? with
    | some n => simp only [Elem.Ival, Elem.setSrc, Elem.isCS, ne_eq, hI, not_false_eq_true, decide_true, ↓reduceIte,
        Option.elim_some, Option.elim_none, add_zero]
    | none =>
      have hnv : ¬ N.vsIds[i - N.nN]? = some b.id := fun e => not_mem_of_idx_none hv (List.mem_of_getElem? e)
      simp only [hnv, ↓reduceIte, zero_mul, Option.elim_some, Option.elim_none, add_zero]
  | passive hc hl hv hk hs hvs hcs =>
    have hI0 : b.e.Ival = 0 := by simpa [Elem.isCS] using hcs
    rw [reactElem_of_other hc hl, setSource_none hs, hc, hl, hs]
    cases N.nodes[i]? with
    | some n => simp only [hI0, mul_zero, Option.elim_none, add_zero]
    | none =>
      have hnv : ¬ N.vsIds[i - N.nN]? = some b.id := fun e => not_mem_of_idx_none hv (List.mem_of_getElem? e)
      simp only [hnv, ↓reduceIte, Option.elim_none, add_zero]

/-- No hypothesis on the lengths of `u`, `w`: both sides read the entries beyond them as `0`. -/
theorem subst_mnaB {Delta : List (List K)} (h : RLC N cvals lvals)
    (hD : ssDelta N cvals = .ok Delta) (u w : List K) :
    (N.mapElems (substElem cvals lvals (ssSources N lvals) u w)).mnaB
      = Mx.vecAdd (matVec (ssQS N lvals) u) (matVec (ssDQ N cvals lvals Delta) w) := by
  have hids := h.wf.ids_nodup
  have e1 : matVec (ssQS N lvals) u = (List.range N.nY).map fun i =>
      sumTo (ssNInputs N lvals) fun j => Mx.get (ssQS N lvals) i j * u.getD j 0 :=
    rhs_matVec_ofFn u
  have e2 : matVec (ssDQ N cvals lvals Delta) w = (List.range N.nY).map fun i =>
      sumTo (ssNStates N cvals lvals) fun j => Mx.get (ssDQ N cvals lvals Delta) i j * w.getD j 0 :=
    rhs_matVec_ofFn w
  rw [e1, e2, mnaB_mapElems N _ (substElem_keeps h _ u w) hids]
  unfold Mx.vecAdd
  rw [List.zipWith_map, List.zipWith_self]
  refine List.map_congr_left fun i hi => ?_
  have hi' : i < N.nY := List.mem_range.mp hi
  rw [qs_row N lvals hids u hi', dq_row N cvals lvals h hD w hi', ← List.sum_map_add]
  exact congrArg List.sum (List.map_congr_left fun b hb => branch_identity h u w hb i)

end main
end CC
