/-
  What CC/Properties/C03State.lean rests on.
  `state_circuit`: for EVERY state `x` and input `u` the sample report of the executable model (`y = C x + D u` read
  through the accessors) solves the circuit equations of the network with the states imposed (`stateElem`; `stateNet`
  of C03State.lean maps it over the branches), by `x = DQᵀ y` and `state_readback`.
  Element substitutions (`phasorElem`, `stateElem`) commute with the four C03 transformations (renaming, listing
  order, terminal reversal, reference node) as soon as the two settings supply the same data for the same (renamed)
  identifier — `lookupVal` lookups, with the sign rule `sgn` for reversed elements.
-/
import CC.Proofs.StatePhasor
import CC.Properties.C03
set_option linter.unusedSectionVars false

namespace CC
open Matrix Mx

section lookup
variable {K : Type} [Field K] [DecidableEq K]

def lookupVal (keys : List String) (vals : List K) (id : String) : Option K :=
  (idxOf? id keys).map fun k => vals.getD k 0

/-- sign rule: the quantity of a reversed element is negated -/
def sgn (c : Bool) (v : K) : K := if c then -v else v

def Elem.rev (c : Bool) (e : Elem K) : Elem K := if c then e.reversed else e

theorem sgn_zero (c : Bool) : sgn c (0 : K) = 0 := by cases c <;> simp [sgn]

theorem Elem.rev_norton (c : Bool) (Z V : K) : Elem.rev c (.norton Z V) = .norton Z (sgn c V) := by cases c <;> rfl

theorem Elem.rev_thevenin (c : Bool) (Y I : K) : Elem.rev c (.thevenin Y I) = .thevenin Y (sgn c I) := by
  cases c <;> rfl

end lookup

section subst
variable {L L' K : Type} [DecidableEq L] [LabelOrd L] [DecidableEq L'] [LabelOrd L'] [Field K] [DecidableEq K]

theorem setSource_eq (sources : List String) (u : List K) (b : Branch L K) :
    setSource sources u b
      = match lookupVal sources u b.id with
        | some v => b.e.setSrc v
        | none => b.e := by
  unfold lookupVal
  cases h : idxOf? b.id sources with
  | none => exact setSource_none h
  | some k => exact setSource_some h

theorem setSource_rel (c : Bool) {src src' : List String} {u u' : List K} (b : Branch L K) (b' : Branch L' K)
    (hid : lookupVal src' u' b'.id = (lookupVal src u b.id).map (sgn c)) (he : b'.e = Elem.rev c b.e) :
    setSource src' u' b' = Elem.rev c (setSource src u b) := by
  rw [setSource_eq, setSource_eq, hid, he]
  cases lookupVal src u b.id with
  | none => rfl
  | some v =>
    cases b.e <;> simp only [Elem.rev_norton, Elem.rev_thevenin, Elem.setSrc, Option.map_some]

theorem reactElem_rel (c : Bool) {cv lv cv' lv' : ValDict K} {cap ind cap' ind' : Nat → Elem K}
    {src src' : List String} {u u' : List K} (b : Branch L K) (b' : Branch L' K)
    (hc : (idxOf? b'.id cv'.keys).map cap' = (idxOf? b.id cv.keys).map fun k => Elem.rev c (cap k))
    (hl : (idxOf? b'.id lv'.keys).map ind' = (idxOf? b.id lv.keys).map fun k => Elem.rev c (ind k))
    (hs : setSource src' u' b' = Elem.rev c (setSource src u b)) :
    reactElem cv' lv' cap' ind' src' u' b' = Elem.rev c (reactElem cv lv cap ind src u b) := by
  unfold reactElem
  cases h1 : idxOf? b.id cv.keys with
  | some k =>
    rw [h1] at hc
    obtain ⟨k', hk', e⟩ := Option.map_eq_some_iff.mp hc
    rw [hk']; exact e
  | none =>
    rw [h1] at hc
    rw [Option.map_eq_none_iff.mp hc]
    cases h2 : idxOf? b.id lv.keys with
    | some k =>
      rw [h2] at hl
      obtain ⟨k', hk', e⟩ := Option.map_eq_some_iff.mp hl
      rw [hk']; exact e
    | none =>
      rw [h2] at hl
      rw [Option.map_eq_none_iff.mp hl]; exact hs

theorem lookupVal_map {β : Type} (keys : List String) (vals : List K) (id : String) (g : K → β) :
    (lookupVal keys vals id).map g = (idxOf? id keys).map fun k => g (vals.getD k 0) := by
  rw [lookupVal, Option.map_map]; rfl

/-- an element with the states imposed: capacitor `k` ↦ ideal voltage source `x_k`, inductor `k` ↦
ideal current source `x_{nc+k}` (first → second terminal), sources at `u` -/
def stateElem (cvals lvals : ValDict K) (sources : List String) (u x : List K) (b : Branch L K) : Elem K :=
  match idxOf? b.id cvals.keys with
  | some k => .norton 0 (x.getD k 0)
  | none =>
    match idxOf? b.id lvals.keys with
    | some k => .thevenin 0 (x.getD (cvals.length + k) 0)
    | none => setSource sources u b

theorem stateElem_eq (cv lv : ValDict K) (src : List String) (u x : List K) :
    (stateElem cv lv src u x : Branch L K → Elem K)
      = reactElem cv lv (fun k => .norton 0 (x.getD k 0)) (fun k => .thevenin 0 (x.getD (cv.length + k) 0)) src u := rfl

/-- same capacitances / inductances for the same (renamed) element -/
structure SameValues (τ : String → String) (N : Net L K) (cv lv cv' lv' : ValDict K) : Prop where
  cap : ∀ b ∈ N.branches, lookupVal cv'.keys cv'.vals (τ b.id) = lookupVal cv.keys cv.vals b.id
  ind : ∀ b ∈ N.branches, lookupVal lv'.keys lv'.vals (τ b.id) = lookupVal lv.keys lv.vals b.id

/-- same source amplitude for the same (renamed) source, negated for a reversed source -/
def SameInput (τ : String → String) (f : String → Bool) (N : Net L K) (src : List String) (u : List K)
    (src' : List String) (u' : List K) : Prop :=
  ∀ b ∈ N.branches, lookupVal src' u' (τ b.id) = (lookupVal src u b.id).map (sgn (f b.id))

/-- same state for the same (renamed) reactive element — capacitor voltage, inductor current —, negated
for a reversed element: the induced state map -/
structure SameState (τ : String → String) (f : String → Bool) (N : Net L K) (cv lv cv' lv' : ValDict K)
    (x x' : List K) : Prop where
  cap : ∀ b ∈ N.branches, lookupVal cv'.keys x' (τ b.id) = (lookupVal cv.keys x b.id).map (sgn (f b.id))
  ind : ∀ b ∈ N.branches, lookupVal lv'.keys (x'.drop cv'.length) (τ b.id)
          = (lookupVal lv.keys (x.drop cv.length) b.id).map (sgn (f b.id))

theorem phasorElem_rel (τ : String → String) (f : String → Bool) {N : Net L K} {cv lv cv' lv' : ValDict K}
    {src src' : List String} {u u' : List K} (s : K)
    (hv : SameValues τ N cv lv cv' lv') (hu : SameInput τ f N src u src' u')
    (b : Branch L K) (hb : b ∈ N.branches) (b' : Branch L' K) (hid : b'.id = τ b.id)
    (he : b'.e = Elem.rev (f b.id) b.e) :
    phasorElem cv' lv' src' u' s b' = Elem.rev (f b.id) (phasorElem cv lv src u s b) := by
  refine reactElem_rel _ b b' ?_ ?_ (setSource_rel _ b b' (by rw [hid]; exact hu b hb) he)
  · have := congrArg (Option.map fun c => Elem.thevenin (s * c) (0 : K)) (hv.cap b hb)
    rw [lookupVal_map, lookupVal_map, ← hid] at this
    rw [this]; congr 1; funext k
    rw [Elem.rev_thevenin, sgn_zero]
  · have := congrArg (Option.map fun c => Elem.norton (s * c) (0 : K)) (hv.ind b hb)
    rw [lookupVal_map, lookupVal_map, ← hid] at this
    rw [this]; congr 1; funext k
    rw [Elem.rev_norton, sgn_zero]

theorem stateElem_rel (τ : String → String) (f : String → Bool) {N : Net L K} {cv lv cv' lv' : ValDict K}
    {src src' : List String} {u u' x x' : List K}
    (hx : SameState τ f N cv lv cv' lv' x x') (hu : SameInput τ f N src u src' u')
    (b : Branch L K) (hb : b ∈ N.branches) (b' : Branch L' K) (hid : b'.id = τ b.id)
    (he : b'.e = Elem.rev (f b.id) b.e) :
    stateElem cv' lv' src' u' x' b' = Elem.rev (f b.id) (stateElem cv lv src u x b) := by
  have hd : ∀ (y : List K) (n k : Nat), (y.drop n).getD k 0 = y.getD (n + k) 0 := fun y n k => by
    simp only [List.getD_eq_getElem?_getD, List.getElem?_drop]
  rw [stateElem_eq, stateElem_eq]
  refine reactElem_rel _ b b' ?_ ?_ (setSource_rel _ b b' (by rw [hid]; exact hu b hb) he)
  · have := congrArg (Option.map fun v => Elem.norton (0 : K) v) (hx.cap b hb)
    rw [lookupVal_map, Option.map_map, lookupVal_map, ← hid] at this
    rw [this]; congr 1; funext k
    exact (Elem.rev_norton ..).symm
  · have := congrArg (Option.map fun i => Elem.thevenin (0 : K) i) (hx.ind b hb)
    rw [lookupVal_map, Option.map_map, lookupVal_map, ← hid] at this
    simp only [hd] at this
    rw [this]; congr 1; funext k
    exact (Elem.rev_thevenin ..).symm

theorem mapElems_rename (σ : L → L') (τ : String → String) (N : Net L K) (g : Branch L K → Elem K)
    (g' : Branch L' K → Elem K) (h : ∀ b ∈ N.branches, g' (b.rename σ τ) = g b) :
    (N.rename σ τ).mapElems g' = (N.mapElems g).rename σ τ := by
  unfold Net.mapElems Net.rename
  simp only [List.map_map]
  congr 1
  apply List.map_congr_left
  intro b hb
  simp only [Function.comp_apply, h b hb]
  rfl

theorem mapElems_flip (f : String → Bool) (N : Net L K) (g g' : Branch L K → Elem K)
    (h : ∀ b ∈ N.branches, g' (b.flip f) = Elem.rev (f b.id) (g b)) :
    (N.flip f).mapElems g' = (N.mapElems g).flip f := by
  unfold Net.mapElems Net.flip
  simp only [List.map_map]
  congr 1
  apply List.map_congr_left
  intro b hb
  simp only [Function.comp_apply, h b hb]
  unfold Branch.flip Elem.rev
  by_cases hf : f b.id = true
  · simp only [hf, ↓reduceIte]
  · simp only [hf, Bool.false_eq_true, ↓reduceIte]

theorem mapElems_perm (N N' : Net L K) (g g' : Branch L K → Elem K) (hp : N.branches.Perm N'.branches)
    (h : ∀ b ∈ N.branches, g' b = g b) :
    (N.mapElems g).branches.Perm (N'.mapElems g').branches := by
  unfold Net.mapElems
  simp only
  have : N.branches.map (fun b => ({ b with e := g b } : Branch L K))
      = N.branches.map (fun b => ({ b with e := g' b } : Branch L K)) := by
    apply List.map_congr_left
    intro b hb
    rw [h b hb]
  rw [this]
  exact hp.map _

theorem mapElems_branches_congr (N N' : Net L K) (g g' : Branch L K → Elem K) (hbr : N'.branches = N.branches)
    (h : ∀ b ∈ N.branches, g' b = g b) :
    (N'.mapElems g').branches = (N.mapElems g).branches := by
  unfold Net.mapElems
  simp only [hbr]
  apply List.map_congr_left
  intro b hb
  rw [h b hb]

/-! Each transformation carries the solutions of `N.mapElems g` to solutions of the transformed network with a related
substitution `g'`; which substitution it is, and the state-space model, play no part. -/

theorem subst_perm {N N' : Net L K} {g g' : Branch L K → Elem K} (hz : N.zero = N'.zero)
    (hp : N.branches.Perm N'.branches) (hrel : ∀ b ∈ N.branches, g' b = g b) (R : Report L K)
    (h : CircuitEqs (N.mapElems g) R) : CircuitEqs (N'.mapElems g') R :=
  (C03_perm (N.mapElems g) (N'.mapElems g') hz (mapElems_perm N N' g g' hp hrel) R).mp h

theorem subst_reref {N N' : Net L K} {g g' : Branch L K → Elem K} (gnd : L) (hr : switchGround N gnd = .ok N')
    (hrel : ∀ b ∈ N.branches, g' b = g b) (R : Report L K) (h : CircuitEqs (N.mapElems g) R) :
    CircuitEqs (N'.mapElems g') (R.shift (R.pot gnd)) := by
  have hN' : N' = ⟨N.branches, gnd⟩ := mk?_ok hr
  have := h.reref (M' := N'.mapElems g') (mapElems_branches_congr N N' g g' (by rw [hN']) hrel)
  rwa [show (N'.mapElems g').zero = gnd by rw [hN']; rfl] at this

theorem subst_reverse (f : String → Bool) {N : Net L K} {g g' : Branch L K → Elem K}
    (hrel : ∀ b ∈ N.branches, g' (b.flip f) = Elem.rev (f b.id) (g b)) (R : Report L K)
    (h : CircuitEqs (N.mapElems g) R) : CircuitEqs ((N.flip f).mapElems g') (R.flip f) :=
  mapElems_flip f N g g' hrel ▸ C03_reverse f _ R h

theorem subst_rename (σ : L → L') (hσ : Function.Injective σ) (τ : String → String) {N : Net L K}
    {g : Branch L K → Elem K} {g' : Branch L' K → Elem K}
    (hrel : ∀ b ∈ N.branches, g' (b.rename σ τ) = g b) (R' : Report L' K)
    (h : CircuitEqs ((N.rename σ τ).mapElems g') R') : CircuitEqs (N.mapElems g) (R'.comap σ τ) :=
  (C03_rename σ hσ τ _ R').mp (mapElems_rename σ τ N g g' hrel ▸ h)

theorem subst_core {N : Net L K} {N' : Net L' K} {g : Branch L K → Elem K} {g' : Branch L' K → Elem K}
    (hids' : N'.ids.Nodup) {R : Report L K} {R' : Report L' K}
    (hR : CircuitEqs (N.mapElems g) R) (hR' : CircuitEqs (N'.mapElems g') R') (Φ : Report L K → Report L' K)
    (hΦ : ∀ R, CircuitEqs (N.mapElems g) R → CircuitEqs (N'.mapElems g') (Φ R))
    (hw' : WellPosed (N'.mapElems g')) : R'.AgreeOn (N'.mapElems g') (Φ R) :=
  C01_unique _ (mapElems_ids_nodup _ hids') hw' _ _ hR' (hΦ _ hR)

end subst

section state
variable {L K : Type} [DecidableEq L] [LabelOrd L] [Field K] [DecidableEq K]
variable {N : Net L K} {cvals lvals : ValDict K}

theorem state_circuit {Ainv S Delta : List (List K)}
    {m : SSMats K} (h : RLC N cvals lvals) (hD : ssDelta N cvals = .ok Delta)
    (hm : stateSpaceMatrices N cvals lvals Ainv S = .ok m)
    (hc : ModelCert id N cvals lvals Ainv S Delta)
    (x : Fin (ssNStates N cvals lvals) → K) (u : Fin (ssNInputs N lvals) → K) :
    let y := toM N.nY (ssNStates N cvals lvals) m.C *ᵥ x + toM N.nY (ssNInputs N lvals) m.D *ᵥ u
    let xdot := toM (ssNStates N cvals lvals) (ssNStates N cvals lvals) m.A *ᵥ x
                + toM (ssNStates N cvals lvals) (ssNInputs N lvals) m.B *ᵥ u
    let P := sampleNet N cvals lvals (ssSources N lvals) (List.ofFn u) (List.ofFn xdot)
    CircuitEqs (N.mapElems (stateElem cvals lvals (ssSources N lvals) (List.ofFn u) (List.ofFn x)))
      (P.reportOf (List.ofFn y)) := by
  intro y xdot P
  have hrb := fun {b : Branch L K} (hb : b ∈ N.branches) =>
    state_readback h hD (List.ofFn u) (List.ofFn xdot) y hb x (model_sample_system id hD hm hc x u).2
  have hP : CircuitEqs P (P.reportOf (List.ofFn y)) := model_sample_circuit h hD hm hc x u
  -- both networks are `N.mapElems (reactElem …)`; the report stays the one of `P`
  rw (occs := .pos [1]) [show P = _ from sampleNet_eq ..] at hP
  rw [stateElem_eq]
  -- the source laws of the sample network are dropped: the state laws hold by the read-back
  refine circuitEqs_react h _ _ (fun _ => idealCS_notLossy _) (fun _ => idealVS_notLossy _)
    (fun _ => idealVS_notLossy _) (fun _ => idealCS_notLossy _) (fun b hb k hc' _ => ?_) (fun b hb k hl _ => ?_) hP
  · simp only [Elem.lawResidual, if_true, (hrb hb).1 k hc']
    exact sub_self _
  · simp only [Elem.lawResidual, if_true, (hrb hb).2 k hl]
    exact sub_self _

end state
end CC
