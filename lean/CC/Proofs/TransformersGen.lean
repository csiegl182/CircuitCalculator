/-
  CC.Proofs.TransformersGen — what the tie between the generated model of Network/transformers.py
  (CC/Gen/Transformers.lean, translated from the Python AST on every run) and the hand-written model
  CC/Model/Transform.lean rests on: the constructor, the exemption test, `list.remove`, the factories, and the
  indexed loop of `remove_short_circuit_elements` as the recursion `contractAll` (`gen_loop`).  The equalities
  function by function are in CC/Properties/C16Gen.lean.
-/
import CC.Gen.Transformers
import CC.Proofs.ContractShape
set_option linter.unusedSectionVars false

namespace CC
open CC.Gen.Core CC.Gen.Transformers CC.Py

variable {L K : Type} [DecidableEq L] [LabelOrd L] [Field K] [DecidableEq K]

/-- an element object (generated reading: a triple) as the exemption list of the hand model sees it -/
def ElemKey.ofElt (el : Py.Elt K) : ElemKey K := ⟨el.1, el.2.1, el.2.2⟩

theorem ElemKey.ofElt_injective : Function.Injective (ElemKey.ofElt (K := K)) := by
  rintro ⟨a, b, c⟩ ⟨a', b', c'⟩ h
  simp only [ElemKey.ofElt, ElemKey.mk.injEq] at h
  obtain ⟨rfl, rfl, rfl⟩ := h
  rfl

theorem ElemKey.ofElt_element (b : Branch L K) : ElemKey.ofElt (Py.element b) = b.key := rfl

/-- `b.element in keep` under dataclass equality is the hand model's `keep.contains b.key` -/
theorem gen_mem_keep (b : Branch L K) (keep : List (Py.Elt K)) :
    decide (Py.element b ∈ keep) = (keep.map ElemKey.ofElt).contains b.key := by
  rw [← ElemKey.ofElt_element, Bool.eq_iff_iff]
  simp only [decide_eq_true_eq, List.contains_iff_mem, List.mem_map]
  constructor
  · intro h; exact ⟨_, h, rfl⟩
  · rintro ⟨x, hx, he⟩; rwa [← ElemKey.ofElt_injective he]

theorem gen_mkBranch_n1 (b : Branch L K) (rn : L) : Py.mkBranch rn b.n2 (Py.element b) = { b with n1 := rn } := rfl
theorem gen_mkBranch_n2 (b : Branch L K) (rn : L) : Py.mkBranch b.n1 rn (Py.element b) = { b with n2 := rn } := rfl

/-- `l.remove(x)` of an element that occurs: the hand model's `removeFirst` -/
theorem gen_listRemove {α : Type} [DecidableEq α] (x : α) (l : List α) (h : x ∈ l) :
    Py.listRemove x l = .ok (removeFirst x l) := by
  induction l with
  | nil => simp at h
  | cons a l ih =>
    by_cases ha : a = x
    · simp [Py.listRemove, removeFirst, ha]
    · have : x ∈ l := by
        rcases List.mem_cons.1 h with h' | h'
        · exact absurd h'.symm ha
        · exact h'
      simp [Py.listRemove, removeFirst, ha, ih this]

theorem gen_is_zero_node (N : Net L K) (n : L) : Gen.Transformers.Network.is_zero_node N n = decide (n = N.zero) := rfl

/-- one pass of the generated loop in terms of the hand model: `pairs[k]`, orientation by the
reference-node rule, contraction step, renaming of the pair list -/
def loopPass (z : L) (acc : List (Branch L K) × List (L × L)) (k : Nat) :
    Except Err (List (Branch L K) × List (L × L)) :=
  match acc.2[k]? with
  | some p => .ok (contractStep acc.1 (orient z p).1 (orient z p).2, acc.2.map (renPair (orient z p).1 (orient z p).2))
  | none => .error .keyError

/-- the indexed loop `for k in range(len(pairs))`, which renames the *whole* pair list in every
pass, is the recursion `contractAll` over the pairs that remain: `pairs[k]` never raises (the
list keeps its length) and the passes never look at the pairs already used -/
theorem gen_loop_aux {β : Type} (z : L)
    (f : List (Branch L K) × List (L × L) → Nat → Except Err (List (Branch L K) × List (L × L)))
    (hf : ∀ acc k, f acc k = loopPass z acc k) (g : List (Branch L K) → Except Err β)
    (rest : List (L × L)) : ∀ (done : List (L × L)) (bs : List (Branch L K)),
      ((List.range' done.length rest.length).foldlM f (bs, done ++ rest) >>= fun acc => g acc.1)
        = g (contractAll z rest bs) := by
  induction rest using pairs_ind z with
  | nil => intro done bs; rw [contractAll_nil]; rfl
  | step p ps ih =>
    intro done bs
    have hidx : (done ++ p :: ps)[done.length]? = some p := by
      rw [List.getElem?_append_right (Nat.le_refl _), Nat.sub_self]; rfl
    rw [contractAll_cons, List.length_cons, List.range'_succ, List.foldlM_cons, hf, loopPass]
    simp only [hidx]
    -- the pair just used joins the renamed prefix; the pairs that remain are renamed as `contractAll` does
    set an := (orient z p).1
    set rn := (orient z p).2
    have := ih (done.map (renPair an rn) ++ [renPair an rn p]) (contractStep bs an rn)
    rw [List.length_map, List.length_append, List.length_map, List.append_assoc] at this
    rw [List.map_append]
    exact this

theorem gen_loop {β : Type} (z : L)
    (f : List (Branch L K) × List (L × L) → Nat → Except Err (List (Branch L K) × List (L × L)))
    (hf : ∀ acc k, f acc k = loopPass z acc k) (g : List (Branch L K) → Except Err β)
    (pairs : List (L × L)) (bs : List (Branch L K)) :
    ((List.range pairs.length).foldlM f (bs, pairs) >>= fun acc => g acc.1) = g (contractAll z pairs bs) := by
  have := gen_loop_aux z f hf g pairs [] bs
  simpa [List.range_eq_range'] using this

/-- the reference-node rule as the loop writes it -/
theorem gen_orient (N : Net L K) (p : L × L) :
    (if (!(Gen.Transformers.Network.is_zero_node N p.1)) then (p.1, p.2) else (p.2, p.1)) = orient N.zero p := by
  unfold orient Gen.Transformers.Network.is_zero_node
  by_cases h : p.1 = N.zero <;> simp [h]

/-- `is_intended_…_source`: not exempted, and a source -/
theorem gen_intended (c s : Bool) : (if c = true then false else if s = true then true else false) = (!c && s) := by
  cases c <;> cases s <;> rfl

end CC
