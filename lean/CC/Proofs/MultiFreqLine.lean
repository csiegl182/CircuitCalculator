/-
  For CC/Properties/C09Line.lean: the frequency list of a circuit with a single periodic source.  `harmonicList` is
  already sorted and, for `w_res < w0`, separated, so `sortQ` and the merge loop leave it alone.
-/
import CC.Proofs.MultiFreqLemmas
import CC.Proofs.CircuitLemmas
import CC.Proofs.RoundLemmas
import Mathlib.Analysis.Complex.Trigonometric
import Mathlib.Data.List.Forall2

namespace CC

theorem harmonicList_pairwise (w0 wmax : ℚ) (R : ℚ → ℚ → Prop)
    (hR : ∀ i j : ℕ, i < j → R (w0 * (i : ℚ)) (w0 * (j : ℚ))) : (harmonicList w0 wmax).Pairwise R := by
  unfold harmonicList
  rw [List.pairwise_map]
  exact List.Pairwise.imp (fun {i j} hij => hR i j hij) List.pairwise_lt_range

theorem harmonicList_separated (w0 wmax wres : ℚ) (hres : wres < w0) (h0 : 0 < w0) :
    (harmonicList w0 wmax).Pairwise (fun a b => wres < b - a) := by
  apply harmonicList_pairwise
  intro i j hij
  have h1 : (1 : ℚ) ≤ (j : ℚ) - (i : ℚ) := by
    rw [le_sub_iff_add_le']
    exact_mod_cast hij
  calc wres < w0 * 1 := by rwa [mul_one]
    _ ≤ w0 * ((j : ℚ) - (i : ℚ)) := mul_le_mul_of_nonneg_left h1 h0.le
    _ = w0 * (j : ℚ) - w0 * (i : ℚ) := mul_sub _ _ _

theorem harmonicList_sorted (w0 wmax : ℚ) (h0 : 0 < w0) : (harmonicList w0 wmax).Pairwise (· ≤ ·) := by
  apply harmonicList_pairwise
  intro i j hij
  exact mul_le_mul_of_nonneg_left (by exact_mod_cast hij.le) h0.le

theorem harmonicList_length (w0 wmax : ℚ) : (harmonicList w0 wmax).length = ((wmax / w0).floor + 1).toNat := by
  simp [harmonicList]

theorem harmonicList_getElem (w0 wmax : ℚ) (k : ℕ) (hk : k < (harmonicList w0 wmax).length) :
    (harmonicList w0 wmax)[k] = w0 * (k : ℚ) := by
  simp [harmonicList]

theorem allFrequencies_append_of_none (wmax : ℚ) (pre cs : List FComp) (h : ∀ c ∈ pre, c.w = none) :
    allFrequencies wmax (pre ++ cs) = allFrequencies wmax cs := by
  induction pre with
  | nil => rfl
  | cons c pre ih =>
    have hc : c.frequencies wmax = .ok [] := by simp [FComp.frequencies, h c (List.mem_cons_self ..)]
    rw [List.cons_append, allFrequencies, hc, ih fun d hd => h d (List.mem_cons_of_mem _ hd)]
    cases allFrequencies wmax cs <;> rfl

theorem frequencyComponents_single_periodic (pre post : List FComp) (src : FComp) (w0 wmax wres : ℚ)
    (hpre : ∀ c ∈ pre, c.w = none) (hpost : ∀ c ∈ post, c.w = none)
    (hp : src.isPeriodic = true) (hw : src.w = some w0) (h0 : 0 < w0) (hres : wres < w0) :
    frequencyComponents (pre ++ src :: post) wmax wres = .ok (harmonicList w0 wmax) := by
  have hsrc : src.frequencies wmax = .ok (harmonicList w0 wmax) := by
    simp [FComp.frequencies, hw, hp, h0.ne']
  have hpost' : allFrequencies wmax post = .ok [] :=
    List.append_nil post ▸ allFrequencies_append_of_none wmax post [] hpost
  unfold frequencyComponents
  rw [allFrequencies_append_of_none wmax pre _ hpre, allFrequencies, hsrc, hpost']
  simp only [List.append_nil]
  rw [sortQ_of_sorted _ (harmonicList_sorted w0 wmax h0),
    mergeRes_of_separated _ _ (harmonicList_separated w0 wmax wres hres h0)]

theorem sum_range_succ_eq_zero_add_Icc (f : ℕ → ℝ) (N : ℕ) :
    ∑ k ∈ Finset.range (N + 1), f k = f 0 + ∑ n ∈ Finset.Icc 1 N, f n := by
  rw [Finset.sum_range_succ', add_comm]
  congr 1
  rw [Finset.range_eq_Ico, Finset.sum_Ico_add' (fun n => f n) 0 N 1]
  rfl

end CC
