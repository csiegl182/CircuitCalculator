/-
  CC.Proofs.FmtMantissa — arithmetic of the mantissa stage (`fp_mantissa`, `f3_exponent3`, `f3_mantissa3`) and half units
  of a decade.
-/
import CC.Proofs.FmtExponent
import CC.Spec.Fmt

namespace CC
open CC.Fmt CC.Gen.Fmt

theorem exponent3_eq (p e : ℤ) : f3_exponent3 p e = 3 * ((p + e - 1) / 3) := by
  unfold f3_exponent3; rw [Int.fdiv_eq_ediv_of_nonneg _ (by norm_num)]

/-- the scaled mantissa is the mantissa shifted so that `r + 1` digits stand before the point, `r = (p + e - 1) % 3` -/
theorem abs_mantissa3 (M p e : ℤ) :
    |f3_mantissa3 M e (f3_exponent3 p e)| = |(M : ℚ)| * pow10 ((p + e - 1) % 3 - (p - 1)) := by
  unfold f3_mantissa3
  rw [exponent3_eq, abs_mul, abs_of_pos (pow10_pos _)]
  congr 2; omega

theorem fp_mantissa_eq (v : ℚ) (e : ℤ) : fp_mantissa v e = rhe (v * pow10 (-e)) := by
  rw [fp_mantissa, pow10_neg, div_eq_mul_inv]

theorem fp_mantissa_neg (v : ℚ) (e : ℤ) : fp_mantissa (-v) e = -fp_mantissa v e := by
  rw [fp_mantissa, neg_div, rhe_neg, fp_mantissa]

theorem fp_mantissa_abs (v : ℚ) (e : ℤ) : fp_mantissa |v| e = |fp_mantissa v e| := by
  have hpos : ∀ a : ℚ, 0 ≤ a → 0 ≤ fp_mantissa a e := fun a ha =>
    rhe_nonneg (div_nonneg ha (pow10_pos e).le)
  rcases le_total 0 v with hv | hv
  · rw [abs_of_nonneg hv, abs_of_nonneg (hpos v hv)]
  · have := hpos (-v) (neg_nonneg.mpr hv)
    rw [fp_mantissa_neg] at this
    rw [abs_of_nonpos hv, fp_mantissa_neg, abs_of_nonpos (by omega)]

theorem abs_mantissa_mul_sub (v : ℚ) (e : ℤ) :
    |((fp_mantissa v e : ℤ) : ℚ) * pow10 e - v| = |((fp_mantissa |v| e : ℤ) : ℚ) * pow10 e - abs v| := by
  rcases le_total 0 v with hv | hv
  · rw [abs_of_nonneg hv]
  · rw [abs_of_nonpos hv, fp_mantissa_neg, ← abs_neg]; congr 1; push_cast; ring

theorem halfUnit_of_decade {v : ℚ} {p : ℕ} {d : ℤ} (h1 : pow10 d ≤ |v|) (h2 : |v| < pow10 (d + 1)) :
    halfUnit v p = pow10 (d - p + 1) / 2 := by
  unfold halfUnit
  rw [qabs_eq_abs, decade_unique h1 h2]

theorem halfUnit_of_rounds_up {v : ℚ} {p : ℕ} {D : ℤ} (hp : 1 ≤ p)
    (h1 : pow10 D - pow10 (D - p) / 2 ≤ |v|) (h2 : |v| < pow10 D) : halfUnit v p = pow10 (D - p) / 2 := by
  have hle : pow10 (D - p) ≤ pow10 (D - 1) := pow10_le_pow10 (by omega)
  have e1 : pow10 D = 10 * pow10 (D - 1) := by rw [← pow10_succ, sub_add_cancel]
  have hpos := pow10_pos (D - 1)
  rw [halfUnit_of_decade (d := D - 1) (by linarith) (by rwa [sub_add_cancel])]
  congr 2; ring

theorem mantissa_of_rounds_up {a : ℚ} {p n : ℕ} {e D : ℤ} (hn : n < p) (hD : D + -e = n)
    (h1 : pow10 D - pow10 (D - p) / 2 ≤ a) (h2 : a < pow10 D) : fp_mantissa a e = ((10 ^ n : ℕ) : ℤ) := by
  rw [fp_mantissa_eq]
  have hlt : pow10 (D - p) < pow10 (- -e) := pow10_lt_pow10 (by omega)
  exact rhe_eq_pow10_of_near (by linarith) h2 hD

theorem halfUnit_nonneg (v : ℚ) (p : ℕ) : 0 ≤ halfUnit v p := by
  unfold halfUnit; have := pow10_pos (decade (qabs v) - (p : ℤ) + 1); linarith

theorem halfUnit_le_half (v : ℚ) (p : ℕ) (hp : 1 ≤ p) (hv : v ≠ 0) : halfUnit v p ≤ |v| / 2 := by
  obtain ⟨h1, h2⟩ := decade_spec (qabs_pos hv)
  rw [qabs_eq_abs] at h1 h2
  rw [halfUnit_of_decade h1 h2]
  have := pow10_le_pow10 (by omega : decade |v| - (p : ℤ) + 1 ≤ decade |v|)
  linarith

/-- the `post = p - #digits ⌊|mantissa3|⌋` decimals printed for the scaled mantissa are exact: `|mantissa3| · 10^post`
is a natural number, for a mantissa of at most `p` digits or `±10^p` -/
theorem mantissa3_integral (M e : ℤ) (p : ℕ) (hhi : |(M : ℚ)| ≤ pow10 p) :
    ∃ N : ℕ, |f3_mantissa3 M e (f3_exponent3 p e)|
      * ((10 ^ (p - numDigits ⌊|f3_mantissa3 M e (f3_exponent3 p e)|⌋.toNat) : ℕ) : ℚ) = (N : ℚ) := by
  obtain ⟨r, hr⟩ : ∃ r : ℕ, ((p : ℤ) + e - 1) % 3 = (r : ℤ) := ⟨(((p : ℤ) + e - 1) % 3).toNat, by omega⟩
  have hform : |f3_mantissa3 M e (f3_exponent3 p e)| = |(M : ℚ)| * pow10 ((r : ℤ) - (p - 1)) := by
    rw [abs_mantissa3, hr]
  set post := p - numDigits ⌊|f3_mantissa3 M e (f3_exponent3 p e)|⌋.toNat with hpost
  rcases eq_or_lt_of_le hhi with heq | hlt
  · -- `±10^p`, scaled to `10^(r+1)`
    refine ⟨10 ^ (r + 1) * 10 ^ post, ?_⟩
    rw [hform, heq, ← pow10_add, show (p : ℤ) + ((r : ℤ) - (p - 1)) = ((r + 1 : ℕ) : ℤ) by push_cast; ring,
      pow10_natCast']
    push_cast; ring
  · -- fewer than `r + 1` digits before the point, so at least `p - r - 1` decimals
    have hfl : ⌊|f3_mantissa3 M e (f3_exponent3 p e)|⌋ < ((10 ^ (r + 1) : ℕ) : ℤ) := by
      rw [Int.floor_lt, ← pow10_natCast_int, hform]
      exact mul_pow10_lt hlt (by push_cast; ring)
    have hnd := numDigits_le_of_lt (Nat.le_add_left 1 r) ((Int.toNat_lt' (by positivity)).mpr hfl)
    obtain ⟨j, hj⟩ : ∃ j : ℕ, (j : ℤ) = (r : ℤ) - (p - 1) + post := ⟨((r : ℤ) - (p - 1) + post).toNat, by omega⟩
    have hMnat : |(M : ℚ)| = ((M.natAbs : ℕ) : ℚ) := by rw [← Int.cast_abs, Int.abs_eq_natAbs]; simp
    refine ⟨M.natAbs * 10 ^ j, ?_⟩
    rw [hform, hMnat, mul_assoc, ← pow10_natCast' post, ← pow10_add, ← hj, pow10_natCast']
    push_cast; rfl

end CC
