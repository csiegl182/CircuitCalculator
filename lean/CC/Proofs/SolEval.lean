/-
  CC.Proofs.SolEval — lemmas of the reading CC/Model/SolutionEval.lean.

  * The generated table `Gen.Sol.methodTable` is keyed: no two methods share class and name (`methodKeys_distinct`, the
    one fact found by evaluating the table), so `findMethod` answers every entry under that entry's own class and name
    (`findMethod_entry`).  A theorem "the tree of method `cls.name` is literally …" is the entry at its position.
  * Part (A), `evalP` / `runBody` / `runMethod`: a method is run from the first statement on — `rw [runBody]` exposes the
    expression of the statement, `simp only [sol_eval, …]` evaluates it: the equations of `evalP` itself and, for the
    operations it calls (`callNamedP`, `cmpP`, `indexP`, `binP`, `negP`, `applyP`), the equations stated here, one per form of
    argument that occurs; the program text behind the statement being read is never opened.
-/
import CC.Model.SolutionEval
import CC.Proofs.SolEvalAttr
import CC.Proofs.ListLemmas
import CC.Proofs.ExceptLemmas
namespace CC.SolEval
open CC.Gen CC.Gen.Sol

theorem methodKeys_distinct :
    methodTable.Pairwise fun a b => (a.cls == b.cls && a.name == b.name) = false := by
  decide +kernel

theorem findMethod_entry (i : Nat) {cls name : String} {m : PMethod} (h : methodTable[i]? = some m)
    (hc : m.cls = cls := by rfl) (hn : m.name = name := by rfl) : findMethod cls name = some m := by
  subst hc hn
  exact find?_of_pairwise (R := fun a b : PMethod => (a.cls == b.cls && a.name == b.name) = false)
    (p := fun a : PMethod => a.cls == m.cls && a.name == m.name)
    (Bool.and_eq_true_iff.2 ⟨beq_self_eq_true _, beq_self_eq_true _⟩) (fun _ hb => hb) methodKeys_distinct h

variable (W : World) (cs : String → List PVal → Except Err PVal)

attribute [sol_eval] evalP bindP List.lookup ok_bind pure_eq_ok

@[sol_eval] theorem map_bind {α β γ : Type} (x : Except Err α) (h : α → β) (f : β → Except Err γ) :
    (x.map h >>= f) = x >>= fun a => f (h a) := by
  cases x <;> rfl

/-- `List.mapM_pure` with `pure` spelt `.ok`, the form in which `simp only [sol_eval]` leaves a comprehension whose element cannot fail -/
theorem mapM_pure_ok {α β : Type} (f : α → β) (l : List α) : List.mapM (fun a => (.ok (f a) : Except Err β)) l = .ok (l.map f) :=
  List.mapM_pure

theorem getD_of_map_snd {x : Except Err (PEnv × Option PVal)} {v : PVal} (h : x.map (·.2) = .ok (some v)) :
    (x >>= fun r => .ok (r.2.getD .none_)) = .ok v := by
  cases x with
  | error e => cases h
  | ok r => obtain ⟨env, o⟩ := r; cases h; rfl

theorem runMethod_succ {cls name c nm : String} {params : List String} {body : List PStmt}
    (h : findMethod cls name = some ⟨c, nm, params, body⟩) (fuel : Nat) {attrs : List (String × PVal)} {args : List PVal}
    (hl : params.length = args.length) :
    runMethod W cls (fuel + 1) attrs name args
      = runBody W (fun n a => do let r ← runMethod W cls fuel attrs n a; pure (r.2.getD .none_)) ⟨attrs, params.zip args⟩ body := by
  rw [runMethod, h]; exact if_pos hl

@[sol_eval] theorem asList_list (l : List PVal) : asList (.list l) = .ok l := rfl

@[sol_eval] theorem callNamedP_eqs :
    (∀ wmax, callNamedP W "frequency_components" [.circuit, .rat wmax]
      = (Freq.frequency_components W.fc wmax Freq.default_w_resolution).map fun ws => .list (ws.map .rat)) ∧
    (∀ l, callNamedP W "transform" [.circuit, .kwarg "w" (.list l)] = (do
      let ws ← l.mapM asRat
      let nets ← transform tables W.trig W.harm W.C ws defaultWResTransform
      pure (.list (nets.map .net)))) ∧
    (∀ args, callNamedP W "ComplexSolution" args = mkComplexSolution W args) ∧
    (∀ v, callNamedP W "np.array" [v] = .ok v) ∧
    (∀ v, callNamedP W "np.vectorize" [v] = .ok v) ∧
    (∀ l, callNamedP W "len" [.list l] = .ok (.nat l.length)) ∧
    (∀ k, callNamedP W "slice" [.nat k, .none_] = .ok (.slice k)) ∧
    (∀ parts, callNamedP W "np.concatenate" [.list parts] = (do let ls ← parts.mapM asList; pure (.list ls.flatten))) ∧
    (∀ l, callNamedP W "np.conj" [.list l] = (do let zs ← l.mapM asGQ; pure (.list (zs.map fun z => .gq (GQ.conj z))))) := by
  delta callNamedP
  simp only [String.reduceEq, ↓reduceIte, or_true, or_false, implies_true, and_self]

/-- the identifier guards are skipped by the reading -/
theorem callNamedP_require {f : String} (h : f = "_require_component" ∨ f = "_require_node") (args : List PVal) :
    callNamedP W f args = .ok .none_ := by
  delta callNamedP
  rcases h with rfl | rfl <;> simp only [String.reduceEq, ↓reduceIte, or_false, or_true]

@[sol_eval] theorem cmpP_eqs :
    (∀ a b, cmpP "==" (.nat a) (.nat b) = .ok (.bool (a == b))) ∧
    (∀ a b, cmpP ">" (.nat a) (.nat b) = .ok (.bool (decide (a > b)))) ∧
    (∀ a b, cmpP "==" (.rat a) (.nat b) = .ok (.bool (decide (a = (b : Rat))))) := by
  simp only [cmpP, String.reduceEq, ↓reduceIte, implies_true, and_self]

@[sol_eval] theorem indexP_list (l : List PVal) :
    (∀ k, indexP (.list l) (.nat k) = match l[k]? with | some v => .ok v | none => .error .keyError) ∧
    (∀ k, indexP (.list l) (.slice k) = .ok (.list (l.drop k))) ∧ indexP (.list l) .rev = .ok (.list l.reverse) ∧
    (∀ n, indexP (.list l) (.upto n) = .ok (.list (l.take n))) :=
  ⟨fun _ => rfl, fun _ => rfl, rfl, fun _ => rfl⟩

@[sol_eval] theorem binP_half (l : List PVal) :
    binP "/" (.list l) (.nat 2) = l.mapM asGQ >>= fun zs => .ok (.list (zs.map fun z => .gq (GQ.ofRat (1/2) * z))) := by
  simp only [binP, ↓reduceIte]; rfl
@[sol_eval] theorem binP_sub (a b : Nat) : binP "-" (.nat a) (.nat b) = .ok (.nat (a - b)) := by
  simp only [binP, ↓reduceIte]
@[sol_eval] theorem negP_list (l : List PVal) : negP (.list l) = l.mapM asRat >>= fun ws => .ok (.list (ws.map fun w => .rat (-w))) := rfl

@[sol_eval] theorem applyP_solver (N : Net String GQ) : applyP W cs .solverFn [.net N] = .ok (.sol N (W.solve N)) := rfl
@[sol_eval] theorem applyP_self (m : String) (args : List PVal) : applyP W cs (.meth .selfObj m) args = cs m args := rfl

end CC.SolEval
