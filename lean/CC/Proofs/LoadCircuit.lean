/-
  `generate_component` (Circuit/dump_load.py:30-55) on arbitrary entry dictionaries, in closed form: a function of the four
  fields it reads (`fromFields`), with the constructor call decided by `accepts` (the component is then `builtBy`) and
  every failing branch named with its exception (`callCompFactory_rejects`).  No Mathlib.
-/
import CC.Proofs.LoadLemmas
import CC.Proofs.ListLemmas
namespace CC.Load
open CC.Gen.Load

theorem compReads_eq :
    compRead "component_id" = { var := "component_id", key := "id", read := .get, exc := "UnidentifiedComponent" } ∧
    compRead "component_value" = { var := "component_value", key := "value", read := .pop, exc := "IncorrectComponentInformation" } ∧
    compRead "component_type" = { var := "component_type", key := "type", read := .pop, exc := "IncorrectComponentInformation" } ∧
    compRead "component_nodes" = { var := "component_nodes", key := "nodes", read := .get, exc := "IncorrectComponentInformation" } := by
  decide +kernel

/-- what `generate_component` does once it holds the four fields -/
def dispatchC (id nodes ty value : J) : Except Err Comp :=
  match ty with
  | .arr _ => .error .typeError
  | .obj _ => .error .typeError
  | .str kind =>
    match circuitComponentTranslators.find? (fun p => p.1 == kind) with
    | none => .error (.other "UnknownCircuitComponent")
    | some (_, fname) =>
      match componentFactories.find? (fun f => f.name == fname) with
      | none => .error (.other "unknown constructor")
      | some f =>
        match callCompFactory f id nodes value with
        | .error .typeError => .error (.other "IncorrectComponentInformation")
        | r => r
  | _ => .error (.other "UnknownCircuitComponent")

/-- `generate_component` as a function of the four fields of the entry (`none` = key absent):
the reads happen in the order id, value, type, nodes and the first missing key decides the error -/
def fromFields : Option J → Option J → Option J → Option J → Except Err Comp
  | none, _, _, _ => .error (.other "UnidentifiedComponent")
  | some _, none, _, _ => .error (.other "IncorrectComponentInformation")
  | some _, some _, none, _ => .error (.other "IncorrectComponentInformation")
  | some _, some _, some _, none => .error (.other "IncorrectComponentInformation")
  | some id, some value, some ty, some nodes => dispatchC id nodes ty value

theorem generateComponentObj_fields (o : Obj) :
    (generateComponentObj o).1
      = fromFields (Obj.find o "id") (Obj.find o "value") (Obj.find o "type") (Obj.find o "nodes") := by
  obtain ⟨e1, e2, e3, e4⟩ := compReads_eq
  unfold generateComponentObj
  simp only [e1, e2, e3, e4, Obj.read]
  cases h1 : Obj.find o "id" with
  | none => rfl
  | some id =>
    simp only []
    cases h2 : Obj.find o "value" with
    | none => rfl
    | some value =>
      simp (disch := decide) only [Obj.find_del_ne]
      cases h3 : Obj.find o "type" with
      | none => rfl
      | some ty =>
        simp (disch := decide) only [Obj.find_del_ne]
        cases h4 : Obj.find o "nodes" with
        | none => rfl
        | some nodes =>
          simp only [fromFields, dispatchC]
          have hl : componentLookupExc = "UnknownCircuitComponent" := rfl
          have hc : componentCallExc = "IncorrectComponentInformation" := rfl
          cases ty <;> simp only [hl]
          rename_i kind
          cases circuitComponentTranslators.find? (fun p => p.1 == kind) with
          | none => rfl
          | some p =>
            obtain ⟨k', fname⟩ := p
            simp only []
            cases componentFactories.find? (fun f => f.name == fname) with
            | none => rfl
            | some f =>
              simp only [hc]
              cases callCompFactory f id nodes value with
              | ok c => rfl
              | error e => cases e <;> rfl

theorem generateComponent_obj (o : Obj) : (generateComponent (.obj o)).1 = (generateComponentObj o).1 := rfl

/-- the literal default of a parameter as the constructor sees it; `.null` for "no default" is a filler: where the binding
succeeds, such a parameter is written -/
def dfltJ : Option Int → J
  | some n => .num n
  | none => .null

/-- the arguments a constructor with parameters `params` receives from the value block `vo`: for every
parameter the written value, else the literal default -/
def boundOf (params : List (String × Option Int)) (vo : Obj) : Obj :=
  params.map fun p => (p.1, (Obj.find vo p.1).getD (dfltJ p.2))

/-- every key of the value block is a keyword of the signature -/
def keysKnown (params : List (String × Option Int)) (vo : Obj) : Bool :=
  vo.all fun p => params.any fun q => q.1 == p.1

theorem bindParams_eq (params : List (String × Option Int)) (vo : Obj) :
    bindParams params vo =
      if params.all (fun p => p.2.isSome || Obj.has vo p.1) then .ok (boundOf params vo) else .error .typeError := by
  induction params with
  | nil => rfl
  | cons q r ih =>
    obtain ⟨k, d⟩ := q
    rw [bindParams, ih, List.all_cons]
    by_cases hr : (r.all fun p => p.2.isSome || Obj.has vo p.1) = true
    · rw [if_pos hr, hr]
      cases hk : Obj.find vo k <;> cases d <;> simp [boundOf, dfltJ, Obj.has, hk]
    · rw [if_neg hr, Bool.eq_false_iff.2 hr, Bool.and_false]
      rfl

theorem bindArgs_eq (params : List (String × Option Int)) (vo : Obj) :
    bindArgs params vo =
      if !dupKeys vo && keysKnown params vo && params.all (fun p => p.2.isSome || Obj.has vo p.1)
      then .ok (boundOf params vo) else .error .typeError := by
  have hk : (vo.any fun p => !(params.any fun q => q.1 == p.1)) = !keysKnown params vo := by
    simp [keysKnown, List.all_eq_not_any_not]
  simp only [bindArgs, hk, bindParams_eq]
  cases dupKeys vo <;> cases keysKnown params vo <;>
    cases (params.all fun p => p.2.isSome || Obj.has vo p.1) <;> rfl

theorem required_unwritten {params : List (String × Option Int)} {vo : Obj} {p : String}
    (hp : (p, none) ∈ params) (hf : Obj.find vo p = none) :
    (params.all fun p => p.2.isSome || Obj.has vo p.1) = false :=
  List.all_eq_false.2 ⟨_, hp, by simp [Obj.has, hf]⟩

/-- every failure of Python's keyword binding is a `TypeError` -/
theorem bindArgs_error (params : List (String × Option Int)) (vo : Obj) (e : Err)
    (h : bindArgs params vo = .error e) : e = .typeError := by
  rw [bindArgs_eq] at h
  split at h <;> cases h
  rfl

/-- a key that is no keyword of the signature: `TypeError` (unexpected keyword argument) -/
theorem bindArgs_unknown_key (params : List (String × Option Int)) (vo : Obj)
    (hkeys : keysKnown params vo = false) : bindArgs params vo = .error .typeError := by
  simp [bindArgs_eq, hkeys]

theorem runGuards_cases (bound : Obj) (guards : List (String × Int)) :
    (runGuards bound guards = .ok () ∧
      ∀ g ∈ guards, guardLt ((Obj.find bound g.1).getD .null) g.2 = some false) ∨
    (runGuards bound guards = .error .valueError ∧
      ∃ g ∈ guards, guardLt ((Obj.find bound g.1).getD .null) g.2 = some true) ∨
    (runGuards bound guards = .error .typeError ∧
      ∃ g ∈ guards, guardLt ((Obj.find bound g.1).getD .null) g.2 = none) := by
  induction guards with
  | nil => exact Or.inl ⟨rfl, nofun⟩
  | cons g r ih =>
    obtain ⟨p, b⟩ := g
    simp only [runGuards]
    cases hgl : guardLt ((Obj.find bound p).getD .null) b with
    | none => exact Or.inr (Or.inr ⟨rfl, (p, b), List.mem_cons_self .., hgl⟩)
    | some t =>
      cases t with
      | true => exact Or.inr (Or.inl ⟨rfl, (p, b), List.mem_cons_self .., hgl⟩)
      | false =>
        rcases ih with ⟨h, ha⟩ | ⟨h, g, hg, hx⟩ | ⟨h, g, hg, hx⟩
        · exact Or.inl ⟨h, fun g hg => (List.mem_cons.1 hg).elim (fun e => e ▸ hgl) (ha g)⟩
        · exact Or.inr (Or.inl ⟨h, g, List.mem_cons_of_mem _ hg, hx⟩)
        · exact Or.inr (Or.inr ⟨h, g, List.mem_cons_of_mem _ hg, hx⟩)

theorem runGuards_ok (bound : Obj) (guards : List (String × Int))
    (h : ∀ g ∈ guards, guardLt ((Obj.find bound g.1).getD .null) g.2 = some false) :
    runGuards bound guards = .ok () := by
  rcases runGuards_cases bound guards with hc | ⟨_, g, hg, hx⟩ | ⟨_, g, hg, hx⟩
  · exact hc.1
  · rw [h g hg] at hx; cases hx
  · rw [h g hg] at hx; cases hx

theorem buildValue_cases (bound : Obj) (value : List (String × VSrc)) :
    (buildValue bound value = .ok (value.map fun kv => (kv.1, (kv.2.eval bound).getD .null)) ∧
      ∀ kv ∈ value, (kv.2.eval bound).isSome = true) ∨
    (buildValue bound value = .error .attributeError ∧ ∃ kv ∈ value, kv.2.eval bound = none) := by
  induction value with
  | nil => exact Or.inl ⟨rfl, nofun⟩
  | cons kv r ih =>
    obtain ⟨k, s⟩ := kv
    simp only [buildValue]
    cases hs : s.eval bound with
    | none => exact Or.inr ⟨rfl, (k, s), List.mem_cons_self .., hs⟩
    | some v =>
      rcases ih with ⟨h, ha⟩ | ⟨h, kv, hkv, hx⟩
      · rw [h]
        exact Or.inl ⟨by simp [hs], fun kv hkv => (List.mem_cons.1 hkv).elim (fun e => by rw [e, hs]; rfl) (ha kv)⟩
      · rw [h]
        exact Or.inr ⟨rfl, kv, List.mem_cons_of_mem _ hkv, hx⟩

theorem buildValue_ok (bound : Obj) (value : List (String × VSrc))
    (h : ∀ kv ∈ value, (kv.2.eval bound).isSome = true) :
    buildValue bound value = .ok (value.map fun kv => (kv.1, (kv.2.eval bound).getD .null)) := by
  rcases buildValue_cases bound value with hc | ⟨_, kv, hkv, hx⟩
  · exact hc.1
  · have := h kv hkv; rw [hx] at this; cases this

/-- the value block is acceptable to constructor `f`: no key twice, every key a keyword of `f` (neither
`id` nor `nodes`), every parameter without default written, every guard passes (`P < bound` is false —
in particular `P` is a number), and `.real` / `.imag` are taken of numbers only -/
def accepts (f : CompFactory) (vo : Obj) : Bool :=
  !dupKeys vo && !Obj.has vo "id" && !Obj.has vo "nodes" && keysKnown f.params vo &&
  f.params.all (fun p => p.2.isSome || Obj.has vo p.1) &&
  f.guards.all (fun g => guardLt ((Obj.find (boundOf f.params vo) g.1).getD .null) g.2 == some false) &&
  f.value.all (fun kv => (kv.2.eval (boundOf f.params vo)).isSome)

/-- the component `f` builds from an accepted value block -/
def builtBy (f : CompFactory) (id nodes : J) (vo : Obj) : Comp :=
  { ty := f.kind, id := id, nodes := nodes,
    value := f.value.map fun kv => (kv.1, (kv.2.eval (boundOf f.params vo)).getD .null) }

/-- Python's keyword binding succeeds: no key twice, neither `id` nor `nodes` among the keys, every key a
keyword of the constructor, every parameter without default written -/
def bindable (f : CompFactory) (vo : Obj) : Bool :=
  !dupKeys vo && !Obj.has vo "id" && !Obj.has vo "nodes" && keysKnown f.params vo &&
  f.params.all (fun p => p.2.isSome || Obj.has vo p.1)

/-- `id` / `nodes` among the keys of `**value` collide with the explicit arguments (`TypeError`: multiple values) -/
theorem callCompFactory_bind (f : CompFactory) (id nodes : J) (vo : Obj) :
    callCompFactory f id nodes (.obj vo) =
      if Obj.has vo "id" || Obj.has vo "nodes" then .error .typeError
      else bindArgs f.params vo >>= fun bound => runGuards bound f.guards >>= fun _ =>
        buildValue bound f.value >>= fun v => pure { ty := f.kind, id := id, nodes := nodes, value := v } := by
  rw [callCompFactory]
  split
  · rfl
  · cases bindArgs f.params vo with
    | error e => rfl
    | ok bound =>
      simp only [bind, Except.bind]
      cases runGuards bound f.guards with
      | error e => rfl
      | ok u => cases buildValue bound f.value <;> rfl

theorem callCompFactory_eq (f : CompFactory) (id nodes : J) (vo : Obj) :
    callCompFactory f id nodes (.obj vo) =
      if bindable f vo = true then
        match runGuards (boundOf f.params vo) f.guards with
        | .error e => .error e
        | .ok () =>
          match buildValue (boundOf f.params vo) f.value with
          | .error e => .error e
          | .ok v => .ok { ty := f.kind, id := id, nodes := nodes, value := v }
      else .error .typeError := by
  rw [callCompFactory_bind, bindArgs_eq, bindable]
  -- of the 32 cases of the five tests all but one are a `TypeError` on both sides; the one left is the case where
  -- the binding succeeds (no `id`, no `nodes`, no key twice, all keys known, all required parameters written)
  cases Obj.has vo "id" <;> cases Obj.has vo "nodes" <;> cases dupKeys vo <;> cases keysKnown f.params vo <;>
    cases (f.params.all fun p => p.2.isSome || Obj.has vo p.1) <;> try rfl
  simp only [Bool.or_self, Bool.false_eq_true, if_false, Bool.not_false, Bool.and_self, if_true, bind, Except.bind]
  cases runGuards (boundOf f.params vo) f.guards with
  | error e => rfl
  | ok u => cases buildValue (boundOf f.params vo) f.value <;> rfl

theorem accepts_iff (f : CompFactory) (vo : Obj) :
    accepts f vo = true ↔ bindable f vo = true ∧
      (∀ g ∈ f.guards, guardLt ((Obj.find (boundOf f.params vo) g.1).getD .null) g.2 = some false) ∧
      ∀ kv ∈ f.value, (kv.2.eval (boundOf f.params vo)).isSome = true := by
  simp only [accepts, bindable, Bool.and_eq_true, List.all_eq_true, beq_iff_eq, and_assoc]

theorem callCompFactory_ok (f : CompFactory) (id nodes : J) (vo : Obj) (h : accepts f vo = true) :
    callCompFactory f id nodes (.obj vo) = .ok (builtBy f id nodes vo) := by
  obtain ⟨hb, hg, hv⟩ := (accepts_iff f vo).1 h
  simp only [callCompFactory_eq, hb, if_true, runGuards_ok _ _ hg, buildValue_ok _ _ hv, builtBy]

/-- a key of the value block that is no keyword of the constructor is **rejected** (`TypeError`:
unexpected keyword argument), not ignored -/
theorem callCompFactory_unknown_key (f : CompFactory) (id nodes : J) (vo : Obj)
    (hkeys : keysKnown f.params vo = false) :
    callCompFactory f id nodes (.obj vo) = .error .typeError := by
  simp [callCompFactory_eq, bindable, hkeys]

theorem callCompFactory_missing (f : CompFactory) (id nodes : J) (vo : Obj) (p : String)
    (hp : (p, none) ∈ f.params) (hf : Obj.find vo p = none) :
    callCompFactory f id nodes (.obj vo) = .error .typeError := by
  simp [callCompFactory_eq, bindable, required_unwritten hp hf]

theorem callCompFactory_not_mapping (f : CompFactory) (id nodes value : J) (h : ∀ vo, value ≠ .obj vo) :
    callCompFactory f id nodes value = .error .typeError := by
  cases value <;> first | rfl | exact absurd rfl (h _)

/-- A value block that is not accepted always raises, and the exception tells why:
`TypeError` only if the keyword binding fails (a key twice / `id` / `nodes` / an unexpected keyword / a missing
parameter) or some guarded parameter is no number (`'x' < 0`); `ValueError` only if the binding succeeds and
some sign guard fires; `AttributeError` only if binding and all guards pass and `.real` / `.imag` is taken of a
non-number.  The converses fail: with several guards the first one that does not pass decides between
`TypeError` and `ValueError`. -/
theorem callCompFactory_rejects (f : CompFactory) (id nodes : J) (vo : Obj) (h : accepts f vo = false) :
    ∃ e, callCompFactory f id nodes (.obj vo) = .error e ∧
      ((e = .typeError ∧ (bindable f vo = false ∨ (bindable f vo = true ∧
          ∃ g ∈ f.guards, guardLt ((Obj.find (boundOf f.params vo) g.1).getD .null) g.2 = none))) ∨
       (e = .valueError ∧ bindable f vo = true ∧
          ∃ g ∈ f.guards, guardLt ((Obj.find (boundOf f.params vo) g.1).getD .null) g.2 = some true) ∨
       (e = .attributeError ∧ bindable f vo = true ∧
          (∀ g ∈ f.guards, guardLt ((Obj.find (boundOf f.params vo) g.1).getD .null) g.2 = some false) ∧
          ∃ kv ∈ f.value, kv.2.eval (boundOf f.params vo) = none)) := by
  rw [callCompFactory_eq]
  cases hb : bindable f vo with
  | false => exact ⟨.typeError, by simp, Or.inl ⟨rfl, Or.inl rfl⟩⟩
  | true =>
    simp only [if_true]
    rcases runGuards_cases (boundOf f.params vo) f.guards with ⟨hg, h1⟩ | ⟨hg, h2⟩ | ⟨hg, h2⟩
    · rcases buildValue_cases (boundOf f.params vo) f.value with ⟨_, h2⟩ | ⟨hv, h3⟩
      · rw [(accepts_iff f vo).2 ⟨hb, h1, h2⟩] at h; cases h
      · rw [hg, hv]; exact ⟨_, rfl, Or.inr (Or.inr ⟨rfl, trivial, h1, h3⟩)⟩
    · rw [hg]; exact ⟨_, rfl, Or.inr (Or.inl ⟨rfl, trivial, h2⟩)⟩
    · rw [hg]; exact ⟨_, rfl, Or.inl ⟨rfl, Or.inr ⟨trivial, h2⟩⟩⟩

theorem callCompFactory_ok_iff (f : CompFactory) (id nodes : J) (vo : Obj) (c : Comp) :
    callCompFactory f id nodes (.obj vo) = .ok c ↔ accepts f vo = true ∧ c = builtBy f id nodes vo := by
  constructor
  · intro h
    cases hacc : accepts f vo with
    | false =>
      obtain ⟨e, he, _⟩ := callCompFactory_rejects f id nodes vo hacc
      rw [he] at h; cases h
    | true =>
      rw [callCompFactory_ok f id nodes vo hacc] at h
      exact ⟨rfl, (Except.ok.inj h).symm⟩
  · rintro ⟨hacc, rfl⟩
    exact callCompFactory_ok f id nodes vo hacc

theorem find_boundOf (params : List (String × Option Int)) (vo : Obj) (p : String) :
    Obj.find (boundOf params vo) p
      = (params.find? (fun q => q.1 == p)).map (fun q => (Obj.find vo p).getD (dfltJ q.2)) := by
  rw [boundOf, Obj.find_map]
  cases h : params.find? (fun q => q.1 == p) with
  | none => rfl
  | some q =>
    have hq : q.1 = p := by simpa using List.find?_some h
    rw [Option.map_some, Option.map_some, hq]

theorem find_boundOf_param {params : List (String × Option Int)} {p : String}
    (hp : params.any (fun q => q.1 == p) = true) (vo : Obj) :
    ∃ q, params.find? (fun q => q.1 == p) = some q ∧
      Obj.find (boundOf params vo) p = some ((Obj.find vo p).getD (dfltJ q.2)) := by
  obtain ⟨q, hq⟩ := Option.isSome_iff_exists.1 (List.find?_isSome.2 (List.any_eq_true.1 hp))
  exact ⟨q, hq, by rw [find_boundOf, hq]; rfl⟩

/-- a written parameter reaches the constructor as written -/
theorem boundOf_given (params : List (String × Option Int)) (vo : Obj) (p : String) (d : Option Int) (v : J)
    (hm : (p, d) ∈ params) (hn : (params.map (·.1)).Nodup) (hf : Obj.find vo p = some v) :
    Obj.find (boundOf params vo) p = some v := by
  rw [find_boundOf, find?_of_mem_nodup params p d hm hn]; simp [hf]

/-- an optional parameter that is not written reaches the constructor as its literal default -/
theorem boundOf_default (params : List (String × Option Int)) (vo : Obj) (p : String) (n : Int)
    (hm : (p, some n) ∈ params) (hn : (params.map (·.1)).Nodup) (hf : Obj.find vo p = none) :
    Obj.find (boundOf params vo) p = some (.num n) := by
  rw [find_boundOf, find?_of_mem_nodup params p _ hm hn]; simp [hf, dfltJ]

def VSrc.param? : VSrc → Option String
  | .param p => some p
  | .re p => some p
  | .im p => some p
  | .const _ => none

/-- shape conditions on a generated constructor description: parameter names and value keys are
distinct, every value field and every guard refers to a parameter, no parameter is called `id` / `nodes` -/
def CompFactory.wellFormed (f : CompFactory) : Bool :=
  decide (f.params.map (·.1)).Nodup && decide (f.value.map (·.1)).Nodup &&
  f.value.all (fun kv => match kv.2.param? with | some p => f.params.any (fun q => q.1 == p) | none => true) &&
  f.guards.all (fun g => f.params.any (fun q => q.1 == g.1)) &&
  !f.params.any (fun q => q.1 == "id" || q.1 == "nodes")

theorem CompFactory.wellFormed_iff {f : CompFactory} : f.wellFormed = true ↔
    (f.params.map (·.1)).Nodup ∧ (f.value.map (·.1)).Nodup ∧
    (∀ kv ∈ f.value, (match kv.2.param? with | some p => f.params.any (fun q => q.1 == p) | none => true) = true) ∧
    (∀ g ∈ f.guards, f.params.any (fun q => q.1 == g.1) = true) ∧
    (∀ q ∈ f.params, (q.1 == "id" || q.1 == "nodes") = false) := by
  simp only [CompFactory.wellFormed, Bool.and_eq_true, decide_eq_true_eq, List.all_eq_true, Bool.not_eq_true',
    List.any_eq_false, and_assoc, Bool.not_eq_true]

/-- what the description gives for parameter `p`: the written value, else the literal default of `p` -/
def given (f : CompFactory) (vo : Obj) (p : String) : J :=
  (Obj.find vo p).getD (dfltJ ((f.params.find? (fun q => q.1 == p)).bind (·.2)))

theorem bound_eq_given (f : CompFactory) (vo : Obj) (p : String)
    (hp : f.params.any (fun q => q.1 == p) = true) :
    (Obj.find (boundOf f.params vo) p).getD .null = given f vo p := by
  obtain ⟨q, hq, h⟩ := find_boundOf_param hp vo
  simp [given, hq, h]

/-- the stored field for a value source, in terms of what the description gives; `P.real` / `P.imag` of what Python
accepts there (`.null`: `AttributeError`) -/
def VSrc.stored (f : CompFactory) (vo : Obj) : VSrc → J
  | .param p => given f vo p
  | .const n => .num n
  | .re p => match given f vo p with
    | .num q => .num q | .bool b => .num (if b then 1 else 0) | .cx z => .num z.re | _ => .null
  | .im p => match given f vo p with
    | .num _ | .bool _ => .num 0 | .cx z => .num z.im | _ => .null

theorem eval_eq_stored (f : CompFactory) (vo : Obj) (s : VSrc)
    (hp : (match s.param? with | some p => f.params.any (fun q => q.1 == p) | none => true) = true) :
    (s.eval (boundOf f.params vo)).getD .null = s.stored f vo := by
  cases s with
  | param p => simp only [VSrc.eval, VSrc.stored, Option.getD_some]; exact bound_eq_given f vo p hp
  | const n => rfl
  | re p =>
    simp only [VSrc.eval, VSrc.stored, bound_eq_given f vo p hp]
    cases given f vo p <;> rfl
  | im p =>
    simp only [VSrc.eval, VSrc.stored, bound_eq_given f vo p hp]
    cases given f vo p <;> rfl

theorem builtBy_value (f : CompFactory) (hwf : f.wellFormed = true) (id nodes : J) (vo : Obj) :
    (builtBy f id nodes vo).value = f.value.map fun kv => (kv.1, kv.2.stored f vo) := by
  obtain ⟨_, _, hv, _, _⟩ := CompFactory.wellFormed_iff.1 hwf
  simp only [builtBy]
  apply List.map_congr_left
  intro kv hkv
  rw [eval_eq_stored f vo kv.2 (hv kv hkv)]

theorem builtBy_find (f : CompFactory) (hwf : f.wellFormed = true) (id nodes : J) (vo : Obj)
    (k : String) (s : VSrc) (hm : (k, s) ∈ f.value) :
    Obj.find (builtBy f id nodes vo).value k = some (s.stored f vo) := by
  rw [builtBy_value f hwf]
  exact find_map_of_mem f.value (fun kv => kv.2.stored f vo) (k, s) hm (CompFactory.wellFormed_iff.1 hwf).2.1

theorem given_written (f : CompFactory) (vo : Obj) (p : String) (v : J) (h : Obj.find vo p = some v) :
    given f vo p = v := by simp [given, h]

theorem given_default (f : CompFactory) (hwf : f.wellFormed = true) (vo : Obj) (p : String) (n : Int)
    (hm : (p, some n) ∈ f.params) (h : Obj.find vo p = none) : given f vo p = .num n := by
  simp [given, h, find?_of_mem_nodup f.params p _ hm (CompFactory.wellFormed_iff.1 hwf).1, dfltJ]

theorem keysKnown_no_id (f : CompFactory) (hwf : f.wellFormed = true) (vo : Obj)
    (hk : keysKnown f.params vo = true) : Obj.has vo "id" = false ∧ Obj.has vo "nodes" = false := by
  have hno := (CompFactory.wellFormed_iff.1 hwf).2.2.2.2
  have key : ∀ k, (k = "id" ∨ k = "nodes") → Obj.has vo k = false := by
    intro k hkk
    rw [Obj.has, Obj.find_eq_none vo k, Option.isSome_none]
    intro hm
    obtain ⟨p, hp, rfl⟩ := List.mem_map.1 hm
    obtain ⟨q, hq1, hq2⟩ := List.any_eq_true.1 (List.all_eq_true.1 hk p hp)
    have := hno q hq1
    rw [beq_iff_eq] at hq2
    rcases hkk with e | e <;> simp [hq2, e] at this
  exact ⟨key _ (Or.inl rfl), key _ (Or.inr rfl)⟩

/-- the constructor description the circuit table gives for a kind -/
def factoryOf (kind : String) : Option CompFactory :=
  match circuitComponentTranslators.find? (fun p => p.1 == kind) with
  | none => none
  | some (_, fname) => componentFactories.find? (fun f => f.name == fname)

theorem dispatchC_factory (kind : String) (f : CompFactory) (hf : factoryOf kind = some f) (id nodes value : J) :
    dispatchC id nodes (.str kind) value =
      match callCompFactory f id nodes value with
      | .error .typeError => .error (.other "IncorrectComponentInformation")
      | r => r := by
  unfold factoryOf at hf
  unfold dispatchC
  cases hp : circuitComponentTranslators.find? (fun p => p.1 == kind) with
  | none => rw [hp] at hf; cases hf
  | some p =>
    obtain ⟨k', fname⟩ := p
    rw [hp] at hf
    simp only [] at hf
    simp only [hp, hf]

theorem generateComponent_known (kind : String) (f : CompFactory) (hf : factoryOf kind = some f)
    (o : Obj) (id value nodes : J)
    (hid : Obj.find o "id" = some id) (hval : Obj.find o "value" = some value)
    (hty : Obj.find o "type" = some (.str kind)) (hnodes : Obj.find o "nodes" = some nodes) :
    (generateComponent (.obj o)).1 =
      match callCompFactory f id nodes value with
      | .error .typeError => .error (.other "IncorrectComponentInformation")
      | r => r := by
  rw [generateComponent_obj, generateComponentObj_fields, hid, hval, hty, hnodes]
  exact dispatchC_factory kind f hf id nodes value

theorem dispatchC_unknown (kind : String) (h : kind ∉ circuitComponentTranslators.map (·.1)) (id nodes value : J) :
    dispatchC id nodes (.str kind) value = .error (.other "UnknownCircuitComponent") := by
  simp only [dispatchC, find?_eq_none_of_not_mem_map h]

/-- a sufficient, readable condition for `accepts` -/
theorem accepts_of (f : CompFactory) (hwf : f.wellFormed = true) (vo : Obj)
    (hdup : dupKeys vo = false) (hkeys : keysKnown f.params vo = true)
    (hreq : ∀ p, (p, none) ∈ f.params → Obj.find vo p ≠ none)
    (hg : ∀ p b, (p, b) ∈ f.guards → ∃ q : Rat, given f vo p = .num q ∧ ¬ q < (b : Rat))
    (hre : ∀ k p, ((k, VSrc.re p) ∈ f.value ∨ (k, VSrc.im p) ∈ f.value) →
      (∃ q, given f vo p = .num q) ∨ (∃ z, given f vo p = .cx z)) :
    accepts f vo = true := by
  obtain ⟨hid, hnodes⟩ := keysKnown_no_id f hwf vo hkeys
  obtain ⟨_, _, hv, hgp, _⟩ := CompFactory.wellFormed_iff.1 hwf
  simp only [accepts, Bool.and_eq_true, Bool.not_eq_true', List.all_eq_true, Bool.or_eq_true, beq_iff_eq]
  refine ⟨⟨⟨⟨⟨⟨hdup, hid⟩, hnodes⟩, hkeys⟩, ?_⟩, ?_⟩, ?_⟩
  · intro p hp
    obtain ⟨k, d⟩ := p
    cases d with
    | some n => exact Or.inl rfl
    | none =>
      right
      have := hreq k hp
      cases hf : Obj.find vo k with
      | none => exact absurd hf this
      | some v => simp [Obj.has, hf]
  · intro g hgm
    obtain ⟨p, b⟩ := g
    obtain ⟨q, hq, hlt⟩ := hg p b hgm
    rw [bound_eq_given f vo p (hgp (p, b) hgm), hq]
    simp [guardLt, hlt]
  · intro kv hkv
    obtain ⟨k, s⟩ := kv
    have hp := hv (k, s) hkv
    cases s with
    | param p | const n => rfl
    | re p =>
      simp only [VSrc.eval, bound_eq_given f vo p hp]
      rcases hre k p (Or.inl hkv) with ⟨q, hq⟩ | ⟨z, hz⟩
      · rw [hq]; rfl
      · rw [hz]; rfl
    | im p =>
      simp only [VSrc.eval, bound_eq_given f vo p hp]
      rcases hre k p (Or.inr hkv) with ⟨q, hq⟩ | ⟨z, hz⟩
      · rw [hq]; rfl
      · rw [hz]; rfl

end CC.Load
