/-
  The pruning / re-indexing path of `open_circuit_impedance` (`keepMask`, `selectL`, `subMatrix`, `countBefore` of
  CC/Model/Port.lean; the code: `keep = A.any(axis=0)`, `A[np.ix_(keep, keep)]`, `np.count_nonzero(keep[:i])`).
  `countBefore keep i` is the position of a kept index `i` in the selection.  The MNA matrix is symmetric, so a dropped
  (zero) column is a zero row: the solution of the pruned system, extended by zeros (`expandL`), solves the
  unit-injection system of the network, is therefore an operating point of the source-free branch list (`impl_rel`), and
  the entry the code reads is its port voltage (`openCircuitImpedance_solution`).
-/
import CC.Proofs.PortImpl
set_option linter.unusedSectionVars false

namespace CC

section Index
variable {α : Type}

theorem countBefore_zero (keep : List Bool) : countBefore keep 0 = 0 := by simp [countBefore]

theorem countBefore_cons_succ (b : Bool) (ks : List Bool) (i : Nat) :
    countBefore (b :: ks) (i + 1) = (if b then 1 else 0) + countBefore ks i := by
  cases b
  · simp only [countBefore, List.take_succ_cons, List.filter_cons, id, Bool.false_eq_true, if_false, Nat.zero_add]
  · simp only [countBefore, List.take_succ_cons, List.filter_cons, id, if_true, List.length_cons, Nat.add_comm]

theorem countBefore_add (keep : List Bool) (i d : Nat) :
    countBefore keep (i + d) = countBefore keep i + countBefore (keep.drop i) d := by
  simp only [countBefore, List.take_add, List.filter_append, List.length_append]

def countKept (keep : List Bool) : Nat := (keep.filter id).length

theorem countKept_cons (b : Bool) (ks : List Bool) :
    countKept (b :: ks) = (if b then 1 else 0) + countKept ks := by
  cases b
  · simp only [countKept, List.filter_cons, id, Bool.false_eq_true, if_false, Nat.zero_add]
  · simp only [countKept, List.filter_cons, id, if_true, List.length_cons, Nat.add_comm]

theorem countBefore_length (keep : List Bool) : countBefore keep keep.length = countKept keep := by
  simp [countBefore, countKept]

theorem countBefore_mono (keep : List Bool) (i j : Nat) (hij : i ≤ j) :
    countBefore keep i ≤ countBefore keep j := by
  obtain ⟨d, rfl⟩ := Nat.exists_eq_add_of_le hij
  rw [countBefore_add]; exact Nat.le_add_right _ _

theorem countBefore_strict (keep : List Bool) (i j : Nat) (hk : keep[i]? = some true) (hij : i < j) :
    countBefore keep i < countBefore keep j := by
  obtain ⟨d, rfl⟩ := Nat.exists_eq_add_of_lt hij
  obtain ⟨hlt, hi⟩ := List.getElem?_eq_some_iff.mp hk
  rw [Nat.add_assoc, countBefore_add, List.drop_eq_getElem_cons hlt, hi, countBefore_cons_succ, if_pos rfl]
  omega

theorem countBefore_lt (keep : List Bool) (i : Nat) (hk : keep[i]? = some true) :
    countBefore keep i < countKept keep := by
  rw [← countBefore_length]
  exact countBefore_strict keep i _ hk (List.getElem?_eq_some_iff.mp hk).1

theorem countBefore_inj (keep : List Bool) (i j : Nat) (hi : keep[i]? = some true) (hj : keep[j]? = some true)
    (h : countBefore keep i = countBefore keep j) : i = j := by
  rcases Nat.lt_trichotomy i j with hlt | heq | hgt
  · have := countBefore_strict keep i j hi hlt; omega
  · exact heq
  · have := countBefore_strict keep j i hj hgt; omega

/-- the catch-all case of `selectL`: one of the two lists has run out -/
theorem selectL_other {t : List Bool} {x : List α}
    (h1 : ∀ (ks : List Bool) (a : α) (xs : List α), t = true :: ks → x = a :: xs → False)
    (h2 : ∀ (ks : List Bool) (a : α) (xs : List α), t = false :: ks → x = a :: xs → False) :
    t = [] ∨ x = [] := by
  rcases t with _ | ⟨b, ks⟩
  · exact .inl rfl
  · rcases x with _ | ⟨a, xs⟩
    · exact .inr rfl
    · cases b
      · exact (h2 ks a xs rfl rfl).elim
      · exact (h1 ks a xs rfl rfl).elim

theorem selectL_eq_filter (keep : List Bool) (l : List α) :
    selectL keep l = ((keep.zip l).filter (·.1)).map (·.2) := by
  fun_induction selectL keep l with
  | case1 ks x xs ih => simp only [ih, List.zip_cons_cons, List.filter_cons, if_true, List.map_cons]
  | case2 ks x xs ih => simp only [ih, List.zip_cons_cons, List.filter_cons, Bool.false_eq_true, if_false]
  | case3 t x h1 h2 =>
    rcases selectL_other h1 h2 with rfl | rfl
    · rfl
    · rw [List.zip_nil_right]; rfl

theorem selectL_length (keep : List Bool) (l : List α) (h : l.length = keep.length) :
    (selectL keep l).length = countKept keep := by
  rw [selectL_eq_filter, List.length_map, countKept]
  conv_rhs => rw [← List.map_fst_zip (l₁ := keep) (l₂ := l) (by omega), List.filter_map, List.length_map]
  rfl

theorem selectL_map {α β : Type} (f : α → β) (keep : List Bool) (l : List α) :
    selectL keep (l.map f) = (selectL keep l).map f := by
  rw [selectL_eq_filter, selectL_eq_filter, List.zip_map_right, List.filter_map, List.map_map, List.map_map]
  rfl

theorem selectL_all_true (keep : List Bool) (l : List α) (hk : keep.all id = true) (hl : keep.length = l.length) :
    selectL keep l = l := by
  have hf : (keep.zip l).filter (·.1) = keep.zip l :=
    List.filter_eq_self.mpr fun p hp => List.all_eq_true.mp hk p.1 (List.of_mem_zip hp).1
  rw [selectL_eq_filter, hf]
  exact List.map_snd_zip (by omega)

theorem countBefore_all_true (keep : List Bool) (hk : keep.all id = true) (i : Nat) (hi : i ≤ keep.length) :
    countBefore keep i = i := by
  rw [countBefore, List.filter_eq_self.mpr fun b hb => List.all_eq_true.mp hk b (List.mem_of_mem_take hb),
    List.length_take, Nat.min_eq_left hi]

theorem selectL_getElem? (keep : List Bool) (l : List α) (i : Nat) (hk : keep[i]? = some true) :
    (selectL keep l)[countBefore keep i]? = l[i]? := by
  fun_induction selectL keep l generalizing i with
  | case1 ks x xs ih =>
    cases i with
    | zero => simp only [countBefore_zero, List.getElem?_cons_zero]
    | succ i =>
      rw [countBefore_cons_succ, if_pos rfl, Nat.add_comm, List.getElem?_cons_succ, List.getElem?_cons_succ]
      exact ih i hk
  | case2 ks x xs ih =>
    cases i with
    | zero => cases hk
    | succ i =>
      rw [countBefore_cons_succ, if_neg Bool.false_ne_true, Nat.zero_add, List.getElem?_cons_succ]
      exact ih i hk
  | case3 t x h1 h2 =>
    rcases selectL_other h1 h2 with rfl | rfl
    · cases hk
    · rfl

end Index

section Expand
variable {K : Type} [Zero K]

def expandL : List Bool → List K → List K
  | [], _ => []
  | true :: ks, x :: xs => x :: expandL ks xs
  | true :: ks, [] => 0 :: expandL ks []
  | false :: ks, xs => 0 :: expandL ks xs

theorem expandL_length (keep : List Bool) (x : List K) : (expandL keep x).length = keep.length := by
  fun_induction expandL keep x <;> simp only [List.length_cons, List.length_nil, *]

theorem selectL_expandL (keep : List Bool) (x : List K) (h : x.length = countKept keep) :
    selectL keep (expandL keep x) = x := by
  fun_induction expandL keep x with
  | case1 x => rw [List.length_eq_zero_iff.mp h]; rfl
  | case2 ks x xs ih =>
    rw [countKept_cons, if_pos rfl, Nat.add_comm] at h
    simp only [selectL, ih (Nat.succ.inj h)]
  | case3 ks ih => rw [countKept_cons, if_pos rfl, Nat.add_comm] at h; cases h
  | case4 ks xs ih =>
    rw [countKept_cons, if_neg Bool.false_ne_true, Nat.zero_add] at h
    simp only [selectL, ih h]

theorem expandL_selectL (keep : List Bool) (y : List K) (hy : y.length = keep.length)
    (hz : ∀ k, keep[k]? = some false → y.getD k 0 = 0) : expandL keep (selectL keep y) = y := by
  fun_induction selectL keep y with
  | case1 ks a xs ih => simp only [expandL, ih (Nat.succ.inj hy) fun k hk => hz (k + 1) hk]
  | case2 ks a xs ih =>
    have ha : a = 0 := hz 0 rfl
    simp only [expandL, ha, ih (Nat.succ.inj hy) fun k hk => hz (k + 1) hk]
  | case3 t y h1 h2 =>
    rcases selectL_other h1 h2 with rfl | rfl
    · rw [List.length_eq_zero_iff.mp hy]; rfl
    · rw [List.length_eq_zero_iff.mp hy.symm]; rfl

theorem expandL_getD (keep : List Bool) (x : List K) (k : Nat) :
    (expandL keep x).getD k 0 = if keep[k]? = some true then x.getD (countBefore keep k) 0 else 0 := by
  fun_induction expandL keep x generalizing k with
  | case1 x => simp only [List.getD_nil, List.getElem?_nil, reduceCtorEq, if_false]
  | case2 ks x xs ih =>
    cases k with
    | zero => simp only [countBefore_zero, List.getD_cons_zero, List.getElem?_cons_zero, if_true]
    | succ k =>
      rw [countBefore_cons_succ, if_pos rfl, Nat.add_comm 1, List.getD_cons_succ, List.getD_cons_succ,
        List.getElem?_cons_succ, ih k]
  | case3 ks ih =>
    cases k with
    | zero => simp only [List.getD_cons_zero, List.getD_nil, ite_self]
    | succ k => rw [List.getD_cons_succ, ih k]; simp only [List.getD_nil, ite_self]
  | case4 ks xs ih =>
    cases k with
    | zero => simp only [List.getD_cons_zero, List.getElem?_cons_zero, Option.some.injEq, Bool.false_eq_true, if_false]
    | succ k =>
      rw [countBefore_cons_succ, if_neg Bool.false_ne_true, Nat.zero_add, List.getD_cons_succ,
        List.getElem?_cons_succ, ih k]

end Expand

section Mat
variable {K : Type} [Field K] [DecidableEq K]

theorem dotL_expandL (keep : List Bool) (r x : List K) (hr : r.length = keep.length) :
    dotL r (expandL keep x) = dotL (selectL keep r) x := by
  fun_induction expandL keep x generalizing r with
  | case1 x => rw [List.length_eq_zero_iff.mp hr]; rfl
  | case2 ks x xs ih =>
    obtain _ | ⟨a, r⟩ := r
    · cases hr
    · simp only [selectL, dotL_cons, ih r (Nat.succ.inj hr)]
  | case3 ks ih =>
    obtain _ | ⟨a, r⟩ := r
    · cases hr
    · have h0 : ∀ l : List K, dotL l [] = 0 := fun l => dotL_right_zero l [] fun _ h => nomatch h
      simp only [selectL, dotL_cons, mul_zero, zero_add, ih r (Nat.succ.inj hr), h0]
  | case4 ks xs ih =>
    obtain _ | ⟨a, r⟩ := r
    · cases hr
    · simp only [selectL, dotL_cons, mul_zero, zero_add, ih r (Nat.succ.inj hr)]

theorem dotL_selectL (keep : List Bool) (r x : List K) (hr : r.length = keep.length) (hx : x.length = keep.length)
    (hz : ∀ k, keep[k]? = some false → r.getD k 0 = 0) :
    dotL (selectL keep r) (selectL keep x) = dotL r x := by
  rw [dotL_comm, ← dotL_expandL keep x _ hx, expandL_selectL keep r hr hz, dotL_comm]

theorem matVec_expandL (keepR keepC : List Bool) (rows : List (List K)) (x : List K)
    (hlen : rows.length = keepR.length) (hrow : ∀ r ∈ rows, r.length = keepC.length)
    (hzero : ∀ (k : Nat) (r : List K), keepR[k]? = some false → rows[k]? = some r → ∀ v ∈ r, v = 0) :
    matVec rows (expandL keepC x) = expandL keepR (matVec ((selectL keepR rows).map (selectL keepC)) x) := by
  have hrows : rows.map ((dotL · x) ∘ selectL keepC) = matVec rows (expandL keepC x) :=
    List.map_congr_left fun r hr => (dotL_expandL keepC r x (hrow r hr)).symm
  unfold matVec at hrows ⊢
  rw [List.map_map, ← selectL_map, hrows, expandL_selectL keepR _ (by rw [List.length_map, hlen])]
  intro k hk
  rw [← matVec, getD_matVec]
  cases hr : rows[k]? with
  | none => rw [List.getD_eq_getElem?_getD, hr]; exact dotL_nil_left _
  | some r => rw [List.getD_eq_getElem?_getD, hr]; exact dotL_zero_row r _ (hzero k r hk hr)

theorem matVec_selectL (keepR keepC : List Bool) (rows : List (List K)) (x : List K)
    (hrow : ∀ r ∈ rows, r.length = keepC.length) (hx : x.length = keepC.length)
    (hcol : ∀ r ∈ rows, ∀ k, keepC[k]? = some false → r.getD k 0 = 0) :
    matVec ((selectL keepR rows).map (selectL keepC)) (selectL keepC x) = selectL keepR (matVec rows x) := by
  unfold matVec
  rw [selectL_map, List.map_map]
  apply List.map_congr_left
  intro r hr
  have hr' : r ∈ rows := by
    rw [selectL_eq_filter] at hr
    obtain ⟨p, hp, rfl⟩ := List.mem_map.mp hr
    exact (List.of_mem_zip (List.mem_filter.mp hp).1).2
  simp only [Function.comp_apply]
  exact dotL_selectL keepC r x (hrow r hr') hx (hcol r hr')

theorem unitVec_length (m i : Nat) : (unitVec m i : List K).length = m := by simp [unitVec]

theorem unitVec_getD (m i k : Nat) : (unitVec m i : List K).getD k 0 = if k = i ∧ k < m then 1 else 0 := by
  unfold unitVec
  rw [List.getD_eq_getElem?_getD, List.getElem?_map]
  by_cases hk : k < m
  · simp [hk]
  · simp [hk]

theorem expandL_unitVec (keep : List Bool) (i : Nat) (hk : keep[i]? = some true) :
    expandL keep (unitVec (countKept keep) (countBefore keep i) : List K) = unitVec keep.length i := by
  refine List.ext_getElem (by rw [expandL_length, unitVec_length]) fun k h1 h2 => ?_
  · rw [List.getElem_eq_getD 0, List.getElem_eq_getD 0, expandL_getD, unitVec_getD, unitVec_getD]
    by_cases hkk : keep[k]? = some true
    · have hlt := countBefore_lt keep k hkk
      have hkn : k < keep.length := by
        by_contra h; rw [List.getElem?_eq_none (by omega)] at hkk; cases hkk
      by_cases e : k = i
      · subst e
        rw [if_pos hkk, if_pos ⟨rfl, hlt⟩, if_pos ⟨rfl, hkn⟩]
      · have : countBefore keep k ≠ countBefore keep i := fun h => e (countBefore_inj keep k i hkk hk h)
        rw [if_pos hkk, if_neg (fun h => this h.1), if_neg (fun h => e h.1)]
    · have e : k ≠ i := fun h => hkk (h ▸ hk)
      rw [if_neg hkk, if_neg (fun h => e h.1)]

theorem selectL_unitVec (keep : List Bool) (i : Nat) (hk : keep[i]? = some true) :
    selectL keep (unitVec keep.length i : List K) = unitVec (countKept keep) (countBefore keep i) := by
  rw [← expandL_unitVec keep i hk, selectL_expandL _ _ (unitVec_length _ _)]

theorem expandL_getD_kept (keep : List Bool) (x : List K) (i : Nat) (hk : keep[i]? = some true) :
    (expandL keep x).getD i 0 = x.getD (countBefore keep i) 0 := by
  rw [expandL_getD, if_pos hk]

theorem selectL_getD_kept (keep : List Bool) (x : List K) (i : Nat) (hk : keep[i]? = some true) :
    (selectL keep x).getD (countBefore keep i) 0 = x.getD i 0 := by
  rw [List.getD_eq_getElem?_getD, selectL_getElem? keep x i hk, ← List.getD_eq_getElem?_getD]

end Mat

section MNA
variable {L K : Type} [DecidableEq L] [LabelOrd L] [Field K] [DecidableEq K]

theorem keepMask_getElem? (n : Nat) (A : List (List K)) (c : Nat) (hc : c < n) :
    (keepMask n A)[c]? = some (A.any fun r => decide (r.getD c 0 ≠ 0)) := by
  simp [keepMask, hc]

theorem keepMask_getElem?_colZero (n : Nat) (A : List (List K)) (c : Nat) (hc : c < n) :
    (keepMask n A)[c]? = some (!colZero A c) := by
  rw [keepMask_getElem? n A c hc, colZero, List.all_eq_not_any_not, Bool.not_not]
  simp only [decide_not]

theorem keepMask_false_col (n : Nat) (A : List (List K)) (c : Nat) (h : (keepMask n A)[c]? = some false) :
    ∀ r ∈ A, r.getD c 0 = 0 := by
  have hc : c < n := by
    by_contra hn
    rw [List.getElem?_eq_none (by rw [keepMask_length]; omega)] at h; cases h
  rw [keepMask_getElem?_colZero n A c hc, Option.some.injEq, Bool.not_eq_false'] at h
  exact fun r hr => of_decide_eq_true (List.all_eq_true.mp h r hr)

theorem kept_of_colZero_false (P : Net L K) {a : L} {i : Nat} (hai : idxOf? a P.nodes = some i)
    (hcol : colZero P.mnaA i = false) : (keepMask P.mnaA.length P.mnaA)[i]? = some true := by
  rw [keepMask_getElem?_colZero _ _ i (by rw [mnaA_length]; have := (idxOf?_some hai).2.1; omega), hcol]; rfl

theorem mnaA_dropped_row_zero (N : Net L K) (k : Nat) (r : List K)
    (hcol : ∀ r' ∈ N.mnaA, r'.getD k 0 = 0) (hr : N.mnaA[k]? = some r) : ∀ v ∈ r, v = 0 := by
  intro v hv
  obtain ⟨j, hj, rfl⟩ := List.getElem_of_mem hv
  -- the matrix is symmetric: entry `(k, j)` is entry `(j, k)`, which lies in column `k`
  have hsym := get_mnaA_symm N k j
  simp only [Mx.get, List.getD_eq_getElem?_getD, hr, Option.getD_some, List.getElem?_eq_getElem hj] at hsym
  rw [hsym]
  cases h : N.mnaA[j]? with
  | none => rfl
  | some r' => exact (List.getD_eq_getElem?_getD ..).symm.trans (hcol r' (List.mem_of_getElem? h))

theorem subMatrix_length (keep : List Bool) (A : List (List K)) (h : keep.length = A.length) :
    (subMatrix keep A).length = countKept keep := by
  unfold subMatrix
  rw [List.length_map, selectL_length keep A h.symm]

theorem prune_extend_solves (N : Net L K) (i : Nat) (x : List K)
    (hi : (keepMask N.mnaA.length N.mnaA)[i]? = some true)
    (hsol : matVec (subMatrix (keepMask N.mnaA.length N.mnaA) N.mnaA) x
      = unitVec (subMatrix (keepMask N.mnaA.length N.mnaA) N.mnaA).length
          (countBefore (keepMask N.mnaA.length N.mnaA) i)) :
    matVec N.mnaA (expandL (keepMask N.mnaA.length N.mnaA) x) = unitVec N.mnaA.length i ∧
      (expandL (keepMask N.mnaA.length N.mnaA) x).getD i 0
        = x.getD (countBefore (keepMask N.mnaA.length N.mnaA) i) 0 := by
  set keep := keepMask N.mnaA.length N.mnaA
  have hklen : keep.length = N.mnaA.length := keepMask_length _ _
  have hfull := matVec_expandL keep keep N.mnaA x hklen.symm
    (fun r hr => by rw [mnaA_row_length N r hr, hklen, mnaA_length])
    (fun k r hk hr => mnaA_dropped_row_zero N k r (keepMask_false_col _ _ k hk) hr)
  have hsub' : (selectL keep N.mnaA).map (selectL keep) = subMatrix keep N.mnaA := rfl
  rw [hsub', hsol, subMatrix_length keep _ hklen, expandL_unitVec keep i hi, hklen] at hfull
  exact ⟨hfull, expandL_getD_kept keep x i hi⟩

theorem pruned_solution (P : Net L K) (a : L) (hids : P.ids.Nodup) (hz : P.zero ∈ P.nodeLabels)
    (i : Nat) (hai : idxOf? a P.nodes = some i) (hcol : colZero P.mnaA i = false) (x : List K)
    (hsol : matVec (subMatrix (keepMask P.mnaA.length P.mnaA) P.mnaA) x
      = unitVec (subMatrix (keepMask P.mnaA.length P.mnaA) P.mnaA).length
          (countBefore (keepMask P.mnaA.length P.mnaA) i)) :
    PortRel (zs P.branches) P.zero a P.zero (x.getD (countBefore (keepMask P.mnaA.length P.mnaA) i) 0) 1 := by
  set keep := keepMask P.mnaA.length P.mnaA
  have hklen : keep.length = P.mnaA.length := keepMask_length _ _
  obtain ⟨hfull, hget⟩ := prune_extend_solves P i x (kept_of_colZero_false P hai hcol) hsol
  have hlen : P.mnaA.length = P.nodes.length + P.vsIds.length := by rw [mnaA_length, vsSorted_length P hids]
  rw [show unitVec P.mnaA.length i = (unitVec (P.nodes.length + P.vsIds.length) i : List K) by rw [hlen]] at hfull
  rw [← hget]
  exact impl_rel P a hids hz i hai (expandL keep x) (by rw [expandL_length, hklen, hlen]) hfull

/-- the witness is the solution of the pruned system, zero at the pruned unknowns, read on the network's own reference
node and port orientation -/
theorem openCircuitImpedance_solution (N : Net L K) (solve : List (List K) → List K → Option (List K))
    (pid : String) (n1 n2 : L) (z : K) (hp : pid ∉ N.ids) (hsolve : SolveOK solve) (hids : N.ids.Nodup)
    (hne : N.portIsEarly n1 n2 = false) (h : N.openCircuitImpedance solve n1 n2 = .ok z) :
    ∃ R : Report L K, CircuitEqs (probeNet N pid n1 n2 1) R ∧ R.pot n1 - R.pot n2 = z := by
  obtain ⟨a, g, i, x, hag, hcheck, hidx, hcol, _, hs, hxi⟩ := openCircuitImpedance_sys hne h
  have hrel := pruned_solution { N with zero := g } a hids ((Net.check_ok_iff _).mp hcheck).1 i hidx hcol x
    (hsolve _ _ x hs).2
  rw [List.getD_eq_getElem?_getD, hxi] at hrel
  exact (probe_swapped N pid hp hag z).mpr ((probe_rel { N with zero := g } pid hp a g z 1).mpr hrel)

end MNA

end CC
