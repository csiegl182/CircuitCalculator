/-
  CC.Proofs.CoreGen — the generated core (CC/Gen/Core.lean, translated from the Python AST on
  every run) equals the hand-written model CC/Model/{Net,MNA}.lean, definition by definition
  (the assembled system, the right-hand side and the solution accessors: CC/Properties/C01Gen.lean).
-/
import CC.Gen.Core
import CC.Proofs.NetBasics
import CC.Proofs.ExceptLemmas
import Mathlib.Algebra.BigOperators.Group.List.Basic
import CC.Proofs.ListSum
set_option linter.unusedSectionVars false

namespace CC
open CC.Gen.Core CC.Py

/-- the label order is a total pre-order (what Python's `sorted` on `str` relies on) -/
class LawfulLabelOrd (L : Type) [LabelOrd L] : Prop where
  trans : ∀ a b c : L, LabelOrd.le a b = true → LabelOrd.le b c = true → LabelOrd.le a c = true
  total : ∀ a b : L, (LabelOrd.le a b || LabelOrd.le b a) = true

instance : LawfulLabelOrd String where
  trans a b c h1 h2 := by
    simp only [LabelOrd.le, decide_eq_true_eq] at *
    exact String.le_trans h1 h2
  total a b := by
    simp only [LabelOrd.le, Bool.or_eq_true, decide_eq_true_eq]
    exact String.le_total a b

instance : LawfulLabelOrd Nat where
  trans a b c h1 h2 := by
    simp only [LabelOrd.le, decide_eq_true_eq] at *
    omega
  total a b := by
    simp only [LabelOrd.le, Bool.or_eq_true, decide_eq_true_eq]
    omega

theorem sortL_idem {α : Type} [LabelOrd α] [LawfulLabelOrd α] (l : List α) : sortL (sortL l) = sortL l :=
  List.mergeSort_of_pairwise (List.pairwise_mergeSort LawfulLabelOrd.trans LawfulLabelOrd.total l)

variable {L K : Type} [DecidableEq L] [LabelOrd L] [Field K] [DecidableEq K]

/-! ### elements.py -/

/-- the four properties of an element record as extended values, in the model's vocabulary: `inf` / `nan` occur
exactly at an ideal voltage source (`Y`, `I`) and an ideal current source (`Z`, `V`) -/
theorem genElem_Y (e : Elem K) : Gen.Core.Elem.Y e = if e.isIdealVS then .inf else .fin e.Yfin := by
  cases e with
  | norton Z V => by_cases h : Z = 0 <;> simp [Gen.Core.Elem.Y, NortenElement.Y, Elem.isIdealVS, Elem.Yfin, h]
  | thevenin Y I => rfl

theorem genElem_I (e : Elem K) : Gen.Core.Elem.I e = if e.isIdealVS then .nan else .fin e.Ival := by
  cases e with
  | norton Z V => by_cases h : Z = 0 <;> simp [Gen.Core.Elem.I, NortenElement.I, Elem.isIdealVS, Elem.Ival, h]
  | thevenin Y I => rfl

theorem genElem_Z (e : Elem K) : Gen.Core.Elem.Z e = if e.isIdealCS then .inf else .fin e.Zfin := by
  cases e with
  | norton Z V => rfl
  | thevenin Y I => by_cases h : Y = 0 <;> simp [Gen.Core.Elem.Z, TheveninElement.Z, Elem.isIdealCS, Elem.Zfin, h]

theorem genElem_V (e : Elem K) : Gen.Core.Elem.V e = if e.isIdealCS then .nan else .fin e.Vval := by
  cases e with
  | norton Z V => rfl
  | thevenin Y I => by_cases h : Y = 0 <;> simp [Gen.Core.Elem.V, TheveninElement.V, Elem.isIdealCS, Elem.Vval, h]

theorem Yfin_of_VS {e : Elem K} (h : e.isIdealVS = true) : e.Yfin = 0 := by
  cases e with
  | norton Z V => exact if_pos (of_decide_eq_true h)
  | thevenin Y I => exact absurd h Bool.false_ne_true

theorem Zfin_of_idealCS {e : Elem K} (h : e.isIdealCS = true) : e.Zfin = 0 := by
  cases e with
  | norton Z V => exact absurd h Bool.false_ne_true
  | thevenin Y I => exact if_pos (of_decide_eq_true h)

theorem Vval_of_idealCS {e : Elem K} (h : e.isIdealCS = true) : e.Vval = 0 := by
  cases e with
  | norton Z V => exact absurd h Bool.false_ne_true
  | thevenin Y I => exact if_pos (of_decide_eq_true h)

theorem gen_Yfin (e : Elem K) : (Gen.Core.Elem.Y e).toNum = e.Yfin := by
  rw [genElem_Y]; cases h : e.isIdealVS
  · rfl
  · exact (Yfin_of_VS h).symm

theorem gen_Ival (e : Elem K) : (Gen.Core.Elem.I e).toNum = e.Ival := by
  rw [genElem_I]; cases h : e.isIdealVS
  · rfl
  · exact (Ival_of_VS h).symm

theorem gen_Vval (e : Elem K) : (Gen.Core.Elem.V e).toNum = e.Vval := by
  rw [genElem_V]; cases h : e.isIdealCS
  · rfl
  · exact (Vval_of_idealCS h).symm

theorem gen_Zfin (e : Elem K) : (Gen.Core.Elem.Z e).toNum = e.Zfin := by
  rw [genElem_Z]; cases h : e.isIdealCS
  · rfl
  · exact (Zfin_of_idealCS h).symm

theorem gen_isCS (e : Elem K) : is_current_source e = e.isCS := by
  rw [is_current_source, genElem_I]; cases h : e.isIdealVS
  · rfl
  · exact (not_cs_of_idealVS e h).symm

theorem gen_isVSrc (e : Elem K) : is_voltage_source e = e.isVSrc := by
  rw [is_voltage_source, genElem_V]; cases h : e.isIdealCS
  · rfl
  · exact (decide_eq_false fun h0 => h0 (Vval_of_idealCS h)).symm

theorem gen_isIdealVS (e : Elem K) : is_ideal_voltage_source e = e.isIdealVS := by
  rw [is_ideal_voltage_source, genElem_V, genElem_Z]
  cases e with
  | norton Z V => simp [Elem.isIdealCS, XVal.absGe0, XVal.eqZero, Elem.isIdealVS, Elem.Zfin]
  | thevenin Y I => by_cases h : Y = 0 <;> simp [Elem.isIdealCS, XVal.absGe0, XVal.eqZero, Elem.isIdealVS, Elem.Zfin, h]

theorem gen_isIdealCS (e : Elem K) : is_ideal_current_source e = e.isIdealCS := by
  rw [is_ideal_current_source, genElem_I, genElem_Y]
  cases e with
  | norton Z V => by_cases h : Z = 0 <;> simp [Elem.isIdealVS, XVal.absGe0, XVal.eqZero, Elem.isIdealCS, Elem.Yfin, h]
  | thevenin Y I => simp [Elem.isIdealVS, XVal.absGe0, XVal.eqZero, Elem.isIdealCS, Elem.Yfin]

theorem gen_isActive (e : Elem K) : is_active e = e.isActive := by
  simp [is_active, Elem.isActive, gen_isVSrc, gen_isCS]

theorem gen_isShort (e : Elem K) : is_short_circuit e = e.isShort := by
  rw [is_short_circuit, genElem_V, genElem_Z]
  cases e with
  | norton Z V => simp [Elem.isIdealCS, XVal.eqZero, Elem.isShort, Elem.Vval, Elem.Zfin]
  | thevenin Y I => by_cases h : Y = 0 <;> simp [Elem.isIdealCS, XVal.eqZero, Elem.isShort, Elem.Zfin, h]

theorem gen_isOpen (e : Elem K) : is_open_circuit e = e.isOpen := by
  rw [is_open_circuit, genElem_I, genElem_Y]
  cases e with
  | norton Z V => by_cases h : Z = 0 <;> simp [Elem.isIdealVS, XVal.eqZero, Elem.isOpen, Elem.Yfin, h]
  | thevenin Y I => simp [Elem.isIdealVS, XVal.eqZero, Elem.isOpen, Elem.Ival, Elem.Yfin]

/-! ### network.py -/

theorem gen_ids (N : Net L K) : Network.branch_ids N = N.ids := rfl

theorem gen_nodeLabels (N : Net L K) : Network.node_labels N = N.nodeLabels := by
  unfold Network.node_labels Net.nodeLabels
  cases h : N.branches <;> simp

theorem nodeLabels_ne_nil (N : Net L K) : N.nodeLabels ≠ [] := by
  intro h
  cases hb : N.branches with
  | nil => simp [Net.nodeLabels, hb] at h
  | cons b bs =>
    have := n1_mem_labels N (b := b) (by rw [hb]; exact List.mem_cons_self ..)
    rw [h] at this; simp at this

theorem gen_getitem (N : Net L K) (id : String) :
    Network.getitem N id = match N.get? id with
      | some b => .ok b
      | none => .error .keyError := by
  unfold Network.getitem Net.get? Py.dictGet
  rw [← List.map_reverse, List.find?_map]
  cases h : List.find? ((fun p : String × Branch L K => decide (p.1 = id)) ∘ fun b => (b.id, b)) N.branches.reverse with
  | none =>
    have : N.branches.reverse.find? (fun b => decide (b.id = id)) = none := h
    simp [this]
  | some b =>
    have : N.branches.reverse.find? (fun b => decide (b.id = id)) = some b := h
    simp [this]

theorem gen_branches_between (N : Net L K) (i j : L) :
    Network.branches_between N i j
      = N.branches.filter (fun b => (b.n1 = i ∧ b.n2 = j) ∨ (b.n1 = j ∧ b.n2 = i)) := by
  unfold Network.branches_between Py.setEq2
  apply List.filter_congr
  intro b _
  simp

theorem gen_branches_connected_to (N : Net L K) (i : L) :
    (Network.branches_connected_to N i).Perm (N.branches.filter (fun b => b.n1 = i ∨ b.n2 = i)) := by
  unfold Network.branches_connected_to Py.sortByKey
  refine (List.mergeSort_perm _ _).trans ?_
  apply List.Perm.of_eq
  apply List.filter_congr
  intro b _
  simp

/-! ### label_mapping.py -/

theorem dictKeys_of_nodup {α : Type} [DecidableEq α] {l : List α} (h : l.Nodup) : Py.dictKeys l = l := by
  induction l with
  | nil => rfl
  | cons a l ih =>
    have ha := List.nodup_cons.mp h
    unfold Py.dictKeys
    rw [ih ha.2]
    congr 1
    rw [List.filter_eq_self]
    intro b hb
    simp only [ne_eq, decide_not, Bool.not_eq_eq_eq_not, Bool.not_true, decide_eq_false_iff_not]
    rintro rfl; exact ha.1 hb

theorem sortL_nodeLabels [LawfulLabelOrd L] (N : Net L K) : sortL N.nodeLabels = N.nodeLabels := by
  unfold Net.nodeLabels
  split
  · simp [sortL]
  · exact sortL_idem _

theorem gen_nodes [LawfulLabelOrd L] (N : Net L K) : (alphabetic_node_mapper N).keys = N.nodes := by
  unfold alphabetic_node_mapper Py.LabelMapping.enumerate
  simp only [gen_nodeLabels, sortL_nodeLabels]
  have : (N.nodeLabels.filter fun label => decide (label ≠ N.zero)) = N.nodes := rfl
  rw [this, dictKeys_of_nodup (nodes_nodup N)]

theorem gen_vs_filter (N : Net L K) :
    (N.branches.filter fun b => is_ideal_voltage_source b.e) = N.vs := by
  unfold Net.vs
  apply List.filter_congr; intro b _; rw [gen_isIdealVS]

theorem gen_cs_filter (N : Net L K) :
    (N.branches.filter fun b => is_current_source b.e) = N.cs := by
  unfold Net.cs
  apply List.filter_congr; intro b _; rw [gen_isCS]

theorem srcIds_nodup (N : Net L K) (h : N.ids.Nodup) : N.srcIds.Nodup := by
  unfold Net.srcIds
  rw [nodup_sortL, List.nodup_append]
  exact ⟨filter_ids_nodup N h _, filter_ids_nodup N h _, fun a ha b hb hab =>
    csIds_not_vsIds N h (mem_sortL.mpr ha) (mem_sortL.mpr (hab ▸ hb))⟩

theorem gen_vsIds (N : Net L K) (h : N.ids.Nodup) : (alphabetic_voltage_source_mapper N).keys = N.vsIds := by
  unfold alphabetic_voltage_source_mapper Py.LabelMapping.enumerate
  simp only [gen_vs_filter]
  exact dictKeys_of_nodup (vsIds_nodup N h)

theorem gen_csIds (N : Net L K) (h : N.ids.Nodup) : (alphabetic_current_source_mapper N).keys = N.csIds := by
  unfold alphabetic_current_source_mapper Py.LabelMapping.enumerate
  simp only [gen_cs_filter]
  exact dictKeys_of_nodup (csIds_nodup N h)

theorem gen_srcIds (N : Net L K) (h : N.ids.Nodup) : (alphabetic_source_mapper N).keys = N.srcIds := by
  unfold alphabetic_source_mapper Py.LabelMapping.enumerate
  simp only [gen_vs_filter, gen_cs_filter]
  exact dictKeys_of_nodup (srcIds_nodup N h)

/-! ### node_analysis.py: admittances -/

theorem finiteY_elem (e : Elem K) :
    XVal.finite? (Gen.Core.Elem.Y e) = if e.isIdealVS = true then none else some e.Yfin := by
  rw [genElem_Y]; cases e.isIdealVS <;> rfl

theorem filterMap_finiteY (l : List (Branch L K)) :
    l.filterMap (fun b => XVal.finite? (Gen.Core.Elem.Y b.e))
      = (l.filter (fun b => !b.e.isIdealVS)).map (·.e.Yfin) := by
  induction l with
  | nil => rfl
  | cons b l ih =>
    rw [List.filterMap_cons, List.filter_cons, ih, finiteY_elem]
    by_cases h : b.e.isIdealVS = true <;> simp [h]

theorem gen_admittance_connected_to (N : Net L K) (i : L) :
    admittance_connected_to N i
      = ((N.nonVS.filter (fun b => (b.n1 = i ∨ b.n2 = i) ∧ b.n1 ≠ b.n2)).map (·.e.Yfin)).sum := by
  unfold admittance_connected_to
  rw [(((gen_branches_connected_to N i).filter _).filterMap _).sum_eq, filterMap_finiteY]
  unfold Net.nonVS
  rw [List.filter_filter, List.filter_filter, List.filter_filter]
  congr 2
  apply List.filter_congr; intro b _
  by_cases h1 : b.n1 = i ∨ b.n2 = i <;> by_cases h2 : b.n1 = b.n2 <;> simp [h1, h2]

theorem gen_admittance_between (N : Net L K) (i j : L) :
    admittance_between N i j
      = ((N.nonVS.filter (fun b => (b.n1 = i ∧ b.n2 = j) ∨ (b.n1 = j ∧ b.n2 = i))).map (·.e.Yfin)).sum := by
  unfold admittance_between
  rw [gen_branches_between, filterMap_finiteY]
  unfold Net.nonVS
  rw [List.filter_filter, List.filter_filter]
  congr 2
  apply List.filter_congr; intro b _; rw [Bool.and_comm]

theorem gen_Yentry (N : Net L K) (i j : L) : node_matrix_element N i j = N.Yentry i j := by
  unfold node_matrix_element Net.Yentry
  rw [gen_admittance_connected_to, gen_admittance_between]

theorem mapM_ok {α β : Type} (f : α → Except Err β) (g : α → β) (l : List α)
    (h : ∀ a ∈ l, f a = .ok (g a)) : l.mapM f = .ok (l.map g) :=
  mapM_pointwise g h

theorem get?_isSome_of_mem_ids (N : Net L K) {id : String} (h : id ∈ N.ids) : (N.get? id).isSome := by
  unfold Net.get?
  rw [List.find?_isSome]
  obtain ⟨b, hb, rfl⟩ := List.mem_map.mp h
  exact ⟨b, List.mem_reverse.mpr hb, by simp⟩

theorem mapM_getitem (N : Net L K) {β : Type} (ids : List String) (h : Branch L K → β)
    (hs : ∀ id ∈ ids, (N.get? id).isSome) :
    ids.mapM (fun id => (do let b ← Network.getitem N id; pure (h b) : Except Err β))
      = .ok ((N.byIds ids).map h) := by
  induction ids with
  | nil => rfl
  | cons id ids ih =>
    have h1 := hs id (List.mem_cons_self ..)
    rw [List.mapM_cons, gen_getitem, ih (fun a ha => hs a (List.mem_cons_of_mem _ ha))]
    cases hg : N.get? id with
    | none => simp [hg] at h1
    | some b => simp [Net.byIds, hg]; rfl

theorem tableM_getitem (N : Net L K) {ρ : Type} (R : List ρ) (C : List String)
    (f : ρ → String → Except Err K) (h : ρ → Branch L K → K)
    (hf : ∀ r c, f r c = (do let b ← Network.getitem N c; pure (h r b)))
    (hs : ∀ id ∈ C, (N.get? id).isSome) :
    Py.Mat.tableM R C f = .ok ⟨R.length, C.length, R.map fun r => (N.byIds C).map (h r)⟩ := by
  unfold Py.Mat.tableM
  have : R.mapM (fun r => C.mapM fun c => f r c) = .ok (R.map fun r => (N.byIds C).map (h r)) := by
    apply mapM_ok
    intro r _
    simp only [hf]
    exact mapM_getitem N C (h r) hs
  rw [this]; rfl

theorem sorted_ids_found (N : Net L K) (p : Branch L K → Bool) :
    ∀ id ∈ sortL ((N.branches.filter p).map (·.id)), (N.get? id).isSome :=
  fun id hid => get?_isSome_of_mem_ids N (sorted_filter_ids_subset N p hid)

theorem vsIds_found (N : Net L K) : ∀ id ∈ N.vsIds, (N.get? id).isSome := sorted_ids_found N _

theorem csIds_found (N : Net L K) : ∀ id ∈ N.csIds, (N.get? id).isSome := sorted_ids_found N _

/-! ### node_analysis.py: incidence matrices -/

theorem gen_dir (N : Net L K) (vs : String) (n : L) :
    voltage_source_direction N vs n = (do let b ← Network.getitem N vs; pure (b.dir n)) := by
  unfold voltage_source_direction
  cases Network.getitem N vs with
  | error e => rfl
  | ok b => rfl

theorem gen_vs_matrix [LawfulLabelOrd L] (N : Net L K) (hids : N.ids.Nodup) :
    voltage_source_incidence_matrix N
      = .ok ⟨N.nodes.length, N.vsIds.length, N.nodes.map fun n => N.vsSorted.map fun b => b.dir n⟩ := by
  unfold voltage_source_incidence_matrix
  simp only [gen_nodes, gen_vsIds N hids]
  rw [tableM_getitem N N.nodes N.vsIds _ (fun n b => b.dir n) ?_ (vsIds_found N)]
  · rfl
  · intro r c
    rw [gen_dir]

theorem gen_Qentry (N : Net L K) (b : Branch L K) (row : L) :
    (let q : K := 0
     let q : K := if (N.zero ≠ b.n1) ∧ b.n1 = row then (q - 1) else q
     let q : K := if (N.zero ≠ b.n2) ∧ b.n2 = row then (q + 1) else q
     q) = N.Qentry b row := by
  unfold Net.Qentry
  have e1 : (b.n1 = row ∧ b.n1 ≠ N.zero) ↔ (N.zero ≠ b.n1 ∧ b.n1 = row) := by rw [and_comm, ne_comm]
  have e2 : (b.n2 = row ∧ b.n2 ≠ N.zero) ↔ (N.zero ≠ b.n2 ∧ b.n2 = row) := by rw [and_comm, ne_comm]
  by_cases c1 : N.zero ≠ b.n1 ∧ b.n1 = row <;> by_cases c2 : N.zero ≠ b.n2 ∧ b.n2 = row
  · simp only [e1, e2, if_pos c1, if_pos c2]; ring
  · simp only [e1, e2, if_pos c1, if_neg c2]
  · simp only [e1, e2, if_neg c1, if_pos c2]; ring
  · simp only [e1, e2, if_neg c1, if_neg c2]; ring

/-! ### node_analysis.py: block layout -/

theorem zipWith_map_same {α β γ δ : Type} (f : β → γ → δ) (l : List α) (a : α → β) (b : α → γ) :
    List.zipWith f (l.map a) (l.map b) = l.map fun x => f (a x) (b x) := by
  rw [List.zipWith_map, List.zipWith_self]

theorem transpose_rows {ρ β : Type} (nodes : List ρ) (l : List β) (φ : ρ → β → K) :
    (List.range l.length).map (fun j => (nodes.map fun n => l.map (φ n)).map fun row => row.getD j 0)
      = l.map fun b => nodes.map fun n => φ n b := by
  apply List.ext_getElem
  · simp
  · intro j h1 h2
    simp only [List.length_map, List.length_range] at h1
    simp only [List.getElem_map, List.getElem_range, List.map_map]
    apply List.map_congr_left
    intro n _
    simp [List.getD_eq_getElem?_getD, h1]

theorem gen_Y_matrix [LawfulLabelOrd L] (N : Net L K) :
    node_admittance_matrix N
      = ⟨N.nodes.length, N.nodes.length, N.nodes.map fun i => N.nodes.map fun j => N.Yentry i j⟩ := by
  unfold node_admittance_matrix Py.Mat.table
  simp only [gen_nodes, gen_Yentry]

/-! ### node_analysis.py: right-hand side -/

theorem filterKeysM_all {α : Type} (p : α → Except Err Bool) (l : List α) (h : ∀ k ∈ l, p k = .ok true) :
    Py.LabelMapping.filterKeysM p l = .ok l := by
  induction l with
  | nil => rfl
  | cons k ks ih =>
    unfold Py.LabelMapping.filterKeysM
    rw [h k (List.mem_cons_self ..), ih (fun a ha => h a (List.mem_cons_of_mem _ ha))]
    rfl

theorem sorted_ids_get (N : Net L K) (hids : N.ids.Nodup) (p : Branch L K → Bool) {id : String}
    (h : id ∈ sortL ((N.branches.filter p).map (·.id))) : ∃ b, N.get? id = some b ∧ p b = true := by
  obtain ⟨b, hb, hp, rfl⟩ := (mem_sorted_filter_ids N p id).mp h
  exact ⟨b, get?_of_mem N hids hb, hp⟩

theorem gen_cs_vector (N : Net L K) (hids : N.ids.Nodup) :
    current_source_vector N = .ok (N.csSorted.map fun b => b.e.Ival) := by
  unfold current_source_vector Py.LabelMapping.filterM
  rw [gen_csIds N hids]
  rw [filterKeysM_all _ N.csIds ?_]
  · have h1 := mapM_getitem N N.csIds (fun b => (Gen.Core.Elem.I b.e).toNum) (csIds_found N)
    have h2 : (N.byIds N.csIds).map (fun b => (Gen.Core.Elem.I b.e).toNum) = N.csSorted.map fun b => b.e.Ival := by
      unfold Net.csSorted; apply List.map_congr_left; intro b _; exact gen_Ival b.e
    rw [h2] at h1
    show (do let l2 ← List.mapM (fun x => (do let b ← Network.getitem N x; pure (Gen.Core.Elem.I b.e).toNum : Except Err K)) N.csIds
             pure l2 : Except Err (List K)) = _
    rw [h1]
  · intro k hk
    obtain ⟨b, hb, hcs⟩ := sorted_ids_get N hids _ hk
    rw [gen_getitem, hb]
    simp only [bind, Except.bind, pure, Except.pure, gen_isCS, hcs]

theorem setEq2_iff {α : Type} [DecidableEq α] (a b c d : α) :
    Py.setEq2 a b c d = true ↔ ∀ x, (x = a ∨ x = b) ↔ (x = c ∨ x = d) := by
  unfold Py.setEq2
  simp only [Bool.or_eq_true, Bool.and_eq_true, decide_eq_true_eq]
  constructor
  · rintro (⟨rfl, rfl⟩ | ⟨rfl, rfl⟩) x
    · rfl
    · exact Or.comm
  · intro h
    have ha := (h a).mp (Or.inl rfl)
    have hb := (h b).mp (Or.inr rfl)
    have hc := (h c).mpr (Or.inl rfl)
    have hd := (h d).mpr (Or.inr rfl)
    grind

end CC
