/-
  CC.Proofs.SpecLemmas — facts about the Spec (CC/Spec/Circuit.lean) that do not involve
  the code's matrices: sums against the incidence numbers, KCL holds at every label whatsoever,
  the equations as one bounded conjunction.

  The second half is the tool every statement "this rewrite of a network carries solutions to solutions" is proved
  with.  `EqsInj` is the circuit equations over a bare branch list with a current injected into each node from outside
  (`CircuitEqsAll`, no injection and KCL at every label, is what `CircuitEqs` is compared through).  Its laws and
  voltages are conditions on single branches and its node balances are sums over branches, so a solution is carried
  from one branch list to another as soon as it is carried branch by branch (`Branch.Combines`, `EqsInj.comb`, with
  `.map` for one network and `.filter` / `.unfilter` for branches that carry no current); moving the reference node
  only shifts the potentials (`Report.shift`, `EqsInj.reref`).  `CircuitEqs.comb` / `.carry` are the same for networks.
-/
import CC.Proofs.NetBasics
import CC.Proofs.ListSum
set_option linter.unusedSectionVars false

namespace CC
variable {L K : Type} [DecidableEq L] [Field K] [DecidableEq K]

theorem incidence_zero_of_not_incident (b : Branch L K) (n : L) (h1 : b.n1 ≠ n) (h2 : b.n2 ≠ n) :
    incidence b n = 0 := by simp [incidence, h1, h2]

theorem incidence_mul (b : Branch L K) (n : L) (x : K) :
    incidence b n * x = (if b.n1 = n then x else 0) - (if b.n2 = n then x else 0) := by
  unfold incidence; rw [sub_mul, ite_mul, ite_mul, one_mul, zero_mul]

/-- the incidence numbers are 0, ±1: every additive map commutes with them -/
theorem incidence_mul_hom (b : Branch L K) (n : L) (φ : K →+ K) (a : K) :
    incidence b n * φ a = φ (incidence b n * a) := by
  rw [incidence_mul, incidence_mul, map_sub, apply_ite φ, apply_ite φ, map_zero]

theorem sum_incidence_mul (ls : List L) (hnd : ls.Nodup) (b : Branch L K) (h1 : b.n1 ∈ ls)
    (h2 : b.n2 ∈ ls) (f : L → K) :
    (ls.map fun n => incidence b n * f n).sum = f b.n1 - f b.n2 := by
  unfold incidence
  simp only [sub_mul]
  rw [sum_map_sub', sum_indicator_mul hnd, sum_indicator_mul hnd, if_pos h1, if_pos h2]

/-- the incidence matrix and its transpose are adjoint: potential differences against branch
quantities = potentials against node balances (summation by parts on the graph) -/
theorem incidence_adjoint (bs : List (Branch L K)) (ls : List L) (hnd : ls.Nodup)
    (hl : ∀ b ∈ bs, b.n1 ∈ ls ∧ b.n2 ∈ ls) (pot : L → K) (w : Branch L K → K) :
    (bs.map fun b => (pot b.n1 - pot b.n2) * w b).sum
      = (ls.map fun n => pot n * (bs.map fun b => incidence b n * w b).sum).sum := by
  have e : ∀ n, pot n * (bs.map fun b => incidence b n * w b).sum
      = (bs.map fun b => incidence b n * pot n * w b).sum := fun n => by
    rw [← List.sum_map_mul_left]; exact congrArg List.sum (List.map_congr_left fun b _ => by ring)
  simp only [e]
  rw [sum_map_comm]
  refine congrArg List.sum (List.map_congr_left fun b hb => ?_)
  rw [List.sum_map_mul_right, sum_incidence_mul ls hnd b (hl b hb).1 (hl b hb).2]

/-- Kirchhoff's current law against a test potential: branch weights `f` that balance at every node are
orthogonal to the potential differences of every `φ` -/
theorem kcl_test (bs : List (Branch L K)) (f : Branch L K → K)
    (h : ∀ n, (bs.map fun b => incidence b n * f b).sum = 0) (φ : L → K) :
    (bs.map fun b => (φ b.n1 - φ b.n2) * f b).sum = 0 := by
  rw [incidence_adjoint bs (dedupL (bs.map (·.n1) ++ bs.map (·.n2))) (nodup_dedupL _)
    (fun b hb => ⟨mem_dedupL.mpr (List.mem_append_left _ (List.mem_map_of_mem hb)),
      mem_dedupL.mpr (List.mem_append_right _ (List.mem_map_of_mem hb))⟩) φ f]
  exact sum_map_eq_zero _ _ fun n _ => by rw [h n, mul_zero]

theorem mem_allLabels_of_incident (N : Net L K) {b : Branch L K} (hb : b ∈ N.branches) {n : L}
    (h : b.n1 = n ∨ b.n2 = n) : n ∈ N.allLabels :=
  (mem_allLabels N n).mpr (Or.inr ⟨b, hb, h⟩)

/-- the form in which `WellPosed` is checked for a network that is written out -/
theorem agreeOn_zeroRep_of_branches {N : Net L K} {R : Report L K} (h0 : R.pot N.zero = 0)
    (h : ∀ b ∈ N.branches, (R.pot b.n1 = 0 ∧ R.pot b.n2 = 0) ∧ R.v b.id = 0 ∧ R.i b.id = 0) :
    R.AgreeOn N Report.zeroRep := by
  refine ⟨fun n hn => ?_, fun b hb => (h b hb).2⟩
  rcases (mem_allLabels N n).mp hn with rfl | ⟨b, hb, rfl | rfl⟩
  exacts [h0, (h b hb).1.1, (h b hb).1.2]

theorem sum_incidence_off (bs : List (Branch L K)) (w : Branch L K → K) (c : L)
    (hc : ∀ x ∈ bs, x.n1 ≠ c ∧ x.n2 ≠ c) : (bs.map fun b => incidence b c * w b).sum = 0 :=
  sum_map_eq_zero _ _ fun b hb => by rw [incidence_zero_of_not_incident b c (hc b hb).1 (hc b hb).2, zero_mul]

theorem CircuitEqs.kcl_all {N : Net L K} {R : Report L K} (h : CircuitEqs N R) (n : L) :
    kclResidual N R n = 0 :=
  (em (n ∈ N.allLabels)).elim (h.kcl n) fun hn => sum_incidence_off N.branches _ n fun _ hb =>
    ⟨fun e => hn (mem_allLabels_of_incident N hb (.inl e)), fun e => hn (mem_allLabels_of_incident N hb (.inr e))⟩

/-- the circuit equations as one bounded conjunction of equalities in `K`: for a concrete network
and report over a field with decidable equality this is a closed decidable proposition, and the kernel
evaluates it -/
theorem circuitEqs_iff_forall (N : Net L K) (R : Report L K) :
    CircuitEqs N R ↔ R.pot N.zero = 0 ∧
      (∀ b ∈ N.branches, voltResidual R b = 0 ∧ b.e.lawResidual (R.v b.id) (R.i b.id) = 0) ∧
      ∀ n ∈ N.allLabels, kclResidual N R n = 0 :=
  ⟨fun h => ⟨h.ref_zero, fun b hb => ⟨h.volt b hb, h.law b hb⟩, h.kcl⟩,
   fun h => ⟨h.1, fun b hb => (h.2.1 b hb).1, fun b hb => (h.2.1 b hb).2, h.2.2⟩⟩

instance (N : Net L K) (R : Report L K) : Decidable (CircuitEqs N R) :=
  decidable_of_iff _ (circuitEqs_iff_forall N R).symm

/-- the circuit equations with KCL demanded at every label (equivalent, more convenient
as an invariant of network rewrites) -/
structure CircuitEqsAll (bs : List (Branch L K)) (zero : L) (R : Report L K) : Prop where
  ref_zero : R.pot zero = 0
  volt : ∀ b ∈ bs, voltResidual R b = 0
  law : ∀ b ∈ bs, b.e.lawResidual (R.v b.id) (R.i b.id) = 0
  kcl : ∀ n, kclResidual ⟨bs, zero⟩ R n = 0

theorem circuitEqsAll_iff (N : Net L K) (R : Report L K) :
    CircuitEqsAll N.branches N.zero R ↔ CircuitEqs N R := by
  constructor
  · intro h; exact ⟨h.ref_zero, h.volt, h.law, fun n _ => h.kcl n⟩
  · intro h; exact ⟨h.ref_zero, h.volt, h.law, fun n => h.kcl_all n⟩

/-- the circuit equations with a current `inj n` injected into node `n` from outside (`CircuitEqsAll` is the case
`inj = 0`) -/
structure EqsInj (bs : List (Branch L K)) (z : L) (R : Report L K) (inj : L → K) : Prop where
  ref_zero : R.pot z = 0
  volt : ∀ b ∈ bs, voltResidual R b = 0
  law : ∀ b ∈ bs, b.e.lawResidual (R.v b.id) (R.i b.id) = 0
  kcl : ∀ n, (bs.map fun b => incidence b n * b.e.physCurrent (R.i b.id)).sum = inj n

theorem CircuitEqsAll.eqsInj {bs : List (Branch L K)} {z : L} {R : Report L K} (h : CircuitEqsAll bs z R) :
    EqsInj bs z R fun _ => 0 :=
  ⟨h.ref_zero, h.volt, h.law, h.kcl⟩

theorem EqsInj.circuitEqsAll {bs : List (Branch L K)} {z : L} {R : Report L K} (h : EqsInj bs z R fun _ => 0) :
    CircuitEqsAll bs z R :=
  ⟨h.ref_zero, h.volt, h.law, h.kcl⟩

theorem circuitEqsAll_iff_eqsInj (bs : List (Branch L K)) (z : L) (R : Report L K) :
    CircuitEqsAll bs z R ↔ EqsInj bs z R (fun _ => 0) :=
  ⟨CircuitEqsAll.eqsInj, EqsInj.circuitEqsAll⟩

theorem circuitEqs_iff_eqsInj (N : Net L K) (R : Report L K) :
    CircuitEqs N R ↔ EqsInj N.branches N.zero R fun _ => 0 :=
  (circuitEqsAll_iff N R).symm.trans (circuitEqsAll_iff_eqsInj _ _ _)

theorem eqsInj_congr {bs : List (Branch L K)} {z : L} {R : Report L K} {inj inj' : L → K}
    (h : EqsInj bs z R inj) (e : ∀ n, inj n = inj' n) : EqsInj bs z R inj' :=
  ⟨h.ref_zero, h.volt, h.law, fun n => (h.kcl n).trans (e n)⟩

theorem EqsInj.congr {bs : List (Branch L K)} {z : L} {R S : Report L K} {inj : L → K} (h : EqsInj bs z R inj)
    (hz : S.pot z = R.pot z)
    (hb : ∀ b ∈ bs, S.pot b.n1 = R.pot b.n1 ∧ S.pot b.n2 = R.pot b.n2 ∧ S.v b.id = R.v b.id ∧ S.i b.id = R.i b.id) :
    EqsInj bs z S inj :=
  ⟨hz.trans h.ref_zero,
    fun b hbm => by obtain ⟨e1, e2, e3, _⟩ := hb b hbm; unfold voltResidual; rw [e1, e2, e3]; exact h.volt b hbm,
    fun b hbm => by rw [(hb b hbm).2.2.1, (hb b hbm).2.2.2]; exact h.law b hbm,
    fun n => (congrArg List.sum (List.map_congr_left fun b hbm => by rw [(hb b hbm).2.2.2])).trans (h.kcl n)⟩

/-! ### transport of solutions, branch by branch

Three branch lists are given as images `as.map f1`, `as.map f2`, `as.map f` of one index list.  If, index by index,
what `R` says about the branch `f x` follows from what `R1` says about `f1 x` and `R2` about `f2 x`, and the
contribution of `f x` to every node balance is `a` times that of `f1 x` plus `c` times that of `f2 x`, then solutions
`R1`, `R2` give the solution `R`.  Linearity in the sources, the difference of two solutions, reversal of terminals
and the replacement of a branch by an electrically equal one are instances.  Beside it: indices whose branch contributes
nothing to any node balance may be dropped (`EqsInj.filter`). -/

structure Branch.Combines (a c : K) (R1 R2 R : Report L K) (b1 b2 b : Branch L K) : Prop where
  volt : voltResidual R1 b1 = 0 → voltResidual R2 b2 = 0 → voltResidual R b = 0
  law : b1.e.lawResidual (R1.v b1.id) (R1.i b1.id) = 0 → b2.e.lawResidual (R2.v b2.id) (R2.i b2.id) = 0 →
    b.e.lawResidual (R.v b.id) (R.i b.id) = 0
  kcl : ∀ n, incidence b n * b.e.physCurrent (R.i b.id)
    = a * (incidence b1 n * b1.e.physCurrent (R1.i b1.id)) + c * (incidence b2 n * b2.e.physCurrent (R2.i b2.id))

/-- the reference nodes play no part -/
theorem kclResidual_comb {α : Type} {as : List α} {f1 f2 f : α → Branch L K} {z1 z2 z : L} {a c : K}
    {R1 R2 R : Report L K} (hc : ∀ x ∈ as, Branch.Combines a c R1 R2 R (f1 x) (f2 x) (f x)) (n : L) :
    kclResidual ⟨as.map f, z⟩ R n
      = a * kclResidual ⟨as.map f1, z1⟩ R1 n + c * kclResidual ⟨as.map f2, z2⟩ R2 n := by
  simp only [kclResidual]
  rw [List.map_map, List.map_map, List.map_map, ← List.sum_map_mul_left, ← List.sum_map_mul_left,
    ← List.sum_map_add]
  exact congrArg List.sum (List.map_congr_left fun x hx => (hc x hx).kcl n)

theorem EqsInj.comb {α : Type} {as : List α} {f1 f2 f : α → Branch L K} {z1 z2 z : L} {a c : K}
    {R1 R2 R : Report L K} {inj1 inj2 : L → K}
    (h1 : EqsInj (as.map f1) z1 R1 inj1) (h2 : EqsInj (as.map f2) z2 R2 inj2)
    (h0 : R1.pot z1 = 0 → R2.pot z2 = 0 → R.pot z = 0)
    (hc : ∀ x ∈ as, Branch.Combines a c R1 R2 R (f1 x) (f2 x) (f x)) :
    EqsInj (as.map f) z R fun n => a * inj1 n + c * inj2 n := by
  have m1 := fun x (hx : x ∈ as) => List.mem_map_of_mem (f := f1) hx
  have m2 := fun x (hx : x ∈ as) => List.mem_map_of_mem (f := f2) hx
  refine ⟨h0 h1.ref_zero h2.ref_zero,
    List.forall_mem_map.mpr fun x hx => (hc x hx).volt (h1.volt _ (m1 x hx)) (h2.volt _ (m2 x hx)),
    List.forall_mem_map.mpr fun x hx => (hc x hx).law (h1.law _ (m1 x hx)) (h2.law _ (m2 x hx)), fun n => ?_⟩
  rw [← h1.kcl n, ← h2.kcl n]
  exact kclResidual_comb (z := z) (z1 := z1) (z2 := z2) hc n

theorem kclResidual_filter {α : Type} (l : List α) (g : α → Branch L K) (q : α → Bool) (z : L) (R : Report L K) (n : L)
    (hq : ∀ x ∈ l, q x = false → incidence (g x) n * (g x).e.physCurrent (R.i (g x).id) = 0) :
    kclResidual ⟨(l.filter q).map g, z⟩ R n = kclResidual ⟨l.map g, z⟩ R n := by
  unfold kclResidual
  simp only [List.map_map]
  rw [sum_filter_eq_sum_ite]
  refine congrArg List.sum (List.map_congr_left fun x hx => ?_)
  cases hqx : q x with
  | true => rfl
  | false => exact (hq x hx hqx).symm

theorem EqsInj.filter {α : Type} {l : List α} {g : α → Branch L K} {z : L} {R : Report L K} {inj : L → K}
    (h : EqsInj (l.map g) z R inj) (q : α → Bool)
    (hq : ∀ x ∈ l, q x = false → ∀ n, incidence (g x) n * (g x).e.physCurrent (R.i (g x).id) = 0) :
    EqsInj ((l.filter q).map g) z R inj :=
  have hsub : ∀ c ∈ (l.filter q).map g, c ∈ l.map g := fun _ hc => (List.filter_sublist.map g).subset hc
  ⟨h.ref_zero, fun c hc => h.volt c (hsub c hc), fun c hc => h.law c (hsub c hc), fun n =>
    (kclResidual_filter l g q z R n fun x hx hqx => hq x hx hqx n).trans (h.kcl n)⟩

theorem EqsInj.unfilter {α : Type} {l : List α} {g : α → Branch L K} {z : L} {R : Report L K} {inj : L → K}
    {q : α → Bool} (h : EqsInj ((l.filter q).map g) z R inj)
    (hq : ∀ x ∈ l, q x = false → voltResidual R (g x) = 0 ∧ (g x).e.lawResidual (R.v (g x).id) (R.i (g x).id) = 0 ∧
      ∀ n, incidence (g x) n * (g x).e.physCurrent (R.i (g x).id) = 0) : EqsInj (l.map g) z R inj := by
  have hm : ∀ x ∈ l, q x = true → g x ∈ (l.filter q).map g := fun x hx hqx =>
    List.mem_map_of_mem (List.mem_filter.mpr ⟨hx, hqx⟩)
  refine ⟨h.ref_zero, List.forall_mem_map.mpr fun x hx => ?_, List.forall_mem_map.mpr fun x hx => ?_, fun n =>
    (kclResidual_filter l g q z R n fun x hx hqx => (hq x hx hqx).2.2 n).symm.trans (h.kcl n)⟩
  · cases hqx : q x with
    | true => exact h.volt _ (hm x hx hqx)
    | false => exact (hq x hx hqx).1
  · cases hqx : q x with
    | true => exact h.law _ (hm x hx hqx)
    | false => exact (hq x hx hqx).2.1

theorem EqsInj.map {α : Type} {as : List α} {f g : α → Branch L K} {z z' : L} {R S : Report L K} {inj : L → K}
    (h : EqsInj (as.map f) z R inj) (h0 : R.pot z = 0 → S.pot z' = 0)
    (hc : ∀ x ∈ as, Branch.Combines 1 0 R R S (f x) (f x) (g x)) : EqsInj (as.map g) z' S inj :=
  eqsInj_congr (EqsInj.comb h h (fun e _ => h0 e) hc) fun n => by rw [one_mul, zero_mul, add_zero]

theorem CircuitEqsAll.comb {α : Type} {as : List α} {f1 f2 f : α → Branch L K} {z1 z2 z : L} {a c : K}
    {R1 R2 R : Report L K} (h1 : CircuitEqsAll (as.map f1) z1 R1) (h2 : CircuitEqsAll (as.map f2) z2 R2)
    (h0 : R1.pot z1 = 0 → R2.pot z2 = 0 → R.pot z = 0)
    (hc : ∀ x ∈ as, Branch.Combines a c R1 R2 R (f1 x) (f2 x) (f x)) : CircuitEqsAll (as.map f) z R :=
  (circuitEqsAll_iff_eqsInj _ _ _).mpr (eqsInj_congr (EqsInj.comb ((circuitEqsAll_iff_eqsInj _ _ _).mp h1)
    ((circuitEqsAll_iff_eqsInj _ _ _).mp h2) h0 hc) fun n => by rw [mul_zero, mul_zero, add_zero])

theorem Branch.Combines.of_carries {R S : Report L K} {b b' : Branch L K}
    (volt : voltResidual R b = 0 → voltResidual S b' = 0)
    (law : b.e.lawResidual (R.v b.id) (R.i b.id) = 0 → b'.e.lawResidual (S.v b'.id) (S.i b'.id) = 0)
    (kcl : ∀ n, incidence b' n * b'.e.physCurrent (S.i b'.id) = incidence b n * b.e.physCurrent (R.i b.id)) :
    Branch.Combines 1 0 R R S b b b' :=
  ⟨fun e _ => volt e, fun e _ => law e, fun n => by rw [kcl n]; ring⟩

theorem CircuitEqsAll.map {α : Type} {as : List α} {f g : α → Branch L K} {z z' : L} {R S : Report L K}
    (h : CircuitEqsAll (as.map f) z R) (h0 : R.pot z = 0 → S.pot z' = 0)
    (hc : ∀ x ∈ as, Branch.Combines 1 0 R R S (f x) (f x) (g x)) : CircuitEqsAll (as.map g) z' S :=
  CircuitEqsAll.comb h h (fun e _ => h0 e) hc

def Report.shift (R : Report L K) (c : K) : Report L K := { R with pot := fun n => R.pot n - c }

theorem Report.shift_pot (R : Report L K) (c : K) (n : L) : (R.shift c).pot n = R.pot n - c := rfl

theorem EqsInj.reref {bs : List (Branch L K)} {z : L} {R : Report L K} {inj : L → K} (h : EqsInj bs z R inj)
    (g : L) : EqsInj bs g (R.shift (R.pot g)) inj := by
  refine ⟨sub_self _, fun b hb => ?_, h.law, h.kcl⟩
  have := h.volt b hb
  unfold voltResidual at this ⊢
  rw [Report.shift_pot, Report.shift_pot, sub_sub_sub_cancel_right]; exact this

theorem CircuitEqs.reref {M M' : Net L K} {R : Report L K} (h : CircuitEqs M R) (hbr : M'.branches = M.branches) :
    CircuitEqs M' (R.shift (R.pot M'.zero)) :=
  (circuitEqs_iff_eqsInj _ _).mpr (hbr ▸ ((circuitEqs_iff_eqsInj M R).mp h).reref M'.zero)

theorem CircuitEqs.comb {N : Net L K} {g : Branch L K → Branch L K} {z : L} {a c : K} {R1 R2 R : Report L K}
    (h1 : CircuitEqs N R1) (h2 : CircuitEqs N R2) (h0 : R1.pot N.zero = 0 → R2.pot N.zero = 0 → R.pot z = 0)
    (hc : ∀ b ∈ N.branches, Branch.Combines a c R1 R2 R b b (g b)) : CircuitEqs ⟨N.branches.map g, z⟩ R := by
  have toA := fun T (hT : CircuitEqs N T) =>
    show CircuitEqsAll (N.branches.map id) N.zero T by rw [List.map_id]; exact (circuitEqsAll_iff N T).mpr hT
  exact (circuitEqsAll_iff _ R).mp (CircuitEqsAll.comb (toA R1 h1) (toA R2 h2) h0 hc)

theorem CircuitEqs.carry {N : Net L K} {g : Branch L K → Branch L K} {z : L} {R S : Report L K}
    (h : CircuitEqs N R) (h0 : R.pot N.zero = 0 → S.pot z = 0)
    (hc : ∀ b ∈ N.branches, Branch.Combines 1 0 R R S b b (g b)) : CircuitEqs ⟨N.branches.map g, z⟩ S :=
  h.comb h (fun e _ => h0 e) hc

theorem circuitEqs_of_agreeOn (N : Net L K) (R S : Report L K) (hA : R.AgreeOn N S)
    (h : CircuitEqs N R) : CircuitEqs N S :=
  (circuitEqs_iff_eqsInj N S).mpr (((circuitEqs_iff_eqsInj N R).mp h).congr (hA.1 _ (zero_mem_allLabels N)).symm
    fun b hb => ⟨(hA.1 _ (mem_allLabels_of_incident N hb (.inl rfl))).symm,
      (hA.1 _ (mem_allLabels_of_incident N hb (.inr rfl))).symm, (hA.2 b hb).1.symm, (hA.2 b hb).2.symm⟩)

end CC
