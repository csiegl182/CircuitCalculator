/-
  Lemmas for CC/Properties/C10Gen.lean (the generated state-space model CC/Gen/StateSpace.lean, translated from the
  Python AST on every run, equals the hand-written model CC/Model/StateSpace.lean): the operations of `Py.Mat` on
  rows of the declared shape are the model's `Mx` operations, and `SSRel` relates a generated object to a model object.
-/
import CC.Gen.StateSpace
import CC.Proofs.CoreGen
import CC.Proofs.StateModel
set_option linter.unusedSectionVars false

namespace CC
open CC.Gen.Core CC.Gen.State CC.Py

variable {L K : Type} [DecidableEq L] [LabelOrd L] [Field K] [DecidableEq K]

theorem Mx.get_eq (M : List (List K)) (i j : Nat) : Mx.get M i j = (M.getD i []).getD j 0 := rfl

theorem getD_of_lt {α : Type} {l : List α} {d : α} {i : Nat} (h : i < l.length) : l.getD i d = l[i] := by
  rw [List.getD_eq_getElem?_getD, List.getElem?_eq_getElem h, Option.getD_some]

theorem Mx.get_getElem {M : List (List K)} {i j : Nat} (hi : i < M.length) (hj : j < M[i].length) :
    Mx.get M i j = M[i][j] := by
  rw [Mx.get_eq, getD_of_lt hi, getD_of_lt hj]

theorem mx_ext {A B : List (List K)} {r c : Nat} (hA : IsShape A r c) (hB : IsShape B r c)
    (h : ∀ i j, i < r → j < c → Mx.get A i j = Mx.get B i j) : A = B := by
  apply List.ext_getElem (hA.1.trans hB.1.symm)
  intro i h1 h2
  have hc1 := hA.2 _ (List.getElem_mem h1)
  apply List.ext_getElem (hc1.trans (hB.2 _ (List.getElem_mem h2)).symm)
  intro j h3 h4
  rw [← Mx.get_getElem h1 h3, ← Mx.get_getElem h2 h4]
  exact h i j (hA.1 ▸ h1) (hc1 ▸ h3)

theorem ofFn_get_self {A : List (List K)} {r c : Nat} (hA : IsShape A r c) : Mx.ofFn r c (Mx.get A) = A :=
  mx_ext isShape_ofFn hA (fun _ _ hi hj => Mx.get_ofFn hi hj)

theorem get_zipWith_append {A B : List (List K)} {r c1 c2 : Nat} (hA : IsShape A r c1) (hB : IsShape B r c2)
    (i j : Nat) (hi : i < r) :
    Mx.get (List.zipWith (· ++ ·) A B) i j = if j < c1 then Mx.get A i j else Mx.get B i (j - c1) := by
  have h1 : i < A.length := hA.1 ▸ hi
  have h2 : i < B.length := hB.1 ▸ hi
  have hl : (A[i]).length = c1 := hA.2 _ (List.getElem_mem h1)
  simp only [Mx.get, List.getD_eq_getElem?_getD, List.getElem?_zipWith, List.getElem?_eq_getElem h1,
    List.getElem?_eq_getElem h2, Option.getD_some, List.getElem?_append, hl]
  exact apply_ite (fun o : Option K => o.getD 0) _ _ _

theorem isShape_zipWith_append {A B : List (List K)} {r c1 c2 : Nat} (hA : IsShape A r c1) (hB : IsShape B r c2) :
    IsShape (List.zipWith (· ++ ·) A B) r (c1 + c2) := by
  constructor
  · rw [List.length_zipWith, hA.1, hB.1, Nat.min_self]
  intro row hrow
  obtain ⟨i, hi, rfl⟩ := List.mem_iff_getElem.mp hrow
  rw [List.getElem_zipWith, List.length_append, hA.2 _ (List.getElem_mem _), hB.2 _ (List.getElem_mem _)]

/-- `np.hstack` on well-shaped arrays is the model's `Mx.hstack` -/
theorem hstack_rows {A B : List (List K)} {r c1 c2 : Nat} (hA : IsShape A r c1) (hB : IsShape B r c2) :
    List.zipWith (· ++ ·) A B = Mx.hstack r c1 c2 A B := by
  apply mx_ext (isShape_zipWith_append hA hB) isShape_ofFn
  intro i j hi hj
  rw [get_zipWith_append hA hB i j hi]
  show _ = Mx.get (Mx.ofFn r (c1 + c2) _) i j
  rw [Mx.get_ofFn hi hj]

theorem T_rows (M : Py.Mat K) (h : M.rows.length = M.nrows) :
    M.T = ⟨M.ncols, M.nrows, Mx.transpose M.ncols M.nrows M.rows⟩ := by
  unfold Py.Mat.T Mx.transpose Mx.ofFn
  rw [← h]
  congr 1
  apply List.map_congr_left
  intro j _
  apply List.ext_getElem
  · rw [List.length_map, List.length_map, List.length_range]
  · intro i h1 h2
    rw [List.length_map] at h1
    rw [List.getElem_map, List.getElem_map, List.getElem_range]
    show _ = Mx.get M.rows i j
    rw [Mx.get_eq, getD_of_lt h1]

theorem isShape_replicate (r c : Nat) : IsShape (List.replicate r (List.replicate c (0 : K))) r c := by
  refine ⟨List.length_replicate, ?_⟩
  intro row h
  rw [List.eq_of_mem_replicate h, List.length_replicate]

theorem get_replicate (r c i j : Nat) : Mx.get (List.replicate r (List.replicate c (0 : K))) i j = 0 := by
  rw [Mx.get_eq, List.getD_eq_getElem?_getD (l := List.replicate r (List.replicate c (0 : K))),
    List.getElem?_replicate]
  by_cases hi : i < r
  · rw [if_pos hi, Option.getD_some, List.getD_eq_getElem?_getD, List.getElem?_replicate]
    by_cases hj : j < c
    · rw [if_pos hj]; rfl
    · rw [if_neg hj]; rfl
  · rw [if_neg hi]; rfl

theorem get_append (A B : List (List K)) (i j : Nat) :
    Mx.get (A ++ B) i j = if i < A.length then Mx.get A i j else Mx.get B (i - A.length) j := by
  simp only [Mx.get, List.getD_eq_getElem?_getD, List.getElem?_append]
  split_ifs <;> rfl

theorem mapM_append_right {α : Type} (g : α → Except Err (List K)) (z : List K) (l : List α) :
    l.mapM (fun x => do let r ← g x; pure (r ++ z))
      = (do let rows ← l.mapM g
            pure (List.zipWith (· ++ ·) rows (List.replicate l.length z)) : Except Err (List (List K))) := by
  induction l with
  | nil => rfl
  | cons a l ih =>
    rw [List.mapM_cons, List.mapM_cons, ih]
    cases g a with
    | error e => rfl
    | ok b =>
      cases l.mapM g with
      | error e => rfl
      | ok bs => rfl

theorem tableM_hstack_zeros {α β : Type} (R : List α) (C : List β) (f : α → β → Except Err K) (n : Nat) :
    (do let M ← Py.Mat.tableM R C f
        pure (Py.Mat.hstack M (Py.Mat.zeros M.nrows n)) : Except Err (Py.Mat K))
      = (do let rows ← R.mapM fun r => (do let row ← C.mapM (f r); pure (row ++ List.replicate n 0) : Except Err (List K))
            pure ⟨R.length, C.length + n, rows⟩) := by
  unfold Py.Mat.tableM
  rw [mapM_append_right]
  cases R.mapM (fun r => C.mapM fun c => f r c) with
  | error e => rfl
  | ok rows => rfl

theorem gen_vsN (N : Net L K) (hids : N.ids.Nodup) : (alphabetic_voltage_source_mapper N).N = N.nV := by
  unfold Py.LabelMapping.N Net.nV; rw [gen_vsIds N hids]

theorem gen_csN (N : Net L K) (hids : N.ids.Nodup) : (alphabetic_current_source_mapper N).N = N.nC := by
  unfold Py.LabelMapping.N Net.nC; rw [gen_csIds N hids]

theorem gen_nodeN [LawfulLabelOrd L] (N : Net L K) : (alphabetic_node_mapper N).N = N.nN := by
  unfold Py.LabelMapping.N Net.nN; rw [gen_nodes N]

theorem mapM_getidx {α : Type} [DecidableEq α] (m : Py.LabelMapping α) (l : List α) (g : Nat → Nat) :
    l.mapM (fun x => (do let k ← m.getitem x; pure (g k) : Except Err Nat))
      = if (l.filterMap fun x => (idxOf? x m.keys).map g).length = l.length
        then .ok (l.filterMap fun x => (idxOf? x m.keys).map g) else .error .keyError := by
  induction l with
  | nil => rfl
  | cons a l ih =>
    rw [List.mapM_cons, ih]
    unfold Py.LabelMapping.getitem
    cases hk : idxOf? a m.keys with
    | none =>
      rw [List.filterMap_cons_none (by rw [hk]; rfl), List.length_cons,
        if_neg (Nat.ne_of_lt (Nat.lt_succ_of_le (List.length_filterMap_le _ l)))]
      rfl
    | some k =>
      rw [List.filterMap_cons_some (by rw [hk]; rfl), List.length_cons, List.length_cons]
      simp only [Nat.add_right_cancel_iff]
      split <;> rfl

theorem mapM_getitem_idx {α : Type} [DecidableEq α] (m : Py.LabelMapping α) (l : List α) :
    l.mapM (fun x => m.getitem x)
      = if (l.filterMap fun x => idxOf? x m.keys).length = l.length
        then .ok (l.filterMap fun x => idxOf? x m.keys) else .error .keyError := by
  simpa only [id_eq, bind_pure, Option.map_id_fun] using mapM_getidx m l id

theorem not_has_eq (d : ValDict K) : (fun l => !d.has l) = fun l => decide (l ∉ d.keys) := by
  funext l
  simp [ValDict.has]

theorem isShape_diag (d : List K) : IsShape (Py.Mat.diag d).rows d.length d.length := isShape_ofFn

theorem diagOf_blockdiag (d1 d2 : List K) :
    Py.Mat.diagOf (Py.Mat.vstack (Py.Mat.hstack (Py.Mat.diag d1) (Py.Mat.zeros d1.length d2.length))
        (Py.Mat.hstack (Py.Mat.zeros d2.length d1.length) (Py.Mat.diag d2))) = d1 ++ d2 := by
  have s1 := isShape_diag d1
  have s2 := isShape_diag d2
  have z1 := isShape_replicate (K := K) d1.length d2.length
  have z2 := isShape_replicate (K := K) d2.length d1.length
  unfold Py.Mat.diagOf
  simp only [Py.Mat.vstack, Py.Mat.hstack, Py.Mat.zeros, Py.Mat.diag, Nat.min_self] at s1 s2 ⊢
  apply List.ext_getElem
  · rw [List.length_map, List.length_range, List.length_append]
  · intro i h1 h2
    rw [List.length_append] at h2
    rw [List.getElem_map, List.getElem_range, get_append, (isShape_zipWith_append s1 z1).1]
    by_cases hi : i < d1.length
    · rw [if_pos hi, get_zipWith_append s1 z1 i i hi, if_pos hi, Mx.get_ofFn hi hi, if_pos rfl,
        List.getElem_append_left hi, getD_of_lt hi]
    · have hi2 : i - d1.length < d2.length := by omega
      rw [if_neg hi, get_zipWith_append z2 s2 _ i hi2, if_neg hi, Mx.get_ofFn hi2 hi2, if_pos rfl,
        List.getElem_append_right (Nat.le_of_not_lt hi), getD_of_lt hi2]

theorem gen_Lambda (inv : Py.Mat K → Py.Mat K) (re : K → K) (N : Net L K) (cvals lvals : ValDict K) :
    Py.Mat.diagOf (value_matrix inv re N cvals lvals) = ssLambda cvals lvals := by
  have h := diagOf_blockdiag (cvals.vals.map fun c => -c) lvals.vals
  rw [List.length_map, show cvals.vals.length = cvals.length from List.length_map _,
    show lvals.vals.length = lvals.length from List.length_map _] at h
  exact h

theorem mul_diagLike {n c : Nat} (a : Nat → K) {D M : List (List K)}
    (hD : ∀ i k, i < n → k < n → Mx.get D i k = if i = k then a i else 0) :
    Mx.mul n n c D M = Mx.ofFn n c fun i j => a i * Mx.get M i j :=
  Mx.ofFn_congr fun i j hi _ => by
    rw [Mx.sumTo_congr (fun k => if i = k then a i * Mx.get M k j else 0) fun k hk => by
      rw [hD i k hi hk, ite_mul, zero_mul], Mx.sumTo_ite, if_pos hi]

theorem diag_mul (d : List K) {n : Nat} (hd : d.length = n) (M : Py.Mat K) :
    Py.Mat.mul (Py.Mat.diag d) M = ⟨n, M.ncols, Mx.diagMul n M.ncols d M.rows⟩ := by
  subst hd
  exact congrArg (Py.Mat.mk _ _) (mul_diagLike (fun i => d.getD i 0) fun i k hi hk => Mx.get_ofFn hi hk)

theorem neg_diag_mul (d : List K) {n : Nat} (hd : d.length = n) (M : Py.Mat K) :
    Py.Mat.mul (Py.Mat.neg (Py.Mat.diag d)) M = ⟨n, M.ncols, Mx.neg n M.ncols (Mx.diagMul n M.ncols d M.rows)⟩ := by
  subst hd
  refine congrArg (Py.Mat.mk _ _) ((mul_diagLike (fun i => -d.getD i 0)
    fun i k (hi : i < d.length) (hk : k < d.length) => ?_).trans
    (Mx.ofFn_congr fun i j (hi : i < d.length) hj => ?_))
  · show Mx.get (Mx.ofFn d.length d.length fun i j => -Mx.get (Mx.ofFn d.length d.length _) i j) i k = _
    rw [Mx.get_ofFn hi hk, Mx.get_ofFn hi hk, apply_ite Neg.neg, neg_zero]
  · show _ = -Mx.get (Mx.ofFn _ _ _) i j
    rw [Mx.get_ofFn hi hj, neg_mul]

theorem gen_DQ (N : Net L K) (cvals lvals : ValDict K) (Delta : List (List K)) (hD : Delta.length = cvals.length) :
    Py.Mat.hstack (⟨cvals.length, N.nN + N.nV, Delta⟩ : Py.Mat K).T ⟨N.nY, (ssColsL N lvals).length, ssQL N lvals⟩
      = ⟨N.nY, cvals.length + (ssColsL N lvals).length, ssDQ N cvals lvals Delta⟩ := by
  rw [T_rows (⟨cvals.length, N.nN + N.nV, Delta⟩ : Py.Mat K) hD]
  exact congrArg (Py.Mat.mk _ _) (hstack_rows isShape_ofFn isShape_ofFn)

/-- lines 45-54 of `state_space_matrices` on arrays in shape normal form: the model's `ssCore`, fed with the rows of
the two inverses -/
theorem gen_core_step (inv : Py.Mat K → Py.Mat K)
    (hinv : ∀ M : Py.Mat K, (inv M).nrows = M.nrows ∧ (inv M).ncols = M.ncols)
    {ny ns nu : Nat} {il : List K} (hil : il.length = ns) {DQr QSr Atr : List (List K)} (hDQ : DQr.length = ny) :
    let DQ : Py.Mat K := ⟨ny, ns, DQr⟩
    let QS : Py.Mat K := ⟨ny, nu, QSr⟩
    let invLambda := Py.Mat.diag il
    let Ai := inv ⟨ny, ny, Atr⟩
    let T := Py.Mat.mul DQ.T Ai
    let S := inv (Py.Mat.mul T DQ)
    let A := Py.Mat.mul invLambda S
    let C := Py.Mat.mul T.T S
    let B := Py.Mat.mul (Py.Mat.mul (Py.Mat.neg invLambda) C.T) QS
    let D := Py.Mat.mul (Py.Mat.sub Ai (Py.Mat.mul T.T C.T)) QS
    let Tr := Mx.mul ns ny ny (Mx.transpose ns ny DQr) Ai.rows
    let Sr := (inv ⟨ns, ns, Mx.mul ns ny ns Tr DQr⟩).rows
    let m := ssCore ny ns nu il DQr QSr Ai.rows Sr
    (A, B, C, D) = ((⟨ns, ns, m.A⟩ : Py.Mat K), (⟨ns, nu, m.B⟩ : Py.Mat K),
                    (⟨ny, ns, m.C⟩ : Py.Mat K), (⟨ny, nu, m.D⟩ : Py.Mat K)) := by
  intro DQ QS invLambda Ai T S A C B D Tr Sr m
  have eta : ∀ M : Py.Mat K, inv M = ⟨M.nrows, M.ncols, (inv M).rows⟩ := fun M => by
    rw [← (hinv M).1, ← (hinv M).2]
  have hAi : Ai = ⟨ny, ny, Ai.rows⟩ := eta _
  have hT : T = ⟨ns, ny, Tr⟩ := by
    show Py.Mat.mul DQ.T Ai = _
    rw [hAi, T_rows DQ hDQ]
    rfl
  have hS : S = ⟨ns, ns, Sr⟩ := by
    show inv (Py.Mat.mul T DQ) = _
    rw [hT]
    exact eta _
  have hTT : T.T = ⟨ny, ns, Mx.transpose ny ns Tr⟩ := by
    rw [hT]; exact T_rows _ Mx.ofFn_length
  have hC : C = ⟨ny, ns, m.C⟩ := by
    show Py.Mat.mul T.T S = _
    rw [hTT, hS]
    rfl
  have hCT : C.T = ⟨ns, ny, Mx.transpose ns ny m.C⟩ := by
    rw [hC]; exact T_rows _ Mx.ofFn_length
  have hA : A = ⟨ns, ns, m.A⟩ := by
    show Py.Mat.mul invLambda S = _
    rw [hS, diag_mul _ hil]
    rfl
  have hB : B = ⟨ns, nu, m.B⟩ := by
    show Py.Mat.mul (Py.Mat.mul (Py.Mat.neg invLambda) C.T) QS = _
    rw [hCT, neg_diag_mul _ hil]
    rfl
  have hD' : D = ⟨ny, nu, m.D⟩ := by
    show Py.Mat.mul (Py.Mat.sub Ai (Py.Mat.mul T.T C.T)) QS = _
    rw [hTT, hCT, hAi]
    rfl
  rw [hA, hB, hC, hD']

theorem ssDelta_length {N : Net L K} {cvals : ValDict K} {Delta : List (List K)}
    (h : ssDelta N cvals = .ok Delta) : Delta.length = cvals.length := by
  rw [(mapM_eq_ok.1 h).length_eq.symm]
  exact List.length_map _

/-- the generated object `g` and the hand-written `m` describe the same model.  A `Py.Mat` carries its width beside
its rows, and the accessors read it for their zero rows (`np.zeros(self.C.shape[1])`): `Cw`, `Dw`.  `Cr`, `Dr` make the
slice `matrix[:][k:k+1]` of a node index one row. -/
structure SSRel (g : NodalStateSpaceModel L K) (m : NSSM L K) : Prop where
  hA : g.A.rows = m.mats.A
  hB : g.B.rows = m.mats.B
  hC : g.C.rows = m.mats.C
  hD : g.D.rows = m.mats.D
  net : g.network = m.net
  cv : g.c_values = m.cvals
  lv : g.l_values = m.lvals
  nm : g.node_index_mapping.keys = m.net.nodes
  vm : g.voltage_source_index_mapping.keys = m.net.vsIds
  cm : g.current_source_index_mapping.keys = m.net.csIds
  Cw : g.C.ncols = m.nStates
  Dw : g.D.ncols = m.nInputs
  Cr : m.net.nN ≤ m.mats.C.length
  Dr : m.net.nN ≤ m.mats.D.length

theorem rowSlice_one (M : Py.Mat K) (k : Nat) (h : k < M.rows.length) :
    Py.Mat.rowSlice M k (k + 1) = [M.rows.getD k []] := by
  unfold Py.Mat.rowSlice
  rw [Nat.add_sub_cancel_left, List.take_one, List.head?_drop, List.getElem?_eq_getElem h, getD_of_lt h]
  rfl

theorem getitem_some {α : Type} [DecidableEq α] {m : Py.LabelMapping α} {l : List α} (hm : m.keys = l)
    {a : α} {k : Nat} (h : idxOf? a l = some k) : m.getitem a = .ok k := by
  unfold Py.LabelMapping.getitem; rw [hm, h]

/-- `f1`, `f2` are two potential-row calls; `φ` is `−` in the voltage accessors, `(· − ·) / Z` in the current accessors -/
theorem rows_lift2 {f1 f2 : Except Err (Py.Arr K)} {h1 h2 : Except Err (List K)}
    (e1 : f1 = (do let r ← h1; pure (Py.Arr.mat [r]))) (e2 : f2 = (do let r ← h2; pure (Py.Arr.mat [r])))
    {φ : Py.Arr K → Py.Arr K → Py.Arr K} {ψ : List K → List K → List K}
    (hφ : ∀ p q, φ (.mat [p]) (.mat [q]) = .mat [ψ p q]) :
    (do let a ← f1; let b ← f2; pure (φ a b) : Except Err (Py.Arr K))
      = (do let r ← (do let p ← h1; let q ← h2; pure (ψ p q) : Except Err (List K))
            pure (Py.Arr.mat [r])) := by
  subst e1 e2
  cases h1 with
  | error x => rfl
  | ok p =>
    cases h2 with
    | error x => rfl
    | ok q => exact congrArg Except.ok (hφ p q)

theorem rows_of_mat {f : Except Err (Py.Arr K)} {h : Except Err (List K)}
    (e : f = (do let r ← h; pure (Py.Arr.mat [r]))) :
    (do let a ← f; pure a.toRows : Except Err (List (List K))) = (do let r ← h; pure [r]) := by
  rw [e]; cases h <;> rfl

theorem keyIndex_some {d : ValDict K} {id : String} {k : Nat} (h : idxOf? id d.keys = some k) :
    Py.keyIndex d id = .ok k := by
  unfold Py.keyIndex; unfold ValDict.keys at h; rw [h]

theorem dictItem_of_idx {d : ValDict K} {id : String} {k : Nat} (h : idxOf? id d.keys = some k) :
    Py.dictItem d id = .ok (d.vals.getD k 0) := by
  induction d generalizing k with
  | nil => cases h
  | cons p d ih =>
    unfold Py.dictItem
    rw [List.find?_cons]
    by_cases hp : p.1 = id
    · rw [ValDict.keys, List.map_cons, idxOf?, if_pos hp] at h
      cases h
      rw [decide_eq_true hp]
      rfl
    · rw [ValDict.keys, List.map_cons, idxOf?, if_neg hp] at h
      obtain ⟨j, hj, rfl⟩ := Option.map_eq_some_iff.mp h
      rw [decide_eq_false hp]
      exact ih hj

theorem divX_mat (e : Elem K) (r : List K) :
    Py.Arr.divX (Py.Arr.mat [r]) (Gen.Core.Elem.Z e) = Py.Arr.mat [divByZ e r] := by
  cases e with
  | norton Z V => rfl
  | thevenin Y I =>
    unfold Gen.Core.Elem.Z TheveninElement.Z divByZ
    dsimp only
    by_cases h : Y = 0
    · rw [if_pos h, if_pos h]; rfl
    · rw [if_neg h, if_neg h]; rfl

theorem vecSet_zeros (n k : Nat) :
    Py.vecSet (Py.zerosVec n : List K) k 1
      = if k < n then .ok ((List.range n).map fun t => if t = k then (1 : K) else 0) else .error .keyError := by
  unfold Py.vecSet Py.zerosVec
  rw [List.length_replicate]
  by_cases h : k < n
  · rw [if_pos h, if_pos h]
    congr 1
    apply List.ext_getElem
    · rw [List.length_set, List.length_replicate, List.length_map, List.length_range]
    · intro i h1 h2
      rw [List.getElem_set, List.getElem_replicate, List.getElem_map, List.getElem_range]
      exact if_congr eq_comm rfl rfl
  · rw [if_neg h, if_neg h]

/-- the capacitor branch of `c_row_current` / `d_row_current`: `C_k` times row `k` of `A` / `B` -/
theorem cap_row {d : ValDict K} {id : String} {k : Nat} (h1 : idxOf? id d.keys = some k) (M : Py.Mat K) :
    (do let i ← Py.keyIndex d id
        let v ← Py.dictItem d id
        pure (Py.Arr.vec (Py.vecScale v (Py.Mat.row M i))) : Except Err (Py.Arr K))
      = .ok (.vec (Mx.vecScale (d.vals.getD k 0) (M.rows.getD k []))) := by
  rw [keyIndex_some h1, dictItem_of_idx h1]; rfl

section
variable {g : NodalStateSpaceModel L K} {m : NSSM L K} (h : SSRel g m)
include h

theorem gen_row_for_potential (node : L)
    {Mg : Py.Mat K} {M : List (List K)} {w : Nat} (hM : Mg.rows = M) (hw : Mg.ncols = w) (hr : m.net.nN ≤ M.length) :
    NodalStateSpaceModel.row_for_potential g node Mg
      = (do let r ← m.rowForPotential node M w; pure (Py.Arr.mat [r]) : Except Err (Py.Arr K)) := by
  unfold NodalStateSpaceModel.row_for_potential NSSM.rowForPotential
  rw [h.nm, h.net]
  cases hk : idxOf? node m.net.nodes with
  | some k =>
    have hlt : k < Mg.rows.length := by rw [hM]; exact Nat.lt_of_lt_of_le (idxOf?_lt_length hk) hr
    rw [if_pos (mem_of_idx hk), getitem_some h.nm hk, ok_bind, rowSlice_one Mg k hlt, hM]
    rfl
  | none =>
    rw [if_neg (not_mem_of_idx_none hk)]
    by_cases hz : node = m.net.zero
    · rw [if_neg (not_not.mpr hz), if_neg (not_not.mpr hz), hw]; rfl
    · rw [if_pos hz, if_pos hz]; rfl

theorem vs_filter_all (hids : m.net.ids.Nodup) :
    (g.voltage_source_index_mapping).filterM (fun (x : String) => (do
        let b11 ← Network.getitem g.network x
        pure (is_ideal_voltage_source b11.e) : Except Err Bool)) = .ok g.voltage_source_index_mapping := by
  unfold Py.LabelMapping.filterM
  rw [filterKeysM_all _ _ ?_]
  · rfl
  · intro k hk
    rw [h.vm] at hk
    obtain ⟨b, hb, hv⟩ := sorted_ids_get m.net hids _ hk
    rw [h.net, gen_getitem, hb]
    show Except.ok _ = Except.ok _
    rw [gen_isIdealVS, hv]

/-- the voltage-source branch: row `n_nodes + k` of `C` / `D` -/
theorem vs_row {id : String} {k : Nat}
    (h2 : idxOf? id m.net.vsIds = some k) (M : Py.Mat K) :
    (do let k4 ← g.voltage_source_index_mapping.getitem id
        pure (Py.Arr.vec (Py.Mat.row M (k4 + g.node_index_mapping.N))) : Except Err (Py.Arr K))
      = .ok (.vec (M.rows.getD (k + m.net.nN) [])) := by
  rw [getitem_some h.vm h2, Py.LabelMapping.N, h.nm]; rfl

end

def ssToGen (N : Net L K) (cvals lvals : ValDict K) (mats : SSMats K) : NodalStateSpaceModel L K :=
  { A := ⟨ssNStates N cvals lvals, ssNStates N cvals lvals, mats.A⟩,
    B := ⟨ssNStates N cvals lvals, ssNInputs N lvals, mats.B⟩,
    C := ⟨N.nY, ssNStates N cvals lvals, mats.C⟩,
    D := ⟨N.nY, ssNInputs N lvals, mats.D⟩,
    network := N, c_values := cvals, l_values := lvals,
    node_index_mapping := alphabetic_node_mapper N,
    voltage_source_index_mapping := alphabetic_voltage_source_mapper N,
    current_source_index_mapping := alphabetic_current_source_mapper N }

theorem foldlM_vstack {α : Type} {f : α → Except Err (Py.Arr K)} {hrow : α → Except Err (List K)}
    (hf : ∀ x, (do let a ← f x; pure a.toRows : Except Err (List (List K))) = (do let r ← hrow x; pure [r]))
    (l : List α) (acc0 : List (List K)) :
    l.foldlM (fun (acc : List (List K)) (x : α) => (do let r ← f x; pure (Py.vstackArr acc r) : Except Err (List (List K)))) acc0
      = (do let rs ← l.mapM hrow; pure (acc0 ++ rs)) := by
  induction l generalizing acc0 with
  | nil => rw [List.foldlM_nil, List.mapM_nil, pure_bind, List.append_nil]
  | cons a l ih =>
    have h1 : (do let r ← f a; pure (Py.vstackArr acc0 r) : Except Err (List (List K)))
        = (do let rows ← (do let r ← f a; pure r.toRows : Except Err (List (List K))); pure (acc0 ++ rows)) := by
      simp only [bind_assoc, pure_bind, Py.vstackArr]
    rw [List.foldlM_cons, List.mapM_cons, h1, hf a]
    simp only [bind_assoc, pure_bind, ih, List.append_assoc, List.singleton_append]

end CC
