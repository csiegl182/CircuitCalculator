/-
  CC.Proofs.FourierAlg — algebraic facts about the generated Fourier model
  (CC/Gen/Fourier.lean), over an arbitrary field, `π`, `cos`, `sin` arbitrary parameters.
-/
import CC.Gen.Fourier
import Mathlib.Algebra.Field.Basic
import Mathlib.Algebra.CharZero.Defs
import Mathlib.Tactic.Ring
import Mathlib.Tactic.FieldSimp

namespace CC.Fourier
open CC.Gen.Fourier

variable {K : Type} [Field K]

theorem phaseCoefficient_zero (π : K) (h : HarmObj K) : h.phaseCoefficient π 0 = 0 := by
  obtain ⟨cls, A, p, o⟩ := h
  -- at order 0 every class takes its branch `((0 : ℤ) : K)`
  cases cls <;> exact Int.cast_zero

theorem amplitude_of_nonneg (π : K) (h : HarmObj K) {n : ℤ} (hn : 0 ≤ n) :
    h.amplitude π n = h.amplitudeCoefficient π n := if_neg (not_lt.mpr hn)

theorem phase_of_nonneg (π : K) (h : HarmObj K) {n : ℤ} (hn : 0 ≤ n) :
    h.phase π n = h.phaseCoefficient π n := if_neg (not_lt.mpr hn)

/-- `amplitude` and `phase` extend a function of the orders `n ≥ 0` to the negative ones by an involution `s`
(identity, negation) that fixes the value at `0`: the extension commutes with `n ↦ −n` -/
theorem ite_neg_index {α : Type} (f : ℤ → α) (s : α → α) (hs : ∀ x, s (s x) = x) (h0 : s (f 0) = f 0) (n : ℤ) :
    (if -n < 0 then s (f (- -n)) else f (-n)) = s (if n < 0 then s (f (-n)) else f n) := by
  rcases lt_trichotomy n 0 with h | rfl | h
  · rw [if_neg (by omega), if_pos h, hs]
  · simp only [neg_zero, lt_self_iff_false, if_false, h0]
  · rw [if_pos (by omega), if_neg (by omega), neg_neg]

theorem amplitude_neg (π : K) (h : HarmObj K) (n : ℤ) : h.amplitude π (-n) = h.amplitude π n :=
  ite_neg_index (h.amplitudeCoefficient π) id (fun _ => rfl) rfl n

theorem phase_neg (π : K) (h : HarmObj K) (n : ℤ) : h.phase π (-n) = - h.phase π n :=
  ite_neg_index (h.phaseCoefficient π) Neg.neg neg_neg (by rw [phaseCoefficient_zero, neg_zero]) n

/-- the complex form is `amplitude(n)/2 · exp(j·phase(n))` for every integer `n`: the branch for
`n < 0` of the code spells out `amplitude(−n) = amplitude(n)` and `phase(−n) = −phase(n)` -/
theorem c_eq (π : K) (cos sin : K → K) (h : HarmObj K) (n : ℤ) :
    h.c π cos sin n
      = (h.amplitude π n / 2 * cos (h.phase π n), h.amplitude π n / 2 * sin (h.phase π n)) := by
  unfold HarmObj.c
  split_ifs with hn
  · rw [amplitude_neg, phase_neg, Int.cast_one, neg_one_mul, neg_neg, Int.cast_ofNat]
    rfl
  · rw [Int.cast_one, one_mul, Int.cast_ofNat]
    rfl

theorem periodicFunction_wavetype (w : Wave) : periodicFunction w.wavetype = .ok w := by cases w <;> decide

theorem periodicFunction_unknown (s : String) (hs : s ∉ ["const", "cos", "sin", "rect", "tri", "saw"]) :
    periodicFunction s = .error "UnknownWavetype" := by
  have hnil : periodicFunctions.filter (fun pf => pf.wavetype == s) = [] :=
    List.filter_eq_nil_iff.mpr fun w _ h => hs (eq_of_beq h ▸ by cases w <;> decide)
  rw [periodicFunction, hnil]

end CC.Fourier
