/-
  CC.Proofs.Dict — insertion-ordered dictionaries (`dictSet`, `dictUpdate`, `List.lookup`, `filter` by key) reasoned
  about through `lookup`, their key lists and their members; folds of `dictSet` over the rows of a table (`lookup_foldl_set`,
  `lookup_foldl_last`), of which `kwargs.update` (`dictUpdate`) is one.
-/
import CC.Model.DrawIO
import Mathlib.Data.List.Nodup
import CC.Proofs.ListLemmas
namespace CC.Draw
section
variable {K V : Type} [DecidableEq K]

theorem lookup_cons_ite (k a : K) (b : V) (l : List (K × V)) :
    ((a, b) :: l).lookup k = if k = a then some b else l.lookup k := by
  by_cases h : k = a
  · subst h; simp
  · rw [List.lookup, beq_false_of_ne h, if_neg h]

theorem lookup_dictSet (k k' : K) (v : V) (d : List (K × V)) :
    (dictSet k v d).lookup k' = if k' = k then some v else d.lookup k' := by
  induction d with
  | nil => simp [dictSet, lookup_cons_ite]
  | cons kv d ih =>
    obtain ⟨k₀, v₀⟩ := kv
    unfold dictSet
    -- the key sits here (its value is replaced) or further down; then compare the looked-up key with both
    split <;> simp only [lookup_cons_ite, ih] <;> split <;> simp_all

theorem lookup_map_self (f : K → V) (l : List K) (a : K) :
    (l.map fun n => (n, f n)).lookup a = if a ∈ l then some (f a) else none := by
  induction l with
  | nil => simp
  | cons b l ih =>
    simp only [List.map_cons, lookup_cons_ite, ih, List.mem_cons]
    by_cases h : a = b <;> simp [h]

theorem mem_of_lookup_some {l : List (K × V)} {k : K} {v : V} (h : l.lookup k = some v) : (k, v) ∈ l := by
  obtain ⟨l₁, l₂, rfl, _⟩ := List.lookup_eq_some_iff.mp h
  simp

theorem lookup_of_unique (l : List (K × V)) (k : K) (v : V)
    (hmem : (k, v) ∈ l) (huniq : ∀ v', (k, v') ∈ l → v' = v) : l.lookup k = some v := by
  cases h : l.lookup k with
  | none => simpa using List.lookup_eq_none_iff.mp h (k, v) hmem
  | some v' => rw [huniq v' (mem_of_lookup_some h)]

theorem lookup_eq_none_of_not_mem_keys {l : List (K × V)} {k : K} (h : k ∉ l.map (·.1)) : l.lookup k = none := by
  rw [List.lookup_eq_none_iff]
  intro q hq
  have : k ≠ q.1 := fun heq => h (List.mem_map.mpr ⟨q, hq, heq.symm⟩)
  simpa using this

theorem lookup_of_mem_nodup {kv : K × V} {l : List (K × V)} (hn : (l.map (·.1)).Nodup) (h : kv ∈ l) :
    l.lookup kv.1 = some kv.2 := by
  obtain ⟨i, hi⟩ := List.getElem?_of_mem h
  exact lookup_of_pairwise (List.pairwise_map.mp hn) hi

theorem dictSet_of_lookup {k : K} {v : V} : ∀ {l : List (K × V)}, l.lookup k = some v → dictSet k v l = l
  | [], h => by cases h
  | (k', v') :: l, h => by
    rw [lookup_cons_ite] at h
    unfold dictSet
    by_cases hk : k' = k
    · rw [if_pos hk.symm] at h
      cases h
      rw [if_pos hk]
    · rw [if_neg (Ne.symm hk)] at h
      rw [if_neg hk, dictSet_of_lookup h]

theorem mem_dictSet {k : K} {v : V} {kv : K × V} : ∀ {l : List (K × V)}, kv ∈ dictSet k v l → kv = (k, v) ∨ kv ∈ l
  | [], h => Or.inl (List.mem_singleton.mp h)
  | (k', v') :: l, h => by
    unfold dictSet at h
    split at h
    · rename_i hk
      rcases List.mem_cons.mp h with h | h
      · exact Or.inl (hk ▸ h)
      · exact Or.inr (List.mem_cons_of_mem _ h)
    · rcases List.mem_cons.mp h with h | h
      · exact Or.inr (h ▸ List.mem_cons_self)
      · exact (mem_dictSet h).imp_right (List.mem_cons_of_mem _)

theorem mem_keys_iff_lookup_isSome (k : K) (l : List (K × V)) : k ∈ l.map (·.1) ↔ (l.lookup k).isSome = true := by
  rw [List.lookup_isSome_iff, List.mem_map]
  constructor
  · rintro ⟨p, hp, rfl⟩; exact ⟨p, hp, beq_self_eq_true _⟩
  · rintro ⟨p, hp, h⟩; exact ⟨p, hp, (eq_of_beq h).symm⟩

theorem mem_keys_dictSet (k a : K) (v : V) (l : List (K × V)) :
    a ∈ (dictSet k v l).map (·.1) ↔ a = k ∨ a ∈ l.map (·.1) := by
  rw [mem_keys_iff_lookup_isSome, mem_keys_iff_lookup_isSome, lookup_dictSet]
  by_cases h : a = k <;> simp [h]

theorem nodup_keys_dictSet (k : K) (v : V) {l : List (K × V)} (h : (l.map (·.1)).Nodup) :
    ((dictSet k v l).map (·.1)).Nodup := by
  induction l with
  | nil => simp [dictSet]
  | cons kv l ih =>
    obtain ⟨k₀, v₀⟩ := kv
    obtain ⟨hnot, hl⟩ := List.nodup_cons.mp h
    unfold dictSet
    split
    · exact h
    · rename_i hne
      refine List.nodup_cons.mpr ⟨?_, ih hl⟩
      rw [mem_keys_dictSet]
      rintro (h1 | h1)
      · exact hne h1
      · exact hnot h1

/-- each element of a list with distinct keys writes its key or leaves the dictionary alone: afterwards a key answers with
what its element wrote, else as before -/
theorem lookup_foldl_set {β : Type} (g : K → β → Option V) {s : List (K × V) → K × β → List (K × V)}
    (hs : ∀ acc x, s acc x = (g x.1 x.2).elim acc fun v => dictSet x.1 v acc) (k : K) :
    ∀ (l : List (K × β)) (acc : List (K × V)), (l.map (·.1)).Nodup →
      (l.foldl s acc).lookup k = ((l.lookup k).bind (g k)).or (acc.lookup k)
  | [], _, _ => rfl
  | (k₀, b) :: l, acc, hd => by
    obtain ⟨hnot, hd'⟩ := List.nodup_cons.mp hd
    rw [List.foldl_cons, lookup_foldl_set g hs k l _ hd', lookup_cons_ite, hs]
    by_cases hk : k = k₀
    · subst hk
      rw [lookup_eq_none_of_not_mem_keys hnot]
      cases hg : g k b <;> simp [hg, lookup_dictSet]
    · cases g k₀ b <;> simp [hk, lookup_dictSet]

theorem nodup_keys_foldl_set {β : Type} (g : K → β → Option V) {s : List (K × V) → K × β → List (K × V)}
    (hs : ∀ acc x, s acc x = (g x.1 x.2).elim acc fun v => dictSet x.1 v acc) :
    ∀ (l : List (K × β)) (acc : List (K × V)), (acc.map (·.1)).Nodup → ((l.foldl s acc).map (·.1)).Nodup
  | [], _, h => h
  | x :: l, acc, h => nodup_keys_foldl_set g hs l _ (by
      rw [hs]
      cases g x.1 x.2 with
      | none => exact h
      | some v => exact nodup_keys_dictSet _ _ h)

/-- every element writes or removes its key: the last element of a key decides -/
theorem lookup_foldl_last {β : Type} (g : K → β → Option V) {s : List (K × V) → K × β → List (K × V)}
    (hs : ∀ acc x k, (s acc x).lookup k = if k = x.1 then g x.1 x.2 else acc.lookup k) (k : K) :
    ∀ (l : List (K × β)) (acc : List (K × V)),
      (l.foldl s acc).lookup k = (l.reverse.lookup k).elim (acc.lookup k) (g k)
  | [], _ => rfl
  | (k₀, b) :: l, acc => by
    rw [List.foldl_cons, lookup_foldl_last g hs k l, hs, List.reverse_cons, List.lookup_append]
    cases l.reverse.lookup k with
    | some b' => rfl
    | none =>
      rw [Option.none_or, lookup_cons_ite]
      by_cases hk : k = k₀ <;> simp [hk]

theorem lookup_reverse_of_mem_keys {k : K} {l : List (K × V)} (h : k ∈ l.map (·.1)) : ∃ v, l.reverse.lookup k = some v :=
  Option.isSome_iff_exists.mp ((mem_keys_iff_lookup_isSome k l.reverse).mp (by
    rw [List.map_reverse]; exact List.mem_reverse.mpr h))

theorem dict_ext {l₁ l₂ : List (K × V)} (hk : l₁.map (·.1) = l₂.map (·.1)) (hn : (l₁.map (·.1)).Nodup)
    (hl : ∀ k, l₁.lookup k = l₂.lookup k) : l₁ = l₂ := by
  induction l₁ generalizing l₂ with
  | nil =>
    cases l₂ with
    | nil => rfl
    | cons b l₂ => cases hk
  | cons a l₁ ih =>
    cases l₂ with
    | nil => cases hk
    | cons b l₂ =>
      obtain ⟨ka, va⟩ := a
      obtain ⟨kb, vb⟩ := b
      simp only [List.map_cons, List.cons.injEq] at hk
      obtain ⟨hkab, hk'⟩ := hk
      subst hkab
      obtain ⟨hnot, hn'⟩ := List.nodup_cons.mp hn
      have h0 := hl ka
      simp only [lookup_cons_ite, if_true] at h0
      cases h0
      congr 1
      refine ih hk' hn' fun k => ?_
      by_cases hkk : k = ka
      · subst hkk
        rw [lookup_eq_none_of_not_mem_keys hnot, lookup_eq_none_of_not_mem_keys (hk' ▸ hnot)]
      · have h1 := hl k
        simpa only [lookup_cons_ite, if_neg hkk] using h1

theorem keys_dictSet_of_mem {k : K} (v : V) : ∀ {l : List (K × V)}, k ∈ l.map (·.1) →
    (dictSet k v l).map (·.1) = l.map (·.1)
  | [], h => by cases h
  | (k', v') :: l, h => by
    unfold dictSet
    by_cases hk : k' = k
    · rw [if_pos hk]; rfl
    · rw [if_neg hk, List.map_cons, List.map_cons]
      rcases List.mem_cons.mp h with h | h
      · exact absurd h.symm hk
      · rw [keys_dictSet_of_mem v h]

omit [DecidableEq K] in
theorem keys_map_val (f : V → V) (l : List (K × V)) : (l.map fun kv => (kv.1, f kv.2)).map (·.1) = l.map (·.1) := by
  rw [List.map_map]; rfl

theorem lookup_map_val (f : V → V) (k : K) (l : List (K × V)) :
    (l.map fun kv => (kv.1, f kv.2)).lookup k = (l.lookup k).map f := by
  induction l with
  | nil => rfl
  | cons kv l ih =>
    obtain ⟨k₀, v₀⟩ := kv
    rw [List.map_cons, lookup_cons_ite, lookup_cons_ite, ih]
    by_cases h : k = k₀ <;> simp [h]

theorem lookup_mem_vals {d : List (K × V)} {r : K} {a : V} (h : d.lookup r = some a) :
    a ∈ d.map Prod.snd :=
  List.mem_map.mpr ⟨(r, a), mem_of_lookup_some h, rfl⟩

def InjLookup (d : List (K × V)) : Prop :=
  ∀ r r' a, d.lookup r = some a → d.lookup r' = some a → r = r'

theorem InjLookup.dictSet {d : List (K × V)} (I : InjLookup d) {k : K} {v : V}
    (h : ∀ r, r ≠ k → d.lookup r ≠ some v) : InjLookup (dictSet k v d) := by
  intro r r' a hr hr'
  rw [lookup_dictSet] at hr hr'
  by_cases h1 : r = k
  · by_cases h2 : r' = k
    · rw [h1, h2]
    · simp only [h1, if_true, h2, if_false] at hr hr'
      exact absurd (Option.some.inj hr ▸ hr') (h r' h2)
  · by_cases h2 : r' = k
    · simp only [h1, if_false, h2, if_true] at hr hr'
      exact absurd (Option.some.inj hr' ▸ hr) (h r h1)
    · simp only [h1, h2, if_false] at hr hr'
      exact I r r' a hr hr'

end

theorem lookup_filter_key (p : String → Bool) (l : List (String × Val)) (k : String) :
    (l.filter fun kv => p kv.1).lookup k = if p k then l.lookup k else none := by
  induction l with
  | nil => simp
  | cons kv l ih =>
    obtain ⟨k₀, v₀⟩ := kv
    by_cases hp : p k₀ = true
    · simp only [List.filter_cons, hp, if_true, lookup_cons_ite, ih]
      by_cases hk : k = k₀
      · subst hk; simp [hp]
      · simp [hk]
    · have hp' : p k₀ = false := by simpa using hp
      simp only [List.filter_cons, hp', Bool.false_eq_true, if_false, ih, lookup_cons_ite]
      by_cases hk : k = k₀
      · subst hk; simp [hp']
      · simp [hk]

theorem filter_key_of_not_mem {x : String} {l : List (String × Val)} (h : x ∉ l.map (·.1)) : l.filter (·.1 ≠ x) = l :=
  List.filter_eq_self.mpr fun _ hkv => decide_eq_true fun e => h (e ▸ List.mem_map_of_mem hkv)

theorem filter_key_dictSet (x k : String) (v : Val) : ∀ l : List (String × Val),
    (dictSet k v l).filter (·.1 ≠ x) = if k = x then l.filter (·.1 ≠ x) else dictSet k v (l.filter (·.1 ≠ x))
  | [] => by by_cases h : k = x <;> simp [dictSet, h]
  | (k', v') :: l => by
    have ih := filter_key_dictSet x k v l
    by_cases hk : k' = k
    · subst hk; by_cases hx : k' = x <;> simp [dictSet, hx]
    · by_cases hx : k' = x <;> by_cases hkx : k = x <;> simp_all [dictSet]

theorem lookup_dictUpdate (m : List (String × Val)) : ∀ (kw : List (String × Val)) (k : String),
    (dictUpdate kw m).lookup k = (m.reverse.lookup k).or (kw.lookup k) := by
  intro kw k
  unfold dictUpdate
  rw [lookup_foldl_last (fun _ v => some v) (fun acc x k => lookup_dictSet x.1 k x.2 acc)]
  cases m.reverse.lookup k <;> rfl

theorem nodup_keys_dictUpdate : ∀ (m : List (String × Val)) {l : List (String × Val)}, (l.map (·.1)).Nodup →
    ((dictUpdate l m).map (·.1)).Nodup
  | [], _, h => h
  | kv :: m, _, h => nodup_keys_dictUpdate m (nodup_keys_dictSet kv.1 kv.2 h)

theorem keys_dictUpdate_of_mem : ∀ {m l : List (String × Val)}, (∀ kv ∈ m, kv.1 ∈ l.map (·.1)) →
    (dictUpdate l m).map (·.1) = l.map (·.1)
  | [], _, _ => rfl
  | kv :: m, l, h => by
    have h1 := keys_dictSet_of_mem kv.2 (h kv List.mem_cons_self)
    exact (keys_dictUpdate_of_mem (l := dictSet kv.1 kv.2 l) fun kv' h' =>
      h1 ▸ h kv' (List.mem_cons_of_mem _ h')).trans h1

theorem dictUpdate_eq_of_agree {L K W : List (String × Val)} (hk : L.map (·.1) = K.map (·.1)) (hn : (K.map (·.1)).Nodup)
    (hW : ∀ k v, W.reverse.lookup k = some v → K.lookup k = some v)
    (hoff : ∀ k, k ∉ W.map (·.1) → L.lookup k = K.lookup k) : dictUpdate L W = K := by
  have hkeys : (dictUpdate L W).map (·.1) = L.map (·.1) := keys_dictUpdate_of_mem fun kv h => by
    obtain ⟨v, hv⟩ := lookup_reverse_of_mem_keys (List.mem_map_of_mem (f := (·.1)) h)
    rw [hk, mem_keys_iff_lookup_isSome, hW _ _ hv]; rfl
  refine dict_ext (hkeys.trans hk) (by rw [hkeys, hk]; exact hn) fun k => ?_
  rw [lookup_dictUpdate]
  cases hr : W.reverse.lookup k with
  | some v => exact (hW k v hr).symm
  | none => exact hoff k fun hm => by obtain ⟨v, hv⟩ := lookup_reverse_of_mem_keys hm; rw [hr] at hv; cases hv

theorem filter_key_dictUpdate (x : String) : ∀ (m l : List (String × Val)),
    (dictUpdate l m).filter (·.1 ≠ x) = dictUpdate (l.filter (·.1 ≠ x)) (m.filter (·.1 ≠ x))
  | [], _ => rfl
  | kv :: m, l => by
    refine (filter_key_dictUpdate x m (dictSet kv.1 kv.2 l)).trans ?_
    rw [filter_key_dictSet, List.filter_cons]
    by_cases h : kv.1 = x <;> simp [h]
    rfl

end CC.Draw
