/-
  For the properties about circuits (C02, C07, C09, C19): value-dictionary lookups, the translator interpreter
  (CC/Model/Circuit.lean) as equations, one definition at a time, then read backwards (what a branch it returned says
  about the component, `mkBranch_ok` … `transformCircuit_check`), and `absQ` / `dist`.
-/
import CC.Proofs.ExceptLemmas
import CC.Model.Circuit
import CC.Spec.Phasor
namespace CC

theorem float_of_lookup {c : Component} {k : String} {q : Rat} (h : c.value.lookup k = some (.num q)) :
    c.float k = .ok q := by
  simp [Component.float, Component.get?, h]

theorem num?_of_lookup {c : Component} {k : String} {q : Rat} (h : c.value.lookup k = some (.num q)) :
    Spec.num? c k = some q := by
  simp [Spec.num?, h]

theorem str?_of_lookup {c : Component} {k : String} {s : String} (h : c.value.lookup k = some (.str s)) :
    Spec.str? c k = some s := by
  simp [Spec.str?, h]

theorem lookup_of_num? {c : Component} {k : String} {q : Rat} (h : Spec.num? c k = some q) :
    c.value.lookup k = some (.num q) := by
  unfold Spec.num? at h
  split at h <;> simp_all

theorem lookup_of_str? {c : Component} {k : String} {s : String} (h : Spec.str? c k = some s) :
    c.value.lookup k = some (.str s) := by
  unfold Spec.str? at h
  split at h <;> simp_all

theorem num?_bind_eq_some {α : Type} {c : Component} {k : String} {f : Rat → Option α} {e : α}
    (h : (Spec.num? c k >>= f) = some e) : ∃ q, c.value.lookup k = some (.num q) ∧ f q = some e := by
  obtain ⟨q, hq, hf⟩ := Option.bind_eq_some_iff.mp h
  exact ⟨q, lookup_of_num? hq, hf⟩

theorem str?_bind_eq_some {α : Type} {c : Component} {k : String} {f : String → Option α} {e : α}
    (h : (Spec.str? c k >>= f) = some e) : ∃ s, c.value.lookup k = some (.str s) ∧ f s = some e := by
  obtain ⟨s, hs, hf⟩ := Option.bind_eq_some_iff.mp h
  exact ⟨s, lookup_of_str? hs, hf⟩

namespace Spec
variable {c : Component} {trig : Trig} {harm : Harm} {w wres : Rat}

theorem elemOf_load (hk : c.kind = "lamp" ∨ c.kind = "resistive_load") :
    elemOf trig harm c w wres = (do
      let P ← num? c "P"; let V ← num? c "V_ref"
      if 0 < V then some (.thevenin ⟨P / (V * V), 0⟩ 0) else none) := by
  rcases hk with hk | hk <;> simp only [elemOf, hk, String.reduceEq, ↓reduceIte, or_true, true_or]

theorem branchOf_of_elemOf {a b : String} {e : Elem GQ} (hn : c.nodes = [a, b])
    (he : elemOf trig harm c w wres = some e) :
    branchOf trig harm c w wres = some { n1 := a, n2 := b, id := c.id, e := e } := by
  simp only [branchOf, hn, he]

end Spec

theorem Guard.check_num {g : Guard} {env : List (String × Val)} {q : Rat} (hq : env.lookup g.param = some (.num q)) :
    g.check env = if g.cmp.holds q g.bound then .error (errOfExc g.exc) else .ok () := by
  simp only [Guard.check, hq]

theorem CtorSpec.construct_some (s : CtorSpec) (i : String) (ns : List String) (args : List (String × Val)) :
    s.construct (some i) (some ns) args =
      (bindParams s.params args >>= fun env => s.guards.forM (·.check env) >>= fun _ =>
        s.waveChecks.forM (waveCheck env) >>= fun _ =>
        s.values.mapM (fun kv => do pure (kv.1, ← kv.2.eval env)) >>= fun value =>
        pure { kind := s.kind, id := i, nodes := ns, value := value }) := rfl

theorem CtorSpec.construct_eq_ok {s : CtorSpec} {i : String} {ns : List String} {args : List (String × Val)}
    {c : Component} :
    s.construct (some i) (some ns) args = .ok c ↔
      ∃ env value, bindParams s.params args = .ok env ∧ s.guards.forM (·.check env) = .ok () ∧
        s.waveChecks.forM (waveCheck env) = .ok () ∧
        s.values.mapM (fun kv => do pure (kv.1, ← kv.2.eval env)) = .ok value ∧
        c = { kind := s.kind, id := i, nodes := ns, value := value } := by
  simp only [CtorSpec.construct_some, bind_eq_ok, pure_eq_ok, Except.ok.injEq, eq_comm (a := c)]
  exact ⟨fun ⟨env, h0, (), h1, (), h2, v, h3, h4⟩ => ⟨env, v, h0, h1, h2, h3, h4⟩,
    fun ⟨env, v, h0, h1, h2, h3, h4⟩ => ⟨env, h0, (), h1, (), h2, v, h3, h4⟩⟩

theorem CtorSpec.construct_guard_error {s : CtorSpec} {i : String} {ns : List String} {args env : List (String × Val)}
    {e : Err} (henv : bindParams s.params args = .ok env) (hg : s.guards.forM (·.check env) = .error e) :
    s.construct (some i) (some ns) args = .error e := by
  rw [CtorSpec.construct_some, henv, ok_bind, hg, error_bind]

theorem transformComponent_of_entry {T : Tables} {c : Component} {k fn : String} {s : TSpec}
    (hk : c.kind = k) (hl : T.transformers.lookup k = some fn) (hs : T.tspec? fn = some s)
    (trig : Trig) (harm : Harm) (w wres : Rat) :
    transformComponent T trig harm c w wres = some (s.run T trig harm c w wres) := by
  simp only [transformComponent, hk, hl, hs]

theorem preRead_nil (c : Component) (strKeys : List String) : preRead c strKeys [] = .ok () := rfl

/-- a key holding a number passes `float(…)` and `str(…)` alike -/
theorem preRead_cons_num {c : Component} {k : String} {q : Rat} (h : c.value.lookup k = some (.num q))
    (strKeys ks : List String) : preRead c strKeys (k :: ks) = preRead c strKeys ks := by
  have hf := float_of_lookup h
  by_cases hs : k ∈ strKeys <;>
    simp [preRead, hs, Component.get?, h, hf, bind, Except.bind, pure, Except.pure]

theorem preRead_cons_inf {c : Component} {k : String} (h : c.value.lookup k = some Val.inf)
    (strKeys ks : List String) : preRead c strKeys (k :: ks) = preRead c strKeys ks := by
  by_cases hs : k ∈ strKeys <;>
    simp [preRead, hs, Component.get?, h, bind, Except.bind, pure, Except.pure]

theorem preRead_cons_str {c : Component} {k : String} {v : Val} (h : c.value.lookup k = some v)
    {strKeys : List String} (hs : k ∈ strKeys) (ks : List String) :
    preRead c strKeys (k :: ks) = preRead c strKeys ks := by
  simp [preRead, hs, Component.get?, h, bind, Except.bind]

theorem mkBranch_two {c : Component} {a b : String} (hn : c.nodes = [a, b]) (fn : String) (reads : List String)
    (body : TBody) (te : String × Elem GQ) :
    mkBranch { fn := fn, reads := reads, n1 := 0, n2 := 1, idSelf := true, body := body } c te
      = .ok { n1 := a, n2 := b, id := c.id, ty := te.1, e := te.2 } := by
  simp [mkBranch, Component.node, hn, bind, Except.bind, pure, Except.pure]

theorem TSpec.run_periodic {s : TSpec} {waveKey w0Key ampKey phiKey ctor inner : String} {cmp : Cmp} {off : EE}
    {ctorArgs : List (String × HArg)}
    (hb : s.body = .periodic waveKey w0Key ampKey phiKey cmp off ctor ctorArgs inner)
    {T : Tables} {c : Component} {wt : String} {w0 A phi : Rat}
    (hreads : s.reads = [waveKey, w0Key, ampKey, phiKey])
    (hwt : c.value.lookup waveKey = some (.str wt)) (hwave : wt ∈ T.waves)
    (hw0 : c.value.lookup w0Key = some (.num w0)) (hne : w0 ≠ 0)
    (hA : c.value.lookup ampKey = some (.num A)) (hphi : c.value.lookup phiKey = some (.num phi))
    (trig : Trig) (harm : Harm) (w wres : Rat) :
    s.run T trig harm c w wres =
      if cmp.holds (absQ (w / w0 - (roundHalfEven (w / w0) : Rat))) (wres / w0)
      then (do mkBranch s c (← off.eval trig c w wres))
      else periodicActive T s trig c w wres (harm wt A phi (roundHalfEven (w / w0))).1
        (harm wt A phi (roundHalfEven (w / w0))).2 ctor ctorArgs inner := by
  have hpre : preRead c [waveKey] s.reads = .ok () := by
    rw [hreads, preRead_cons_str hwt (List.mem_singleton_self _), preRead_cons_num hw0, preRead_cons_num hA,
      preRead_cons_num hphi, preRead_nil]
  simp only [TSpec.run, hb, hpre, Component.strOf, Component.get?, hwt, float_of_lookup hw0, float_of_lookup hA,
    float_of_lookup hphi, periodicFunction, List.contains_eq_mem, hwave, decide_true, hne, if_true, if_false,
    bind, Except.bind]

theorem periodicActive_two {T : Tables} {s : TSpec} {c : Component} {a b ctor inner : String}
    {cs : CtorSpec} {si : TSpec} (hc : T.ctor? ctor = some cs) (hi : T.tspec? inner = some si)
    (hs : s.n1 = 0 ∧ s.n2 = 1) (hn : c.nodes = [a, b])
    (trig : Trig) (w wres amp ph : Rat) (ctorArgs : List (String × HArg)) :
    periodicActive T s trig c w wres amp ph ctor ctorArgs inner = (do
      let args ← ctorArgs.mapM fun a => do pure (a.1, ← a.2.eval c w amp ph)
      let single ← cs.construct (some c.id) (some [a, b]) args
      si.runSimple trig single w wres) := by
  simp only [periodicActive, Tables.ctorE, Tables.tspecE, hc, hi, Component.node, hs.1, hs.2, hn,
    List.getElem?_cons_zero, List.getElem?_cons_succ, bind, Except.bind]

/-! The converse direction: a branch produced by a translator that names it after the component and takes the terminals in
the component's order (`hs`: what `Tables.WellFormed`, CC/Properties/C07.lean, asks of every row) carries the component's
identifier and its two nodes. -/

theorem node_ok {c : Component} {i : Nat} {n : String} (h : c.node i = .ok n) : c.nodes[i]? = some n := by
  unfold Component.node at h
  split at h <;> simp_all

theorem mkBranch_ok {s : TSpec} {c : Component} {te : String × Elem GQ} {b : Branch String GQ}
    (hs : s.idSelf = true ∧ s.n1 = 0 ∧ s.n2 = 1) (h : mkBranch s c te = .ok b) :
    b.id = c.id ∧ c.nodes[0]? = some b.n1 ∧ c.nodes[1]? = some b.n2 := by
  obtain ⟨h1, h2, h3⟩ := hs
  unfold mkBranch at h
  obtain ⟨n1, hn1, h⟩ := bind_eq_ok.mp h
  obtain ⟨n2, hn2, h⟩ := bind_eq_ok.mp h
  cases h
  rw [h2] at hn1; rw [h3] at hn2
  exact ⟨if_pos h1, node_ok hn1, node_ok hn2⟩

theorem runSimple_ok {s : TSpec} {trig : Trig} {c : Component} {w wres : Rat} {b : Branch String GQ}
    (hs : s.idSelf = true ∧ s.n1 = 0 ∧ s.n2 = 1) (h : s.runSimple trig c w wres = .ok b) :
    b.id = c.id ∧ c.nodes[0]? = some b.n1 ∧ c.nodes[1]? = some b.n2 := by
  unfold TSpec.runSimple at h
  cases hb : s.body with
  | plain e =>
    simp only [hb, bind_eq_ok] at h
    obtain ⟨_, _, te, _, h⟩ := h
    exact mkBranch_ok hs h
  | gated e ws cmp off =>
    simp only [hb, bind_eq_ok] at h
    obtain ⟨_, _, on, _, wsv, _, h⟩ := h
    split at h
    · obtain ⟨te, _, h⟩ := bind_eq_ok.mp h
      exact mkBranch_ok hs h
    · exact mkBranch_ok hs h
  | periodic => rw [hb] at h; cases h

theorem construct_ok {cs : CtorSpec} {i : String} {ns : List String} {args : List (String × Val)}
    {c : Component} (h : cs.construct (some i) (some ns) args = .ok c) : c.id = i ∧ c.nodes = ns ∧ c.kind = cs.kind := by
  obtain ⟨_, _, _, _, _, _, rfl⟩ := CtorSpec.construct_eq_ok.1 h
  exact ⟨rfl, rfl, rfl⟩

theorem tspec?_mem {T : Tables} {fn : String} {s : TSpec} (h : T.tspec? fn = some s) : s ∈ T.trans :=
  List.mem_of_find?_eq_some h

theorem tspecE_ok {T : Tables} {fn : String} {s : TSpec} (h : T.tspecE fn = .ok s) : T.tspec? fn = some s := by
  unfold Tables.tspecE at h
  split at h
  · exact (Except.ok.inj h) ▸ ‹_›
  · cases h

theorem transformCircuit_check {T : Tables} {trig : Trig} {harm : Harm} {C : Circuit} {w wres : Rat}
    {N : Net String GQ} (h : transformCircuit T trig harm C w wres = .ok N) : N.check = .ok () := by
  unfold transformCircuit at h
  obtain ⟨bs, _, h⟩ := bind_eq_ok.mp h
  obtain ⟨u, hu, h⟩ := bind_eq_ok.mp h
  simp [pure, Except.pure] at h
  subst h
  cases u; exact hu

theorem absQ_sub_eq_dist (a b : Rat) : absQ (a - b) = Spec.dist a b := by
  unfold absQ Spec.dist
  split <;> split <;> grind

theorem absQ_nonneg (a : Rat) : 0 ≤ absQ a := by
  unfold absQ; split <;> grind

theorem absQ_zero : absQ 0 = 0 := by decide

theorem dist_self (a : Rat) : Spec.dist a a = 0 := by
  unfold Spec.dist; split <;> grind

end CC
