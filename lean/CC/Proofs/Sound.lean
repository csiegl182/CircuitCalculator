/-
  CC.Proofs.Sound — the accessor functions of the model, applied to any vector that
  satisfies the matrix equation, report a solution of the circuit equations.
-/
import CC.Proofs.Bridge
import CC.Proofs.Linear
set_option linter.unusedSectionVars false

namespace CC
variable {L K : Type} [DecidableEq L] [LabelOrd L] [Field K] [DecidableEq K]

def Net.vOf (N : Net L K) (s : Sol L K) (b : Branch L K) : K := N.pot s b.n1 - N.pot s b.n2

/-- the four-way case split of `get_current`, label-indexed -/
def Net.curOf (N : Net L K) (s : Sol L K) (b : Branch L K) : K :=
  if b.e.isIdealVS then s.ivs b.id
  else if b.e.isIdealCS then b.e.Ival
  else if b.e.isCS then -(b.e.Ival + N.vOf s b / b.e.Zfin)
  else N.vOf s b / b.e.Zfin

/-- the report assembled from the accessors -/
def Net.reportOf (N : Net L K) (x : List K) : Report L K :=
  let s := N.solOf x
  { pot := fun n => N.pot s n
    v := fun id => match N.get? id with | some b => N.vOf s b | none => 0
    i := fun id => match N.get? id with | some b => N.curOf s b | none => 0 }

theorem potential_ok (N : Net L K) (x : List K) (n : L) (hn : n ∈ N.nodeLabels) :
    N.potential x n = .ok (N.pot (N.solOf x) n) := by
  unfold Net.potential Net.pot
  by_cases hz : n = N.zero
  · simp [hz]
  · have : n ∈ N.nodes := (mem_nodes_iff N n).mpr ⟨hn, hz⟩
    obtain ⟨k, hk, _, _⟩ := idxOf?_of_mem this
    simp [hz, hk, Net.solOf]

theorem voltage_ok (N : Net L K) (x : List K) (hids : N.ids.Nodup) (b : Branch L K)
    (hb : b ∈ N.branches) : N.voltage x b.id = .ok (N.vOf (N.solOf x) b) := by
  unfold Net.voltage
  rw [get?_of_mem N hids hb]
  simp only [potential_ok N x _ (n1_mem_labels N hb), potential_ok N x _ (n2_mem_labels N hb)]
  rfl

theorem id_mem_sorted_filter_iff (N : Net L K) (hids : N.ids.Nodup) (p : Branch L K → Bool) (b : Branch L K)
    (hb : b ∈ N.branches) : b.id ∈ sortL ((N.branches.filter p).map (·.id)) ↔ p b = true := by
  rw [mem_sorted_filter_ids]
  exact ⟨fun ⟨c, hc, hp, e⟩ => List.inj_on_of_nodup_map hids hc hb e ▸ hp, fun hp => ⟨b, hb, hp, rfl⟩⟩

theorem id_mem_vsIds_iff (N : Net L K) (hids : N.ids.Nodup) (b : Branch L K) (hb : b ∈ N.branches) :
    b.id ∈ N.vsIds ↔ b.e.isIdealVS = true :=
  id_mem_sorted_filter_iff N hids _ b hb

theorem id_mem_csIds_iff (N : Net L K) (hids : N.ids.Nodup) (b : Branch L K) (hb : b ∈ N.branches) :
    b.id ∈ N.csIds ↔ b.e.isCS = true :=
  id_mem_sorted_filter_iff N hids _ b hb

theorem current_ok (N : Net L K) (x : List K) (hids : N.ids.Nodup) (b : Branch L K)
    (hb : b ∈ N.branches) : N.current x b.id = .ok (N.curOf (N.solOf x) b) := by
  unfold Net.current Net.curOf
  by_cases hv : b.e.isIdealVS = true
  · have := (id_mem_vsIds_iff N hids b hb).mpr hv
    obtain ⟨k, hk, _, _⟩ := idxOf?_of_mem this
    simp [hk, hv, Net.solOf]
  · have hnot : b.id ∉ N.vsIds := fun h => hv ((id_mem_vsIds_iff N hids b hb).mp h)
    rw [idxOf?_none_of_not_mem hnot, get?_of_mem N hids hb]
    simp only [hv, Bool.false_eq_true, if_false]
    by_cases h1 : b.e.isIdealCS = true
    · simp [h1]
    · simp only [h1, Bool.false_eq_true, if_false]
      by_cases h2 : b.e.isCS = true
      · simp only [h2, if_true, voltage_ok N x hids b hb]; rfl
      · simp only [h2, Bool.false_eq_true, if_false, voltage_ok N x hids b hb]; rfl

/-- the reported current, turned into the physical first→second direction, is the
current the matrix equation balances -/
theorem phys_curOf (N : Net L K) (s : Sol L K) (b : Branch L K) :
    b.e.physCurrent (N.curOf s b) = N.J s b := by
  unfold Net.curOf Net.J Net.vOf Elem.physCurrent Elem.isLossy Elem.kind
  cases he : b.e with
  | norton Z V =>
    by_cases hZ : Z = 0
    · simp only [Elem.isIdealVS, hZ, decide_true, if_true, Bool.false_eq_true, if_false]
    · by_cases hV : V = 0
      · simp only [Elem.isIdealVS, Elem.isIdealCS, Elem.isCS, Elem.Ival, Elem.Zfin, Elem.Yfin, hZ, hV,
          decide_false, Bool.false_eq_true, if_false, if_true, zero_div, ne_eq, not_true_eq_false,
          add_zero]
        rw [div_eq_mul_one_div, mul_comm]
      · have hI : V / Z ≠ 0 := div_ne_zero hV hZ
        simp only [Elem.isIdealVS, Elem.isIdealCS, Elem.isCS, Elem.Ival, Elem.Zfin, Elem.Yfin, hZ, hV,
          hI, decide_false, Bool.false_eq_true, if_false, if_true, ne_eq, not_false_eq_true,
          decide_true, neg_neg]
        rw [div_eq_mul_one_div (N.pot s b.n1 - N.pot s b.n2), mul_comm, add_comm]
  | thevenin Y I =>
    by_cases hY : Y = 0
    · simp only [Elem.isIdealVS, Elem.isIdealCS, Elem.Ival, Elem.Yfin, hY, decide_true, if_true,
        Bool.false_eq_true, if_false, zero_mul, zero_add]
    · by_cases hI : I = 0
      · simp only [Elem.isIdealVS, Elem.isIdealCS, Elem.isCS, Elem.Ival, Elem.Zfin, Elem.Yfin, hY, hI,
          decide_false, Bool.false_eq_true, if_false, if_true, ne_eq, not_true_eq_false, add_zero,
          div_div_eq_mul_div, div_one]
        rw [mul_comm]
      · simp only [Elem.isIdealVS, Elem.isIdealCS, Elem.isCS, Elem.Ival, Elem.Zfin, Elem.Yfin, hY, hI,
          decide_false, Bool.false_eq_true, if_false, if_true, ne_eq, not_false_eq_true, decide_true,
          neg_neg, div_div_eq_mul_div, div_one]
        rw [mul_comm, add_comm]

theorem law_of_rows (N : Net L K) (s : Sol L K) (b : Branch L K)
    (hvs : b.e.isIdealVS = true → N.vOf s b = b.e.Vval) :
    b.e.lawResidual (N.vOf s b) (N.curOf s b) = 0 := by
  rw [← physLaw_zero_iff, phys_curOf]
  by_cases hv : b.e.isIdealVS = true
  · rw [Elem.physLaw_of_idealVS hv, hvs hv, sub_self]
  · rw [Elem.physLaw_of_not_idealVS (Bool.eq_false_iff.mpr hv), Net.J, if_neg hv]; rfl

/-- the Spec's incidence and the code's `voltage_source_direction` are the same function
(+1 at the first terminal minus 1 at the second) -/
theorem incidence_eq_dir_all (b : Branch L K) (n : L) : incidence b n = b.dir n := rfl

theorem incidence_eq_dir (b : Branch L K) (n : L) (h : b.n1 ≠ b.n2) : incidence b n = b.dir n :=
  incidence_eq_dir_all b n

/-- over all labels the node balances of any branch weights add up to zero (`incidence_adjoint` against the constant
potential): the balance at the reference node is minus the sum of the others -/
theorem kcl_total (N : Net L K) (J : Branch L K → K) :
    (N.branches.map fun b => incidence b N.zero * J b).sum
      + (N.nodes.map fun n => (N.branches.map fun b => incidence b n * J b).sum).sum = 0 := by
  have hm : ∀ n ∈ N.nodeLabels, n ∈ N.zero :: N.nodes := fun n hn =>
    (em (n = N.zero)).elim (fun e => e ▸ List.mem_cons_self) fun e => List.mem_cons_of_mem _ ((mem_nodes_iff N n).mpr ⟨hn, e⟩)
  have := incidence_adjoint N.branches (N.zero :: N.nodes)
    (List.nodup_cons.mpr ⟨zero_not_mem_nodes N, nodes_nodup N⟩)
    (fun b hb => ⟨hm _ (n1_mem_labels N hb), hm _ (n2_mem_labels N hb)⟩) (fun _ => 1) J
  simp only [sub_self, zero_mul, one_mul, List.map_cons, List.sum_cons] at this
  rw [← this]; exact sum_map_eq_zero _ _ fun _ _ => rfl

theorem reportOf_pot (N : Net L K) (x : List K) (n : L) : (N.reportOf x).pot n = N.pot (N.solOf x) n := rfl

theorem reportOf_v (N : Net L K) (x : List K) (hids : N.ids.Nodup) {b : Branch L K}
    (hb : b ∈ N.branches) : (N.reportOf x).v b.id = N.vOf (N.solOf x) b := by
  simp [Net.reportOf, get?_of_mem N hids hb]

theorem reportOf_i (N : Net L K) (x : List K) (hids : N.ids.Nodup) {b : Branch L K}
    (hb : b ∈ N.branches) : (N.reportOf x).i b.id = N.curOf (N.solOf x) b := by
  simp [Net.reportOf, get?_of_mem N hids hb]

theorem kclResidual_report_all (N : Net L K) (x : List K) (hids : N.ids.Nodup) (n : L) :
    kclResidual N (N.reportOf x) n
      = (N.branches.map fun b => b.dir n * N.J (N.solOf x) b).sum := by
  unfold kclResidual
  apply congrArg; apply List.map_congr_left
  intro b hb
  rw [reportOf_i N x hids hb, phys_curOf, incidence_eq_dir_all b n]

/-- The reference node takes what the other nodes receive (`hz`, through `kcl_total`); nothing enters at labels that
are not in the network (`hout`). -/
theorem sound_inj (N : Net L K) (x : List K) (hids : N.ids.Nodup) (inj : L → K)
    (rowsN : ∀ n ∈ N.nodes, N.rowNode (N.solOf x) n = N.rhsNode n + inj n)
    (rowsV : ∀ b ∈ N.vsSorted, N.rowVS (N.solOf x) b = b.e.Vval)
    (hz : inj N.zero + (N.nodes.map inj).sum = 0) (hout : ∀ n ∉ N.nodeLabels, inj n = 0) :
    EqsInj N.branches N.zero (N.reportOf x) inj := by
  set s := N.solOf x with hs
  have hJ : ∀ n ∈ N.nodes, (N.branches.map fun b => incidence b n * N.J s b).sum = inj n := fun n hn =>
    (kcl_identity_all N s hids n hn).trans (by rw [rowsN n hn]; ring)
  refine ⟨by simp [reportOf_pot, Net.pot], fun b hb => ?_, fun b hb => ?_, fun n => ?_⟩
  · unfold voltResidual
    rw [reportOf_v N x hids hb]
    simp [reportOf_pot, Net.vOf]
  · rw [reportOf_v N x hids hb, reportOf_i N x hids hb]
    apply law_of_rows
    intro hv
    exact (rowVS_eq_all N s b hb).symm.trans
      (rowsV b ((mem_vsSorted N hids).mpr ⟨hb, hv⟩))
  · have hk := kclResidual_report_all N x hids n
    unfold kclResidual at hk
    rw [hk]
    show (N.branches.map fun b => incidence b n * N.J s b).sum = inj n
    by_cases hn : n ∈ N.nodeLabels
    · by_cases hnz : n = N.zero
      · subst hnz
        have hall := kcl_total N fun b => N.J s b
        rw [List.map_congr_left hJ] at hall
        linear_combination hall - hz
      · exact hJ n ((mem_nodes_iff N n).mpr ⟨hn, hnz⟩)
    · rw [hout n hn]
      exact sum_incidence_off _ _ n fun b hb =>
        ⟨fun e => hn (e ▸ n1_mem_labels N hb), fun e => hn (e ▸ n2_mem_labels N hb)⟩

/-- soundness for every network `Network.__post_init__` accepts (distinct ids, reference label
present) — self-loop branches included; published as `C01_sound_selfloops`
(CC/Properties/C01SelfLoop.lean) -/
theorem sound_all (N : Net L K) (x : List K) (hids : N.ids.Nodup) (hzm : N.zero ∈ N.nodeLabels)
    (hx : x.length = N.nodes.length + N.vsIds.length)
    (h : matVec N.mnaA x = N.mnaB) :
    (∀ n ∈ N.allLabels, N.potential x n = .ok ((N.reportOf x).pot n)) ∧
    (∀ b ∈ N.branches, N.voltage x b.id = .ok ((N.reportOf x).v b.id) ∧
                        N.current x b.id = .ok ((N.reportOf x).i b.id)) ∧
    CircuitEqs N (N.reportOf x) := by
  obtain ⟨rowsN, rowsV⟩ := (matVec_iff_rows N hids x hx).mp h
  refine ⟨fun n hn => potential_ok N x n ((mem_allLabels_iff N hzm n).mp hn), fun b hb => ?_, ?_⟩
  · rw [reportOf_v N x hids hb, reportOf_i N x hids hb]
    exact ⟨voltage_ok N x hids b hb, current_ok N x hids b hb⟩
  · exact (circuitEqs_iff_eqsInj N _).mpr (sound_inj N x hids (fun _ => 0)
      (fun n hn => by rw [rowsN n hn, add_zero]) rowsV (by simp) fun _ _ => rfl)

end CC
