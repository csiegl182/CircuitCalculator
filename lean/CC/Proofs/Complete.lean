/-
  CC.Proofs.Complete — every solution of the circuit equations satisfies the code's matrix
  equation (nothing is lost by the voltage-source rows or the index maps); vectors and reports correspond
  one to one (`pack_reportOf`, `reportOf_pack`, `mna_iff_circuitEqs`).
-/
import CC.Proofs.Sound
set_option linter.unusedSectionVars false

namespace CC
variable {L K : Type} [DecidableEq L] [LabelOrd L] [Field K] [DecidableEq K]

def Report.toSol (R : Report L K) : Sol L K := ⟨R.pot, R.i⟩

theorem pot_toSol (N : Net L K) (R : Report L K) (h0 : R.pot N.zero = 0) (n : L) :
    N.pot R.toSol n = R.pot n := by
  unfold Net.pot Report.toSol
  by_cases hz : n = N.zero
  · simp [hz, h0]
  · simp [hz]

theorem J_of_laws (N : Net L K) (R : Report L K) (h0 : R.pot N.zero = 0) (b : Branch L K)
    (hv : voltResidual R b = 0) (hl : b.e.lawResidual (R.v b.id) (R.i b.id) = 0) :
    N.J R.toSol b = b.e.physCurrent (R.i b.id) := by
  have hvv : R.v b.id = R.pot b.n1 - R.pot b.n2 := sub_eq_zero.mp hv
  have hp := (physLaw_zero_iff _ _ _).mpr hl
  unfold Net.J
  by_cases hvs : b.e.isIdealVS = true
  · rw [if_pos hvs, physCurrent_notLossy (Elem.not_lossy_of_idealVS hvs)]; rfl
  · rw [if_neg hvs, pot_toSol N R h0, pot_toSol N R h0, ← hvv]
    exact ((Elem.physLaw_of_not_idealVS (Bool.eq_false_iff.mpr hvs) _ _).mp hp).symm

theorem complete_inj (N : Net L K) (R : Report L K) (hids : N.ids.Nodup) (inj : L → K)
    (hR : EqsInj N.branches N.zero R inj) :
    (∀ n ∈ N.nodes, N.rowNode R.toSol n = N.rhsNode n + inj n) ∧
      ∀ b ∈ N.vsSorted, N.rowVS R.toSol b = b.e.Vval := by
  constructor
  · intro n hn
    have hk := kcl_identity_all N R.toSol hids n hn
    have h0 : (N.branches.map fun b => b.dir n * N.J R.toSol b).sum = inj n := by
      rw [← hR.kcl n]
      apply congrArg; apply List.map_congr_left
      intro b hb
      rw [J_of_laws N R hR.ref_zero b (hR.volt b hb) (hR.law b hb), incidence_eq_dir_all b n]
    linear_combination h0 - hk
  · intro b hb
    obtain ⟨hbb, hvs⟩ := (mem_vsSorted N hids).mp hb
    rw [rowVS_eq_all N R.toSol b hbb, pot_toSol N R hR.ref_zero, pot_toSol N R hR.ref_zero]
    have hv : R.v b.id = R.pot b.n1 - R.pot b.n2 := sub_eq_zero.mp (hR.volt b hbb)
    have hl := (physLaw_zero_iff _ _ _).mpr (hR.law b hbb)
    rw [Elem.physLaw_of_idealVS hvs] at hl
    rw [← hv]; exact sub_eq_zero.mp hl

/-- completeness without any hypothesis on self-loops (what `Network.__post_init__` checks suffices) -/
theorem complete_rows_all (N : Net L K) (R : Report L K) (hids : N.ids.Nodup)
    (hzm : N.zero ∈ N.nodeLabels) (hR : CircuitEqs N R) :
    matVec N.mnaA (N.pack R.toSol) = N.mnaB := by
  obtain ⟨r1, r2⟩ := complete_inj N R hids _
    ((circuitEqs_iff_eqsInj N R).mp hR)
  exact (matVec_pack_iff N _).mpr ⟨fun n hn => (r1 n hn).trans (add_zero _), r2⟩

/-! ### vectors and reports correspond one to one

`Net.reportOf` (vector ↦ report) and `Net.pack ∘ Report.toSol` (report ↦ vector) are mutually inverse between the
solutions of the matrix equation and the solutions of the circuit equations (up to `Report.AgreeOn`), for every
network `Network.__post_init__` accepts, well-posed or not. -/

theorem pack_congr (N : Net L K) (hids : N.ids.Nodup) (hzm : N.zero ∈ N.nodeLabels) {R S : Report L K}
    (h : R.AgreeOn N S) : N.pack R.toSol = N.pack S.toSol := by
  unfold Net.pack
  congr 1
  · exact List.map_congr_left fun n hn =>
      h.1 n ((mem_allLabels_iff N hzm n).mpr ((mem_nodes_iff N n).mp hn).1)
  · exact List.map_congr_left fun b hb =>
      (h.2 b ((mem_vsSorted N hids).mp hb).1).2

theorem pack_reportOf (N : Net L K) (hids : N.ids.Nodup) (x : List K)
    (hx : x.length = N.nodes.length + N.vsIds.length) : N.pack (N.reportOf x).toSol = x := by
  conv_rhs => rw [pack_solOf N hids x hx]
  unfold Net.pack
  congr 1
  · exact List.map_congr_left fun n hn => if_neg (ne_zero_of_mem_nodes hn)
  · refine List.map_congr_left fun b hb => ?_
    obtain ⟨hbb, hvs⟩ := (mem_vsSorted N hids).mp hb
    exact (reportOf_i N x hids hbb).trans (if_pos hvs)

theorem reportOf_pack (N : Net L K) (hids : N.ids.Nodup) (hzm : N.zero ∈ N.nodeLabels)
    (R : Report L K) (hR : CircuitEqs N R) : (N.reportOf (N.pack R.toSol)).AgreeOn N R := by
  set x := N.pack R.toSol with hxd
  have hp : N.pack R.toSol = N.pack (N.solOf x) := pack_solOf N hids x (pack_length N hids _)
  obtain ⟨e1, e2⟩ := List.append_inj hp (by simp)
  have hphi : ∀ n ∈ N.nodes, R.pot n = (N.solOf x).phi n := List.map_inj_left.mp e1
  have hivs : ∀ b ∈ N.vsSorted, R.i b.id = (N.solOf x).ivs b.id := List.map_inj_left.mp e2
  have hpot : ∀ n ∈ N.nodeLabels, N.pot (N.solOf x) n = R.pot n := by
    intro n hn
    unfold Net.pot
    by_cases hz : n = N.zero
    · rw [if_pos hz, hz, hR.ref_zero]
    · rw [if_neg hz, hphi n ((mem_nodes_iff N n).mpr ⟨hn, hz⟩)]
  refine ⟨fun n hn => hpot n ((mem_allLabels_iff N hzm n).mp hn), fun b hb => ?_⟩
  have hv : N.vOf (N.solOf x) b = R.v b.id := by
    rw [Net.vOf, hpot _ (n1_mem_labels N hb), hpot _ (n2_mem_labels N hb)]
    exact (sub_eq_zero.mp (hR.volt b hb)).symm
  -- the current is fixed by the law: both reports give the branch the physical current `Net.J`
  refine ⟨(reportOf_v N x hids hb).trans hv, (reportOf_i N x hids hb).trans (physCurrent_inj b.e ?_)⟩
  rw [phys_curOf, ← J_of_laws N R hR.ref_zero b (hR.volt b hb) (hR.law b hb)]
  unfold Net.J
  by_cases hvs : b.e.isIdealVS = true
  · rw [if_pos hvs, if_pos hvs]
    exact (hivs b ((mem_vsSorted N hids).mpr ⟨hb, hvs⟩)).symm
  · rw [if_neg hvs, if_neg hvs, hpot _ (n1_mem_labels N hb), hpot _ (n2_mem_labels N hb),
      pot_toSol N R hR.ref_zero, pot_toSol N R hR.ref_zero]

theorem mna_iff_circuitEqs (N : Net L K) (hids : N.ids.Nodup) (hzm : N.zero ∈ N.nodeLabels) (x : List K)
    (hx : x.length = N.nodes.length + N.vsIds.length) :
    matVec N.mnaA x = N.mnaB ↔ CircuitEqs N (N.reportOf x) :=
  ⟨fun h => (sound_all N x hids hzm hx h).2.2,
   fun h => pack_reportOf N hids x hx ▸ complete_rows_all N _ hids hzm h⟩

end CC
