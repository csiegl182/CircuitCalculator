/-
  From the per-sample circuit to the phasor circuit at complex frequency `s`:
  with `ẋ = s·x` and `x = DQᵀ y` (capacitor voltages, inductor currents) the source laws of the
  substituted network (capacitor current `C·s·v`, inductor voltage `L·s·i`) ARE the admittance /
  impedance laws of the phasor network; Kirchhoff's laws are untouched.
-/
import CC.Proofs.StateSample
set_option linter.unusedSectionVars false

namespace CC
open Matrix Mx

section transfer
variable {L K : Type} [DecidableEq L] [LabelOrd L] [Field K] [DecidableEq K]

theorem circuitEqs_transfer (N : Net L K) (f g : Branch L K → Elem K) (R : Report L K)
    (hf : ∀ b ∈ N.branches, (f b).isLossy = false) (hg : ∀ b ∈ N.branches, (g b).isLossy = false)
    (hlaw : ∀ b ∈ N.branches, (f b).lawResidual (R.v b.id) (R.i b.id) = 0 →
      (g b).lawResidual (R.v b.id) (R.i b.id) = 0)
    (h : CircuitEqs (N.mapElems f) R) : CircuitEqs (N.mapElems g) R :=
  (circuitEqsAll_iff (N.mapElems g) R).mp <| ((circuitEqsAll_iff (N.mapElems f) R).mpr h).map id fun b hb =>
    .of_carries id (hlaw b hb) fun n =>
      show incidence b n * (g b).physCurrent _ = incidence b n * (f b).physCurrent _ by
        rw [physCurrent_notLossy (hf b hb), physCurrent_notLossy (hg b hb)]

end transfer

section states
variable {L K : Type} [DecidableEq L] [LabelOrd L] [Field K] [DecidableEq K]

theorem dqT_cap (N : Net L K) (cvals lvals : ValDict K) {Delta : List (List K)} (hids : N.ids.Nodup)
    (hD : ssDelta N cvals = .ok Delta) (yL : List K) {k : Nat}
    {b : Branch L K} (hb : b ∈ N.branches) (hkey : cvals.keys[k]? = some b.id) (hsl : b.n1 ≠ b.n2) :
    sumTo N.nY (fun i => Mx.get (ssDQ N cvals lvals Delta) i k * yL.getD i 0)
      = N.pot (N.solOf yL) b.n1 - N.pot (N.solOf yL) b.n2 := by
  let G : L → Nat → K := fun n i => deltaEntry b n * yL.getD i 0
  -- the column is `dCol`: `deltaEntry` on the node rows, nothing below them
  rw [sumTo_congr (fun i => (N.nodes[i]?).elim 0 (fun n => G n i)) fun i hi => by
    rw [get_ssDQ_cap N cvals lvals hids hD hb hi hkey, dCol]
    cases N.nodes[i]? with
    | none => exact zero_mul _
    | some n => rfl]
  unfold Net.nY
  rw [sumTo_add, sumTo_eq_zero N.nV _ fun j _ => by rw [nodes_getElem?_vs]; rfl, add_zero,
    show N.nN = N.nodes.length from rfl, sumTo_nodup_list N.nodes (nodes_nodup N) G, ← rowVS_eq_all N (N.solOf yL) b hb]
  unfold Net.rowVS
  congr 1
  apply List.map_congr_left
  intro n _
  simp only [G, deltaEntry_eq_dir b n hsl, Net.solOf]

theorem dqT_ind (N : Net L K) (cvals lvals : ValDict K) (Delta : List (List K)) (hids : N.ids.Nodup)
    (hkeys : ∀ id ∈ lvals.keys, id ∈ N.vsIds) (yL : List K) {k : Nat} {b : Branch L K} (hb : b ∈ N.branches)
    (hk : lvals.keys[k]? = some b.id) :
    sumTo N.nY (fun i => Mx.get (ssDQ N cvals lvals Delta) i (cvals.length + k) * yL.getD i 0)
      = (N.solOf yL).ivs b.id := by
  obtain ⟨r, hr, hrlt, _⟩ := idxOf?_of_mem (hkeys _ (List.mem_of_getElem? hk))
  rw [sumTo_congr (fun i => if N.nN + r = i then yL.getD i 0 else 0) fun i hi => by
    rw [get_ssDQ_ind N cvals lvals Delta hids hkeys hb hi hk, qCol_vs N hids hb hr, if_congr eq_comm rfl rfl,
      ite_mul, one_mul, zero_mul],
    sumTo_ite, if_pos (show N.nN + r < N.nY by unfold Net.nY Net.nV; omega)]
  simp only [Net.nN, List.getD_eq_getElem?_getD, Net.solOf, hr, Option.getD_some]

end states

section phasor
variable {L K : Type} [DecidableEq L] [LabelOrd L] [Field K] [DecidableEq K]
variable {N : Net L K} {cvals lvals : ValDict K}

theorem setSource_notLossy (h : RLC N cvals lvals) (u : List K)
    {b : Branch L K} (hb : b ∈ N.branches) : (setSource (ssSources N lvals) u b).isLossy = false := by
  cases h.kind hb with
  | vsrc r m V hc hl he hv hs => rw [setSource_some hs, he]; exact idealVS_notLossy _
  | csrc k I hc hl he hI hv hk hs => rw [setSource_some hs, he]; exact idealCS_notLossy _
  | passive hc hl hv hk hs hvs hcs => rw [setSource_none hs]; exact h.notLossy b hb
  | cap k hc he hv hcs hl hs => rw [setSource_none hs]; exact h.notLossy b hb
  | ind k r hc hl he hv hs => rw [setSource_none hs]; exact h.notLossy b hb

/-- `u` and `xdot` are arbitrary: a report reads the voltages and the currents of the ideal voltage sources (the
inductors among them) from `y` alone, whatever elements a `KeepsStructure` substitution has put in. -/
theorem state_readback {Delta : List (List K)}
    (h : RLC N cvals lvals) (hD : ssDelta N cvals = .ok Delta) (u xdot : List K)
    (y : Fin N.nY → K) {b : Branch L K} (hb : b ∈ N.branches) (x : Fin (ssNStates N cvals lvals) → K)
    (hx : (toM N.nY (ssNStates N cvals lvals) (ssDQ N cvals lvals Delta))ᵀ *ᵥ y = x) :
    let R := (sampleNet N cvals lvals (ssSources N lvals) u xdot).reportOf (List.ofFn y)
    (∀ k, idxOf? b.id cvals.keys = some k → (List.ofFn x).getD k 0 = R.v b.id)
    ∧ (∀ k, idxOf? b.id lvals.keys = some k → (List.ofFn x).getD (cvals.length + k) 0 = R.i b.id) := by
  subst hx
  rw [sampleNet_eq]
  intro R
  have hf := sampleNet_keeps h (ssSources N lvals) u xdot
  have hids := h.wf.ids_nodup
  constructor
  · intro k hc
    obtain ⟨_, hklt, hget⟩ := idxOf?_some hc
    have hk : k < cvals.length := by simpa [ValDict.keys] using hklt
    have hks : k < ssNStates N cvals lvals := by unfold ssNStates; omega
    rw [getD_ofFn _ hks, transpose_mulVec_apply, dqT_cap N cvals lvals hids hD (List.ofFn y) hb hget (h.wf.no_self_loop b hb)]
    exact (report_v_mapElems N _ hids (List.ofFn y) hb).symm
  · intro k hl
    obtain ⟨_, hklt, hget⟩ := idxOf?_some hl
    have hks : cvals.length + k < ssNStates N cvals lvals := by
      unfold ssNStates; rw [colsL_length N lvals h.indKeys]; omega
    have hvs : b.e.isIdealVS = true := by
      rw [h.indShort b hb (mem_of_idx hl)]; simp only [Elem.isIdealVS, decide_true]
    rw [getD_ofFn _ hks, transpose_mulVec_apply, dqT_ind N cvals lvals Delta hids h.indKeys (List.ofFn y) hb hget]
    exact (report_i_vs_mapElems N _ hf hids (List.ofFn y) hb hvs).symm

def phasorElem (cvals lvals : ValDict K) (sources : List String) (u : List K) (s : K) : Branch L K → Elem K :=
  reactElem cvals lvals (fun k => .thevenin (s * cvals.vals.getD k 0) 0) (fun k => .norton (s * lvals.vals.getD k 0) 0)
    sources u

theorem phasorNet_eq (N : Net L K) (cvals lvals : ValDict K) (sources : List String) (u : List K) (s : K) :
    phasorNet N cvals lvals sources u s = N.mapElems (phasorElem cvals lvals sources u s) := rfl

theorem reactElem_notLossy (h : RLC N cvals lvals) {cap ind : Nat → Elem K}
    (hc : ∀ k, (cap k).isLossy = false) (hi : ∀ k, (ind k).isLossy = false) (u : List K)
    {b : Branch L K} (hb : b ∈ N.branches) :
    (reactElem cvals lvals cap ind (ssSources N lvals) u b).isLossy = false := by
  cases hck : idxOf? b.id cvals.keys with
  | some k => rw [reactElem_of_cap hck]; exact hc k
  | none =>
    cases hlk : idxOf? b.id lvals.keys with
    | some k => rw [reactElem_of_ind hck hlk]; exact hi k
    | none => rw [reactElem_of_other hck hlk]; exact setSource_notLossy h _ hb

theorem circuitEqs_react (h : RLC N cvals lvals) {cap ind cap' ind' : Nat → Elem K} (u : List K) (R : Report L K)
    (hc : ∀ k, (cap k).isLossy = false) (hi : ∀ k, (ind k).isLossy = false)
    (hc' : ∀ k, (cap' k).isLossy = false) (hi' : ∀ k, (ind' k).isLossy = false)
    (hcap : ∀ b ∈ N.branches, ∀ k, idxOf? b.id cvals.keys = some k →
      (cap k).lawResidual (R.v b.id) (R.i b.id) = 0 → (cap' k).lawResidual (R.v b.id) (R.i b.id) = 0)
    (hind : ∀ b ∈ N.branches, ∀ k, idxOf? b.id lvals.keys = some k →
      (ind k).lawResidual (R.v b.id) (R.i b.id) = 0 → (ind' k).lawResidual (R.v b.id) (R.i b.id) = 0)
    (hR : CircuitEqs (N.mapElems (reactElem cvals lvals cap ind (ssSources N lvals) u)) R) :
    CircuitEqs (N.mapElems (reactElem cvals lvals cap' ind' (ssSources N lvals) u)) R := by
  refine circuitEqs_transfer N _ _ R (fun b hb => reactElem_notLossy h hc hi u hb)
    (fun b hb => reactElem_notLossy h hc' hi' u hb) (fun b hb => ?_) hR
  cases hck : idxOf? b.id cvals.keys with
  | some k => rw [reactElem_of_cap hck, reactElem_of_cap hck]; exact hcap b hb k hck
  | none =>
    cases hlk : idxOf? b.id lvals.keys with
    | some k => rw [reactElem_of_ind hck hlk, reactElem_of_ind hck hlk]; exact hind b hb k hlk
    | none => rw [reactElem_of_other hck hlk, reactElem_of_other hck hlk]; exact id

/-- a source law `p = c·(s·q)` read as an immittance law `p = (s·c)·q` (a capacitor: `i = C·(s·v)`, admittance `s·C`; an
inductor: `v = L·(s·i)`, impedance `s·L`); for `s·c = 0` the law of the open / short circuit -/
theorem law_of_scaled {p q c s : K} (h : p - c * (s * q) = 0) :
    (if s * c = 0 then p - 0 else p - s * c * q) = 0 := by
  have hp := sub_eq_zero.mp h
  by_cases hz : s * c = 0
  · rw [if_pos hz, sub_zero, hp, ← mul_assoc, mul_comm c s, hz, zero_mul]
  · rw [if_neg hz, hp]; ring

/-- **The augmented nodal system is the circuit.**  Every solution `y` of
`(Ã − s·DQ Λ DQᵀ) y = QS u` reports — potentials from `y`, currents of voltage sources and inductors
from `y`, capacitor currents `C·s·v`, the rest by the branch laws — a solution of the circuit
equations of the phasor network at complex frequency `s` driven by `u` (capacitor `Y = s·C`,
inductor `Z = s·L`). -/
theorem augmented_is_circuit {N : Net L K} {cvals lvals : ValDict K} {Delta : List (List K)}
    (h : RLC N cvals lvals) (hD : ssDelta N cvals = .ok Delta) (s : K)
    (y : Fin N.nY → K) (u : Fin (ssNInputs N lvals) → K)
    (hsys : (toM N.nY N.nY N.mnaA
              - s • (toM N.nY (ssNStates N cvals lvals) (ssDQ N cvals lvals Delta)
                  * (diagonal fun i : Fin (ssNStates N cvals lvals) => (ssLambda cvals lvals).getD i 0)
                  * (toM N.nY (ssNStates N cvals lvals) (ssDQ N cvals lvals Delta))ᵀ)) *ᵥ y
            = toM N.nY (ssNInputs N lvals) (ssQS N lvals) *ᵥ u) :
    let x := (toM N.nY (ssNStates N cvals lvals) (ssDQ N cvals lvals Delta))ᵀ *ᵥ y
    let P := sampleNet N cvals lvals (ssSources N lvals) (List.ofFn u) (List.ofFn (s • x))
    CircuitEqs (phasorNet N cvals lvals (ssSources N lvals) (List.ofFn u) s) (P.reportOf (List.ofFn y)) := by
  intro x P
  -- the per-sample system with ẋ = s·x
  have hP : CircuitEqs P (P.reportOf (List.ofFn y)) :=
    sample_circuit_of_system h hD y (s • x) u ((StateAlg.augmented_iff_sample _ _ s).mp hsys)
  have hsx : ∀ k, (List.ofFn (s • x)).getD k 0 = s * (List.ofFn x).getD k 0 := fun k => by
    by_cases hk : k < ssNStates N cvals lvals
    · rw [getD_ofFn _ hk, getD_ofFn _ hk]; rfl
    · simp only [List.getD_eq_getElem?_getD, List.length_ofFn, hk, not_false_eq_true, getElem?_neg,
        Option.getD_none, mul_zero]
  have hrb := fun {b : Branch L K} (hb : b ∈ N.branches) =>
    state_readback h hD (List.ofFn u) (List.ofFn (s • x)) y hb x rfl
  -- both networks are `N.mapElems (reactElem …)`; the report stays the one of `P`
  rw (occs := .pos [1]) [show P = _ from sampleNet_eq ..] at hP
  rw [phasorNet_eq, phasorElem]
  refine circuitEqs_react h _ _ (fun _ => idealCS_notLossy _) (fun _ => idealVS_notLossy _)
    (fun _ => Elem.thevenin_zero_not_lossy _) (fun _ => Elem.norton_zero_not_lossy _)
    (fun b hb k hc hlaw => ?_) (fun b hb k hl hlaw => ?_) hP
  · simp only [Elem.lawResidual, if_true, hsx, (hrb hb).1 k hc] at hlaw ⊢
    exact law_of_scaled hlaw
  · simp only [Elem.lawResidual, if_true, hsx, (hrb hb).2 k hl] at hlaw ⊢
    exact law_of_scaled hlaw

/-- `x = (s − A)⁻¹ B u` enters as `s·x = A x + B u`: no inverse is assumed, and where `s − A` is singular the claim
holds of every solution `x`. -/
theorem model_transfer {Ainv S Delta : List (List K)}
    {m : SSMats K} (h : RLC N cvals lvals) (hD : ssDelta N cvals = .ok Delta)
    (hm : stateSpaceMatrices N cvals lvals Ainv S = .ok m)
    (hc : ModelCert id N cvals lvals Ainv S Delta)
    (s : K) (x : Fin (ssNStates N cvals lvals) → K) (u : Fin (ssNInputs N lvals) → K)
    (hx : s • x = toM _ _ m.A *ᵥ x + toM _ _ m.B *ᵥ u) :
    let y := toM N.nY (ssNStates N cvals lvals) m.C *ᵥ x + toM N.nY (ssNInputs N lvals) m.D *ᵥ u
    let P := sampleNet N cvals lvals (ssSources N lvals) (List.ofFn u) (List.ofFn (s • x))
    CircuitEqs (phasorNet N cvals lvals (ssSources N lvals) (List.ofFn u) s) (P.reportOf (List.ofFn y)) := by
  intro y P
  obtain ⟨h1, h2⟩ := model_sample_system id hD hm hc x u
  rw [ssAtilde_id] at h1
  have := augmented_is_circuit h hD s y u ((StateAlg.augmented_iff_sample _ _ s).mpr (by rw [h2, hx]; exact h1))
  simp only at this
  rw [h2] at this
  exact this

end phasor
end CC
