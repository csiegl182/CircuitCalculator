/-
  CC.Proofs.FourierMeanSquare — mean-square convergence of the amplitude/phase reconstruction
  `a₀ + Σ_{1≤n≤N} aₙ·cos(2πn·t/T + φₙ)` to a bounded measurable function whose Fourier
  coefficients are `a₀` and `aₙ/2·exp(jφₙ)`: Parseval (FourierParseval.lean) applied to the
  difference `f − S_N`, whose coefficients vanish up to order `N`.
-/
import CC.Proofs.FourierParseval

namespace CC.Fourier
open MeasureTheory Complex Real Filter

noncomputable def partialSum (T : ℝ) (a φ : ℕ → ℝ) (N : ℕ) (t : ℝ) : ℝ :=
  a 0 + ∑ n ∈ Finset.Icc 1 N, a n * Real.cos (2 * π * n / T * t + φ n)

theorem continuous_partialSum (T : ℝ) (a φ : ℕ → ℝ) (N : ℕ) : Continuous (partialSum T a φ N) := by
  unfold partialSum; fun_prop

theorem abs_partialSum_le (T : ℝ) (a φ : ℕ → ℝ) (N : ℕ) (t : ℝ) :
    |partialSum T a φ N t| ≤ |a 0| + ∑ n ∈ Finset.Icc 1 N, |a n| := by
  unfold partialSum
  refine (abs_add_le _ _).trans (add_le_add le_rfl ?_)
  refine (Finset.abs_sum_le_sum_abs _ _).trans (Finset.sum_le_sum fun n _ => ?_)
  exact (abs_mul _ _).le.trans (mul_le_of_le_one_right (abs_nonneg _) (Real.abs_cos_le_one _))

theorem partialSum_zero (T : ℝ) (a φ : ℕ → ℝ) : partialSum T a φ 0 = fun _ => a 0 := by
  funext t
  rw [partialSum, Finset.Icc_eq_empty (by omega), Finset.sum_empty, add_zero]

theorem partialSum_succ (T : ℝ) (a φ : ℕ → ℝ) (N : ℕ) :
    partialSum T a φ (N + 1)
      = fun t => partialSum T a φ N t
          + a (N + 1) * Real.cos (2 * π * ((N + 1 : ℕ) : ℤ) / T * t + φ (N + 1)) := by
  funext t
  rw [partialSum, partialSum, Finset.sum_Icc_succ_top (by omega), add_assoc, Int.cast_natCast]

theorem coeff_partialSum (T : ℝ) (hT : T ≠ 0) (a φ : ℕ → ℝ) (N m : ℕ) :
    coeff (partialSum T a φ N) T m
      = if m = 0 then (a 0 : ℂ) else if m ≤ N then ((a m / 2 : ℝ) : ℂ) * cexp (I * (φ m : ℂ)) else 0 := by
  induction N with
  | zero =>
    rw [partialSum_zero, coeff_const T hT]
    simp only [Nat.cast_eq_zero, Nat.le_zero]
    split_ifs
    · rfl
    · rfl
  | succ N ih =>
    rw [partialSum_succ, coeff_add ((continuous_partialSum T a φ N).intervalIntegrable _ _)
      ((by fun_prop : Continuous _).intervalIntegrable _ _), ih, coeff_cosk T _ _ hT,
      if_neg (by omega : ¬ ((N + 1 : ℕ) : ℤ) = -(m : ℤ)), add_zero]
    by_cases h : N + 1 = m
    · subst h
      simp only [if_pos, if_neg (Nat.succ_ne_zero N), if_neg (Nat.not_succ_le_self N), le_refl, zero_add]
    · simp only [if_neg (by omega : ¬ ((N + 1 : ℕ) : ℤ) = m), add_zero, (by omega : m ≤ N + 1 ↔ m ≤ N)]

theorem intervalIntegrable_of_bounded {f : ℝ → ℝ} (hm : Measurable f) {C : ℝ} (hb : ∀ t, |f t| ≤ C)
    (a b : ℝ) : IntervalIntegrable f volume a b := by
  rw [intervalIntegrable_iff]
  exact IntegrableOn.of_bound (by rw [Set.uIoc]; exact measure_Ioc_lt_top) hm.aestronglyMeasurable C
    (Eventually.of_forall hb)

theorem hasSum_tail_eq {u v : ℕ → ℝ} {s s' : ℝ} (N : ℕ) (hu : HasSum u s) (hv : HasSum v s')
    (h0 : ∀ n < N, v n = 0) (h1 : ∀ n, N ≤ n → v n = u n) :
    s' = s - ∑ i ∈ Finset.range N, u i := by
  have hu' := (hasSum_nat_add_iff' N).mpr hu
  have hv' := (hasSum_nat_add_iff' N).mpr hv
  rw [Finset.sum_eq_zero fun i hi => h0 i (Finset.mem_range.mp hi), sub_zero,
    funext fun n => h1 (n + N) (Nat.le_add_left N n)] at hv'
  exact hv'.unique hu'

theorem mean_square_of_coeff (f : ℝ → ℝ) (T : ℝ) (hT : 0 < T) (hm : Measurable f) (C : ℝ)
    (hb : ∀ t, |f t| ≤ C) (a φ : ℕ → ℝ) (h0 : coeff f T 0 = (a 0 : ℂ))
    (hn : ∀ n : ℕ, 1 ≤ n → coeff f T n = ((a n / 2 : ℝ) : ℂ) * cexp (I * (φ n : ℂ))) :
    Tendsto (fun N : ℕ => ∫ t in (0:ℝ)..T, (f t - partialSum T a φ N t) ^ 2) atTop (nhds 0) := by
  have hPf := parseval_of_coeff f T hT hm C hb a φ h0 hn
  have hlim := ((hPf.tendsto_sum_nat.comp (tendsto_add_atTop_nat 1)).const_sub
    ((1 / T) * ∫ t in (0:ℝ)..T, f t ^ 2)).const_mul T
  rw [sub_self, mul_zero] at hlim
  refine hlim.congr fun N => ?_
  -- Parseval for `f − S_N`, whose coefficients are those of `f` beyond `N` and vanish up to `N`
  have hcoeff : ∀ m : ℕ, coeff (fun t => f t - partialSum T a φ N t) T m
      = if m ≤ N then 0 else coeff f T m := by
    intro m
    rw [coeff_sub (intervalIntegrable_of_bounded hm hb _ _)
      ((continuous_partialSum T a φ N).intervalIntegrable _ _), coeff_partialSum T hT.ne']
    split_ifs with hm0 hmN hmN
    · rw [hm0, Nat.cast_zero, h0, sub_self]
    · omega
    · rw [hn m (Nat.one_le_iff_ne_zero.mpr hm0), sub_self]
    · rw [sub_zero]
  have hPg := parseval_of_coeff (fun t => f t - partialSum T a φ N t) T hT
    (hm.sub (continuous_partialSum T a φ N).measurable) (C + (|a 0| + ∑ n ∈ Finset.Icc 1 N, |a n|))
    (fun t => (abs_sub _ _).trans (add_le_add (hb t) (abs_partialSum_le T a φ N t)))
    (fun n => if n ≤ N then 0 else a n) φ
    (by rw [← Nat.cast_zero, hcoeff 0, if_pos (Nat.zero_le N), if_pos (Nat.zero_le N), ofReal_zero])
    (fun n h1 => by
      rw [hcoeff n]
      split_ifs
      · rw [zero_div, ofReal_zero, zero_mul]
      · exact hn n h1)
  rw [Function.comp_apply, ← hasSum_tail_eq (N + 1) hPf hPg (fun n hn => ?_) (fun n hn => ?_), one_div,
    mul_inv_cancel_left₀ hT.ne']
  · rw [if_pos (Nat.zero_le N), if_pos (by omega : n ≤ N), zero_pow two_ne_zero, zero_div, ite_self]
  · rw [if_neg (by omega : ¬ n = 0), if_neg (by omega : ¬ n ≤ N)]
    exact (if_neg (by omega : ¬ n = 0)).symm

end CC.Fourier
