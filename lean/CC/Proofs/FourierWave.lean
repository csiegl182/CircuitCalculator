/-
  CC.Proofs.FourierWave — the generated time functions (CC/Gen/Fourier.lean) instantiated
  at ℝ: each is a constant, a cosine wave, or a piecewise-linear function of the phase-shifted
  time; what the phase shift does to the Fourier coefficients.
-/
import CC.Gen.Fourier
import CC.Proofs.FourierCanon

namespace CC.Fourier
open Complex Real CC.Gen.Fourier

/-- the implementation's time function, read over ℝ: `π := Real.pi`, `np.cos := Real.cos`,
`np.sin := Real.sin`, float `%` := `fmodR` -/
noncomputable def timeR (w : WaveObj ℝ) : ℝ → ℝ :=
  w.timeFunction Real.pi Real.cos Real.sin fmodR

/-- the code turns a phase `φ` into the time shift `φ/(2π)·T`, which multiplies
the `n`-th coefficient by `exp(j·n·φ)` -/
theorem coeff_phase_shift (g : ℝ → ℝ) (T φ : ℝ) (hT : 0 < T) (n : ℤ) :
    coeff (fun t => g (fmodR (t + φ / 2 / π * T) T)) T n
      = cexp (I * ((n * φ : ℝ) : ℂ)) * coeff g T n := by
  have hpi : (π : ℂ) ≠ 0 := ofReal_ne_zero.mpr Real.pi_ne_zero
  rw [coeff_shift g T _ hT n, ofReal_mul, neg_mul, mul_left_comm, cexpo_mul_period T hT.ne']
  congr 2
  push_cast
  field_simp

theorem coeff_phase_shift_zero (g : ℝ → ℝ) (T φ : ℝ) (hT : 0 < T) :
    coeff (fun t => g (fmodR (t + φ / 2 / π * T) T)) T 0 = coeff g T 0 := by
  rw [coeff_phase_shift g T φ hT 0, Int.cast_zero, zero_mul, ofReal_zero, mul_zero, Complex.exp_zero, one_mul]

theorem timeR_rect (T A φ off : ℝ) :
    timeR ⟨.RectFunction, T, A, φ, off⟩
      = fun t => plFun T (A + off) 0 (-A + off) 0 (fmodR (t + φ / 2 / π * T) T) := by
  funext t
  simp only [timeR, WaveObj.timeFunction, RectFunction.timeFunction, plFun, Int.cast_ofNat, zero_mul, add_zero]

theorem timeR_tri (T A φ off : ℝ) :
    timeR ⟨.TriFunction, T, A, φ, off⟩
      = fun t => plFun T (A + off) (-4 * A) (-3 * A + off) (4 * A) (fmodR (t + φ / 2 / π * T) T) := by
  funext t
  simp only [timeR, WaveObj.timeFunction, TriFunction.timeFunction, plFun, Int.cast_ofNat, Int.cast_neg,
    Int.cast_one]
  congr 1
  · ring
  · ring

theorem timeR_saw (T A φ off : ℝ) :
    timeR ⟨.SawFunction, T, A, φ, off⟩
      = fun t => plFun T (-A + off) (2 * A) (-A + off) (2 * A) (fmodR (t + φ / 2 / π * T) T) := by
  funext t
  simp only [timeR, WaveObj.timeFunction, SawFunction.timeFunction, plFun, Int.cast_ofNat, Int.cast_one, ite_self]
  ring

theorem timeR_const (T A φ off : ℝ) : timeR ⟨.ConstantFunction, T, A, φ, off⟩ = fun _ => A := by
  funext t
  simp only [timeR, WaveObj.timeFunction, ConstantFunction.timeFunction, Int.cast_one, mul_one]

theorem timeR_cos (T A φ off : ℝ) :
    timeR ⟨.CosFunction, T, A, φ, off⟩ = fun t => A * Real.cos (2 * π * (1 : ℤ) / T * t + φ) + off := by
  funext t
  simp only [timeR, WaveObj.timeFunction, CosFunction.timeFunction, Int.cast_ofNat, Int.cast_one, mul_one]

/-- `sin x = cos (x − π/2)`: a sine wave is the cosine wave of phase `−π/2 + φ` (the `2` an integer
literal, as in `SinFunctionHarmonics._phase_coefficient`) -/
theorem timeR_sin (T A φ off : ℝ) :
    timeR ⟨.SinFunction, T, A, φ, off⟩ = timeR ⟨.CosFunction, T, A, -π / (2 : ℤ) + φ, off⟩ := by
  funext t
  simp only [timeR, WaveObj.timeFunction, SinFunction.timeFunction, CosFunction.timeFunction, Int.cast_ofNat]
  rw [← Real.cos_sub_pi_div_two]
  congr 3; ring

end CC.Fourier
