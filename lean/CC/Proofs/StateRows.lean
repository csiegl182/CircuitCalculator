/-
  What the OUTPUT ROWS of the executable state-space model (`NSSM.cRowPotential / cRowVoltage / cRowCurrent` and
  their `dRow*` partners, CC/Model/StateSpace.lean) need in order to be compared with the accessor report
  `(sampleNet …).reportOf y` read from `y = C x + D u`; the voltage and current rows are compared in
  CC/Properties/C10Rows.lean.  Only the SHAPES of `A, B, C, D` are used (`model_dims`).
-/
import CC.Proofs.StateModel
import CC.Proofs.Bridge
set_option linter.unusedSectionVars false

namespace CC
open Mx

section lists
variable {K : Type} [Field K]

theorem rows_dotL_nil_left (x : List K) : dotL ([] : List K) x = 0 := dotL_nil_left x

theorem rows_dotL_vecSub (p q x : List K) (h : p.length = q.length) :
    dotL (Mx.vecSub p q) x = dotL p x - dotL q x := by
  have hn : (Mx.vecSub p q).length = p.length := by simp [Mx.vecSub, h]
  -- entry by entry; every list is read up to the length of `p`
  rw [dotL_eq_sum _ x p.length (hn ▸ Nat.min_le_left ..), dotL_eq_sum p x p.length (Nat.min_le_left ..),
    dotL_eq_sum q x p.length (h ▸ Nat.min_le_left ..), ← Finset.sum_sub_distrib]
  exact Finset.sum_congr rfl fun j _ => by
    rw [Mx.vecSub, getD_zipWith0 (· - ·) (sub_zero 0) p q h, sub_mul]

theorem rows_dotL_vecScale (c : K) (r x : List K) : dotL (Mx.vecScale c r) x = c * dotL r x :=
  dotL_smul_left c r x

theorem rows_dotL_map_div (z : K) (r x : List K) : dotL (r.map (· / z)) x = dotL r x / z := by
  simp only [div_eq_inv_mul]
  exact dotL_smul_left z⁻¹ r x

theorem rows_dotL_zeroVec_left (n : Nat) (x : List K) : dotL (Mx.zeroVec n : List K) x = 0 :=
  dotL_zero_row _ x fun _ hv => List.eq_of_mem_replicate hv

/-- for a zero admittance `Z = ∞` and `Zfin = 0`: both sides are `0`, the right one by `a / 0 = 0` -/
theorem dotL_divByZ [DecidableEq K] (e : Elem K) (r x : List K) : dotL (divByZ e r) x = dotL r x / e.Zfin := by
  cases e with
  | norton Z V => exact rows_dotL_map_div Z r x
  | thevenin Y I =>
    show dotL (if Y = 0 then r.map (fun _ => 0) else r.map (· / (1 / Y))) x = dotL r x / (if Y = 0 then 0 else 1 / Y)
    by_cases hY : Y = 0
    · rw [if_pos hY, if_pos hY, dotL_zeros, div_zero]
    · rw [if_neg hY, if_neg hY]; exact rows_dotL_map_div _ r x

theorem rows_dotL_unit [DecidableEq K] (n k : Nat) (hk : k < n) (u : List K) :
    dotL ((List.range n).map fun t => if t = k then (1 : K) else 0) u = u.getD k 0 := by
  rw [dotL_range_map n _ u]
  rw [sumTo_congr (fun j => if k = j then u.getD j 0 else 0) fun j _ => by
    rw [if_congr eq_comm rfl rfl, ite_mul, one_mul, zero_mul], sumTo_ite, if_pos hk]

theorem rows_getD_vecAdd_matVec {M1 M2 : List (List K)} {x u : List K} {k : Nat}
    (h1 : k < M1.length) (h2 : k < M2.length) :
    (Mx.vecAdd (matVec M1 x) (matVec M2 u)).getD k 0 = dotL (M1.getD k []) x + dotL (M2.getD k []) u := by
  simp [Mx.vecAdd, matVec, List.getD_eq_getElem?_getD, h1, h2]

end lists

section main
variable {L K : Type} [DecidableEq L] [LabelOrd L] [Field K] [DecidableEq K]
variable {N : Net L K} {cvals lvals : ValDict K}

/-- **potential rows.**  For a node label `n` of the network the two rows exist, have the lengths
`#capacitors + #inductors` and `ssNInputs` (`x`, `u` are lists of any length), and `row_c·x + row_d·u` is the potential the accessor reads from `y = C x + D u`
(`0` for the reference node). -/
theorem rows_potential {Ainv S : List (List K)} {mats : SSMats K}
    (hm : stateSpaceMatrices N cvals lvals Ainv S = .ok mats) (x u : List K) (n : L) (hn : n ∈ N.nodeLabels) :
    ∃ rc rd, (⟨mats, N, cvals, lvals⟩ : NSSM L K).cRowPotential n = .ok rc
      ∧ (⟨mats, N, cvals, lvals⟩ : NSSM L K).dRowPotential n = .ok rd
      ∧ rc.length = cvals.length + lvals.length ∧ rd.length = ssNInputs N lvals
      ∧ dotL rc x + dotL rd u
          = N.pot (N.solOf (Mx.vecAdd (matVec mats.C x) (matVec mats.D u))) n := by
  obtain ⟨hA, _, hC, hD⟩ := model_dims hm
  by_cases hz : n = N.zero
  · subst hz
    refine ⟨_, _, rowForPotential_reference (⟨mats, N, cvals, lvals⟩ : NSSM L K) _ _,
      rowForPotential_reference (⟨mats, N, cvals, lvals⟩ : NSSM L K) _ _, ?_, ?_, ?_⟩
    · simp [Mx.zeroVec, NSSM.nStates, hA.1]
    · simp [Mx.zeroVec, NSSM.nInputs]
    · rw [rows_dotL_zeroVec_left, rows_dotL_zeroVec_left]
      simp [Net.pot]
  · have hmem : n ∈ N.nodes := (mem_nodes_iff N n).mpr ⟨hn, hz⟩
    obtain ⟨k, hk, hlt, _⟩ := idxOf?_of_mem hmem
    have hkC : k < mats.C.length := by rw [hC.1]; unfold Net.nY Net.nN; omega
    have hkD : k < mats.D.length := by rw [hD.1]; unfold Net.nY Net.nN; omega
    refine ⟨_, _, rowForPotential_mapped (⟨mats, N, cvals, lvals⟩ : NSSM L K) n _ _ k hk,
      rowForPotential_mapped (⟨mats, N, cvals, lvals⟩ : NSSM L K) n _ _ k hk, ?_, ?_, ?_⟩
    · apply hC.2
      rw [List.getD_eq_getElem?_getD, List.getElem?_eq_getElem hkC]; exact List.getElem_mem hkC
    · apply hD.2
      rw [List.getD_eq_getElem?_getD, List.getElem?_eq_getElem hkD]; exact List.getElem_mem hkD
    · rw [← rows_getD_vecAdd_matVec hkC hkD]
      simp [Net.pot, hz, Net.solOf, hk]

theorem rows_getD_length {M : List (List K)} {r c : Nat} (hM : IsShape M r c) {k : Nat} (hk : k < r) :
    (M.getD k []).length = c := by
  have hk' : k < M.length := by rw [hM.1]; exact hk
  apply hM.2
  rw [List.getD_eq_getElem?_getD, List.getElem?_eq_getElem hk']; exact List.getElem_mem hk'

open Matrix in
theorem rows_vecAdd_matVec_ofFn {r a c : Nat} {M1 M2 : List (List K)} (h1 : IsShape M1 r a) (h2 : IsShape M2 r c)
    (x : Fin a → K) (u : Fin c → K) :
    Mx.vecAdd (matVec M1 (List.ofFn x)) (matVec M2 (List.ofFn u))
      = List.ofFn (toM r a M1 *ᵥ x + toM r c M2 *ᵥ u) := by
  rw [h1.matVec_ofFn, h2.matVec_ofFn, vecAdd_ofFn]

end main

end CC
