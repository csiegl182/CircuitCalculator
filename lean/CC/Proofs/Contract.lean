/-
  CC.Proofs.Contract — short-circuit contraction (`remove_short_circuit_elements`) preserves
  every solution of the circuit equations, for any number of shorts (chains, stars,
  parallel shorts, shorts touching the reference node), and is complete: no non-exempt short
  is left.
  Key observation: in any solution of the original network the two ends of every short are at
  the same potential, so the potentials do not see the renaming of the loop (`sigmaAll_congr`); and renaming
  the terminals by any such map, self-loops dropped, keeps every solution (`EqsInj.mapNodes`: Kirchhoff's
  current law at a node of the result is that of the original against the indicator of the labels renamed to it).
  This holds with a current injected from outside (`EqsInj`) at labels that keep their names, which is how the
  probe network of a port enters (CC/Properties/C16PassivePort.lean); the statements about `CircuitEqsAll` are the
  case of no injection.  Soundness, survivors and completeness of the loop are then read off its shape (`contractAll_eq`).
-/
import CC.Proofs.ContractShape
set_option linter.unusedSectionVars false

namespace CC
variable {L K : Type} [DecidableEq L] [LabelOrd L] [Field K] [DecidableEq K]

theorem incidence_loop (b : Branch L K) (h : b.n1 = b.n2) (n : L) : incidence b n = 0 := by
  unfold incidence; rw [h]; ring

theorem ind_ren (an rn x n : L) :
    (if renNode an rn x = n then (1 : K) else 0) =
      (if x = n then 1 else 0) + ((if rn = n then 1 else 0) - (if an = n then 1 else 0)) * (if x = an then 1 else 0) := by
  by_cases hx : x = an
  · subst hx
    rw [renNode_absorbed, if_pos rfl, mul_one]; ring
  · rw [renNode_of_ne rn hx, if_neg hx, mul_zero, add_zero]

theorem incidence_ren (an rn : L) (b : Branch L K) (n : L) :
    incidence (b.mapNodes (renNode an rn)) n =
      incidence b n + ((if rn = n then 1 else 0) - (if an = n then 1 else 0)) * incidence b an := by
  show (if renNode an rn b.n1 = n then (1 : K) else 0) - (if renNode an rn b.n2 = n then (1 : K) else 0) = _
  rw [ind_ren, ind_ren]
  unfold incidence; ring

theorem sum_incidence_ren (an rn : L) (bs : List (Branch L K)) (f : Branch L K → K) (n : L) :
    (bs.map fun b => incidence (b.mapNodes (renNode an rn)) n * f b).sum =
      (bs.map fun b => incidence b n * f b).sum +
        ((if rn = n then 1 else 0) - (if an = n then 1 else 0)) * (bs.map fun b => incidence b an * f b).sum := by
  simp only [incidence_ren, add_mul, mul_assoc, List.sum_map_add, List.sum_map_mul_left]

theorem kcl_contractStep (bs : List (Branch L K)) (z an rn : L) (R : Report L K) (n : L) :
    kclResidual ⟨contractStep bs an rn, z⟩ R n =
      (bs.map fun b => incidence (b.mapNodes (renNode an rn)) n * b.e.physCurrent (R.i b.id)).sum := by
  rw [contractStep_eq, List.filter_map, kclResidual_filter]
  · unfold kclResidual; rw [List.map_map]; rfl
  · intro b _ hb
    rw [incidence_loop _ (not_not.mp (of_decide_eq_false hb)) n, zero_mul]

/-- **a quotient of the label set keeps every solution**, also under a current injected from outside at labels that
keep their names -/
theorem EqsInj.mapNodes {bs : List (Branch L K)} {z : L} {R : Report L K} {inj : L → K} (h : EqsInj bs z R inj)
    (σ : L → L) (hσ : ∀ x, R.pot (σ x) = R.pot x) (hinj : ∀ m, σ m ≠ m → inj m = 0) (p : Branch L K → Bool)
    (hp : ∀ b ∈ bs, p (b.mapNodes σ) = false → σ b.n1 = σ b.n2) :
    EqsInj ((bs.map (Branch.mapNodes σ)).filter p) z R inj := by
  have hren : EqsInj (bs.map (Branch.mapNodes σ)) z R inj := by
    refine ⟨h.ref_zero, List.forall_mem_map.mpr fun b hb => ?_, List.forall_mem_map.mpr fun b hb => h.law b hb,
      fun n => ?_⟩
    · show R.v b.id - (R.pot (σ b.n1) - R.pot (σ b.n2)) = 0
      rw [hσ, hσ]; exact h.volt b hb
    · -- the balance at `n` of the quotient is that of `bs` against the indicator of the fibre of `n`; the injection
      -- sits at labels that σ fixes, so the fibre sees it at `n` only
      rw [List.map_map]
      refine (incidence_adjoint bs (dedupL (n :: (bs.map (·.n1) ++ bs.map (·.n2)))) (nodup_dedupL _)
        (fun b hb => ⟨mem_dedupL.mpr (List.mem_cons_of_mem _ (List.mem_append_left _ (List.mem_map_of_mem hb))),
          mem_dedupL.mpr (List.mem_cons_of_mem _ (List.mem_append_right _ (List.mem_map_of_mem hb)))⟩)
        (fun x => if σ x = n then 1 else 0) fun b => b.e.physCurrent (R.i b.id)).trans ?_
      simp only [h.kcl]
      rw [List.map_congr_left (g := fun m => if m = n then inj m else 0) fun m _ => ?_,
        sum_map_ite_eq (nodup_dedupL _), if_pos (mem_dedupL.mpr (List.mem_cons_self ..))]
      by_cases hm : σ m = m
      · rw [hm, ite_mul, one_mul, zero_mul]
      · rw [hinj m hm, mul_zero, ite_self]
  rw [List.filter_map]
  exact hren.filter _ fun b hb hpb n => by rw [incidence_loop _ (hp b hb hpb) n, zero_mul]

theorem sigmaAll_congr {α : Type} (z : L) {ps : List (L × L)} (f : L → α) (hf : ∀ p ∈ ps, f p.1 = f p.2) (x : L) :
    f (sigmaAll z ps x) = f x :=
  eqvGen_congr f (fun a b hab => hf (a, b) hab) ((sigmaAll_eq_iff z ps _ _).mp (sigmaAll_idem z ps x))

/-- one renaming step preserves the circuit equations -/
theorem step_sound (bs : List (Branch L K)) (z : L) (R : Report L K) (an rn : L)
    (hp : R.pot an = R.pot rn) (h : CircuitEqsAll bs z R) :
    CircuitEqsAll (contractStep bs an rn) z R := by
  rw [contractStep_eq]
  exact (h.eqsInj.mapNodes _ (pot_renNode R hp) (fun _ _ => rfl) _ fun b _ hb =>
    not_not.mp (of_decide_eq_false hb)).circuitEqsAll

theorem EqsInj.contractAll {bs : List (Branch L K)} {z : L} {R : Report L K} {inj : L → K} (h : EqsInj bs z R inj)
    (pairs : List (L × L)) (hp : ∀ p ∈ pairs, R.pot p.1 = R.pot p.2) (hinj : ∀ m, sigmaAll z pairs m ≠ m → inj m = 0) :
    EqsInj (contractAll z pairs bs) z R inj := by
  rw [contractAll_eq]
  refine h.mapNodes _ (sigmaAll_congr z R.pot hp) hinj _ fun b _ hb => ?_
  exact not_not.mp (of_decide_eq_false (Bool.or_eq_false_iff.mp hb).2)

/-- the contraction loop keeps every solution: `EqsInj.contractAll` without injection -/
theorem contractAll_sound (pairs : List (L × L)) (bs : List (Branch L K)) (z : L) (R : Report L K)
    (h : CircuitEqsAll bs z R) (hp : ∀ p ∈ pairs, R.pot p.1 = R.pot p.2) :
    CircuitEqsAll (contractAll z pairs bs) z R :=
  (h.eqsInj.contractAll pairs hp fun _ _ => rfl).circuitEqsAll

theorem contractAll_survivors (pairs : List (L × L)) (bs : List (Branch L K)) (z : L) (R : Report L K)
    (hp : ∀ p ∈ pairs, R.pot p.1 = R.pot p.2) :
    ∀ b' ∈ contractAll z pairs bs, ∃ b ∈ bs,
      b'.id = b.id ∧ b'.ty = b.ty ∧ b'.e = b.e ∧ R.pot b'.n1 = R.pot b.n1 ∧ R.pot b'.n2 = R.pot b.n2 := by
  intro b' hb'
  obtain ⟨b, hb, rfl⟩ := mem_contractAll hb'
  exact ⟨b, hb, rfl, rfl, rfl, sigmaAll_congr z R.pot hp _, sigmaAll_congr z R.pot hp _⟩

theorem contractAll_complete (P : ElemKey K → Prop) (pairs : List (L × L)) (bs : List (Branch L K)) (z : L)
    (hcov : ∀ b ∈ bs, P b.key → (b.n1, b.n2) ∈ pairs ∨ (b.n2, b.n1) ∈ pairs) :
    ∀ b' ∈ contractAll z pairs bs, ¬ P b'.key := by
  intro b' hb' hP
  rw [contractAll_eq] at hb'
  obtain ⟨hm, hf⟩ := List.mem_filter.mp hb'
  obtain ⟨b, hb, rfl⟩ := List.mem_map.mp hm
  -- its terminals are a pair, so they get one name and the branch fails the filter
  have hj : sigmaAll z pairs b.n1 = sigmaAll z pairs b.n2 :=
    (sigmaAll_eq_iff z pairs _ _).mpr ((hcov b hb hP).elim (fun h => .rel _ _ h) fun h => .symm _ _ (.rel _ _ h))
  rcases Bool.or_eq_true_iff.mp hf with he | hne
  · rcases hcov b hb hP with h | h <;> rw [List.isEmpty_iff.mp he] at h <;> cases h
  · exact of_decide_eq_true hne hj

theorem isShort_eq {e : Elem K} (h : e.isShort = true) : e = .norton 0 0 := by
  cases e with
  | norton Z V =>
    simp only [Elem.isShort, Bool.and_eq_true, decide_eq_true_eq] at h
    rw [h.1, h.2]
  | thevenin Y I => cases h

theorem isOpen_eq {e : Elem K} (h : e.isOpen = true) : e = .thevenin 0 0 := by
  cases e with
  | norton Z V => cases h
  | thevenin Y I =>
    simp only [Elem.isOpen, Bool.and_eq_true, decide_eq_true_eq] at h
    rw [h.1, h.2]

theorem short_law_voltage {e : Elem K} (hs : e.isShort = true) {v i : K} (hl : e.lawResidual v i = 0) : v = 0 := by
  rw [isShort_eq hs] at hl
  simpa only [Elem.lawResidual, if_true, sub_zero] using hl

theorem open_law_current {e : Elem K} (ho : e.isOpen = true) {v i : K} (hl : e.lawResidual v i = 0) : i = 0 := by
  rw [isOpen_eq ho] at hl
  simpa only [Elem.lawResidual, if_true, sub_zero] using hl

theorem physCurrent_zero (e : Elem K) : e.physCurrent (0 : K) = 0 := by
  unfold Elem.physCurrent; split
  · exact neg_zero
  · rfl

theorem EqsInj.filter_open {α : Type} {l : List α} {g : α → Branch L K} {z : L} {R : Report L K} {inj : L → K}
    (h : EqsInj (l.map g) z R inj) (q : α → Bool) (hq : ∀ x ∈ l, q x = false → (g x).e.isOpen = true) :
    EqsInj ((l.filter q).map g) z R inj :=
  h.filter q fun x hx hqx n => by
    rw [open_law_current (hq x hx hqx) (h.law (g x) (List.mem_map_of_mem hx)), physCurrent_zero, mul_zero]

theorem mem_shortPairs {N : Net L K} {keep : List (ElemKey K)} {p : L × L} (hp : p ∈ shortPairs N keep) :
    ∃ s ∈ N.branches, s.e.isShort = true ∧ keep.contains s.key = false ∧
      ((s.n1 = p.1 ∧ s.n2 = p.2) ∨ (s.n1 = p.2 ∧ s.n2 = p.1)) := by
  unfold shortPairs at hp
  obtain ⟨s, hs, rfl⟩ := List.mem_map.mp hp
  obtain ⟨hsm, hc⟩ := List.mem_filter.mp hs
  simp only [Bool.and_eq_true, Bool.not_eq_true'] at hc
  refine ⟨s, hsm, hc.1, hc.2, ?_⟩
  split
  · exact Or.inl ⟨rfl, rfl⟩
  · exact Or.inr ⟨rfl, rfl⟩

theorem mem_shortPairs_of_short {N : Net L K} {keep : List (ElemKey K)} {s : Branch L K} (hs : s ∈ N.branches)
    (h1 : s.e.isShort = true) (h2 : keep.contains s.key = false) :
    (s.n1, s.n2) ∈ shortPairs N keep ∨ (s.n2, s.n1) ∈ shortPairs N keep := by
  have hf : s ∈ N.branches.filter fun b => b.e.isShort && !(keep.contains b.key) :=
    List.mem_filter.mpr ⟨hs, by rw [h1, h2]; rfl⟩
  unfold shortPairs
  by_cases hz : s.n1 = N.zero
  · right; exact List.mem_map.mpr ⟨s, hf, by simp [hz]⟩
  · left; exact List.mem_map.mpr ⟨s, hf, by simp [hz]⟩

theorem volt_zero_iff {R : Report L K} {b : Branch L K} (hv : voltResidual R b = 0) :
    R.v b.id = 0 ↔ R.pot b.n1 = R.pot b.n2 := by
  rw [sub_eq_zero.mp hv, sub_eq_zero]

theorem short_equipotential {R : Report L K} {b : Branch L K} (hs : b.e.isShort = true)
    (hv : voltResidual R b = 0) (hl : b.e.lawResidual (R.v b.id) (R.i b.id) = 0) : R.pot b.n1 = R.pot b.n2 :=
  (volt_zero_iff hv).mp (short_law_voltage hs hl)

/-- what soundness and the converse of the contraction loop ask of each pair -/
def PairShort (bs : List (Branch L K)) (p : L × L) : Prop :=
  p.1 = p.2 ∨ ∃ s ∈ bs, s.e = .norton 0 0 ∧ ((s.n1 = p.1 ∧ s.n2 = p.2) ∨ (s.n1 = p.2 ∧ s.n2 = p.1))

theorem PairShort.pot {bs : List (Branch L K)} {R : Report L K} {p : L × L} (hp : PairShort bs p)
    (hv : ∀ b ∈ bs, voltResidual R b = 0) (hl : ∀ b ∈ bs, b.e.lawResidual (R.v b.id) (R.i b.id) = 0) :
    R.pot p.1 = R.pot p.2 := by
  rcases hp with e | ⟨s, hs, hse, hsn⟩
  · rw [e]
  · have := short_equipotential (b := s) (by rw [hse]; simp [Elem.isShort]) (hv s hs) (hl s hs)
    rcases hsn with ⟨e1, e2⟩ | ⟨e1, e2⟩ <;> rw [← e1, ← e2]
    · exact this
    · exact this.symm

theorem pairShort_shortPairs (N : Net L K) (keep : List (ElemKey K)) :
    ∀ p ∈ shortPairs N keep, PairShort N.branches p := by
  intro p hp
  obtain ⟨s, hs, h1, _, hsn⟩ := mem_shortPairs hp
  exact Or.inr ⟨s, hs, isShort_eq h1, hsn⟩

/-- in a solution of the network the two ends of every contracted short are equipotential -/
theorem shortPairs_equipotential (N : Net L K) (keep : List (ElemKey K)) (R : Report L K)
    (h : CircuitEqs N R) : ∀ p ∈ shortPairs N keep, R.pot p.1 = R.pot p.2 :=
  fun p hp => (pairShort_shortPairs N keep p hp).pot h.volt h.law

end CC
