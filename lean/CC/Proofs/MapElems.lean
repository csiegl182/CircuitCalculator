/-
  CC.Proofs.MapElems — replacing the elements of a network (`Net.mapElems`) keeps terminals and identifiers, hence
  labels, validity and `network[id]`; a replacement that also keeps "is an ideal voltage source" and the finite
  admittance (`KeepsStructure`) keeps the index maps and the nodal matrix.  The source-free network
  (`Net.zeroSources`: `zeroSources_keeps`, CC/Proofs/Solvable.lean) and the sampled / phasor networks of the
  state-space properties are replacements of the second kind.  A skeleton with other source values (`withSrc`,
  CC/Proofs/Linear.lean) is a replacement (`withSrc_eq_mapElems`, CC/Properties/C04More.lean) that is used for labels
  and validity only; no lemma compares the matrices of two such skeletons.  The right-hand side of a network with
  replaced elements is, entry by entry, a sum over the branches of what each branch stamps into it (`mnaB_mapElems`).
-/
import CC.Spec.StateSpace
import CC.Proofs.NetBasics
import CC.Proofs.ListSum
set_option linter.unusedSectionVars false

namespace CC
section
variable {L K : Type} [DecidableEq L] [LabelOrd L] [Field K] [DecidableEq K]

def KeepsStructure (N : Net L K) (f : Branch L K → Elem K) : Prop :=
  ∀ b ∈ N.branches, (f b).isIdealVS = b.e.isIdealVS ∧ (f b).Yfin = b.e.Yfin

section mapElems
variable (N : Net L K) (f : Branch L K → Elem K)

theorem mapElems_ids : (N.mapElems f).ids = N.ids := by
  simp [Net.mapElems, Net.ids, Function.comp_def]

theorem mapElems_ids_nodup {N : Net L K} (f : Branch L K → Elem K) (h : N.ids.Nodup) : (N.mapElems f).ids.Nodup := by
  rw [mapElems_ids]; exact h

theorem mem_mapElems {b : Branch L K} (hb : b ∈ N.branches) : { b with e := f b } ∈ (N.mapElems f).branches :=
  List.mem_map.mpr ⟨b, hb, rfl⟩

theorem mapElems_nodeLabels :
    (N.mapElems f).nodeLabels = N.nodeLabels := by
  simp [Net.mapElems, Net.nodeLabels, Function.comp_def]

theorem mapElems_allLabels : (N.mapElems f).allLabels = N.allLabels := by
  simp [Net.mapElems, Net.allLabels, Function.comp_def]

theorem mapElems_nodes : (N.mapElems f).nodes = N.nodes := by
  unfold Net.nodes; rw [mapElems_nodeLabels]; rfl

theorem mapElems_wf (wf : N.WF) : (N.mapElems f).WF :=
  wf.of_map (fun b => { b with e := f b }) fun _ _ => ⟨rfl, rfl, rfl⟩

theorem mapElems_get? (id : String) :
    (N.mapElems f).get? id = (N.get? id).map fun b => { b with e := f b } := by
  unfold Net.get? Net.mapElems
  simp only [← List.map_reverse, List.find?_map, Function.comp_def]

theorem mem_nonVS {b : Branch L K} (h : b ∈ N.nonVS) : b ∈ N.branches :=
  (List.mem_filter.mp h).1

variable (hk : KeepsStructure N f)
include hk

omit hk in
theorem mapElems_filter (p : Elem K → Bool) (hp : ∀ b ∈ N.branches, p (f b) = p b.e) :
    (N.mapElems f).branches.filter (fun b => p b.e)
      = (N.branches.filter fun b => p b.e).map fun b => { b with e := f b } := by
  unfold Net.mapElems
  rw [List.filter_map]
  exact congrArg _ (List.filter_congr fun b hb => hp b hb)

theorem mapElems_vs :
    (N.mapElems f).vs = N.vs.map fun b => { b with e := f b } :=
  mapElems_filter N f Elem.isIdealVS fun b hb => (hk b hb).1

theorem mapElems_vsIds :
    (N.mapElems f).vsIds = N.vsIds := by
  unfold Net.vsIds; rw [mapElems_vs N f hk]; simp [Function.comp_def]

theorem mapElems_vsSorted :
    (N.mapElems f).vsSorted = N.vsSorted.map fun b => { b with e := f b } := by
  unfold Net.vsSorted Net.byIds
  rw [mapElems_vsIds N f hk, List.map_filterMap]
  congr 1
  funext x
  exact mapElems_get? N f x

theorem mapElems_nonVS :
    (N.mapElems f).nonVS = N.nonVS.map fun b => { b with e := f b } :=
  mapElems_filter N f (fun e => !e.isIdealVS) fun b hb => congrArg (!·) (hk b hb).1

theorem mapElems_Yentry (i j : L) :
    (N.mapElems f).Yentry i j = N.Yentry i j := by
  unfold Net.Yentry
  rw [mapElems_nonVS N f hk]
  have key : ∀ (p : Branch L K → Bool) (hp : ∀ b, p { b with e := f b } = p b),
      (((N.nonVS.map fun b => { b with e := f b }).filter p).map (·.e.Yfin)).sum
        = ((N.nonVS.filter p).map (·.e.Yfin)).sum := by
    intro p hp
    rw [List.filter_map, List.map_map]
    have : (N.nonVS.filter (p ∘ fun b => { b with e := f b })) = N.nonVS.filter p :=
      List.filter_congr fun b _ => hp b
    rw [this]
    congr 1
    apply List.map_congr_left
    intro b hb
    exact (hk b (mem_nonVS N (List.mem_filter.mp hb).1)).2
  by_cases h : i = j
  · simp only [h, if_true]
    exact key _ (fun b => rfl)
  · simp only [h, if_false]
    rw [key _ (fun b => rfl)]

theorem mapElems_mnaA :
    (N.mapElems f).mnaA = N.mnaA := by
  unfold Net.mnaA
  rw [mapElems_nodes, mapElems_vsSorted N f hk]
  simp only [List.map_map, Function.comp_def, mapElems_Yentry N f hk, Branch.dir]

end mapElems

theorem zs_agreeOn (N : Net L K) {R S : Report L K} : R.AgreeOn N.zeroSources S ↔ R.AgreeOn N S :=
  and_congr (by rw [show N.zeroSources.allLabels = _ from mapElems_allLabels N _])
    (by show (∀ b ∈ N.branches.map _, _) ↔ _; rw [List.forall_mem_map])

theorem map_eq_range_map {α : Type} (l : List α) (g : α → K) :
    l.map g = (List.range l.length).map fun i => (l[i]?).elim 0 g := by
  apply List.ext_getElem
  · simp only [List.length_map, List.length_range]
  · intro i h1 h2
    have hi : i < l.length := by simpa using h1
    simp only [List.getElem_map, List.getElem_range, List.getElem?_eq_getElem hi, Option.elim_some]

section rhs
variable (N : Net L K) (f : Branch L K → Elem K)

theorem rhsNode_mapElems (hids : N.ids.Nodup) (n : L) :
    (N.mapElems f).rhsNode n = (N.branches.map fun b => N.Qentry b n * (f b).Ival).sum := by
  unfold Net.rhsNode
  rw [sum_map_perm (csSorted_perm _ (mapElems_ids_nodup f hids))]
  unfold Net.cs
  rw [sum_filter_eq_sum_ite]
  show ((N.branches.map fun b => ({ b with e := f b } : Branch L K)).map _).sum = _
  rw [List.map_map]
  congr 1
  apply List.map_congr_left
  intro b _
  simp only [Function.comp]
  have hq : (N.mapElems f).Qentry { b with e := f b } n = N.Qentry b n := rfl
  rw [hq]
  by_cases h : (f b).isCS = true
  · simp only [h, ↓reduceIte]
  · have : (f b).Ival = 0 := by
      unfold Elem.isCS at h
      simpa using h
    simp only [h, Bool.false_eq_true, ↓reduceIte, this, mul_zero]

/-- what the branch `b`, carrying the element `e`, adds to entry `i` of the right-hand side: its source current with
the sign pattern of `source_incidence_matrix` in a node row, its source voltage in its own voltage-source row -/
def Net.stamp (e : Elem K) (b : Branch L K) (i : Nat) : K :=
  match N.nodes[i]? with
  | some n => N.Qentry b n * e.Ival
  | none => if N.vsIds[i - N.nN]? = some b.id then e.Vval else 0

theorem mnaB_mapElems (hk : KeepsStructure N f) (hids : N.ids.Nodup) :
    (N.mapElems f).mnaB = (List.range N.nY).map fun i => (N.branches.map fun b => N.stamp (f b) b i).sum := by
  have hny : N.nY = N.nodes.length + N.vsSorted.length := by
    unfold Net.nY Net.nN Net.nV; rw [vsSorted_length N hids]
  unfold Net.mnaB
  rw [mapElems_nodes, mapElems_vsSorted N f hk, List.map_map, hny, List.range_add, List.map_append, List.map_map,
    map_eq_range_map N.nodes, map_eq_range_map N.vsSorted]
  congr 1
  · refine List.map_congr_left fun i hi => ?_
    have hn := List.getElem?_eq_getElem (List.mem_range.mp hi)
    simp only [hn, Option.elim_some, rhsNode_mapElems N f hids, Net.stamp]
  · refine List.map_congr_left fun r hr => ?_
    have hr' : r < N.vsSorted.length := List.mem_range.mp hr
    have hrv : r < N.vsIds.length := by rw [← vsSorted_length N hids]; exact hr'
    have hbm : N.vsSorted[r] ∈ N.branches := ((mem_vsSorted N hids).mp (List.getElem_mem hr')).1
    have hid : N.vsIds[r] = N.vsSorted[r].id := by
      have h2 : (N.vsSorted.map (·.id))[r]? = N.vsIds[r]? := by rw [vsSorted_ids N hids]
      rw [List.getElem?_map, List.getElem?_eq_getElem hr', List.getElem?_eq_getElem hrv] at h2
      exact (Option.some.inj h2).symm
    simp only [Function.comp, List.getElem?_eq_getElem hr', Option.elim_some, Net.stamp,
      show N.nodes[N.nodes.length + r]? = none from List.getElem?_eq_none (Nat.le_add_right _ r),
      show N.nN = N.nodes.length from rfl, Nat.add_sub_cancel_left, List.getElem?_eq_getElem hrv, hid,
      Option.some.injEq]
    -- among all branches only the `r`-th voltage source has the identifier of row `r`: identifiers are distinct
    exact (sum_pick_key N.branches (·.id) hids hbm fun b => (f b).Vval).symm

end rhs
end
end CC
