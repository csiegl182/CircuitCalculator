/-
  On a dictionary that has the keys `N1`, `N2`, `id` and `type`, `entry_to_branch` (loaders.py:42-48) is `dispatch` on the
  `type` value and on what its four `pop`s leave of the entry (`stripped`): `entryToBranchObj_eq`.  No Mathlib.
-/
import CC.Model.Load
import CC.Spec.Load
import CC.Proofs.ListLemmas
namespace CC.Load
open CC.Gen.Load CC.Spec.Load

/-- `complex(x, y)` of two real numbers -/
theorem cart_value (x y : Rat) : (⟨x, 0⟩ : GQ) + GQ.j * ⟨y, 0⟩ = ⟨x, y⟩ := by
  simp [GQ.add_def, GQ.mul_def, GQ.j]; grind

/-- `r * complex(c, s)` for a real `r` -/
theorem polar_value (a c s : Rat) : (⟨a, 0⟩ : GQ) * ⟨c, s⟩ = ⟨a * c, a * s⟩ := by
  simp [GQ.mul_def]; grind

theorem Obj.find_del_self (o : Obj) (k : String) : Obj.find (Obj.del o k) k = none := by
  induction o with
  | nil => simp [Obj.del, Obj.find]
  | cons p r ih =>
    obtain ⟨k', v⟩ := p
    by_cases h : k' = k <;> simp [Obj.del, Obj.find, h, ih]

theorem Obj.find_del_ne (o : Obj) (k k2 : String) (h : k2 ≠ k) :
    Obj.find (Obj.del o k) k2 = Obj.find o k2 := by
  induction o with
  | nil => simp [Obj.del, Obj.find]
  | cons p r ih =>
    obtain ⟨k', v⟩ := p
    by_cases h1 : k' = k <;> by_cases h2 : k' = k2 <;> simp_all [Obj.del, Obj.find]

theorem Obj.find_del_none {o : Obj} {k p : String} (h : Obj.find o p = none) : Obj.find (Obj.del o k) p = none := by
  by_cases hp : p = k
  · subst hp; exact Obj.find_del_self o p
  · rw [Obj.find_del_ne o k p hp]; exact h

theorem Obj.find_put_ne (o : Obj) (k k2 : String) (v : J) (h : k2 ≠ k) :
    Obj.find (Obj.put o k v) k2 = Obj.find o k2 := by
  induction o with
  | nil => simp [Obj.put, Obj.find]; intro e; exact absurd e.symm h
  | cons p r ih =>
    obtain ⟨k', x⟩ := p
    by_cases h1 : k' = k <;> by_cases h2 : k' = k2 <;> simp_all [Obj.put, Obj.find]

theorem Obj.put_same (o : Obj) (k : String) (v : J) (h : Obj.find o k = some v) : Obj.put o k v = o := by
  induction o with
  | nil => simp [Obj.find] at h
  | cons p r ih =>
    obtain ⟨k', x⟩ := p
    by_cases h1 : k' = k
    · subst h1; simp [Obj.find] at h; simp [Obj.put, h]
    · simp [Obj.find, h1] at h; simp [Obj.put, h1, ih h]

theorem Obj.find_eq_none (o : Obj) (k : String) (h : k ∉ o.map (·.1)) : Obj.find o k = none := by
  induction o with
  | nil => rfl
  | cons p r ih =>
    obtain ⟨k', v⟩ := p
    simp only [List.map_cons, List.mem_cons, not_or] at h
    simp [Obj.find, Ne.symm h.1, ih h.2]

theorem Obj.find_map {α : Type} (l : List (String × α)) (g : String × α → J) (k : String) :
    Obj.find (l.map fun x => (x.1, g x)) k = (l.find? fun x => x.1 == k).map g := by
  induction l with
  | nil => rfl
  | cons q r ih => by_cases hk : q.1 = k <;> simp [Obj.find, hk, ih]

theorem find_map_of_mem {α : Type} (l : List (String × α)) (g : String × α → J) (kv : String × α)
    (hm : kv ∈ l) (hn : (l.map (·.1)).Nodup) :
    Obj.find (l.map fun x => (x.1, g x)) kv.1 = some (g kv) := by
  rw [Obj.find_map, find?_of_mem_nodup l kv.1 kv.2 hm hn]; rfl

theorem Obj.del_of_find_none (o : Obj) (k : String) (h : Obj.find o k = none) : Obj.del o k = o := by
  induction o with
  | nil => rfl
  | cons p r ih =>
    obtain ⟨k', v⟩ := p
    by_cases hk : k' = k
    · simp [Obj.find, hk] at h
    · simp only [Obj.find, hk, if_false] at h
      simp [Obj.del, hk, ih h]

theorem Obj.put_of_find_none (o : Obj) (k : String) (v : J) (h : Obj.find o k = none) :
    Obj.put o k v = o ++ [(k, v)] := by
  induction o with
  | nil => rfl
  | cons p r ih =>
    obtain ⟨k', x⟩ := p
    by_cases hk : k' = k
    · simp [Obj.find, hk] at h
    · simp only [Obj.find, hk, if_false] at h
      simp [Obj.put, hk, ih h]

theorem Obj.find_put_self (o : Obj) (k : String) (v : J) : Obj.find (Obj.put o k v) k = some v := by
  induction o with
  | nil => simp [Obj.put, Obj.find]
  | cons p r ih =>
    obtain ⟨k', x⟩ := p
    by_cases h : k' = k <;> simp [Obj.put, Obj.find, h, ih]

theorem Obj.find_append (a b : Obj) (q : String) (h : Obj.find a q = none) : Obj.find (a ++ b) q = Obj.find b q := by
  induction a with
  | nil => rfl
  | cons p r ih =>
    obtain ⟨k, x⟩ := p
    by_cases hk : k = q
    · simp [Obj.find, hk] at h
    · simp only [Obj.find, hk, if_false] at h
      simp [Obj.find, hk, ih h]

theorem Obj.read_some {o o' : Obj} {k : String} {how : KeyRead} {v : J} (h : Obj.read o k how = some (v, o')) :
    Obj.find o k = some v ∧ (∀ q, q ≠ k → Obj.find o' q = Obj.find o q) ∧
      (∀ q, Obj.find o q = none → Obj.find o' q = none) := by
  unfold Obj.read at h
  cases hfk : Obj.find o k with
  | none => rw [hfk] at h; cases h
  | some v' =>
    rw [hfk] at h
    simp only [Option.some.injEq, Prod.mk.injEq] at h
    obtain ⟨rfl, rfl⟩ := h
    cases how with
    | pop => exact ⟨rfl, fun q hq => Obj.find_del_ne _ _ _ hq, fun q hq => Obj.find_del_none hq⟩
    | get => exact ⟨rfl, fun _ _ => rfl, fun _ hq => hq⟩

/-- the entry after the four `pop`s of `entry_to_branch` and its `entry['name'] = id`: the keywords the loader is called with -/
def stripped (o : Obj) (id : J) : Obj :=
  Obj.del (Obj.put (Obj.del (Obj.del (Obj.del o "N1") "N2") "id") "name" id) "type"

theorem entryReads_eq : entryRead "n1" = ("N1", .pop) ∧ entryRead "n2" = ("N2", .pop) ∧
    entryRead "name" = ("id", .pop) ∧ entryRead "type" = ("type", .pop) := by decide +kernel

/-- `network_branch_translators[ty](**kw)` wrapped into a branch: `entry_to_branch` from its look-up of the `type` value on -/
def dispatch (T : Trig) (n1 n2 ty : J) (kw : Obj) : Except Err LBranch :=
  match ty with
  | .str kind =>
    match networkBranchTranslators.find? (fun L => L.kind == kind) with
    | none => .error .keyError
    | some L => applyLoader T L n1 n2 kw
  | .arr _ => .error .typeError
  | .obj _ => .error .typeError
  | _ => .error .keyError

theorem dispatch_unknown (T : Trig) (n1 n2 : J) (kw : Obj) {kind : String}
    (h : kind ∉ networkBranchTranslators.map (·.kind)) : dispatch T n1 n2 (.str kind) kw = .error .keyError := by
  simp only [dispatch, find?_eq_none_of_not_mem_map h]

theorem dispatch_ok {T : Trig} {n1 n2 ty : J} {kw : Obj} {b : LBranch} (h : dispatch T n1 n2 ty kw = .ok b) :
    ∃ kind L, ty = .str kind ∧ networkBranchTranslators.find? (fun L => L.kind == kind) = some L ∧
      applyLoader T L n1 n2 kw = .ok b := by
  cases ty with
  | str kind =>
    cases hL : networkBranchTranslators.find? (fun L => L.kind == kind) with
    | none => simp [dispatch, hL] at h
    | some L => exact ⟨kind, L, rfl, hL, by simpa [dispatch, hL] using h⟩
  | _ => cases h

theorem entryToBranchObj_fields (T : Trig) (o : Obj) :
    (entryToBranchObj T o).1 =
      match Obj.find o "N1" with
      | none => .error .keyError
      | some n1 =>
        match Obj.find o "N2" with
        | none => .error .keyError
        | some n2 =>
          match Obj.find o "id" with
          | none => .error .keyError
          | some id =>
            match Obj.find o "type" with
            | none => .error .keyError
            | some ty => dispatch T n1 n2 ty (stripped o id) := by
  obtain ⟨e1, e2, e3, e4⟩ := entryReads_eq
  unfold entryToBranchObj
  simp only [e1, e2, e3, e4, Obj.read]
  cases Obj.find o "N1" with
  | none => rfl
  | some n1 =>
    simp (disch := decide) only [Obj.find_del_ne]
    cases Obj.find o "N2" with
    | none => rfl
    | some n2 =>
      simp (disch := decide) only [Obj.find_del_ne]
      cases Obj.find o "id" with
      | none => rfl
      | some id =>
        simp (disch := decide) only [Obj.find_del_ne, Obj.find_put_ne]
        cases Obj.find o "type" with
        | none => rfl
        | some ty =>
          unfold dispatch stripped
          cases ty <;> simp only []
          rename_i kind
          cases networkBranchTranslators.find? (fun L => L.kind == kind) <;> rfl

theorem entryToBranchObj_eq (T : Trig) (o : Obj) (n1 n2 id ty : J)
    (h1 : Obj.find o "N1" = some n1) (h2 : Obj.find o "N2" = some n2) (h3 : Obj.find o "id" = some id)
    (h4 : Obj.find o "type" = some ty) :
    (entryToBranchObj T o).1 = dispatch T n1 n2 ty (stripped o id) := by
  rw [entryToBranchObj_fields, h1, h2, h3, h4]

theorem entryToBranch_obj (T : Trig) (o : Obj) : (entryToBranch T (.obj o)).1 = (entryToBranchObj T o).1 := by
  simp [entryToBranch, entryCopied, pyDict]

theorem stripped_tree (ty id n1 n2 : J) (fields : Obj)
    (hk : ∀ k ∈ ["N1", "N2", "id", "name", "type"], k ∉ fields.map (·.1)) :
    stripped (("type", ty) :: ("id", id) :: ("N1", n1) :: ("N2", n2) :: fields) id = fields ++ [("name", id)] := by
  have h := fun k hm => Obj.find_eq_none fields k (hk k hm)
  have hd : ∀ k ∈ ["N1", "N2", "id", "name", "type"], Obj.del fields k = fields :=
    fun k hk => Obj.del_of_find_none fields k (h k hk)
  have hp := Obj.put_of_find_none fields "name" id (h _ (by simp))
  have ht : Obj.find (fields ++ [("name", id)]) "type" = none := by
    rw [← hp, Obj.find_put_ne _ _ _ _ (by decide +kernel)]; exact h _ (by simp)
  simp [stripped, Obj.del, Obj.put, hd, hp, Obj.del_of_find_none _ _ ht]

end CC.Load