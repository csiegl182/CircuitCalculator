/-
  CC.Proofs.FmtReaders — the composite readers `parseCartesian` (CC.Spec.Fmt), `parseSinusoid`, `parsePQ`
  (CC.Spec.FmtReaders) on the shapes the formatters print, and the sign convention `Text.withNeg` against the clauses of
  `RealOK`.  Every lemma is about the readers and arbitrary part texts: none mentions the model of the formatters.
-/
import CC.Spec.FmtReaders
import CC.Proofs.FmtPolar

namespace CC.Fmt
open CC.Gen.Fmt

theorem parseBack_nil (u : List Char) : parseBack u [] = none := by
  unfold parseBack
  simp [parseMant, parseUnsigned, takeNat]

theorem parseBack_space (u s : List Char) : parseBack u (' ' :: s) = none := by
  unfold parseBack
  have h : isDigit ' ' = false := by decide
  simp [parseMant, parseUnsigned, takeNat, h]

theorem parseBack_minus {u s : List Char} {t : Text} (h : parseBack u ('-' :: s) = some t) : t.isNeg = true := by
  have h1 : ('-' :: s) ≠ ['∞'] := by
    intro e; have := (List.cons.inj e).1; revert this; decide
  unfold parseBack at h
  rw [if_neg h1] at h
  split at h
  · cases h; rfl
  · unfold parseMant at h
    cases hU : parseUnsigned s with
    | none => simp [hU] at h
    | some r =>
      simp only [hU, Option.map_some] at h
      cases hT : parseTail u (parseExp r.2.2.2).2 with
      | none => simp [hT] at h
      | some k => simp only [hT, Option.some.injEq] at h; rw [← h]; rfl

theorem Parsed.value_ne_zero {q : Parsed} (h : 1 ≤ q.mant) : q.value ≠ 0 := by
  unfold Parsed.value
  have := pow10_pos q.exp
  have hm : q.mant ≠ 0 := by linarith
  cases q.neg <;> simp [hm, this.ne']

theorem isNeg_of_realFailures_pos {v : ℚ} {p : ℕ} {m : ℤ} {t : Text} (h : realFailures v p m (some t) = [])
    (hv : 0 < v) : t.isNeg = false := by
  have hd : decide (v < 0) = false := by simp [le_of_lt hv]
  cases t with
  | inf n => rw [realFailures_inf, hd] at h; exact h.2
  | num q =>
    rw [realFailures_num, hd] at h
    obtain ⟨_, _, hm, _, hs⟩ := h
    rcases hs with hs | hs
    · exact absurd hs (Parsed.value_ne_zero hm.1)
    · exact hs

/-- the sign convention: a magnitude text that reads back to `|x|`, with the sign `b` read off a separate character, reads
back to `±|x|` -/
theorem realFailures_withNeg_flag {x : ℚ} {p : ℕ} {m : ℤ} {t : Text} (b : Bool)
    (h : realFailures (qabs x) p m (some t) = []) (hx : x ≠ 0) :
    realFailures ((if b then -1 else 1) * qabs x) p m (some (t.withNeg b)) = [] := by
  have hpos : 0 < qabs x := qabs_pos hx
  have hneg := isNeg_of_realFailures_pos h hpos
  have hq : qabs ((if b then -1 else 1) * qabs x) = qabs x := by
    rw [qabs_eq_abs, qabs_eq_abs, abs_mul, abs_abs]; cases b <;> simp
  have hb : decide ((if b then -1 else 1) * qabs x < 0) = b := by
    cases b
    · simp [hpos.le]
    · simp [hpos]
  cases t with
  | inf n =>
    rw [realFailures_inf] at h
    show realFailures _ p m (some (.inf b)) = []
    rw [realFailures_inf, hb]
    refine ⟨?_, rfl⟩
    have := h.1
    unfold BeyondRounded halfUnit at this ⊢
    rwa [hq, ← qabs_qabs x]
  | num q =>
    rw [realFailures_num] at h
    obtain ⟨h1, h2, h3, h4, _⟩ := h
    show realFailures _ p m (some (.num { q with neg := b })) = []
    rw [realFailures_num, hb]
    refine ⟨?_, h2, h3, ?_, Or.inr rfl⟩
    · unfold Beyond at h1 ⊢; rwa [hq, ← qabs_qabs x]
    · have hqn : q.neg = false := hneg
      unfold AccurateTol halfUnit at h4 ⊢
      rw [qabs_qabs] at h4
      rw [hq]
      refine le_trans (le_of_eq ?_) h4
      simp only [Parsed.value, Parsed.mant, Parsed.exp, hqn, qabs_eq_abs, Bool.false_eq_true, ↓reduceIte, one_mul]
      cases b
      · simp
      · rw [if_pos rfl, ← abs_neg]; congr 1; ring

theorem realFailures_withNeg {v : ℚ} {p : ℕ} {m : ℤ} {t : Text} (h : realFailures (qabs v) p m (some t) = [])
    (hv : v ≠ 0) : realFailures v p m (some (t.withNeg (decide (v < 0)))) = [] := by
  have := realFailures_withNeg_flag (decide (v < 0)) h hv
  rwa [sign_mul_qabs] at this

/-- the signed real part as `parseCartesian` reads it -/
def parseSignedC (unit s : List Char) : Option Text :=
  match s with
  | '-' :: ' ' :: t => (parseBack unit t).map (Text.withNeg · true)
  | '-' :: t => (parseBack unit t).map (Text.withNeg · true)
  | _ => parseBack unit s

/-- `parseCartesian` of `CC.Spec.Fmt` with its local helpers named (definitional) -/
theorem parseCartesian_eq (unit s : List Char) : parseCartesian unit s =
    match splitOn1 'j' s with
    | none => (parseSignedC unit s).map fun t => (some t, none)
    | some (l, r) =>
      match parseBack unit r with
      | none => none
      | some im =>
        match (dropTrailingSpaces l).reverse with
        | [] => some (none, some im)
        | sg :: restRev =>
          if sg = '+' ∨ sg = '-' then
            if dropTrailingSpaces restRev.reverse = [] then some (none, some (im.withNeg (decide (sg = '-'))))
            else (parseSignedC unit (dropTrailingSpaces restRev.reverse)).map fun re =>
              (some re, some (im.withNeg (decide (sg = '-'))))
          else none := rfl

theorem stripL_of_head {s : List Char} (h : ∀ c t, s = c :: t → c ≠ ' ') : stripL s = s := by
  cases s with
  | nil => rfl
  | cons c t => simp [stripL, h c t rfl]

theorem dts_append_space (a : List Char) : dropTrailingSpaces (a ++ [' ']) = dropTrailingSpaces a := by
  unfold dropTrailingSpaces
  simp [stripL]

theorem dts_append_char (a : List Char) {c : Char} (hc : c ≠ ' ') : dropTrailingSpaces (a ++ [c]) = a ++ [c] := by
  unfold dropTrailingSpaces
  simp [stripL, hc]

theorem dts_nil : dropTrailingSpaces [] = [] := rfl

theorem dts_append (a : List Char) {b : List Char} (hb : b ≠ []) (hs : ' ' ∉ b) :
    dropTrailingSpaces (a ++ b) = a ++ b := by
  obtain ⟨b', c, rfl⟩ : ∃ b' c, b = b' ++ [c] := by
    rcases List.eq_nil_or_concat b with h | ⟨b', c, h⟩
    · exact absurd h hb
    · exact ⟨b', c, by simpa using h⟩
  have hc : c ≠ ' ' := fun e => hs (by simp [e])
  rw [← List.append_assoc]
  exact dts_append_char _ hc

theorem withNeg_false_of_isNeg {t : Text} (h : t.isNeg = false) : t.withNeg false = t := by
  cases t with
  | inf n => simp only [Text.isNeg] at h; subst h; rfl
  | num q => simp only [Text.isNeg] at h; show Text.num { q with neg := false } = _; rw [← h]

/-- the sign strings of `ScientificComplex.__str__` (`sc_real_sign_eq`, `sc_imag_sign_eq`); the text theorems
(`C18_complex`, `C18_complex_shown_parts`) write them out as `let sr / si`, `reSign_eq` / `imSign_eq` lead back here -/
def reSign (compact : Bool) (re : ℚ) : List Char := if 0 ≤ re then [] else if compact then ['-'] else ['-', ' ']
def imSign (compact : Bool) (im : ℚ) : List Char :=
  if 0 ≤ im then (if compact then ['+'] else [' ', '+', ' ']) else (if compact then ['-'] else [' ', '-', ' '])

theorem reSign_eq (compact : Bool) (re : ℚ) :
    reSign compact re = if 0 ≤ re then [] else if compact then ['-'] else ['-', ' '] := rfl
theorem imSign_eq (compact : Bool) (im : ℚ) :
    imSign compact im = if 0 ≤ im then (if compact then ['+'] else [' ', '+', ' '])
      else (if compact then ['-'] else [' ', '-', ' ']) := rfl

theorem reSign_no_j (compact : Bool) (re : ℚ) : 'j' ∉ reSign compact re := by
  unfold reSign; split_ifs <;> decide

theorem parseSignedC_signed (unit T : List Char) (compact : Bool) (re : ℚ) {t : Text}
    (h : parseBack unit T = some t) (hn : t.isNeg = false) :
    parseSignedC unit (reSign compact re ++ T) = some (t.withNeg (decide (re < 0))) := by
  unfold reSign
  by_cases hre : 0 ≤ re
  · rw [if_pos hre, decide_eq_false (not_lt.mpr hre), withNeg_false_of_isNeg hn, List.nil_append]
    -- an unsigned text does not start with `-`
    unfold parseSignedC
    split
    · have := parseBack_minus h; rw [hn] at this; exact absurd this (by decide)
    · have := parseBack_minus h; rw [hn] at this; exact absurd this (by decide)
    · exact h
  · rw [if_neg hre, decide_eq_true (not_le.mp hre)]
    cases compact
    · show (parseBack unit T).map (Text.withNeg · true) = _
      rw [h]; rfl
    · unfold parseSignedC
      split
      · rename_i s heq
        have : T = ' ' :: s := by simpa using heq
        rw [this, parseBack_space] at h; cases h
      · rename_i s _ heq
        have : T = s := by simpa using heq
        subst this; rw [h]; rfl
      · rename_i h1 h2; exact absurd rfl (h2 T)

theorem parseCartesian_re (unit s : List Char) (hj : 'j' ∉ s) :
    parseCartesian unit s = (parseSignedC unit s).map fun t => (some t, none) := by
  rw [parseCartesian_eq, splitOn1_none _ _ hj]

theorem parseCartesian_im_pos (unit Tim : List Char) {im : Text} (hIm : parseBack unit Tim = some im) :
    parseCartesian unit ('j' :: Tim) = some (none, some im) := by
  rw [parseCartesian_eq]
  have : splitOn1 'j' ('j' :: Tim) = some ([], Tim) := by simp [splitOn1]
  rw [this]
  simp only [hIm]
  rfl

theorem parseCartesian_full (unit X Tim : List Char) (sg : Char) (hsg : sg = '+' ∨ sg = '-') (compact : Bool)
    (hj : 'j' ∉ X) (hX : dropTrailingSpaces X = X) {im : Text} (hIm : parseBack unit Tim = some im) :
    parseCartesian unit (X ++ (if compact then [sg] else [' ', sg, ' ']) ++ ['j'] ++ Tim)
      = if X = [] then some (none, some (im.withNeg (decide (sg = '-'))))
        else (parseSignedC unit X).map fun re => (some re, some (im.withNeg (decide (sg = '-')))) := by
  have hsgj : sg ≠ 'j' := by rcases hsg with rfl | rfl <;> decide
  have hsgs : sg ≠ ' ' := by rcases hsg with rfl | rfl <;> decide
  have hjl : 'j' ∉ X ++ (if compact then [sg] else [' ', sg, ' ']) := by
    intro h
    rcases List.mem_append.mp h with h | h
    · exact hj h
    · have hmem : ∀ x ∈ (if compact then [sg] else [' ', sg, ' ']), x = ' ' ∨ x = sg := by
        cases compact <;> simp
      rcases hmem 'j' h with e | e
      · exact absurd e (by decide)
      · exact hsgj e.symm
  rw [parseCartesian_eq, List.append_assoc _ ['j'] Tim, List.singleton_append, splitOn1_append _ _ _ hjl]
  simp only [hIm]
  have hrev : ∃ rest, (dropTrailingSpaces (X ++ (if compact then [sg] else [' ', sg, ' ']))).reverse = sg :: rest
      ∧ dropTrailingSpaces rest.reverse = X := by
    cases compact
    · refine ⟨(X ++ [' ']).reverse, ?_, by rw [List.reverse_reverse, dts_append_space]; exact hX⟩
      simp only [Bool.false_eq_true, ↓reduceIte]
      have : X ++ [' ', sg, ' '] = (X ++ [' '] ++ [sg]) ++ [' '] := by simp
      rw [this, dts_append_space, dts_append_char _ hsgs]; simp
    · refine ⟨X.reverse, ?_, by rw [List.reverse_reverse]; exact hX⟩
      simp only [↓reduceIte]
      rw [dts_append_char _ hsgs]; simp
  obtain ⟨rest, h1, h2⟩ := hrev
  rw [h1]
  simp only [hsg, ↓reduceIte, h2]

theorem parseCartesian_im_only (unit Tim : List Char) (compact : Bool) (im : ℚ) {ti : Text}
    (hi : parseBack unit Tim = some ti) (ni : ti.isNeg = false) :
    parseCartesian unit (if im < 0 then (if compact then ['-'] else [' ', '-', ' ']) ++ ['j'] ++ Tim else ['j'] ++ Tim)
      = some (none, some (ti.withNeg (decide (im < 0)))) := by
  by_cases hneg : im < 0
  · have := parseCartesian_full unit [] Tim '-' (Or.inr rfl) compact (by simp) dts_nil hi
    rw [if_pos hneg, decide_eq_true hneg]
    simpa using this
  · rw [if_neg hneg, decide_eq_false hneg, withNeg_false_of_isNeg ni]
    exact parseCartesian_im_pos _ _ hi

theorem parseCartesian_re_only (unit Tre : List Char) (compact : Bool) (re : ℚ) {tr : Text}
    (hr : parseBack unit Tre = some tr) (nr : tr.isNeg = false) (jr : 'j' ∉ Tre) :
    parseCartesian unit (reSign compact re ++ Tre) = some (some (tr.withNeg (decide (re < 0))), none) := by
  have jX : 'j' ∉ reSign compact re ++ Tre := fun h => (List.mem_append.mp h).elim (reSign_no_j _ _) jr
  rw [parseCartesian_re _ _ jX, parseSignedC_signed unit Tre compact re hr nr]; rfl

theorem parseCartesian_both (unit Tre Tim : List Char) (compact : Bool) (re im : ℚ) {tr ti : Text}
    (hr : parseBack unit Tre = some tr) (nr : tr.isNeg = false) (hi : parseBack unit Tim = some ti)
    (jr : 'j' ∉ Tre) (sr : ' ' ∉ Tre) :
    parseCartesian unit (reSign compact re ++ Tre ++ imSign compact im ++ ['j'] ++ Tim)
      = some (some (tr.withNeg (decide (re < 0))), some (ti.withNeg (decide (im < 0)))) := by
  have ner : Tre ≠ [] := by intro e; rw [e, parseBack_nil] at hr; cases hr
  have jX : 'j' ∉ reSign compact re ++ Tre := fun h => (List.mem_append.mp h).elim (reSign_no_j _ _) jr
  have hsigned : parseSignedC unit (reSign compact re ++ Tre) = some (tr.withNeg (decide (re < 0))) :=
    parseSignedC_signed unit Tre compact re hr nr
  have hX : dropTrailingSpaces (reSign compact re ++ Tre) = reSign compact re ++ Tre := dts_append _ ner sr
  have hXne : reSign compact re ++ Tre ≠ [] := by simp [ner]
  unfold imSign
  by_cases hpos : 0 ≤ im
  · have := parseCartesian_full unit _ Tim '+' (Or.inl rfl) compact jX hX hi
    rw [if_neg hXne, hsigned] at this
    rw [if_pos hpos, decide_eq_false (not_lt.mpr hpos)]
    simpa using this
  · have := parseCartesian_full unit _ Tim '-' (Or.inr rfl) compact jX hX hi
    rw [if_neg hXne, hsigned] at this
    rw [if_neg hpos, decide_eq_true (not_le.mp hpos)]
    simpa using this

theorem stripLast_append (c : Char) (s : List Char) : stripLast c (s ++ [c]) = some s := by
  unfold stripLast; simp

theorem stripLast_none {c : Char} {s : List Char} (h : c ∉ s) : stripLast c s = none := by
  unfold stripLast
  split
  · rename_i d r heq
    have hd : d ∈ s := by rw [← List.mem_reverse, heq]; simp
    have : d ≠ c := fun e => h (e ▸ hd)
    simp [this]
  · rfl

theorem parsePhase_nil : parsePhase [] = some (none, false) := rfl

theorem parsePhase_rad (pos : Prop) [Decidable pos] {T : List Char} (hT : '°' ∉ T) {t : Text}
    (h : parseBack [] T = some t) :
    parsePhase ((if pos then ['+'] else ['-']) ++ T) = some (some (t.withNeg (decide ¬pos)), false) := by
  unfold parsePhase
  by_cases hp : pos <;>
    simp [hp, stripLast_none hT, h]

theorem parsePhase_deg (pos : Prop) [Decidable pos] {T' : List Char} {t : Text}
    (h : parseBack ['°'] (T' ++ ['°']) = some t) :
    parsePhase ((if pos then ['+'] else ['-']) ++ (T' ++ ['°'])) = some (some (t.withNeg (decide ¬pos)), true) := by
  unfold parsePhase
  by_cases hp : pos <;>
    simp [hp, stripLast_append, h]

theorem parseSinusoid_wave (unit A X Y ph : List Char) (sine hertz : Bool) (hA : '·' ∉ A) {amp : Text}
    (h : parseBack unit A = some amp) (hF : '·' ∉ (if hertz then X else Y)) (hpi : 'π' ∉ (if hertz then X else Y))
    {fq : Text} (hfq : parseBack (if hertz then ['H', 'z'] else ['/', 's']) (if hertz then X else Y) = some fq)
    {p : Option Text} {d : Bool} (hph : parsePhase ph = some (p, d)) :
    parseSinusoid unit (A ++ ['·'] ++ (if sine then ['s', 'i', 'n'] else ['c', 'o', 's']) ++ ['(']
        ++ (if hertz then ['2', 'π', '·'] ++ X else Y) ++ ['·', 't'] ++ ph ++ [')'])
      = some (.wave { amplitude := amp, sine := sine, hertz := hertz, freq := fq, phase := p, deg := d }) := by
  have hsplit : ∀ F, '·' ∉ F → splitOn1 '·' (F ++ '·' :: 't' :: (ph ++ [')'])) = some (F, 't' :: (ph ++ [')'])) :=
    fun F hF => splitOn1_append _ _ _ hF
  have h2pi : ∀ r, splitOn1 '·' ('2' :: 'π' :: '·' :: r) = some (['2', 'π'], r) :=
    fun r => splitOn1_append '·' ['2', 'π'] r (by decide)
  have hne : ∀ F : List Char, 'π' ∉ F → F ≠ ['2', 'π'] := fun F hF e => hF (by rw [e]; simp)
  have hA' : ∀ r, splitOn1 '·' (A ++ '·' :: r) = some (A, r) := fun r => splitOn1_append _ _ _ hA
  unfold parseSinusoid parseWaveArg
  -- for each value of the two flags the reader runs through: split at the first `·`, strip `sin(` / `cos(`, split
  -- at `·` (twice after `2π`), read the frequency, strip `)`, read the phase
  cases sine <;> cases hertz <;> simp only [Bool.false_eq_true, ↓reduceIte] at hfq hF hpi <;>
    simp (config := { decide := true }) only [↓reduceIte, List.cons_append, List.nil_append,
      List.append_assoc, stripPrefix, Option.map_some, hA', h, hsplit _ hF, h2pi, hne _ hpi, hfq, stripLast_append, hph]

theorem parseSinusoid_const (unit s : List Char) (hs : '·' ∉ s) :
    parseSinusoid unit s = (parseBack unit s).map .const := by
  unfold parseSinusoid
  rw [splitOn1_none _ _ hs]

theorem parsePQ_p (P : Prop) [Decidable P] (TP : List Char) (hP : '\n' ∉ TP) {t : Text}
    (h : parseBack ['W'] TP = some t) :
    parsePQ (['P', ':', ' '] ++ (if P then ['↓'] else ['↑']) ++ TP) = some { pDown := decide P, p := t, q := none } := by
  unfold parsePQ
  by_cases hp : P <;>
    simp only [hp, ↓reduceIte, List.cons_append, List.nil_append, stripPrefix, Option.bind_some,
      parseArrow, splitOn1_none _ _ hP, h, Option.map_some, decide_true, decide_false]

theorem parsePQ_pq (P Q : Prop) [Decidable P] [Decidable Q] (TP TQ : List Char) (hP : '\n' ∉ TP) {t u : Text}
    (h : parseBack ['W'] TP = some t) (hq : parseBack ['v', 'a', 'r'] TQ = some u) :
    parsePQ (['P', ':', ' '] ++ (if P then ['↓'] else ['↑']) ++ TP
        ++ (['\n', 'Q', ':', ' '] ++ (if Q then ['↓'] else ['↑']) ++ TQ))
      = some { pDown := decide P, p := t, q := some (decide Q, u) } := by
  have hs : ∀ r, splitOn1 '\n' (TP ++ '\n' :: r) = some (TP, r) := fun r => splitOn1_append _ _ _ hP
  unfold parsePQ
  -- whichever arrows are printed, the reader strips `P: `, reads the arrow, splits at the newline and does the same for `Q: `
  by_cases hp : P <;> by_cases hq' : Q <;>
    simp only [hp, hq', ↓reduceIte, List.cons_append, List.nil_append, stripPrefix,
      Option.bind_some, parseArrow, hs, h, hq, Option.map_some, decide_true, decide_false]

end CC.Fmt
