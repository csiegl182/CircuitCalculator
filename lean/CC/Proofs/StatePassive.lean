/-
  The structure `C11_lyapunov` assumes, for the executable model: what `C11_structure` / `C11_model_lyapunov`
  (CC/Properties/C11.lean) rest on, with `Jn = diag(+1 node rows, −1 voltage-source rows)`,
  `J = diag(−1 capacitor states, +1 inductor states)`, `W = diag(C…, L…)`.
  (i)  `Jn·DQ = −DQ·J`: capacitor columns of `DQ` live in node rows (`ssDQ_cap_vsrow_zero`), inductor columns in
       voltage-source rows (`ssDQ_ind_noderow_zero`; both in StateRhs);
  (ii) `yᵀ(Jn·Ã)y = Σ_b Yfin_b·(φ(n1) − φ(n2))²` (`signed_form_list`): the voltage-source cross terms cancel, the
       admittance part regroups branch by branch (Tellegen, `sum_phi_mul_dir`);
  (iii) `W·Λ⁻¹ = J` (`W_mul_invLambda`).
-/
import Mathlib.Algebra.Order.Field.Basic
import CC.Proofs.StateSample
set_option linter.unusedSectionVars false

namespace CC
open Matrix Mx

section quad
variable {L K : Type} [DecidableEq L] [LabelOrd L] [Field K] [DecidableEq K]

/-- Tellegen's identity for a list `bs` of branches carrying the currents `c` (`rowVS s b = Σ_n dir_b(n)·φ_n` is the
voltage across `b`) -/
theorem sum_phi_mul_dir (N : Net L K) (s : Sol L K) (bs : List (Branch L K)) (c : Branch L K → K) :
    (N.nodes.map fun n => s.phi n * (bs.map fun b => b.dir n * c b).sum).sum
      = (bs.map fun b => c b * N.rowVS s b).sum := by
  have e : ∀ n, s.phi n * (bs.map fun b => b.dir n * c b).sum = (bs.map fun b => c b * (b.dir n * s.phi n)).sum :=
    fun n => by
      rw [← List.sum_map_mul_left]
      exact congrArg List.sum (List.map_congr_left fun b _ => by ring)
  simp only [e]
  rw [sum_map_comm]
  exact congrArg List.sum (List.map_congr_left fun b _ => List.sum_map_mul_left ..)

theorem signed_form_list (N : Net L K) (s : Sol L K) :
    dotL (N.nodes.map s.phi ++ N.vsSorted.map fun b => -(s.ivs b.id)) (matVec N.mnaA (N.pack s))
      = (N.nonVS.map fun b => b.e.Yfin * ((N.pot s b.n1 - N.pot s b.n2) * (N.pot s b.n1 - N.pot s b.n2))).sum := by
  rw [matVec_pack_rows, dotL_append _ _ _ _ (by simp), dotL_map_map, dotL_map_map]
  have h1 : (N.nodes.map fun n => s.phi n * N.rowNode s n).sum
      = (N.nonVS.map fun b => b.e.Yfin * (N.pot s b.n1 - N.pot s b.n2) * N.rowVS s b).sum
        + (N.vsSorted.map fun b => s.ivs b.id * N.rowVS s b).sum := by
    rw [← sum_phi_mul_dir, ← sum_phi_mul_dir, ← List.sum_map_add]
    exact congrArg List.sum (List.map_congr_left fun n _ => by rw [Net.rowNode, row_admittance, mul_add])
  simp only [neg_mul]
  rw [h1, ← neg_sum_map, add_neg_cancel_right]
  exact congrArg List.sum (List.map_congr_left fun b hb => by
    rw [rowVS_eq_all N s b (List.mem_filter.mp hb).1, mul_assoc])

theorem ofFn_signed {α : Type} {m k : Nat} (y : Fin (m + k) → K) {P : List K} {l : List α} {f : α → K}
    (hP : P.length = m) (h : List.ofFn y = P ++ l.map f) :
    List.ofFn (fun i : Fin (m + k) => y i * if (i : Nat) < m then (1 : K) else -1)
      = P ++ l.map fun a => -f a := by
  rw [List.ofFn_add] at h ⊢
  obtain ⟨h1, h2⟩ := List.append_inj h (by rw [List.length_ofFn, hP])
  have hneg : (l.map fun a => -f a) = (l.map f).map (-·) := by rw [List.map_map]; rfl
  rw [hneg, ← h1, ← h2, List.map_ofFn]
  congr 1
  · exact congrArg List.ofFn (funext fun i => by rw [if_pos (by exact i.isLt), mul_one])
  · exact congrArg List.ofFn (funext fun j => by
      rw [if_neg (by exact Nat.not_lt.mpr (Nat.le_add_right m j)), mul_neg_one]; rfl)

theorem W_mul_invLambda (cvals lvals : ValDict K) (ns : Nat)
    (hlen : (ssLambda cvals lvals).length = ns) (hnz : ∀ v ∈ ssLambda cvals lvals, v ≠ 0) :
    (diagonal fun k : Fin ns => (cvals.vals ++ lvals.vals).getD k 0)
        * (diagonal fun k : Fin ns => (ssInvLambda cvals lvals).getD k 0)
      = diagonal fun k : Fin ns => if (k : Nat) < cvals.length then (-1 : K) else 1 := by
  have hlc : cvals.vals.length = cvals.length := List.length_map _
  -- `W = J·Λ`: `Λ` is `W` with the capacitances negated; then `Λ·Λ⁻¹ = 1`
  have hW : (diagonal fun k : Fin ns => (cvals.vals ++ lvals.vals).getD k 0)
      = (diagonal fun k : Fin ns => if (k : Nat) < cvals.length then (-1 : K) else 1)
        * diagonal fun k : Fin ns => (ssLambda cvals lvals).getD k 0 := by
    rw [diagonal_mul_diagonal]
    congr 1
    funext k
    by_cases hc : (k : Nat) < cvals.length
    · rw [if_pos hc, lambda_getD_cap cvals lvals hc, neg_one_mul, neg_neg, List.getD_eq_getElem?_getD,
        List.getElem?_append_left (hlc ▸ hc), ← List.getD_eq_getElem?_getD]
    · obtain ⟨j, hj⟩ := Nat.exists_eq_add_of_le (Nat.le_of_not_lt hc)
      rw [if_neg hc, one_mul, hj, lambda_getD_ind, List.getD_eq_getElem?_getD,
        List.getElem?_append_right (hlc ▸ Nat.le_add_right _ j), hlc, Nat.add_sub_cancel_left,
        ← List.getD_eq_getElem?_getD]
  rw [hW, Matrix.mul_assoc, lambda_mul_inv cvals lvals ns hlen hnz, Matrix.mul_one]

end quad

end CC
