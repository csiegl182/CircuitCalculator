/-
  Transports the list-matrix operations of CC/Model/StateSpace.lean (`Mx.*`, explicit dimensions) to Mathlib's
  `Matrix (Fin r) (Fin c) K`, so that the algebra of CC/Proofs/StateAlgebra.lean applies to what the model (and the
  driver) computes.  A `Fin n`-vector is written as a list by `List.ofFn`; `vecAdd`, `dotL`, the diagonal product are
  `+`, `⬝ᵥ`, `diagonal _ *ᵥ ·` under that reading, and `matVec` is `*ᵥ` for a list matrix of the stated shape
  (`IsShape.matVec_ofFn`).
-/
import CC.Model.StateSpace
import CC.Proofs.StateAlgebra
import CC.Proofs.ListMatrix

set_option linter.unusedSectionVars false

namespace CC.Mx
open Matrix

variable {K : Type} [Field K]

def toM (r c : Nat) (M : List (List K)) : Matrix (Fin r) (Fin c) K := fun i j => get M i j

@[simp] theorem toM_apply (r c : Nat) (M : List (List K)) (i : Fin r) (j : Fin c) :
    toM r c M i j = get M i j := rfl

theorem get_ofFn {r c : Nat} {f : Nat → Nat → K} {i j : Nat} (hi : i < r) (hj : j < c) :
    get (ofFn r c f) i j = f i j := by
  simp [get, ofFn, List.getD_eq_getElem?_getD, hi, hj]

theorem sumTo_eq (n : Nat) (f : Nat → K) : sumTo n f = ∑ k : Fin n, f k := by
  induction n with
  | zero => simp [sumTo]
  | succ n ih =>
    rw [Fin.sum_univ_castSucc]
    simp only [sumTo, List.range_succ, List.map_append, List.sum_append, List.map_cons, List.map_nil,
      List.sum_cons, List.sum_nil, add_zero, Fin.val_castSucc, Fin.val_last] at ih ⊢
    rw [ih]

theorem toM_mul (r p c : Nat) (A B : List (List K)) :
    toM r c (mul r p c A B) = toM r p A * toM p c B := by
  ext i j
  simp only [toM_apply, mul, get_ofFn i.2 j.2, sumTo_eq, Matrix.mul_apply]

theorem toM_transpose (r c : Nat) (A : List (List K)) : toM r c (transpose r c A) = (toM c r A)ᵀ := by
  ext i j
  simp only [toM_apply, transpose, get_ofFn i.2 j.2, Matrix.transpose_apply]

theorem toM_sub (r c : Nat) (A B : List (List K)) : toM r c (sub r c A B) = toM r c A - toM r c B := by
  ext i j
  simp only [toM_apply, sub, get_ofFn i.2 j.2, Matrix.sub_apply]

theorem toM_neg (r c : Nat) (A : List (List K)) : toM r c (neg r c A) = -toM r c A := by
  ext i j
  simp only [toM_apply, neg, get_ofFn i.2 j.2, Matrix.neg_apply]

theorem toM_diagMul (r c : Nat) (d : List K) (A : List (List K)) :
    toM r c (diagMul r c d A) = Matrix.diagonal (fun i : Fin r => d.getD i 0) * toM r c A := by
  ext i j
  simp only [toM_apply, diagMul, get_ofFn i.2 j.2, Matrix.diagonal_mul]

theorem toM_one (n : Nat) : toM n n (one n : List (List K)) = 1 := by
  ext i j
  simp only [toM_apply, one, get_ofFn i.2 j.2, Matrix.one_apply, Fin.ext_iff]

/-- what the driver checks (`Mx.mul … = Mx.one …`) is the certificate equation on `Matrix` -/
theorem toM_mul_eq_one {n : Nat} {A B : List (List K)} (h : mul n n n A B = one n) :
    toM n n A * toM n n B = 1 := by
  rw [← toM_mul, h, toM_one]

theorem ofFn_length {r c : Nat} {f : Nat → Nat → K} : (ofFn r c f).length = r := by
  simp [ofFn]

theorem ofFn_row_length (r c : Nat) (f : Nat → Nat → K) : ∀ row ∈ ofFn r c f, row.length = c := by
  intro row h
  simp only [ofFn, List.mem_map, List.mem_range] at h
  obtain ⟨i, _, rfl⟩ := h
  simp

theorem sumTo_congr {n : Nat} {f : Nat → K} (g : Nat → K) (h : ∀ k, k < n → f k = g k) : sumTo n f = sumTo n g := by
  unfold sumTo
  congr 1
  exact List.map_congr_left fun k hk => h k (List.mem_range.mp hk)

theorem ofFn_congr {r c : Nat} {f g : Nat → Nat → K} (h : ∀ i j, i < r → j < c → f i j = g i j) :
    ofFn r c f = ofFn r c g := by
  unfold ofFn
  apply List.map_congr_left; intro i hi
  apply List.map_congr_left; intro j hj
  exact h i j (List.mem_range.mp hi) (List.mem_range.mp hj)

theorem sumTo_ite (n i : Nat) (a : Nat → K) :
    sumTo n (fun k => if i = k then a k else 0) = if i < n then a i else 0 := by
  simpa only [sumTo, eq_comm, List.mem_range] using sum_map_ite_eq (List.nodup_range (n := n)) i a

theorem sumTo_succ' (n : Nat) (f : Nat → K) : sumTo (n + 1) f = f 0 + sumTo n (fun j => f (j + 1)) := by
  simp only [sumTo, List.range_succ_eq_map, List.map_cons, List.map_map, Function.comp_def, Nat.succ_eq_add_one,
    List.sum_cons]

theorem sumTo_add (m n : Nat) (f : Nat → K) :
    sumTo (m + n) f = sumTo m f + sumTo n (fun j => f (m + j)) := by
  simp only [sumTo, List.range_add, List.map_append, List.map_map, Function.comp_def, List.sum_append]

theorem sumTo_zero (n : Nat) : sumTo n (fun _ => (0 : K)) = 0 := by
  simp only [sumTo, List.map_const', List.length_range, List.sum_replicate, nsmul_zero]

theorem sumTo_eq_zero (n : Nat) (f : Nat → K) (h : ∀ j, j < n → f j = 0) : sumTo n f = 0 := by
  rw [sumTo_congr (fun _ => 0) h, sumTo_zero]

end CC.Mx

namespace CC
open Matrix Mx

variable {K : Type} [Field K]

theorem getD_ofFn {n : Nat} (f : Fin n → K) {k : Nat} (hk : k < n) : (List.ofFn f).getD k 0 = f ⟨k, hk⟩ := by
  simp only [List.getD_eq_getElem?_getD, List.length_ofFn, hk, getElem?_pos, List.getElem_ofFn, Option.getD_some]

theorem dotL_eq_sumTo (r v : List K) (n : Nat) (h : min r.length v.length ≤ n) :
    dotL r v = sumTo n fun j => r.getD j 0 * v.getD j 0 := by
  rw [dotL_eq_sum r v n h, sumTo_eq]

theorem dotL_range_map (n : Nat) (g : Nat → K) (v : List K) :
    dotL ((List.range n).map g) v = sumTo n fun j => g j * v.getD j 0 := by
  rw [dotL_eq_sumTo _ v n (by simp)]
  exact sumTo_congr _ fun j hj => by simp [List.getD_eq_getElem?_getD, hj]

theorem dotProduct_eq_dotL {n : Nat} (f g : Fin n → K) : f ⬝ᵥ g = dotL (List.ofFn f) (List.ofFn g) := by
  rw [dotL_eq_sum _ _ n (by simp)]
  exact Finset.sum_congr rfl fun j _ => by rw [getD_ofFn f j.2, getD_ofFn g j.2]

theorem transpose_mulVec_apply (r c : Nat) (M : List (List K)) (y : Fin r → K) (k : Fin c) :
    ((toM r c M)ᵀ *ᵥ y) k = sumTo r fun i => Mx.get M i k * (List.ofFn y).getD i 0 := by
  rw [sumTo_eq]
  simp only [Matrix.mulVec, dotProduct, Matrix.transpose_apply, toM_apply]
  exact Finset.sum_congr rfl fun i _ => by rw [getD_ofFn y i.2]

theorem vecAdd_ofFn {n : Nat} (f g : Fin n → K) :
    Mx.vecAdd (List.ofFn f) (List.ofFn g) = List.ofFn (f + g) := by
  apply List.ext_getElem
  · simp only [vecAdd, List.length_zipWith, List.length_ofFn, min_self]
  · intro i h1 h2
    simp only [vecAdd, List.getElem_zipWith, List.getElem_ofFn, Pi.add_apply]

theorem zipWith_diag_ofFn {n : Nat} (d : List K) (hd : d.length = n) (f : Fin n → K) :
    List.zipWith (· * ·) d (List.ofFn f) = List.ofFn ((diagonal fun i : Fin n => d.getD i 0) *ᵥ f) := by
  apply List.ext_getElem
  · simp only [List.length_zipWith, hd, List.length_ofFn, min_self]
  · intro i h1 h2
    have hi : i < d.length := by simp only [List.length_zipWith, List.length_ofFn, lt_inf_iff] at h1; omega
    simp only [List.getElem_zipWith, List.getElem_ofFn, List.getD_eq_getElem?_getD, mulVec_diagonal,
      List.getElem?_eq_getElem hi, Option.getD_some]

def IsShape (M : List (List K)) (r c : Nat) : Prop := M.length = r ∧ ∀ row ∈ M, row.length = c

theorem isShape_ofFn {r c : Nat} {f : Nat → Nat → K} : IsShape (Mx.ofFn r c f) r c :=
  ⟨Mx.ofFn_length, Mx.ofFn_row_length r c f⟩

theorem IsShape.matVec_ofFn {r c : Nat} {M : List (List K)} (h : IsShape M r c) (v : Fin c → K) :
    matVec M (List.ofFn v) = List.ofFn (toM r c M *ᵥ v) := by
  rw [matVec_eq_ofFn_sum h.1 h.2]
  exact congrArg List.ofFn (funext fun i => Finset.sum_congr rfl fun j _ => by rw [getD_ofFn v j.2]; rfl)

end CC
