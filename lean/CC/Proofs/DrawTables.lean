/-
  CC.Proofs.DrawTables — decidable predicates on the *generated* tables (CC/Gen/DrawTables.lean); they are
  decided on the complete tables in `CC.C13_tables` and, the polarity predicates, in `CC.C13_polarity` (when /repo changes a
  table, these are the obligations that break).  With them what the proofs take from them: `nodeClassesNamed` as a statement about the interpreter
  (`isNode_hasName`), the evaluation lemmas behind the polarity predicates, and `toSet` / `allNodes` as
  duplicate-free lists with the members one expects.
-/
import CC.Proofs.DrawClosure
import Mathlib.Tactic.Tauto
namespace CC.Draw

def VExpr.revFree : VExpr → Bool
  | .ifNotRev _ _ => false
  | .re e => e.revFree
  | .neg e => e.revFree
  | _ => true

/-- `e if not element.is_reverse else -e` with `e` independent of the flag -/
def VExpr.isSigned : VExpr → Bool
  | .ifNotRev t (.neg f) => t == f && t.revFree
  | _ => false

/-- a translator case treats the reversal flag consistently: only an amplitude argument (`V` or
`I`) may look at the flag; if the case swaps the terminals under `reverse`, every amplitude
argument is negated with them (`e if not element.is_reverse else -e`), so that the source
contributes its element value from `start` to `end` either way; if it does not swap, nothing
looks at the flag.  (Passive symbols swap too since 006d781: same element, reversed reference
direction.) -/
def TrCase.polarityOK (c : TrCase) : Bool :=
  let isAmp := fun (a : String × VExpr) => a.1 == "V" || a.1 == "I"
  match c.nodes with
  | .pairSwapIfRev =>
    c.args.all (fun a => if isAmp a then a.2.isSigned else a.2.revFree) && (c.args.filter isAmp).length ≤ 1
  | _ => c.args.all (·.2.revFree)

/-- every two-terminal translator lists its terminals `(start, end)`, swapped under `reverse`
(006d781: annotations flip their arrow for every reversed element, so must the terminals) -/
def allTwoTerminalSwap : Bool :=
  Gen.translators.all fun t => t.2.all fun c =>
    match c.ctor, c.nodes with
    | none, _ => true
    | some _, .single => true
    | some _, .pairSwapIfRev => true
    | some _, .pair => false

def translatorPolarityOK (t : String × List TrCase) : Bool := t.2.all TrCase.polarityOK

theorem evalV_signed (π : Rat) (s : Sym) (e : VExpr) :
    evalV π s (.ifNotRev e (.neg e)) = if s.rev then evalV π s (.neg e) else evalV π s e := by
  cases h : s.rev <;> simp [evalV, h]

theorem evalV_revFree (π : Rat) (s : Sym) (r : Bool) (e : VExpr) (h : e.revFree = true) :
    evalV π { s with rev := r } e = evalV π s e := by
  induction e with
  | attr a => rfl
  | re e ih => simp only [VExpr.revFree] at h; simp [evalV, ih h]
  | neg e ih => simp only [VExpr.revFree] at h; simp [evalV, ih h]
  | ifNotRev t f _ _ => simp [VExpr.revFree] at h
  | degConv a fl => rfl
  | lit r => rfl
  | inf => rfl
  | str t => rfl

theorem nodeTuple_swap (rev : Bool) (a b : String) (rest : List String) :
    nodeTuple .pairSwapIfRev rev (a :: b :: rest) = .ok (if rev then [b, a] else [a, b]) := rfl

/-- every node class carries a name (so node symbols are circuit elements and their position
is one of `all_nodes`) -/
def nodeClassesNamed : Bool :=
  Gen.elemClasses.all fun c => !(c.cls == "Node" || c.ancestors.contains "Node") || c.named

/-- class names of the table are distinct (`classInfo` finds *the* class) -/
def classNamesDistinct : Bool := (Gen.elemClasses.map (·.cls)).Nodup

/-- the translator map refers only to translators and constructors that were extracted -/
def translatorMapClosed : Bool :=
  Gen.translatorMap.all (fun kv => (Gen.translators.lookup kv.2).isSome) &&
  Gen.translators.all (fun t => t.2.all fun c =>
    match c.ctor with
    | none => true
    | some k => (Gen.ctors.find? (·.name = k)).isSome)

/-- every symbol class that carries a name has a translator entry; `Admittance` is the one class
the map of /repo lacks (such a drawing raises `UnknownTranslator`) -/
def namedClassesTranslated : Bool :=
  Gen.elemClasses.all fun c => !c.named || c.cls == "Admittance" || (Gen.translatorMap.lookup c.cls).isSome

/-- a sine-referenced phase is shifted by 90 when the phase is given in degrees (`deg`), by π/2
otherwise: every class with a `sin` shift has the degree alternative -/
def sinShiftInDegrees : Bool :=
  Gen.elemClasses.all fun c =>
    match c.sinShift with
    | none => true
    | some (_, _, alt) => alt == some ("deg", 90)

def translatorMapKeysDistinct : Bool := (Gen.translatorMap.map (·.1)).Nodup

section
variable {P : Type} [DecidableEq P]

theorem toSet_aux (l acc : List P) (hacc : acc.Nodup) :
    (l.foldl (fun acc a => sadd a acc) acc).Nodup ∧
      ∀ x, x ∈ l.foldl (fun acc a => sadd a acc) acc ↔ x ∈ l ∨ x ∈ acc := by
  induction l generalizing acc with
  | nil => exact ⟨hacc, fun x => by simp⟩
  | cons a l ih =>
    obtain ⟨h1, h2⟩ := ih (sadd a acc) (nodup_sadd hacc)
    refine ⟨h1, fun x => ?_⟩
    rw [List.foldl_cons, h2, mem_sadd, List.mem_cons]
    tauto

theorem nodup_toSet (l : List P) : (toSet l).Nodup := (toSet_aux l [] List.nodup_nil).1

theorem mem_toSet {l : List P} {x : P} : x ∈ toSet l ↔ x ∈ l := by
  have := (toSet_aux l [] List.nodup_nil).2 x
  simpa [toSet] using this

end

theorem nodup_allNodes (syms : List Sym) : (allNodes syms).Nodup := nodup_toSet _

theorem mem_allNodes_iff {syms : List Sym} {p : Pt} :
    p ∈ allNodes syms ↔ ∃ s ∈ syms, (s.hasName = true ∨ s.isLine = true) ∧ (p = s.n1 ∨ p = s.n2) := by
  unfold allNodes
  simp only [mem_toSet, List.mem_append, List.mem_map, List.mem_filter]
  constructor
  · rintro (((⟨s, ⟨hs, hn⟩, rfl⟩ | ⟨s, ⟨hs, hn⟩, rfl⟩) | ⟨s, ⟨hs, hn⟩, rfl⟩) | ⟨s, ⟨hs, hn⟩, rfl⟩)
    · exact ⟨s, hs, Or.inl hn, Or.inl rfl⟩
    · exact ⟨s, hs, Or.inl hn, Or.inr rfl⟩
    · exact ⟨s, hs, Or.inr hn, Or.inl rfl⟩
    · exact ⟨s, hs, Or.inr hn, Or.inr rfl⟩
  · rintro ⟨s, hs, hn | hn, rfl | rfl⟩
    · exact Or.inl (Or.inl (Or.inl ⟨s, ⟨hs, hn⟩, rfl⟩))
    · exact Or.inl (Or.inl (Or.inr ⟨s, ⟨hs, hn⟩, rfl⟩))
    · exact Or.inl (Or.inr ⟨s, ⟨hs, hn⟩, rfl⟩)
    · exact Or.inr ⟨s, ⟨hs, hn⟩, rfl⟩

theorem mem_allNodes_of_named {syms : List Sym} {s : Sym} (hs : s ∈ syms) (hn : s.hasName = true) :
    s.n1 ∈ allNodes syms ∧ s.n2 ∈ allNodes syms :=
  ⟨mem_allNodes_iff.mpr ⟨s, hs, Or.inl hn, Or.inl rfl⟩, mem_allNodes_iff.mpr ⟨s, hs, Or.inl hn, Or.inr rfl⟩⟩

theorem mem_allNodes_of_line {syms : List Sym} {s : Sym} (hs : s ∈ syms) (hl : s.isLine = true) :
    s.n1 ∈ allNodes syms ∧ s.n2 ∈ allNodes syms :=
  ⟨mem_allNodes_iff.mpr ⟨s, hs, Or.inr hl, Or.inl rfl⟩, mem_allNodes_iff.mpr ⟨s, hs, Or.inr hl, Or.inr rfl⟩⟩

theorem wires_sub_allNodes (syms : List Sym) : ∀ w ∈ wiresOf syms, w.1 ∈ allNodes syms ∧ w.2 ∈ allNodes syms := by
  intro w hw
  unfold wiresOf at hw
  obtain ⟨s, hs, rfl⟩ := List.mem_map.mp hw
  obtain ⟨hs, hl⟩ := List.mem_filter.mp hs
  exact mem_allNodes_of_line hs hl

theorem classInfo_eq_some {cls : String} {c : ElemClass} (h : classInfo cls = some c) :
    c ∈ Gen.elemClasses ∧ c.cls = cls :=
  ⟨List.mem_of_find?_eq_some h, by simpa using List.find?_some h⟩

theorem nodeClassesNamed_ok : nodeClassesNamed = true := by decide +kernel

theorem isNode_hasName (s : Sym) (h : s.isNode = true) : s.hasName = true := by
  unfold Sym.isNode isA at h
  unfold Sym.hasName
  have hT := nodeClassesNamed_ok
  unfold nodeClassesNamed at hT
  rw [List.all_eq_true] at hT
  cases hc : classInfo s.cls with
  | none =>
    -- a class outside the table is a node only if it is literally called "Node"; then the
    -- table would have to contain it
    simp only [hc, Bool.or_false, decide_eq_true_eq] at h
    exfalso
    have : classInfo "Node" ≠ none := by decide
    exact this (h ▸ hc)
  | some c =>
    obtain ⟨hmem, hcls⟩ := classInfo_eq_some hc
    have := hT c hmem
    simp only [hc] at h ⊢
    simp only [Bool.or_eq_true, Bool.not_eq_true', decide_eq_true_eq] at this h
    rcases this with h' | h'
    · exfalso
      simp only [Bool.or_eq_false_iff, beq_eq_false_iff_ne] at h'
      rcases h with h | h
      · exact h'.1 (hcls.trans h)
      · have : c.ancestors.contains "Node" = true := by simpa using h
        rw [h'.2] at this; cases this
    · exact h'

theorem nodeSyms_on_terminal (syms : List Sym) :
    ∀ ps ∈ nodeSymsOf syms, ps.1 ∈ allNodes syms := by
  intro ps hps
  unfold nodeSymsOf at hps
  obtain ⟨s, hs, rfl⟩ := List.mem_map.mp hps
  obtain ⟨hs, hn⟩ := List.mem_filter.mp hs
  exact (mem_allNodes_of_named hs (isNode_hasName s hn)).1

end CC.Draw
