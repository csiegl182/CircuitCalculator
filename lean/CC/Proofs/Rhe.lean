/-
  CC.Proofs.Rhe — round half to even (`CC.Fmt.rhe`, the model of `np.round` / `np.rint`) in Mathlib's vocabulary.
-/
import Mathlib.Data.Rat.Floor
import Mathlib.Algebra.Order.Floor.Ring
import Mathlib.Tactic.Linarith
import Mathlib.Tactic.Ring
import Mathlib.Tactic.NormNum
import CC.Model.FmtBase

namespace CC.Fmt

theorem qabs_eq_abs (x : ℚ) : qabs x = |x| := by
  unfold qabs
  split
  · rename_i h; rw [abs_of_neg h]
  · rename_i h; rw [abs_of_nonneg (not_lt.mp h)]

theorem rhe_def (x : ℚ) : rhe x =
    if x - (⌊x⌋ : ℚ) < 1 / 2 then ⌊x⌋ else if 1 / 2 < x - (⌊x⌋ : ℚ) then ⌊x⌋ + 1
    else if ⌊x⌋ % 2 = 0 then ⌊x⌋ else ⌊x⌋ + 1 := rfl

theorem rhe_cases (x : ℚ) :
    (rhe x = ⌊x⌋ ∧ x - (⌊x⌋ : ℚ) ≤ 1 / 2) ∨ (rhe x = ⌊x⌋ + 1 ∧ 1 / 2 ≤ x - (⌊x⌋ : ℚ)) := by
  rw [rhe_def]
  split_ifs with ha hb hc
  · exact Or.inl ⟨rfl, ha.le⟩
  · exact Or.inr ⟨rfl, hb.le⟩
  · exact Or.inl ⟨rfl, not_lt.mp hb⟩
  · exact Or.inr ⟨rfl, not_lt.mp ha⟩

theorem rhe_spec (x : ℚ) : |((rhe x : ℤ) : ℚ) - x| ≤ 1 / 2 := by
  have h1 : ((⌊x⌋ : ℤ) : ℚ) ≤ x := Int.floor_le x
  have h2 : x < (⌊x⌋ : ℚ) + 1 := Int.lt_floor_add_one x
  rcases rhe_cases x with ⟨h, hr⟩ | ⟨h, hr⟩ <;> rw [h, abs_le]
  · constructor <;> linarith
  · push_cast; constructor <;> linarith

theorem abs_rhe_mul_div_sub_le (x : ℚ) {c : ℚ} (hc : 0 < c) : |((rhe (x * c) : ℤ) : ℚ) / c - x| ≤ 1 / (2 * c) := by
  have h := rhe_spec (x * c)
  rw [show ((rhe (x * c) : ℤ) : ℚ) / c - x = (((rhe (x * c) : ℤ) : ℚ) - x * c) / c by
    rw [sub_div, mul_div_cancel_right₀ _ hc.ne'], abs_div, abs_of_pos hc, div_le_iff₀ hc]
  calc _ ≤ 1 / 2 := h
    _ = 1 / (2 * c) * c := by rw [div_mul_eq_mul_div, one_mul, mul_comm 2 c, ← div_div, div_self hc.ne']

theorem le_rhe_of_sub_half_lt {x : ℚ} {k : ℤ} (h : (k : ℚ) - 1 / 2 < x) : k ≤ rhe x := by
  have h1 := (abs_le.mp (rhe_spec x)).1
  have : (k : ℚ) - 1 < ((rhe x : ℤ) : ℚ) := by linarith
  have : k - 1 < rhe x := by exact_mod_cast this
  omega

theorem rhe_le_of_lt_add_half {x : ℚ} {k : ℤ} (h : x < (k : ℚ) + 1 / 2) : rhe x ≤ k := by
  have h1 := (abs_le.mp (rhe_spec x)).2
  have : ((rhe x : ℤ) : ℚ) < (k : ℚ) + 1 := by linarith
  have : rhe x < k + 1 := by exact_mod_cast this
  omega

theorem le_rhe_of_le {x : ℚ} {k : ℤ} (h : (k : ℚ) ≤ x) : k ≤ rhe x := le_rhe_of_sub_half_lt (by linarith)

theorem rhe_le_of_le {x : ℚ} {k : ℤ} (h : x ≤ (k : ℚ)) : rhe x ≤ k := rhe_le_of_lt_add_half (by linarith)

theorem rhe_nonneg {x : ℚ} (h : 0 ≤ x) : 0 ≤ rhe x := le_rhe_of_le (by exact_mod_cast h)

theorem rhe_intCast (k : ℤ) : rhe (k : ℚ) = k :=
  le_antisymm (rhe_le_of_le le_rfl) (le_rhe_of_le le_rfl)

theorem rhe_zero : rhe 0 = 0 := by simpa using rhe_intCast 0

theorem rhe_eq_of_near {x : ℚ} {k : ℤ} (h : |x - (k : ℚ)| < 1 / 2) : rhe x = k := by
  rw [abs_lt] at h
  exact le_antisymm (rhe_le_of_lt_add_half (by linarith)) (le_rhe_of_sub_half_lt (by linarith))

theorem rhe_neg (x : ℚ) : rhe (-x) = -rhe x := by
  rcases eq_or_lt_of_le (Int.floor_le x) with h | h
  · rw [← h, ← Int.cast_neg, rhe_intCast, rhe_intCast]
  · have hfl : ⌊-x⌋ = -⌊x⌋ - 1 := by
      rw [Int.floor_eq_iff]; push_cast; constructor <;> linarith [Int.lt_floor_add_one x]
    have hr : -x - ((⌊-x⌋ : ℤ) : ℚ) = 1 - (x - (⌊x⌋ : ℚ)) := by rw [hfl]; push_cast; ring
    rw [rhe_def (-x), hr, rhe_def x, hfl]
    rcases lt_trichotomy (x - (⌊x⌋ : ℚ)) (1 / 2) with h2 | h2 | h2
    · rw [if_neg (by linarith : ¬ 1 - (x - (⌊x⌋ : ℚ)) < 1 / 2), if_pos (by linarith : 1 / 2 < 1 - (x - (⌊x⌋ : ℚ))),
        if_pos h2]
      ring
    · -- a tie on both sides: the floors `⌊x⌋` and `-⌊x⌋ - 1` have opposite parity
      rw [h2]; norm_num; split_ifs <;> omega
    · rw [if_pos (by linarith : 1 - (x - (⌊x⌋ : ℚ)) < 1 / 2), if_neg (not_lt.mpr h2.le), if_pos h2]
      ring

end CC.Fmt
