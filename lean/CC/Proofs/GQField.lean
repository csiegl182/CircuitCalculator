/-
  CC.Proofs.GQField — the driver's Gaussian rationals `CC.GQ` (CC/Num.lean) form a field
  with exactly the operations the native driver executes.  Hence every theorem stated for
  an arbitrary `Field K` applies verbatim to what the driver computes.
-/
import CC.Num
import Mathlib.Algebra.Field.Defs
import Mathlib.Algebra.Order.Field.Rat
import Mathlib.Tactic.Ring
import Mathlib.Tactic.FieldSimp
import Mathlib.Tactic.Linarith
import Mathlib.Tactic.Positivity

namespace CC.GQ

@[ext] theorem ext' {a b : GQ} (h1 : a.re = b.re) (h2 : a.im = b.im) : a = b := by
  cases a; cases b; simp_all

@[simp] theorem re_zero : (0 : GQ).re = 0 := rfl
@[simp] theorem im_zero : (0 : GQ).im = 0 := rfl
@[simp] theorem re_one : (1 : GQ).re = 1 := rfl
@[simp] theorem im_one : (1 : GQ).im = 0 := rfl
@[simp] theorem re_add (a b : GQ) : (a + b).re = a.re + b.re := rfl
@[simp] theorem im_add (a b : GQ) : (a + b).im = a.im + b.im := rfl
@[simp] theorem re_neg (a : GQ) : (-a).re = -a.re := rfl
@[simp] theorem im_neg (a : GQ) : (-a).im = -a.im := rfl
@[simp] theorem re_sub (a b : GQ) : (a - b).re = a.re - b.re := rfl
@[simp] theorem im_sub (a b : GQ) : (a - b).im = a.im - b.im := rfl
@[simp] theorem re_mul (a b : GQ) : (a * b).re = a.re * b.re - a.im * b.im := rfl
@[simp] theorem im_mul (a b : GQ) : (a * b).im = a.re * b.im + a.im * b.re := rfl
@[simp] theorem re_inv (a : GQ) : (a⁻¹).re = a.re / a.normSq := rfl
@[simp] theorem im_inv (a : GQ) : (a⁻¹).im = -a.im / a.normSq := rfl

theorem normSq_pos {a : GQ} (h : a ≠ 0) : 0 < a.normSq := by
  refine lt_of_le_of_ne (add_nonneg (mul_self_nonneg _) (mul_self_nonneg _)) fun h0 => h ?_
  obtain ⟨hr, hi⟩ := (mul_self_add_mul_self_eq_zero (a := a.re) (b := a.im)).mp h0.symm
  exact ext' hr hi

instance : CommRing GQ where
  add_assoc a b c := by ext <;> simp <;> ring
  zero_add a := by ext <;> simp
  add_zero a := by ext <;> simp
  add_comm a b := by ext <;> simp <;> ring
  neg_add_cancel a := by ext <;> simp
  sub_eq_add_neg a b := by ext <;> simp <;> ring
  mul_assoc a b c := by ext <;> simp <;> ring
  one_mul a := by ext <;> simp
  mul_one a := by ext <;> simp
  left_distrib a b c := by ext <;> simp <;> ring
  right_distrib a b c := by ext <;> simp <;> ring
  mul_comm a b := by ext <;> simp <;> ring
  zero_mul a := by ext <;> simp
  mul_zero a := by ext <;> simp
  nsmul := nsmulRec
  zsmul := zsmulRec

instance : Field GQ where
  exists_pair_ne := ⟨0, 1, by intro h; have := congrArg GQ.re h; simp at this⟩
  mul_inv_cancel a h := by
    have hp := normSq_pos h
    have hne : a.normSq ≠ 0 := ne_of_gt hp
    ext
    · simp only [re_mul, re_inv, im_inv, re_one]
      field_simp
      unfold normSq; ring
    · simp only [im_mul, re_inv, im_inv, im_one]
      field_simp
      ring
  inv_zero := by ext <;> simp [normSq]
  div_eq_mul_inv a b := rfl
  nnqsmul := _
  qsmul := _

/-- the field structure uses the very operations of CC/Num.lean -/
example (a b : GQ) : a / b = a * b⁻¹ := rfl

end CC.GQ

namespace CC

/-- the conjugation `get_power` uses, as a ring homomorphism (what the theorems with a `conj : K →+* K` take at `GQ`) -/
def GQ.conjHom : GQ →+* GQ where
  toFun := GQ.conj
  map_one' := by apply GQ.ext' <;> simp [GQ.conj]
  map_mul' := by intro a b; apply GQ.ext' <;> simp [GQ.conj]; ring
  map_zero' := by apply GQ.ext' <;> simp [GQ.conj]
  map_add' := by intro a b; apply GQ.ext' <;> simp [GQ.conj]; ring

end CC
