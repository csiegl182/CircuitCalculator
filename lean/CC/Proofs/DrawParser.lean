/-
  CC.Proofs.DrawParser — `unique_nodes`, `unique_node_mapping`, `node_label_mapping` of the
  drawing parser (model CC/Model/Draw.lean): one representative per class of `Joined`, every
  point is mapped to the representative of its class, and distinct representatives get
  distinct labels — for every iteration order `ord` of the Python sets.
-/
import CC.Proofs.DrawClosure
import CC.Proofs.Dict
import Std.Data.String.ToNat
import Mathlib.Data.List.Nodup
import Mathlib.Tactic.Tauto
set_option linter.unusedSectionVars false
namespace CC.Draw
variable {P : Type} [DecidableEq P]

/-- the iteration orders are permutations of the sets they enumerate -/
def SetOrd.Valid (ord : SetOrd P) : Prop :=
  ∀ l : List P, (ord.all l).Perm l ∧ (ord.uniq l).Perm l

theorem SetOrd.Valid.mem_all {ord : SetOrd P} (h : ord.Valid) {l : List P} {x : P} :
    x ∈ ord.all l ↔ x ∈ l := (h l).1.mem_iff

theorem SetOrd.Valid.mem_uniq {ord : SetOrd P} (h : ord.Valid) {l : List P} {x : P} :
    x ∈ ord.uniq l ↔ x ∈ l := (h l).2.mem_iff

/-- body of the `for node in self.all_nodes` loop of `unique_nodes` -/
def ustep (ws : List (P × P)) (nodes : List P) (node : P) : List P :=
  if node ∈ nodes then
    let cls := eqp ws node
    sadd node (nodes.filter (fun n => n ∉ cls))
  else nodes

theorem uniqueNodes_eq (ws : List (P × P)) (ord : SetOrd P) (all : List P) :
    uniqueNodes ws ord all = (ord.all all).foldl (ustep ws) all := rfl

theorem mem_ustep {ws : List (P × P)} {nodes : List P} {n x : P} (hn : n ∈ nodes) :
    x ∈ ustep ws nodes n ↔ x = n ∨ (x ∈ nodes ∧ ¬ Joined ws n x) := by
  unfold ustep
  simp only [hn, if_true]
  rw [mem_sadd]
  simp [List.mem_filter, mem_eqp_iff]

theorem ustep_of_not_mem {ws : List (P × P)} {nodes : List P} {n : P} (hn : n ∉ nodes) :
    ustep ws nodes n = nodes := by
  unfold ustep; simp [hn]

theorem nodup_ustep {ws : List (P × P)} {nodes : List P} {n : P} (h : nodes.Nodup) :
    (ustep ws nodes n).Nodup := by
  unfold ustep
  split
  · exact nodup_sadd (List.Nodup.filter _ h)
  · exact h

/-- invariant of the `unique_nodes` loop; `done` = nodes already iterated -/
structure UInv (ws : List (P × P)) (all nodes done : List P) : Prop where
  sub : ∀ x ∈ nodes, x ∈ all
  nodup : nodes.Nodup
  cover : ∀ p ∈ all, ∃ r ∈ nodes, Joined ws p r
  uniq : ∀ x ∈ done, ∀ r ∈ nodes, ∀ r' ∈ nodes, Joined ws x r → Joined ws x r' → r = r'
  gone : ∀ p ∈ all, p ∉ nodes → ∃ m ∈ done, Joined ws m p

theorem UInv.step {ws : List (P × P)} {all nodes done : List P} {n : P} (hn : n ∈ all)
    (I : UInv ws all nodes done) : UInv ws all (ustep ws nodes n) (n :: done) := by
  by_cases hmem : n ∈ nodes
  · refine ⟨?_, nodup_ustep I.nodup, ?_, ?_, ?_⟩
    · intro x hx
      rcases (mem_ustep hmem).mp hx with rfl | ⟨hx, _⟩
      · exact hn
      · exact I.sub x hx
    · intro p hp
      obtain ⟨r, hr, hpr⟩ := I.cover p hp
      by_cases hj : Joined ws n r
      · exact ⟨n, (mem_ustep hmem).mpr (Or.inl rfl), hpr.trans hj.symm⟩
      · exact ⟨r, (mem_ustep hmem).mpr (Or.inr ⟨hr, hj⟩), hpr⟩
    · intro x hx r hr r' hr' hxr hxr'
      have hr := (mem_ustep hmem).mp hr
      have hr' := (mem_ustep hmem).mp hr'
      -- of the class of the node being processed only the node itself survives
      have hn : ∀ {r}, (r = n ∨ r ∈ nodes ∧ ¬ Joined ws n r) → Joined ws n r → r = n :=
        fun h hj => h.elim id fun h' => absurd hj h'.2
      rcases List.mem_cons.mp hx with rfl | hx
      · rw [hn hr hxr, hn hr' hxr']
      · rcases hr with rfl | ⟨hr, hnr⟩
        · exact (hn hr' (hxr.symm.trans hxr')).symm
        · rcases hr' with rfl | ⟨hr', _⟩
          · exact absurd (hxr'.symm.trans hxr) hnr
          · exact I.uniq x hx r hr r' hr' hxr hxr'
    · intro p hp hpn
      have : ¬ (p = n ∨ (p ∈ nodes ∧ ¬ Joined ws n p)) := fun h => hpn ((mem_ustep hmem).mpr h)
      by_cases hpm : p ∈ nodes
      · by_cases hj : Joined ws n p
        · exact ⟨n, List.mem_cons_self, hj⟩
        · exact absurd (Or.inr ⟨hpm, hj⟩) this
      · obtain ⟨m, hm, hmp⟩ := I.gone p hp hpm
        exact ⟨m, List.mem_cons_of_mem _ hm, hmp⟩
  · rw [ustep_of_not_mem hmem]
    refine ⟨I.sub, I.nodup, I.cover, ?_, ?_⟩
    · intro x hx r hr r' hr' hxr hxr'
      rcases List.mem_cons.mp hx with rfl | hx
      · obtain ⟨m, hm, hmx⟩ := I.gone x hn hmem
        exact I.uniq m hm r hr r' hr' (hmx.trans hxr) (hmx.trans hxr')
      · exact I.uniq x hx r hr r' hr' hxr hxr'
    · intro p hp hpn
      obtain ⟨m, hm, hmp⟩ := I.gone p hp hpn
      exact ⟨m, List.mem_cons_of_mem _ hm, hmp⟩

theorem UInv.foldl {ws : List (P × P)} {all : List P} (L : List P) (hL : ∀ x ∈ L, x ∈ all)
    {nodes done : List P} (I : UInv ws all nodes done) :
    UInv ws all (L.foldl (ustep ws) nodes) (L.reverse ++ done) := by
  induction L generalizing nodes done with
  | nil => exact I
  | cons n L ih =>
    rw [List.reverse_cons, List.append_assoc]
    exact ih (fun x hx => hL x (List.mem_cons_of_mem _ hx)) (I.step (hL n List.mem_cons_self))

theorem UInv.init (ws : List (P × P)) {all : List P} (h : all.Nodup) : UInv ws all all [] :=
  ⟨fun _ h => h, h, fun p hp => ⟨p, hp, Joined.refl p⟩, fun _ hx => (by cases hx),
   fun p hp hpn => absurd hp hpn⟩

structure UniqueOK (ws : List (P × P)) (all uniq : List P) : Prop where
  sub : ∀ x ∈ uniq, x ∈ all
  nodup : uniq.Nodup
  cover : ∀ p ∈ all, ∃ r ∈ uniq, Joined ws p r
  one : ∀ r ∈ uniq, ∀ r' ∈ uniq, Joined ws r r' → r = r'

theorem uniqueNodes_ok (ws : List (P × P)) {ord : SetOrd P} (hord : ord.Valid) {all : List P}
    (hall : all.Nodup) : UniqueOK ws all (uniqueNodes ws ord all) := by
  rw [uniqueNodes_eq]
  have I := UInv.foldl (ws := ws) (ord.all all) (fun x hx => hord.mem_all.mp hx) (UInv.init ws hall)
  refine ⟨I.sub, I.nodup, I.cover, fun r hr r' hr' hj => ?_⟩
  have hrd : r ∈ (ord.all all).reverse ++ [] := by simpa using hord.mem_all.mpr (I.sub r hr)
  exact I.uniq r hrd r hr r' hr' (Joined.refl r) hj

theorem uniqueNodeMapping_eq (ws : List (P × P)) (ord : SetOrd P) (all : List P) :
    uniqueNodeMapping ws ord all = (ord.all all).map fun n => (n, urep ws (uniqueNodes ws ord all) n) := rfl

/-- the set `unique_node_mapping` pops from -/
theorem mem_urep_candidates {ws : List (P × P)} {uniq : List P} {n u : P} :
    u ∈ uniq.filter (· ∈ (eqp ws n).filter (· ≠ n)) ↔ u ∈ uniq ∧ Joined ws n u ∧ u ≠ n := by
  simp [List.mem_filter, mem_eqp_iff]

theorem urep_spec {ws : List (P × P)} {all uniq : List P} (U : UniqueOK ws all uniq) {n : P}
    (hn : n ∈ all) : urep ws uniq n ∈ uniq ∧ Joined ws n (urep ws uniq n) := by
  unfold urep
  simp only
  split
  · rename_i hnil
    obtain ⟨r, hr, hnr⟩ := U.cover n hn
    by_cases hrn : r = n
    · subst hrn; exact ⟨hr, Joined.refl _⟩
    · have := mem_urep_candidates.mpr ⟨hr, hnr, hrn⟩
      rw [hnil] at this; cases this
  · rename_i u rest hcons
    have : u ∈ uniq.filter (· ∈ (eqp ws n).filter (· ≠ n)) := by rw [hcons]; exact List.mem_cons_self
    exact ⟨(mem_urep_candidates.mp this).1, (mem_urep_candidates.mp this).2.1⟩

/-- `unique_nodes ∩ (class(n) − {n})` has at most one element: which one `pop()` returns is
not a choice -/
theorem urep_candidates_le_one {ws : List (P × P)} {all uniq : List P} (U : UniqueOK ws all uniq)
    (n : P) : (uniq.filter (· ∈ (eqp ws n).filter (· ≠ n))).length ≤ 1 := by
  have hnd : (uniq.filter (· ∈ (eqp ws n).filter (· ≠ n))).Nodup := List.Nodup.filter _ U.nodup
  match h : uniq.filter (· ∈ (eqp ws n).filter (· ≠ n)), hnd with
  | [], _ => simp
  | [_], _ => simp
  | a :: b :: rest, hnd =>
    exfalso
    obtain ⟨ha, haj, _⟩ := mem_urep_candidates.mp (show a ∈ uniq.filter _ by rw [h]; simp)
    obtain ⟨hb, hbj, _⟩ := mem_urep_candidates.mp (show b ∈ uniq.filter _ by rw [h]; simp)
    have := U.one a ha b hb (haj.symm.trans hbj)
    subst this
    simp at hnd

theorem urep_eq_iff {ws : List (P × P)} {all uniq : List P} (U : UniqueOK ws all uniq) {p q : P}
    (hp : p ∈ all) (hq : q ∈ all) : urep ws uniq p = urep ws uniq q ↔ Joined ws p q := by
  obtain ⟨hpu, hpj⟩ := urep_spec U hp
  obtain ⟨hqu, hqj⟩ := urep_spec U hq
  constructor
  · intro h; rw [← h] at hqj; exact hpj.trans hqj.symm
  · intro h; exact U.one _ hpu _ hqu (hpj.symm.trans (h.trans hqj))

theorem nextFree_spec (vals : List String) (fuel i : Nat) :
    toString (nextFree vals fuel i) ∉ vals ∨
      (∀ k, k < fuel → toString (i + k) ∈ vals) := by
  induction fuel generalizing i with
  | zero => right; intro k hk; omega
  | succ fuel ih =>
    unfold nextFree
    split
    · rename_i hmem
      rcases ih (i + 1) with h | h
      · exact Or.inl h
      · right
        intro k hk
        cases k with
        | zero => simpa using hmem
        | succ k =>
          have := h k (by omega)
          have e : i + 1 + k = i + (k + 1) := by omega
          rwa [e] at this
    · rename_i hmem; exact Or.inl hmem

theorem nextFree_fresh (vals : List String) (i : Nat) :
    toString (nextFree vals (vals.length + 1) i) ∉ vals := by
  rcases nextFree_spec vals (vals.length + 1) i with h | h
  · exact h
  · exfalso
    let L := (List.range (vals.length + 1)).map fun k => toString (i + k)
    have hnd : L.Nodup := by
      apply List.Nodup.map_on _ List.nodup_range
      intro a _ b _ hab
      have := Nat.repr_injective hab
      omega
    have hsub : L ⊆ vals := by
      intro s hs
      obtain ⟨k, hk, rfl⟩ := List.mem_map.mp hs
      exact h k (List.mem_range.mp hk)
    have := List.Nodup.length_le_of_subset hnd hsub
    simp [L] at this
    omega

section Dict
variable {K V : Type} [DecidableEq K]

theorem lookup_append_single (l : List (K × V)) (p : K) (s : V) (r : K) :
    (l ++ [(p, s)]).lookup r =
      match l.lookup r with
      | some a => some a
      | none => if r = p then some s else none := by
  induction l with
  | nil => simp [lookup_cons_ite]
  | cons kv l ih =>
    obtain ⟨k₀, v₀⟩ := kv
    simp only [List.cons_append, lookup_cons_ite, ih]
    split <;> rfl

end Dict

theorem namedLabels_ok_aux (umap : List (P × P)) (f : P → P) (L : List (P × String))
    (hum : ∀ ps ∈ L, umap.lookup ps.1 = some (f ps.1)) (d : List (P × String)) :
    L.foldlM (fun d (ps : P × String) =>
      match umap.lookup ps.1 with
      | none => (throw Err.keyError : Except Err (List (P × String)))
      | some r => pure (dictSet r ps.2 d)) d
      = .ok (L.foldl (fun d ps => dictSet (f ps.1) ps.2 d) d) := by
  induction L generalizing d with
  | nil => rfl
  | cons ps L ih =>
    simp only [List.foldlM_cons, List.foldl_cons]
    rw [hum ps List.mem_cons_self]
    exact ih (fun ps' h => hum ps' (List.mem_cons_of_mem _ h)) _

def namedFold (f : P → P) (L : List (P × String)) (d : List (P × String)) : List (P × String) :=
  L.foldl (fun d ps => dictSet (f ps.1) ps.2 d) d

theorem namedLabels_ok (umap : List (P × P)) (f : P → P) (L : List (P × String))
    (hum : ∀ ps ∈ L, umap.lookup ps.1 = some (f ps.1)) :
    namedLabels umap L = .ok (namedFold f L []) :=
  namedLabels_ok_aux umap f L hum []

theorem namedFold_cons (f : P → P) (ps : P × String) (L : List (P × String)) (d : List (P × String)) :
    namedFold f (ps :: L) d = namedFold f L (dictSet (f ps.1) ps.2 d) := rfl

theorem namedFold_append (f : P → P) (L₁ L₂ : List (P × String)) (d : List (P × String)) :
    namedFold f (L₁ ++ L₂) d = namedFold f L₂ (namedFold f L₁ d) := by
  unfold namedFold; rw [List.foldl_append]

structure NInv (f : P → P) (all : List (P × String)) (d : List (P × String)) : Prop where
  inj : InjLookup d
  src : ∀ r a, d.lookup r = some a → ∃ ps ∈ all, f ps.1 = r ∧ ps.2 = a

theorem NInv.fold {f : P → P} {all : List (P × String)}
    (hwf : ∀ ps ∈ all, ∀ ps' ∈ all, ps.2 = ps'.2 → f ps.1 = f ps'.1)
    (L : List (P × String)) (hL : ∀ ps ∈ L, ps ∈ all) {d : List (P × String)} (I : NInv f all d) :
    NInv f all (namedFold f L d) := by
  induction L generalizing d with
  | nil => exact I
  | cons ps L ih =>
    have hps : ps ∈ all := hL ps List.mem_cons_self
    refine ih (fun x hx => hL x (List.mem_cons_of_mem _ hx)) ⟨?_, fun r a h => ?_⟩
    · refine I.inj.dictSet fun r hr hl => ?_
      obtain ⟨ps', hps', hf, ha⟩ := I.src r _ hl
      exact hr (hf ▸ hwf ps' hps' ps hps ha)
    · rw [lookup_dictSet] at h
      by_cases h1 : r = f ps.1
      · simp only [h1, if_true] at h
        exact ⟨ps, hps, h1.symm, Option.some.inj h⟩
      · simp only [h1, if_false] at h
        exact I.src r a h

theorem NInv.nil (f : P → P) (all : List (P × String)) : NInv f all ([] : List (P × String)) :=
  ⟨fun r r' a h => by simp at h, fun r a h => by simp at h⟩

theorem namedFold_lookup_of_ne (f : P → P) (L : List (P × String)) (d : List (P × String)) (k : P)
    (h : ∀ ps ∈ L, f ps.1 ≠ k) : (namedFold f L d).lookup k = d.lookup k := by
  induction L generalizing d with
  | nil => rfl
  | cons ps L ih =>
    rw [namedFold_cons, ih _ (fun x hx => h x (List.mem_cons_of_mem _ hx)), lookup_dictSet]
    have : ¬ k = f ps.1 := fun e => h ps List.mem_cons_self e.symm
    simp [this]

theorem numberStep_fst (acc : List (P × String) × Nat) (p : P) :
    ∃ s, (numberStep acc p).1 = dictSet p s acc.1 ∧ s ∉ acc.1.map Prod.snd := by
  refine ⟨_, rfl, ?_⟩
  have := nextFree_fresh (acc.1.map (·.2)) acc.2
  simpa using this

structure NumInv (named : List (P × String)) (doneL : List P) (l : List (P × String)) : Prop where
  ext : ∀ r a, named.lookup r = some a → l.lookup r = some a
  inj : InjLookup l
  tot : ∀ p ∈ doneL, (l.lookup p).isSome

theorem NumInv.fold {named : List (P × String)} (L : List P) (hL : ∀ p ∈ L, named.lookup p = none)
    {doneL : List P} {acc : List (P × String) × Nat} (I : NumInv named doneL acc.1) :
    NumInv named (doneL ++ L) (L.foldl numberStep acc).1 := by
  induction L generalizing doneL acc with
  | nil => simpa using I
  | cons p L ih =>
    rw [List.foldl_cons]
    obtain ⟨s, hs, hfresh⟩ := numberStep_fst acc p
    have hp0 : named.lookup p = none := hL p List.mem_cons_self
    have I' : NumInv named (doneL ++ [p]) (numberStep acc p).1 := by
      rw [hs]
      constructor
      · intro r a h
        rw [lookup_dictSet]
        have : ¬ r = p := fun e => by rw [e, hp0] at h; cases h
        simp only [this, if_false]
        exact I.ext r a h
      · exact I.inj.dictSet fun r _ hl => hfresh (lookup_mem_vals hl)
      · intro q hq
        rw [lookup_dictSet]
        by_cases hqp : q = p
        · simp [hqp]
        · simp only [hqp, if_false]
          rcases List.mem_append.mp hq with hq | hq
          · exact I.tot q hq
          · exact absurd (List.mem_singleton.mp hq) hqp
    have := ih (doneL := doneL ++ [p]) (fun q hq => hL q (List.mem_cons_of_mem _ hq)) I'
    simpa [List.append_assoc] using this

theorem numberUnlabeled_spec (named : List (P × String)) (hinj : InjLookup named) (unl : List P)
    (hunl : ∀ p ∈ unl, named.lookup p = none) : NumInv named unl (numberUnlabeled named unl) := by
  have I0 : NumInv named [] (named, named.length + 1).1 :=
    ⟨fun _ _ h => h, hinj, fun p hp => by cases hp⟩
  simpa [numberUnlabeled] using NumInv.fold unl hunl I0

/-- what the parser theorems need from the labelled-node symbols: they sit on terminals, and
two symbols carrying the same name sit on the same electrical node -/
structure NodeSymsWF (ws : List (P × P)) (all : List P) (nodeSyms : List (P × String)) : Prop where
  on_terminal : ∀ ps ∈ nodeSyms, ps.1 ∈ all
  same_name : ∀ ps ∈ nodeSyms, ∀ ps' ∈ nodeSyms, ps.2 = ps'.2 → Joined ws ps.1 ps'.1

theorem umap_lookup (ws : List (P × P)) {ord : SetOrd P} (hord : ord.Valid) {all : List P} {p : P} (hp : p ∈ all) :
    (uniqueNodeMapping ws ord all).lookup p = some (urep ws (uniqueNodes ws ord all) p) := by
  rw [uniqueNodeMapping_eq, lookup_map_self]; simp [hord.mem_all.mpr hp]

structure LabelsOK (ws : List (P × P)) (ord : SetOrd P) (all : List P) (nodeSyms : List (P × String))
    (labels : List (P × String)) : Prop where
  eq : nodeLabelMapping ws ord all nodeSyms = .ok labels
  inj : InjLookup labels
  tot : ∀ r ∈ uniqueNodes ws ord all, (labels.lookup r).isSome
  named : ∀ r a, (namedFold (urep ws (uniqueNodes ws ord all)) nodeSyms []).lookup r = some a →
    labels.lookup r = some a

theorem labels_ok (ws : List (P × P)) {ord : SetOrd P} (hord : ord.Valid) {all : List P}
    (hall : all.Nodup) {nodeSyms : List (P × String)} (hwf : NodeSymsWF ws all nodeSyms) :
    ∃ labels, LabelsOK ws ord all nodeSyms labels := by
  have U := uniqueNodes_ok ws hord hall
  let f := urep ws (uniqueNodes ws ord all)
  have hnamed : namedLabels (uniqueNodeMapping ws ord all) nodeSyms = .ok (namedFold f nodeSyms []) :=
    namedLabels_ok _ f nodeSyms (fun ps hps => umap_lookup ws hord (hwf.on_terminal ps hps))
  have hWF : ∀ ps ∈ nodeSyms, ∀ ps' ∈ nodeSyms, ps.2 = ps'.2 → f ps.1 = f ps'.1 := by
    intro ps hps ps' hps' hid
    exact (urep_eq_iff U (hwf.on_terminal ps hps) (hwf.on_terminal ps' hps')).mpr
      (hwf.same_name ps hps ps' hps' hid)
  have NI : NInv f nodeSyms (namedFold f nodeSyms []) := NInv.fold hWF nodeSyms (fun _ h => h) (NInv.nil f _)
  let named := namedFold f nodeSyms []
  let unl := (ord.uniq (uniqueNodes ws ord all)).filter fun p => (named.lookup p).isNone
  have hunl : ∀ p ∈ unl, named.lookup p = none := by
    intro p hp
    have := (List.mem_filter.mp hp).2
    cases h : named.lookup p with
    | none => rfl
    | some a => simp [h] at this
  have NU := numberUnlabeled_spec named NI.inj unl hunl
  refine ⟨numberUnlabeled named unl, ?_, NU.inj, ?_, NU.ext⟩
  · unfold nodeLabelMapping
    rw [hnamed]
    rfl
  · intro r hr
    cases h : named.lookup r with
    | some a => rw [NU.ext r a h]; rfl
    | none =>
      apply NU.tot
      simp only [unl, List.mem_filter]
      exact ⟨hord.mem_uniq.mpr hr, by simp [h]⟩

theorem lookupLabel_ok {umap : List (P × P)} {labels : List (P × String)} {p r : P} {a : String}
    (hu : umap.lookup p = some r) (hl : labels.lookup r = some a) :
    lookupLabel umap (.ok labels) p = .ok a := by
  unfold lookupLabel
  simp [hu, hl, bind, Except.bind, pure, Except.pure]

/-- `_get_node_index` succeeds on every terminal, and two terminals get the same name iff they
are joined by wires -/
theorem getNodeIndex_spec (ws : List (P × P)) {ord : SetOrd P} (hord : ord.Valid) {all : List P}
    (hall : all.Nodup) {nodeSyms : List (P × String)} (hwf : NodeSymsWF ws all nodeSyms) :
    ∃ lab : P → String,
      (∀ p ∈ all, getNodeIndex ws ord all nodeSyms p = .ok (lab p)) ∧
      (∀ p, p ∉ all → getNodeIndex ws ord all nodeSyms p = .error Err.keyError) ∧
      (∀ p ∈ all, ∀ q ∈ all, (lab p = lab q ↔ Joined ws p q)) := by
  have U := uniqueNodes_ok ws hord hall
  obtain ⟨labels, L⟩ := labels_ok ws hord hall hwf
  let f := urep ws (uniqueNodes ws ord all)
  have hsome : ∀ p ∈ all, ∃ a, labels.lookup (f p) = some a := fun p hp =>
    Option.isSome_iff_exists.mp (L.tot (f p) (urep_spec U hp).1)
  refine ⟨fun p => ((labels.lookup (f p)).getD ""), ?_, ?_, ?_⟩
  · intro p hp
    obtain ⟨a, h⟩ := hsome p hp
    unfold getNodeIndex
    rw [L.eq]
    show lookupLabel _ _ p = .ok ((labels.lookup (f p)).getD "")
    rw [h]; exact lookupLabel_ok (umap_lookup ws hord hp) h
  · intro p hp
    unfold getNodeIndex lookupLabel
    rw [L.eq, uniqueNodeMapping_eq, lookup_map_self, if_neg fun h => hp (hord.mem_all.mp h)]
    rfl
  · intro p hp q hq
    obtain ⟨a, h1⟩ := hsome p hp
    obtain ⟨b, h2⟩ := hsome q hq
    simp only [h1, h2, Option.getD_some]
    constructor
    · intro hab
      exact (urep_eq_iff U hp hq).mp (L.inj _ _ a h1 (hab ▸ h2))
    · intro hj
      have : f p = f q := (urep_eq_iff U hp hq).mpr hj
      rw [this] at h1
      rw [h1] at h2
      exact Option.some.inj h2

/-- a node / ground symbol names the node it sits on (the last symbol on a node wins) -/
theorem getNodeIndex_named (ws : List (P × P)) {ord : SetOrd P} (hord : ord.Valid) {all : List P}
    (hall : all.Nodup) {pre post : List (P × String)} {ps : P × String}
    (hwf : NodeSymsWF ws all (pre ++ ps :: post))
    (hlast : ∀ ps' ∈ post, ¬ Joined ws ps.1 ps'.1) :
    getNodeIndex ws ord all (pre ++ ps :: post) ps.1 = .ok ps.2 := by
  have U := uniqueNodes_ok ws hord hall
  obtain ⟨labels, L⟩ := labels_ok ws hord hall hwf
  let f := urep ws (uniqueNodes ws ord all)
  have hps : ps.1 ∈ all := hwf.on_terminal ps (by simp)
  have hnamed : (namedFold f (pre ++ ps :: post) []).lookup (f ps.1) = some ps.2 := by
    rw [namedFold_append, namedFold_cons, namedFold_lookup_of_ne, lookup_dictSet]
    · simp
    · intro ps' hps' heq
      have hps'a : ps'.1 ∈ all := hwf.on_terminal ps' (by simp [hps'])
      exact hlast ps' hps' ((urep_eq_iff U hps hps'a).mp heq.symm)
  unfold getNodeIndex
  rw [L.eq]
  exact lookupLabel_ok (umap_lookup ws hord hps) (L.named (f ps.1) ps.2 hnamed)

end CC.Draw
