/-
  CC.Proofs.FmtExponent — the exponent stage (`FloatPrecision.exponent` through the repr
  model `floatToString`) for `0 < |v| < 1e16`: positional notation (`1e-4 ≤ |v|`) and exponent
  notation of small values.
-/
import CC.Proofs.FmtDigits
import CC.Model.Fmt

namespace CC.Fmt

theorem reprSci_false {x : ℚ} (h4 : 1 / 10000 ≤ x) (h16 : x < 10000000000000000) : reprSci x = false := by
  unfold reprSci
  have h0 : x ≠ 0 := by intro h; rw [h] at h4; norm_num at h4
  simp only [ne_eq, h0, not_false_eq_true, decide_true, Bool.true_and, Bool.or_eq_false_iff,
    decide_eq_false_iff_not, not_lt, not_le]
  exact ⟨h4, h16⟩

theorem floatToString_small {x : ℚ} (p : ℕ) (h4 : 1 / 10000 ≤ x) (h1 : x < 1) :
    floatToString p x = { intPart := 0, lz := lzExact x, postZero := false } := by
  have h0 : 0 < x := lt_of_lt_of_le (by norm_num) h4
  have hfl : ⌊x⌋ = 0 := Int.floor_eq_zero_iff.mpr ⟨le_of_lt h0, h1⟩
  unfold floatToString
  rw [reprSci_false h4 (lt_trans h1 (by norm_num))]
  simp only [Bool.false_eq_true, ↓reduceIte, floor_eq, hfl, Int.toNat_zero, Nat.cast_zero, sub_zero]
  rw [if_neg (ne_of_gt h0)]

theorem floatToString_big_intPart {x : ℚ} (p : ℕ) (h1 : 1 ≤ x) (h16 : x < 10000000000000000) :
    (floatToString p x).intPart = x.floor.toNat := by
  unfold floatToString
  rw [reprSci_false (le_trans (by norm_num) h1) h16]
  simp only [Bool.false_eq_true, ↓reduceIte]
  split_ifs <;> rfl

theorem floatToString_one (p : ℕ) : floatToString p 1 = { intPart := 1, lz := 1, postZero := true } := by
  unfold floatToString
  rw [reprSci_false (by norm_num) (by norm_num)]
  simp [floor_eq]

theorem decade_of_ge_one {x : ℚ} (h1 : 1 ≤ x) : decade x = (numDigits x.floor.toNat : ℤ) - 1 := by
  unfold decade; rw [if_pos h1]

theorem decade_of_lt_one {x : ℚ} (h1 : x < 1) : decade x = -(lzExact x : ℤ) - 1 := by
  unfold decade; rw [if_neg (not_le.mpr h1)]

theorem lzExact_unique {x : ℚ} {z : ℕ} (h1 : pow10 (-(z : ℤ) - 1) ≤ x) (h2 : x < pow10 (-(z : ℤ))) :
    lzExact x = z := by
  have hx1 : x < 1 := lt_of_lt_of_le h2 (pow10_le_one (by omega))
  have := decade_unique h1 (by rwa [sub_add_cancel])
  rw [decade_of_lt_one hx1] at this; omega

theorem exponent_of_ge_one (v : ℚ) (p : ℕ) (h1 : 1 ≤ qabs v) (h16 : qabs v < 10000000000000000) :
    exponent v p = decade (qabs v) + 1 - p := by
  have hip := floatToString_big_intPart p h1 h16
  have hfl : (1 : ℤ) ≤ ⌊qabs v⌋ := Int.le_floor.mpr (by simpa using h1)
  have hne : (floatToString p (qabs v)).intPart ≠ 0 := by
    rw [hip, floor_eq]; omega
  unfold exponent
  rw [hip] at hne
  simp only [hip, hne, ↓reduceIte]
  rw [decade_of_ge_one h1]; ring

theorem reprSci_true_small {x : ℚ} (h0 : 0 < x) (h4 : x < 1 / 10000) : reprSci x = true := by
  unfold reprSci
  simp only [ne_eq, ne_of_gt h0, not_false_eq_true, decide_true, Bool.true_and, Bool.or_eq_true,
    decide_eq_true_eq]
  left; exact h4

theorem pow10_neg4 : pow10 (-4) = 1 / 10000 := by simp [pow10_eq_zpow]; norm_num

theorem le_lzExact_of_lt {x : ℚ} {k : ℕ} (h0 : 0 < x) (h1 : x < 1) (hk : x < pow10 (-(k : ℤ))) : k ≤ lzExact x := by
  by_contra hlt
  have := pow10_le_pow10 (by omega : -(k : ℤ) ≤ -(lzExact x : ℤ) - 1)
  linarith [(lzExact_spec h0 h1).1]

/-- the first `repr` on `(0, 1)`: integer part 0 and the `z` zeros of the exact value, or one less when `'{:.nf}'` rounds
the digits up to the next power of ten -/
theorem floatToString_lt_one (p : ℕ) {x : ℚ} (h0 : 0 < x) (h1 : x < 1) :
    ∃ l, floatToString p x = { intPart := 0, lz := l, postZero := false } ∧
      (l = lzExact x ∨
        (l + 1 = lzExact x ∧ rhe (x * pow10 ((lzExact x + 2 + p : ℕ) : ℤ)) = ((10 ^ (p + 2) : ℕ) : ℤ))) := by
  rcases le_or_gt (1 / 10000) x with h4 | h4
  · exact ⟨_, floatToString_small p h4 h1, Or.inl rfl⟩
  obtain ⟨hz1, hz2⟩ := lzExact_spec h0 h1
  have hz4 : 4 ≤ lzExact x := le_lzExact_of_lt h0 h1 (by rwa [Nat.cast_ofNat, pow10_neg4])
  set z := lzExact x with hz
  have hn : (decade x).natAbs + 1 + p = z + 2 + p := by rw [decade_of_lt_one h1]; omega
  -- the digits `K` of `'{:.nf}'`: `p + 2` of them, or `10^(p+2)`
  obtain ⟨hKlo, hKhi⟩ := rhe_mul_pow10_bounds (s := ((z + 2 + p : ℕ) : ℤ)) (n := p + 1) hz1
    (by rwa [sub_add_cancel]) (by push_cast; ring)
  obtain ⟨K, hK⟩ := Int.eq_ofNat_of_zero_le (le_trans (Int.natCast_nonneg _) hKlo)
  rw [hK] at hKlo hKhi ⊢
  have hKlo' : 10 ^ (p + 1) ≤ K := by exact_mod_cast hKlo
  have hKhi' : K ≤ 10 ^ (p + 2) := by exact_mod_cast hKhi
  have hlt : K < 10 ^ (z + 2 + p) :=
    lt_of_le_of_lt hKhi' (Nat.pow_lt_pow_right (by norm_num) (by omega))
  have hpos : K ≠ 0 := Nat.pos_iff_ne_zero.mp (lt_of_lt_of_le (by positivity) hKlo')
  refine ⟨z + 2 + p - numDigits K, ?_, ?_⟩
  · unfold floatToString
    rw [reprSci_true_small h0 h4]
    simp only [↓reduceIte, hn, ← pow10_natCast', hK, Int.toNat_natCast, Nat.div_eq_of_lt hlt, Nat.mod_eq_of_lt hlt,
      hpos]
  · rcases eq_or_lt_of_le hKhi' with hc | hc
    · right
      rw [hc, numDigits_eq_of_bounds (k := p + 3) (by omega) (by simp)
        (Nat.pow_lt_pow_right (by norm_num) (by omega))]
      exact ⟨by omega, rfl⟩
    · left
      rw [numDigits_eq_of_bounds (k := p + 2) (by omega) (by simpa using hKlo') hc]
      omega

/-- repr of a value of `(0, 1)` with `l` zeros after the point whose digits end where `'{:.nf}'` cuts them:
the leading-zero count is exact -/
theorem floatToString_terminating (p : ℕ) {y : ℚ} {l : ℕ} {k : ℤ} (hlo : pow10 (-(l : ℤ) - 1) ≤ y)
    (hhi : y < pow10 (-(l : ℤ))) (hk : y * pow10 ((l + 2 + p : ℕ) : ℤ) = k) :
    floatToString p y = { intPart := 0, lz := l, postZero := false } := by
  have h0 : 0 < y := lt_of_lt_of_le (pow10_pos _) hlo
  have h1 : y < 1 := lt_of_lt_of_le hhi (pow10_le_one (by omega))
  have hl := lzExact_unique hlo hhi
  obtain ⟨l', hfs, h | ⟨_, hK⟩⟩ := floatToString_lt_one p h0 h1
  · rw [hfs, h, hl]
  · -- the digits are `k < 10^(p+2)` themselves
    rw [hl, hk, rhe_intCast] at hK
    have := mul_pow10_lt hhi (s := ((l + 2 + p : ℕ) : ℤ)) (k := ((p + 2 : ℕ) : ℤ)) (by push_cast; ring)
    rw [hk, hK, pow10_natCast_int] at this
    exact absurd this (lt_irrefl _)

/-! On `0 < |v| < 1`, `exponent` reads the number `l` of leading zeros off the first `repr`, rounds `|v|` to `p` digits at
that position, and reads the leading zeros of the rounded value off a second `repr`. -/

theorem exponent_of_intPart_zero (v : ℚ) (p : ℕ) {l : ℕ}
    (hfs : floatToString p (qabs v) = { intPart := 0, lz := l, postZero := false }) :
    exponent v p =
      (let s2 := floatToString p (((rhe (qabs v * pow10 ((l + p : ℕ) : ℤ)) : ℤ) : ℚ) * pow10 (-((l + p : ℕ) : ℤ)))
       if s2.postZero then 0 else -((s2.lz : ℤ) + p)) := by
  unfold exponent
  simp only [hfs, ↓reduceIte]
  rw [mul_assoc, ← pow10_add, div_div, ← pow10_add, div_eq_mul_inv, ← pow10_neg]
  push_cast
  rw [add_comm (p : ℤ) (l : ℤ)]

/-- the rounded value is `10^-z`: the second `repr` shows one zero less (or `'1.0'` when `z = 0`) -/
theorem exponent_of_rounded_pow10 (v : ℚ) (p z : ℕ) {l : ℕ}
    (hfs : floatToString p (qabs v) = { intPart := 0, lz := l, postZero := false })
    (hy : ((rhe (qabs v * pow10 ((l + p : ℕ) : ℤ)) : ℤ) : ℚ) * pow10 (-((l + p : ℕ) : ℤ)) = pow10 (-(z : ℤ))) :
    exponent v p = if z = 0 then 0 else 1 - ((z : ℤ) + p) := by
  rw [exponent_of_intPart_zero v p hfs, hy]
  by_cases hz : z = 0
  · rw [if_pos hz, hz, Nat.cast_zero, neg_zero, pow10_zero, floatToString_one]; rfl
  · rw [if_neg hz, floatToString_terminating p (l := z - 1) (k := ((10 ^ (p + 1) : ℕ) : ℤ))
        (by rw [show -((z - 1 : ℕ) : ℤ) - 1 = -(z : ℤ) by omega]) (pow10_lt_pow10 (by omega))
        (by rw [← pow10_add, ← pow10_natCast_int]; congr 1; push_cast; omega)]
    simp only [Bool.false_eq_true, ↓reduceIte]
    omega

/-- **the exponent stage on `0 < |v| < 1`**, with `z` zeros after the point: the exponent of the `p`-th digit,
`-(z + p)`; or, for a value within half a unit of its `p`-th digit below `10^-z`, one more (`0`, from the
`'1.0'` branch, when `z = 0`) -/
theorem exponent_lt_one (v : ℚ) (p : ℕ) (hp : 1 ≤ p) (h0 : 0 < qabs v) (h1 : qabs v < 1) :
    exponent v p = -((lzExact (qabs v) : ℤ) + p) ∨
    (pow10 (-(lzExact (qabs v) : ℤ)) - pow10 (-((lzExact (qabs v) + p : ℕ) : ℤ)) / 2 ≤ qabs v
      ∧ exponent v p = if lzExact (qabs v) = 0 then 0 else 1 - ((lzExact (qabs v) : ℤ) + p)) := by
  obtain ⟨hz1, hz2⟩ := lzExact_spec h0 h1
  obtain ⟨l, hfs, hl⟩ := floatToString_lt_one p h0 h1
  set a := qabs v with ha
  set z := lzExact a with hz
  rcases hl with rfl | ⟨hl, hK⟩
  · obtain ⟨hRlo, hRhi⟩ := rhe_mul_pow10_bounds (s := ((z + p : ℕ) : ℤ)) (n := p - 1) hz1
      (by rwa [sub_add_cancel]) (by push_cast; omega)
    rw [Nat.sub_add_cancel hp] at hRhi
    rcases eq_or_lt_of_le hRhi with hcarry | hRlt
    · -- the `p` digits round up to `10^p`
      right
      have hcq : ((rhe (a * pow10 ((z + p : ℕ) : ℤ)) : ℤ) : ℚ) = pow10 (p : ℤ) := by rw [hcarry, pow10_natCast_int]
      refine ⟨sub_half_le_of_rhe_eq hcq (by push_cast; ring), exponent_of_rounded_pow10 v p z hfs ?_⟩
      rw [hcq, ← pow10_add]; congr 1; push_cast; ring
    · -- `p` digits in the decade of `a`, all of them shown by `'{:.nf}'`
      left
      rw [exponent_of_intPart_zero v p hfs, floatToString_terminating p (l := z)
        (k := rhe (a * pow10 ((z + p : ℕ) : ℤ)) * 100)]
      · simp only [Bool.false_eq_true, ↓reduceIte]
      · refine le_mul_pow10 ?_ (by push_cast; omega : ((p - 1 : ℕ) : ℤ) + -((z + p : ℕ) : ℤ) = _)
        rw [pow10_natCast_int (p - 1)]; exact_mod_cast hRlo
      · refine mul_pow10_lt ?_ (by push_cast; ring : (p : ℤ) + -((z + p : ℕ) : ℤ) = _)
        rw [pow10_natCast_int p]; exact_mod_cast hRlt
      · rw [mul_assoc, ← pow10_add, show -((z + p : ℕ) : ℤ) + ((z + 2 + p : ℕ) : ℤ) = 2 by push_cast; ring, pow10_two]
        push_cast; rfl
  · -- already `'{:.nf}'` rounds up to `10^-z` and shows `z - 1` zeros: then the `p` digits round up as well
    have hnear := sub_half_le_of_rhe_eq (m := -(z : ℤ)) (by rw [hK, pow10_natCast_int]) (by push_cast; ring)
    have hfine : pow10 (-((z + 2 + p : ℕ) : ℤ)) < pow10 (-((l + p : ℕ) : ℤ)) := pow10_lt_pow10 (by push_cast; omega)
    have hfine' : pow10 (-((z + 2 + p : ℕ) : ℤ)) < pow10 (-((z + p : ℕ) : ℤ)) := pow10_lt_pow10 (by push_cast; omega)
    have hR : rhe (a * pow10 ((l + p : ℕ) : ℤ)) = ((10 ^ (p - 1) : ℕ) : ℤ) :=
      rhe_eq_pow10_of_near (m := -(z : ℤ)) (by linarith) hz2 (by push_cast; omega)
    refine Or.inr ⟨by linarith, exponent_of_rounded_pow10 v p z hfs ?_⟩
    rw [hR, ← pow10_natCast_int, ← pow10_add]; congr 1; push_cast; omega

end CC.Fmt
