/-
  The circuits the state-space theorems are about, and the one substitution they all use.
  `RLC N cvals lvals`: the `w = 0` network of a circuit of resistors, ideal sources, capacitors (open circuits) and
  inductors (shorts) together with the two value dictionaries.  `BranchKind` / `RLC.kind`: the five things a branch of
  such a network can be (capacitor, inductor, voltage source, current source, passive), each with the answer to every
  look-up performed on its id.  `reactElem`: capacitor k ↦ `cap k`, inductor k ↦ `ind k`, sources at `u`; `sampleNet`
  and `phasorNet` are `N.mapElems` of instances of it (`sampleNet_eq`, `phasorNet_eq`), so one lemma about `reactElem`
  serves every substituted network.  What a report of a substituted network reads (`report_*_mapElems`).

  The per-sample network of C12 (`sampleNet`: capacitor k ↦ ideal current source `C_k·ẋ_k`, inductor k ↦ ideal
  voltage source `L_k·ẋ_k`, sources at their instantaneous values) has the SAME nodal matrix as the `w = 0` network,
  so the soundness theorem of C01 (`sound_all`) applies to it: a vector that solves
  `Ã y = (right-hand side of the sample network)` reports potentials, voltages and currents that satisfy Kirchhoff's
  laws and every element law of the circuit at that sample.
-/
import CC.Proofs.Sound
import CC.Proofs.MapElems
import CC.Proofs.StateModel
set_option linter.unusedSectionVars false

namespace CC
section
variable {L K : Type} [DecidableEq L] [LabelOrd L] [Field K] [DecidableEq K]

section mapElems
variable (N : Net L K) (f : Branch L K → Elem K)
variable (hk : KeepsStructure N f)
include hk

theorem substituted_is_circuit
    (wf : N.WF) (y : List K) (hy : y.length = N.nodes.length + N.vsIds.length)
    (h : matVec N.mnaA y = (N.mapElems f).mnaB) :
    CircuitEqs (N.mapElems f) ((N.mapElems f).reportOf y) := by
  have wf' := mapElems_wf N f wf
  exact (sound_all (N.mapElems f) y wf'.ids_nodup wf'.zero_mem
    (by rw [mapElems_nodes, mapElems_vsIds N f hk]; exact hy)
    (by rw [mapElems_mnaA N f hk]; exact h)).2.2

end mapElems

theorem solOf_mapElems (N : Net L K) (f : Branch L K → Elem K) (hk : KeepsStructure N f) (x : List K) :
    (N.mapElems f).solOf x = N.solOf x := by
  unfold Net.solOf
  rw [mapElems_nodes, mapElems_vsIds N f hk]

theorem report_pot_mapElems (N : Net L K) (f : Branch L K → Elem K) (y : List K) (n : L) :
    ((N.mapElems f).reportOf y).pot n = N.pot (N.solOf y) n := by
  show (N.mapElems f).pot ((N.mapElems f).solOf y) n = _
  unfold Net.pot Net.solOf
  rw [mapElems_nodes]
  rfl

theorem report_v_mapElems (N : Net L K) (f : Branch L K → Elem K) (hids : N.ids.Nodup) (y : List K)
    {b : Branch L K} (hb : b ∈ N.branches) :
    ((N.mapElems f).reportOf y).v b.id = N.pot (N.solOf y) b.n1 - N.pot (N.solOf y) b.n2 := by
  have := reportOf_v (N.mapElems f) y (mapElems_ids_nodup f hids) (mem_mapElems N f hb)
  simp only at this
  rw [this]
  exact congrArg₂ (· - ·) (report_pot_mapElems N f y b.n1) (report_pot_mapElems N f y b.n2)

/-- the current is the one of the branch with the new element; the voltage it divides (`Net.vOf`) is read from the
potentials of `N`, whatever the element -/
theorem report_i_mapElems (N : Net L K) (f : Branch L K → Elem K) (hk : KeepsStructure N f) (hids : N.ids.Nodup)
    (x : List K) {b : Branch L K} (hb : b ∈ N.branches) :
    ((N.mapElems f).reportOf x).i b.id = N.curOf (N.solOf x) { b with e := f b } := by
  have := reportOf_i (N.mapElems f) x (mapElems_ids_nodup f hids) (mem_mapElems N f hb)
  simp only at this
  rw [this, solOf_mapElems N f hk]
  rfl

theorem report_i_vs_mapElems (N : Net L K) (f : Branch L K → Elem K) (hk : KeepsStructure N f) (hids : N.ids.Nodup)
    (x : List K) {b : Branch L K} (hb : b ∈ N.branches) (hvs : b.e.isIdealVS = true) :
    ((N.mapElems f).reportOf x).i b.id = (N.solOf x).ivs b.id := by
  rw [report_i_mapElems N f hk hids x hb, Net.curOf]
  simp only [(hk b hb).1, hvs, ↓reduceIte]

theorem setSource_keeps (sources : List String) (u : List K) (b : Branch L K) :
    (setSource sources u b).isIdealVS = b.e.isIdealVS ∧ (setSource sources u b).Yfin = b.e.Yfin := by
  unfold setSource
  cases idxOf? b.id sources with
  | none => exact ⟨rfl, rfl⟩
  | some k => cases b.e <;> exact ⟨rfl, rfl⟩

theorem setSource_some {sources : List String} {u : List K} {b : Branch L K} {m : Nat}
    (hs : idxOf? b.id sources = some m) : setSource sources u b = b.e.setSrc (u.getD m 0) := by
  unfold setSource
  rw [hs]
  cases b.e <;> rfl

theorem setSource_none {sources : List String} {u : List K} {b : Branch L K}
    (hs : idxOf? b.id sources = none) : setSource sources u b = b.e := by
  unfold setSource
  rw [hs]

theorem cs_form {e : Elem K} (hcs : e.isCS = true) (hl : e.isLossy = false) : ∃ I, e = .thevenin 0 I := by
  cases e with
  | norton Z V =>
    unfold Elem.isCS Elem.Ival at hcs
    unfold Elem.isLossy Elem.kind at hl
    by_cases hz : Z = 0
    · simp only [hz, ↓reduceIte, ne_eq, not_true_eq_false, decide_false, Bool.false_eq_true] at hcs
    · by_cases hv : V = 0
      · simp only [hz, ↓reduceIte, hv, zero_div, ne_eq, not_true_eq_false, decide_false, Bool.false_eq_true] at hcs
      · simp only [hz, ↓reduceIte, hv, Bool.true_eq_false] at hl
  | thevenin Y I =>
    unfold Elem.isCS Elem.Ival at hcs
    unfold Elem.isLossy Elem.kind at hl
    by_cases hy : Y = 0
    · exact ⟨I, by rw [hy]⟩
    · have hi : I ≠ 0 := by simpa using hcs
      simp only [hy, ↓reduceIte, hi, Bool.true_eq_false] at hl

/-- the `w = 0` network of an RLC + ideal-source circuit with its two value dictionaries -/
structure RLC (N : Net L K) (cvals lvals : ValDict K) : Prop where
  wf : N.WF
  capOpen : ∀ b ∈ N.branches, b.id ∈ cvals.keys → b.e = .thevenin 0 0
  indShort : ∀ b ∈ N.branches, b.id ∈ lvals.keys → b.e = .norton 0 0
  capMem : ∀ id ∈ cvals.keys, id ∈ N.ids
  indMem : ∀ id ∈ lvals.keys, id ∈ N.ids
  capNodup : cvals.keys.Nodup
  indNodup : lvals.keys.Nodup
  notLossy : ∀ b ∈ N.branches, b.e.isLossy = false

theorem rlc_iff (N : Net L K) (cvals lvals : ValDict K) : RLC N cvals lvals ↔ N.WF ∧
    (∀ b ∈ N.branches, (b.id ∈ cvals.keys → b.e = .thevenin 0 0) ∧ (b.id ∈ lvals.keys → b.e = .norton 0 0) ∧
      b.e.isLossy = false) ∧
    (∀ id ∈ cvals.keys, id ∈ N.ids) ∧ (∀ id ∈ lvals.keys, id ∈ N.ids) ∧ cvals.keys.Nodup ∧ lvals.keys.Nodup :=
  ⟨fun h => ⟨h.wf, fun b hb => ⟨h.capOpen b hb, h.indShort b hb, h.notLossy b hb⟩, h.capMem, h.indMem, h.capNodup,
     h.indNodup⟩,
   fun h => ⟨h.1, fun b hb => (h.2.1 b hb).1, fun b hb => (h.2.1 b hb).2.1, h.2.2.1, h.2.2.2.1, h.2.2.2.2.1,
     h.2.2.2.2.2, fun b hb => (h.2.1 b hb).2.2⟩⟩

instance (N : Net L K) (cvals lvals : ValDict K) : Decidable (RLC N cvals lvals) :=
  decidable_of_iff _ (rlc_iff N cvals lvals).symm

section kinds
variable {N : Net L K} {cvals lvals : ValDict K}

theorem RLC.indKeys (h : RLC N cvals lvals) :
    ∀ id ∈ lvals.keys, id ∈ N.vsIds := by
  intro id hid
  obtain ⟨b, hb, rfl⟩ := List.mem_map.mp (h.indMem id hid)
  rw [id_mem_vsIds_iff N h.wf.ids_nodup b hb, h.indShort b hb hid]
  simp only [Elem.isIdealVS, decide_true]

/-- What a branch of an `RLC` network can be.  Each constructor answers every look-up that the model's row functions,
`reactElem`, `setSource`, `ssSources` and the accessors perform on the branch's id: its positions in the two
dictionaries, in the voltage- and current-source maps and in the published `sources`, and the form of its element. -/
inductive BranchKind (N : Net L K) (cvals lvals : ValDict K) (b : Branch L K) : Prop
  | cap (k : Nat) (hc : idxOf? b.id cvals.keys = some k) (he : b.e = .thevenin 0 0)
      (hv : idxOf? b.id N.vsIds = none) (hcs : b.id ∉ N.csIds) (hl : idxOf? b.id lvals.keys = none)
      (hs : idxOf? b.id (ssSources N lvals) = none)
  | ind (k r : Nat) (hc : idxOf? b.id cvals.keys = none) (hl : idxOf? b.id lvals.keys = some k)
      (he : b.e = .norton 0 0) (hv : idxOf? b.id N.vsIds = some r) (hs : idxOf? b.id (ssSources N lvals) = none)
  | vsrc (r m : Nat) (V : K) (hc : idxOf? b.id cvals.keys = none) (hl : idxOf? b.id lvals.keys = none)
      (he : b.e = .norton 0 V) (hv : idxOf? b.id N.vsIds = some r)
      (hs : idxOf? b.id (ssSources N lvals) = some m)
  | csrc (k : Nat) (I : K) (hc : idxOf? b.id cvals.keys = none) (hl : idxOf? b.id lvals.keys = none)
      (he : b.e = .thevenin 0 I) (hI : I ≠ 0) (hv : idxOf? b.id N.vsIds = none)
      (hk : idxOf? b.id N.csIds = some k) (hs : idxOf? b.id (ssSources N lvals) = some k)
  | passive (hc : idxOf? b.id cvals.keys = none) (hl : idxOf? b.id lvals.keys = none)
      (hv : idxOf? b.id N.vsIds = none) (hk : idxOf? b.id N.csIds = none)
      (hs : idxOf? b.id (ssSources N lvals) = none) (hvs : b.e.isIdealVS = false) (hcs : b.e.isCS = false)

theorem RLC.kind (h : RLC N cvals lvals) {b : Branch L K} (hb : b ∈ N.branches) : BranchKind N cvals lvals b := by
  have hids := h.wf.ids_nodup
  have hvsI := id_mem_vsIds_iff N hids b hb
  have hcsI := id_mem_csIds_iff N hids b hb
  cases hc : idxOf? b.id cvals.keys with
  | some k =>
    have he := h.capOpen b hb (mem_of_idx hc)
    have hv : idxOf? b.id N.vsIds = none :=
      idxOf?_none_of_not_mem fun hm => by simpa [he, Elem.isIdealVS] using hvsI.mp hm
    have hcs : b.id ∉ N.csIds := fun hm => by simpa [he, Elem.isCS, Elem.Ival] using hcsI.mp hm
    exact .cap k hc he hv hcs (idxOf?_none_of_not_mem fun hm => not_mem_of_idx_none hv (h.indKeys _ hm))
      (idxOf?_none_of_not_mem fun hm => (mem_ssSources.mp hm).elim hcs fun h' => not_mem_of_idx_none hv h'.1)
  | none =>
    cases hl : idxOf? b.id lvals.keys with
    | some k =>
      obtain ⟨r, hr, _⟩ := idxOf?_of_mem (h.indKeys _ (mem_of_idx hl))
      -- an inductor is an ideal voltage source that is not published
      exact .ind k r hc hl (h.indShort b hb (mem_of_idx hl)) hr (idxOf?_none_of_not_mem fun hm =>
        (mem_ssSources.mp hm).elim (fun h' => csIds_not_vsIds N hids h' (mem_of_idx hr)) fun h' => h'.2 (mem_of_idx hl))
    | none =>
      cases hv : idxOf? b.id N.vsIds with
      | some r =>
        -- an ideal voltage source that is no inductor is published
        obtain ⟨m, hm, _⟩ := idxOf?_of_mem (mem_ssSources.mpr (.inr ⟨mem_of_idx hv, not_mem_of_idx_none hl⟩))
        cases he : b.e with
        | norton Z V =>
          have hz : Z = 0 := by simpa [he, Elem.isIdealVS] using hvsI.mp (mem_of_idx hv)
          exact .vsrc r m V hc hl (he.trans (by rw [hz])) hv hm
        | thevenin Y I => simpa [he, Elem.isIdealVS] using hvsI.mp (mem_of_idx hv)
      | none =>
        have hnv := not_mem_of_idx_none hv
        cases hk : idxOf? b.id N.csIds with
        | some k =>
          have hcs := hcsI.mp (mem_of_idx hk)
          obtain ⟨I, hI⟩ := cs_form hcs (h.notLossy b hb)
          refine .csrc k I hc hl hI (fun h0 => ?_) hv hk ?_
          · simp [hI, h0, Elem.isCS, Elem.Ival] at hcs
          · unfold ssSources; rw [idxOf?_append_left _ (mem_of_idx hk)]; exact hk
        | none =>
          have hnc := not_mem_of_idx_none hk
          exact .passive hc hl hv hk (idxOf?_none_of_not_mem fun hm => (mem_ssSources.mp hm).elim hnc fun h' => hnv h'.1)
            (Bool.eq_false_iff.mpr fun hh => hnv (hvsI.mpr hh)) (Bool.eq_false_iff.mpr fun hh => hnc (hcsI.mpr hh))

end kinds

/-- the element substitutions of C10 / C12: capacitor `k` ↦ `cap k`, inductor `k` ↦ `ind k` (`k` the position in the
dictionary); every other branch keeps its element, with the value `u[j]` when it is `sources[j]`.  `sampleNet` and
`phasorNet` (CC/Spec/StateSpace.lean) are `N.mapElems` of instances of it. -/
def reactElem (cvals lvals : ValDict K) (cap ind : Nat → Elem K) (sources : List String) (u : List K)
    (b : Branch L K) : Elem K :=
  match idxOf? b.id cvals.keys with
  | some k => cap k
  | none =>
    match idxOf? b.id lvals.keys with
    | some k => ind k
    | none => setSource sources u b

section react
variable {cvals lvals : ValDict K} {cap ind : Nat → Elem K} {sources : List String} {u : List K} {b : Branch L K}

theorem reactElem_of_cap {k : Nat} (hc : idxOf? b.id cvals.keys = some k) :
    reactElem cvals lvals cap ind sources u b = cap k := by
  unfold reactElem; rw [hc]

theorem reactElem_of_ind {k : Nat} (hc : idxOf? b.id cvals.keys = none) (hl : idxOf? b.id lvals.keys = some k) :
    reactElem cvals lvals cap ind sources u b = ind k := by
  unfold reactElem; rw [hc, hl]

theorem reactElem_of_other (hc : idxOf? b.id cvals.keys = none) (hl : idxOf? b.id lvals.keys = none) :
    reactElem cvals lvals cap ind sources u b = setSource sources u b := by
  unfold reactElem; rw [hc, hl]

end react

theorem reactElem_keeps {N : Net L K} {cvals lvals : ValDict K} (h : RLC N cvals lvals)
    {cap ind : Nat → Elem K} (hc : ∀ k, (cap k).isIdealVS = false ∧ (cap k).Yfin = 0)
    (hi : ∀ k, (ind k).isIdealVS = true ∧ (ind k).Yfin = 0) (sources : List String) (u : List K) :
    KeepsStructure N (reactElem cvals lvals cap ind sources u) := by
  intro b hb
  cases hck : idxOf? b.id cvals.keys with
  | some k =>
    rw [reactElem_of_cap hck, h.capOpen b hb (mem_of_idx hck)]
    exact hc k
  | none =>
    cases hlk : idxOf? b.id lvals.keys with
    | some k =>
      rw [reactElem_of_ind hck hlk, h.indShort b hb (mem_of_idx hlk)]
      exact ⟨(hi k).1.trans (by simp [Elem.isIdealVS]), (hi k).2.trans (by simp [Elem.Yfin])⟩
    | none =>
      rw [reactElem_of_other hck hlk]
      exact setSource_keeps sources u b

theorem sampleNet_eq (N : Net L K) (cvals lvals : ValDict K) (sources : List String) (u xdot : List K) :
    sampleNet N cvals lvals sources u xdot
      = N.mapElems (reactElem cvals lvals (fun k => .thevenin 0 (cvals.vals.getD k 0 * xdot.getD k 0))
          (fun k => .norton 0 (lvals.vals.getD k 0 * xdot.getD (cvals.length + k) 0)) sources u) := rfl

theorem sampleNet_keeps {N : Net L K} {cvals lvals : ValDict K} (h : RLC N cvals lvals) (sources : List String)
    (u xdot : List K) :
    KeepsStructure N (reactElem cvals lvals (fun k => .thevenin 0 (cvals.vals.getD k 0 * xdot.getD k 0))
      (fun k => .norton 0 (lvals.vals.getD k 0 * xdot.getD (cvals.length + k) 0)) sources u) :=
  reactElem_keeps h (fun _ => ⟨rfl, rfl⟩) (fun _ => ⟨by simp [Elem.isIdealVS], by simp [Elem.Yfin]⟩) sources u

/-- **C12, the sample network is solved.**  For the `w = 0` network of an RLC circuit (capacitors
open, inductors shorted, distinct ids, no self-loops): any vector `y` with
`Ã y = mnaB (sampleNet … u ẋ)` reports potentials, voltages and currents that satisfy the reference
condition, Kirchhoff's voltage law, every element law (capacitor current `C_k·ẋ_k`, inductor voltage
`L_k·ẋ_k`, sources at `u`, resistors) and Kirchhoff's current law at every node of the circuit at
that sample. -/
theorem sample_is_circuit {N : Net L K} {cvals lvals : ValDict K} (h : RLC N cvals lvals) (sources : List String)
    (u xdot y : List K) (hy : y.length = N.nodes.length + N.vsIds.length)
    (hrhs : matVec N.mnaA y = (sampleNet N cvals lvals sources u xdot).mnaB) :
    CircuitEqs (sampleNet N cvals lvals sources u xdot) ((sampleNet N cvals lvals sources u xdot).reportOf y) := by
  rw [sampleNet_eq] at hrhs ⊢
  exact substituted_is_circuit N _ (sampleNet_keeps h sources u xdot) h.wf y hy hrhs

end
end CC
