/-
  CC.Proofs.DrawIO — save / load plumbing of C15.

  * the *kernels*: what one save/load cycle does to the amplitude and to the phase of a source
    (field assignment of Elements.py ∘ translator of CircuitComponentTranslators.py ∘ merge by
    name of dump_load.py), as small functions over any number type, with their algebra;
  * `roundTripShape`: a decidable check on the generated tables that a class is plumbed in the way
    the kernels describe (which attribute feeds which constructor argument, which value key comes
    back under which keyword, where the signs sit).  It is decided for the persistable classes in
    `C15_tables`; no theorem derives the round trip from it — that is proved per class from what the
    class reads and the loader writes (CC/Proofs/DrawRT.lean), where `savedPhase` appears as `acPhase`.
-/
import CC.Model.DrawIO
namespace CC.Draw

section Kernels
variable {K : Type}

/-- Elements.py: `self._V = V if not reverse else -V` -/
def fieldVal [Neg K] (rev : Bool) (v : K) : K := if rev then -v else v
/-- translator: `V = element.V if not element.is_reverse else -element.V` -/
def transVal [Neg K] (rev : Bool) (e : K) : K := if rev then -e else e

/-- value written to the circuit section for user amplitude `v` -/
def savedVal [Neg K] (rev : Bool) (v : K) : K := transVal rev (fieldVal rev v)

/-- Elements.py: `self._phi = phi; if self._sin: self._phi -= 90 if deg else np.pi/2` -/
def phaseField [Sub K] (halfPi ninety : K) (sin deg : Bool) (phi : K) : K :=
  if sin then phi - (if deg then ninety else halfPi) else phi
/-- translator: `phi = element.phi*pi/180 if element.deg else element.phi` -/
def phaseTrans (toRad : K → K) (deg : Bool) (phi : K) : K := if deg then toRad phi else phi
/-- phase written to the circuit section for user phase `phi` -/
def savedPhase [Sub K] (halfPi ninety : K) (toRad : K → K) (sin deg : Bool) (phi : K) : K :=
  phaseTrans toRad deg (phaseField halfPi ninety sin deg phi)

end Kernels

theorem savedVal_eq {K : Type} [Neg K] (hnn : ∀ v : K, - -v = v) (rev : Bool) (v : K) :
    savedVal rev v = v := by
  cases rev <;> simp [savedVal, transVal, fieldVal, hnn]

/-- `undictify_element` feeds the saved phase back with both flags cleared: the reloaded source
saves the same phase again -/
theorem savedPhase_reload {K : Type} [Sub K] (halfPi ninety : K) (toRad : K → K) (sin deg : Bool) (phi : K) :
    savedPhase halfPi ninety toRad false false (savedPhase halfPi ninety toRad sin deg phi) =
      savedPhase halfPi ninety toRad sin deg phi := rfl

def iter {D : Type} (T : D → D) : Nat → D → D
  | 0, d => d
  | n + 1, d => iter T n (T d)

theorem iterate_preserves {D O : Type} (T : D → D) (obs : D → O) (Dom : D → Prop)
    (hinv : ∀ d, Dom d → Dom (T d)) (hobs : ∀ d, Dom d → obs (T d) = obs d) :
    ∀ (n : Nat) (d : D), Dom d → obs (iter T n d) = obs d ∧ Dom (iter T n d) := by
  intro n
  induction n with
  | zero => intro d hd; exact ⟨rfl, hd⟩
  | succ n ih =>
    intro d hd
    have := ih (T d) (hinv d hd)
    exact ⟨this.1.trans (hobs d hd), this.2⟩

theorem cycles_preserve (π : Rat) (ord : SetOrd Pt) (Dom : List DElem → Prop)
    (hstep : ∀ d, Dom d → ∃ d', saveLoad π ord d = .ok d' ∧ Dom d' ∧ circuitOf π ord d' = circuitOf π ord d) :
    ∀ (n : Nat) (d : List DElem), Dom d →
      ∃ d', cycles π ord n d = .ok d' ∧ Dom d' ∧ circuitOf π ord d' = circuitOf π ord d := by
  intro n
  induction n with
  | zero => intro d hd; exact ⟨d, rfl, hd, rfl⟩
  | succ n ih =>
    intro d hd
    obtain ⟨d1, h1, hd1, hc1⟩ := hstep d hd
    obtain ⟨d2, h2, hd2, hc2⟩ := ih d1 hd1
    refine ⟨d2, ?_, hd2, hc2.trans hc1⟩
    unfold cycles
    rw [h1]
    exact h2

def ElemClass.paramNames (c : ElemClass) : List String := c.params.map (·.1)

/-- the attribute `a` of class `c` is the field assigned from constructor parameter `q`,
negated under `reverse` iff `signed` -/
def attrFromParam (c : ElemClass) (a q : String) (signed : Bool) : Bool :=
  match c.props.lookup a with
  | some (.field f) =>
    (match c.fields.lookup f with
     | some (.param q') => !signed && q' == q
     | some (.negIfRev q') => signed && q' == q
     | _ => false)
  | _ => false

/-- the constructor value written from argument `p` comes back on load as keyword `q`:
directly under key `q`, or split into (re, im) keys that the loader recombines into `q` -/
def comesBackAs (k : CtorSpec) (lt : LoaderType) (p q : String) : Bool :=
  k.values.contains (q, .param p) ||
  (match lt.combine with
   | some (reK, imK, z) => z == q && k.values.contains (reK, .re p) && k.values.contains (imK, .im p)
   | none => false)

/-- one translator argument is plumbed as the kernels assume -/
def argShape (c : ElemClass) (k : CtorSpec) (lt : LoaderType) (arg : String × VExpr) : Bool :=
  match arg.2 with
  | .ifNotRev (.attr a) (.neg (.attr a')) => a == a' && c.paramNames.any fun q => attrFromParam c a q true && comesBackAs k lt arg.1 q
  | .ifNotRev (.re (.attr a)) (.neg (.re (.attr a'))) => a == a' && c.paramNames.any fun q => attrFromParam c a q true && comesBackAs k lt arg.1 q
  | .attr a => c.paramNames.any fun q => attrFromParam c a q false && comesBackAs k lt arg.1 q
  | .degConv a fl => (c.paramNames.any fun q => attrFromParam c a q false && comesBackAs k lt arg.1 q) &&
      (c.paramNames.any fun q => attrFromParam c fl q false)
  | .str _ => true
  | _ => false

/-- value keys that are neither a class parameter fed back nor consumed by the recombination
must not collide with a parameter of the class (they are swallowed by schemdraw's `**kwargs`) -/
def extrasHarmless (c : ElemClass) (k : CtorSpec) (lt : LoaderType) (args : List (String × VExpr)) : Bool :=
  k.values.all fun kv =>
    let fedBack := args.any fun arg => match kv.2 with
      | .param p => p == arg.1
      | .re p => p == arg.1 && (match lt.combine with | some (reK, _, _) => reK == kv.1 | none => false)
      | .im p => p == arg.1 && (match lt.combine with | some (_, imK, _) => imK == kv.1 | none => false)
      | .lit _ => false
    fedBack || !(c.paramNames.contains kv.1)

def roundTripShape (c : ElemClass) : Bool :=
  match Gen.loaderTypes.find? (·.typ = c.typ), Gen.translatorMap.lookup c.cls with
  | some lt, some f =>
    lt.cls == c.cls &&
    (match Gen.translators.lookup f with
     | some [tc] =>
       tc.guard.isNone &&
       (match tc.ctor with
        | none => true
        | some kn =>
          match Gen.ctors.find? (·.name = kn) with
          | some k => tc.args.all (argShape c k lt) && extrasHarmless c k lt tc.args
          | none => false)
     | _ => false)
  | _, _ => false

/-- the classes of the persistable symbol kinds of C15 -/
def persistableClasses : List String :=
  ["VoltageSource", "CurrentSource", "ACVoltageSource", "ACCurrentSource", "RectVoltageSource", "RectCurrentSource",
   "ComplexVoltageSource", "ComplexCurrentSource", "Resistor", "Conductance", "Impedance", "Capacitor",
   "Inductance", "Ground", "Line"]

/-- classes whose translator converts a phase under a persisted flag (`deg`) or whose
constructor shifts it (`sin`) -/
def phaseFlagged (c : ElemClass) : Bool :=
  c.sinShift.isSome ||
  (match Gen.translatorMap.lookup c.cls with
   | some f => (match Gen.translators.lookup f with
     | some cases => cases.any fun tc => tc.args.any fun a => match a.2 with | .degConv _ _ => true | _ => false
     | none => false)
   | none => false)

end CC.Draw
