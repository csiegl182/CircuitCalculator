/-
  CC.Proofs.FourierInt — the tools behind C08: Python's float `%`, the exponent of a harmonic,
  linearity and conjugation of `coeff`, the time shift of a `T`-periodic function, and
  ∫ (α+βu)·exp(cu).
-/
import CC.Spec.Fourier
import Mathlib.Analysis.SpecialFunctions.Complex.Circle

namespace CC.Fourier
open Complex Real intervalIntegral MeasureTheory

theorem fmodR_eq {u T : ℝ} (hT : T ≠ 0) : fmodR u T = Int.fract (u / T) * T := by
  unfold fmodR Int.fract
  rw [sub_mul, div_mul_cancel₀ u hT, mul_comm]

theorem fmodR_add_period (u T : ℝ) (hT : T ≠ 0) : fmodR (u + T) T = fmodR u T := by
  rw [fmodR_eq hT, fmodR_eq hT, add_div, div_self hT, Int.fract_add_one]

theorem fmodR_of_mem (u T : ℝ) (h0 : 0 ≤ u) (h1 : u < T) : fmodR u T = u := by
  have hT : 0 < T := lt_of_le_of_lt h0 h1
  rw [fmodR_eq hT.ne', Int.fract_eq_self.mpr ⟨div_nonneg h0 hT.le, (div_lt_one hT).mpr h1⟩,
    div_mul_cancel₀ u hT.ne']

theorem fmodR_nonneg {u T : ℝ} (hT : 0 < T) : 0 ≤ fmodR u T := by
  rw [fmodR_eq hT.ne']
  exact mul_nonneg (Int.fract_nonneg _) hT.le

theorem fmodR_lt {u T : ℝ} (hT : 0 < T) : fmodR u T < T := by
  rw [fmodR_eq hT.ne']
  exact mul_lt_of_lt_one_left hT (Int.fract_lt_one _)

noncomputable def cexpo (T : ℝ) (n : ℤ) : ℂ := -(2 * π * I * n / T)

theorem coeff_eq (f : ℝ → ℝ) (T : ℝ) (n : ℤ) :
    coeff f T n = (1 / T : ℂ) * ∫ t in (0:ℝ)..T, (f t : ℂ) * cexp (cexpo T n * t) := rfl

/-- the one place where `T` cancels -/
theorem cexpo_mul_period (T : ℝ) (hT : T ≠ 0) (n : ℤ) : cexpo T n * T = -(2 * π * I * n) := by
  unfold cexpo
  rw [neg_mul, div_mul_cancel₀ _ (ofReal_ne_zero.mpr hT)]

theorem cexp_cexpo_period (T : ℝ) (hT : T ≠ 0) (n : ℤ) : cexp (cexpo T n * (T : ℝ)) = 1 := by
  rw [cexpo_mul_period T hT, ← mul_neg, ← Int.cast_neg, mul_comm]
  exact Complex.exp_int_mul_two_pi_mul_I _

theorem cexp_cexpo_half (T : ℝ) (hT : T ≠ 0) (n : ℤ) :
    cexp (cexpo T n * ((T / 2 : ℝ) : ℂ)) = (-1) ^ n := by
  have : cexpo T n * ((T / 2 : ℝ) : ℂ) = (-n : ℤ) * (π * I) := by
    rw [ofReal_div, ofReal_ofNat, mul_div_assoc', cexpo_mul_period T hT]
    push_cast; ring
  rw [this, Complex.exp_int_mul, Complex.exp_pi_mul_I, zpow_neg, ← inv_zpow, inv_neg_one]

theorem intervalIntegrable_ofReal_mul_cexp {f : ℝ → ℝ} {a b : ℝ} (hf : IntervalIntegrable f volume a b)
    (c : ℂ) : IntervalIntegrable (fun t : ℝ => (f t : ℂ) * cexp (c * t)) volume a b :=
  IntervalIntegrable.mul_continuousOn ⟨hf.1.ofReal, hf.2.ofReal⟩
    (by fun_prop : Continuous fun t : ℝ => cexp (c * t)).continuousOn

theorem coeff_add {f g : ℝ → ℝ} {T : ℝ} (hf : IntervalIntegrable f volume 0 T)
    (hg : IntervalIntegrable g volume 0 T) (n : ℤ) :
    coeff (fun t => f t + g t) T n = coeff f T n + coeff g T n := by
  rw [coeff_eq, coeff_eq, coeff_eq, ← mul_add,
    ← integral_add (intervalIntegrable_ofReal_mul_cexp hf _) (intervalIntegrable_ofReal_mul_cexp hg _)]
  simp only [ofReal_add, add_mul]

theorem coeff_sub {f g : ℝ → ℝ} {T : ℝ} (hf : IntervalIntegrable f volume 0 T)
    (hg : IntervalIntegrable g volume 0 T) (n : ℤ) :
    coeff (fun t => f t - g t) T n = coeff f T n - coeff g T n := by
  rw [eq_sub_iff_add_eq, ← coeff_add (hf.sub hg) hg]
  simp only [sub_add_cancel]

theorem coeff_neg (f : ℝ → ℝ) (T : ℝ) (n : ℤ) :
    coeff f T (-n) = (starRingEnd ℂ) (coeff f T n) := by
  have hc : cexpo T (-n) = (starRingEnd ℂ) (cexpo T n) := by
    unfold cexpo
    simp only [map_neg, map_div₀, map_mul, conj_ofReal, conj_I, map_ofNat, map_intCast]
    push_cast
    ring
  rw [coeff_eq, coeff_eq, map_mul, map_div₀, map_one, conj_ofReal, ← intervalIntegral_conj]
  simp only [map_mul, conj_ofReal, ← Complex.exp_conj, hc]

/-- A shift of the argument multiplies the coefficient by a phase.  The integrand `F u = g (u mod T) · e^{c u}` is
`T`-periodic; after the substitution `u = t + t0` the interval `[t0, t0 + T]` is moved back to `[0, T]`
(`Function.Periodic.intervalIntegral_add_eq`), and inside `(0, T)` the `mod T` does nothing. -/
theorem coeff_shift (g : ℝ → ℝ) (T t0 : ℝ) (hT : 0 < T) (n : ℤ) :
    coeff (fun t => g (fmodR (t + t0) T)) T n
      = cexp (-(cexpo T n) * t0) * coeff g T n := by
  rw [coeff_eq, coeff_eq]
  set c := cexpo T n
  let F : ℝ → ℂ := fun u => (g (fmodR u T) : ℂ) * cexp (c * u)
  have hper : Function.Periodic F T := fun u => by
    simp only [F]
    rw [fmodR_add_period u T hT.ne', ofReal_add, mul_add, Complex.exp_add, cexp_cexpo_period T hT.ne' n, mul_one]
  have hpt : ∀ t : ℝ, (g (fmodR (t + t0) T) : ℂ) * cexp (c * t) = cexp (-c * t0) * F (t + t0) :=
    fun t => by
      simp only [F]
      rw [mul_left_comm, ← Complex.exp_add, ofReal_add]
      congr 2
      ring
  have hF : ∫ u in (0:ℝ)..T, F u = ∫ u in (0:ℝ)..T, (g u : ℂ) * cexp (c * u) :=
    integral_congr_uIoo fun u hu => by
      rw [Set.uIoo_of_le hT.le] at hu
      simp only [F, fmodR_of_mem u T hu.1.le hu.2]
  simp_rw [hpt]
  rw [intervalIntegral.integral_const_mul, integral_comp_add_right, zero_add, add_comm T t0,
    hper.intervalIntegral_add_eq t0 0, zero_add, hF, mul_left_comm]

/-- `d` stands for `1/c`, so that a caller can give it in the form it needs -/
theorem integral_linear_mul_cexp {c d : ℂ} (hcd : c * d = 1) (α β : ℂ) (a b : ℝ) :
    ∫ u in a..b, (α + β * u) * cexp (c * u)
      = cexp (c * b) * ((α + β * b) * d - β * d ^ 2) - cexp (c * a) * ((α + β * a) * d - β * d ^ 2) := by
  have hderiv : ∀ x ∈ Set.uIcc a b,
      HasDerivAt (fun u : ℝ => cexp (c * u) * ((α + β * u) * d - β * d ^ 2))
        ((α + β * x) * cexp (c * x)) x := by
    intro x _
    have hx : HasDerivAt (fun u : ℝ => (u : ℂ)) 1 x := by simpa using (hasDerivAt_id x).ofReal_comp
    refine ((hx.const_mul c).cexp.mul ((((hx.const_mul β).const_add α).mul_const d).sub_const _)).congr_deriv ?_
    linear_combination (cexp (c * x) * (α + β * x) - cexp (c * x) * β * d) * hcd
  exact integral_eq_sub_of_hasDerivAt hderiv ((by fun_prop : Continuous _).intervalIntegrable _ _)

theorem integral_linear (α β : ℂ) (a b : ℝ) :
    ∫ u in a..b, (α + β * (u : ℂ)) = (α * b + β * b ^ 2 / 2) - (α * a + β * a ^ 2 / 2) := by
  rw [intervalIntegral.integral_add intervalIntegrable_const ((by fun_prop : Continuous _).intervalIntegrable _ _),
    intervalIntegral.integral_const, intervalIntegral.integral_const_mul, intervalIntegral.integral_ofReal,
    integral_id, real_smul]
  push_cast
  ring

end CC.Fourier
