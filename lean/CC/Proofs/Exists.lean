import CC.Proofs.Solvable
import CC.Proofs.ListMatrix
import Mathlib.LinearAlgebra.Matrix.NonsingularInverse
/-
  C01, existence: the list-matrix the code builds, read as a Mathlib `Matrix` (`toMatrix`, `matVec_ofFn`).  A square
  matrix over a field with trivial kernel is a unit, hence surjective; with `solvable_all` (trivial kernel of the MNA
  matrix of a well-posed network) this gives a solution of the matrix equation for every right-hand side, and with
  `sound_all` a solution of the circuit equations (`exists_all`).
-/
set_option linter.unusedSectionVars false
namespace CC
variable {K : Type} [Field K] [DecidableEq K]

def toMatrix (n : Nat) (A : List (List K)) : Matrix (Fin n) (Fin n) K :=
  fun i j => (A.getD i []).getD j 0

theorem matVec_ofFn (n : Nat) (A : List (List K)) (hA : A.length = n) (hrow : ∀ r ∈ A, r.length = n)
    (v : Fin n → K) : matVec A (List.ofFn v) = List.ofFn ((toMatrix n A).mulVec v) := by
  rw [matVec_eq_ofFn_sum hA hrow]
  congr 1; funext i
  simp [Matrix.mulVec, dotProduct, toMatrix, List.getD_eq_getElem?_getD]

theorem isUnit_of_trivial_kernel (n : Nat) (A : List (List K)) (hA : A.length = n)
    (hrow : ∀ r ∈ A, r.length = n)
    (hker : ∀ x : List K, x.length = n → matVec A x = List.replicate n 0 → x = List.replicate n 0) :
    IsUnit (toMatrix n A) := by
  have hinj : Function.Injective (toMatrix n A).mulVec := by
    intro v w hvw
    have hz : (toMatrix n A).mulVec (v - w) = 0 := by rw [Matrix.mulVec_sub, hvw, sub_self]
    have h1 : matVec A (List.ofFn (v - w)) = List.replicate n 0 := by
      rw [matVec_ofFn n A hA hrow, hz]
      apply List.ext_getElem <;> simp
    have h2 := hker _ (by simp) h1
    have : v - w = 0 := by
      funext j
      have := congrArg (fun l => l.getD j 0) h2
      simpa using this
    exact sub_eq_zero.mp this
  exact Matrix.mulVec_injective_iff_isUnit.mp hinj

theorem matVec_surjective_of_trivial_kernel (n : Nat) (A : List (List K)) (hA : A.length = n)
    (hrow : ∀ r ∈ A, r.length = n)
    (hker : ∀ x : List K, x.length = n → matVec A x = List.replicate n 0 → x = List.replicate n 0)
    (b : List K) (hb : b.length = n) : ∃ x : List K, x.length = n ∧ matVec A x = b := by
  have hunit := isUnit_of_trivial_kernel n A hA hrow hker
  have hsurj := Matrix.mulVec_surjective_iff_isUnit.mpr hunit
  obtain ⟨v, hv⟩ := hsurj (fun j => b.getD j 0)
  refine ⟨List.ofFn v, by simp, ?_⟩
  rw [matVec_ofFn n A hA hrow, hv]
  apply List.ext_getElem
  · simp only [List.getD_eq_getElem?_getD, hb, Fin.is_lt, getElem?_pos, Option.getD_some, List.length_ofFn]
  · intro i h1 h2
    simp only [List.getD_eq_getElem?_getD, List.getElem_ofFn, List.getElem?_eq_getElem h2, Option.getD_some]


variable {L : Type} [DecidableEq L] [LabelOrd L]

theorem mnaA_dims (N : Net L K) (hids : N.ids.Nodup) :
    N.mnaA.length = N.nodes.length + N.vsIds.length ∧
    (∀ r ∈ N.mnaA, r.length = N.nodes.length + N.vsIds.length) ∧
    N.mnaB.length = N.nodes.length + N.vsIds.length := by
  have hsq := C01_square N
  rw [vsSorted_length N hids] at hsq
  exact ⟨hsq.1, hsq.2, by simp [Net.mnaB, vsSorted_length N hids]⟩

/-- `solvable_all` in the form `matVec_surjective_of_trivial_kernel` takes it -/
theorem trivial_kernel_all (N : Net L K) (hids : N.ids.Nodup) (hzm : N.zero ∈ N.nodeLabels)
    (hw : WellPosed N) (x : List K) (hx : x.length = N.nodes.length + N.vsIds.length)
    (h : matVec N.mnaA x = List.replicate (N.nodes.length + N.vsIds.length) 0) :
    x = List.replicate (N.nodes.length + N.vsIds.length) 0 := by
  have := solvable_all N hids hzm hw x hx
    (by rw [h, List.map_const', (mnaA_dims N hids).2.2])
  rw [hx] at this; exact this

/-- existence for every network `Network.__post_init__` accepts; published as `C01_exists` and
`C01_exists_selfloops` -/
theorem exists_all (N : Net L K) (hids : N.ids.Nodup) (hzm : N.zero ∈ N.nodeLabels) (hw : WellPosed N) :
    ∃ x : List K, x.length = N.nodes.length + N.vsIds.length ∧ matVec N.mnaA x = N.mnaB ∧
      CircuitEqs N (N.reportOf x) := by
  obtain ⟨hlen, hrow, hb⟩ := mnaA_dims N hids
  obtain ⟨x, hx, hsol⟩ := matVec_surjective_of_trivial_kernel _ N.mnaA hlen hrow
    (trivial_kernel_all N hids hzm hw) N.mnaB hb
  exact ⟨x, hx, hsol, (sound_all N x hids hzm hx hsol).2.2⟩

end CC
