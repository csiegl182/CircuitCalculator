/-
  CC.Proofs.FmtTable — prefix tables: the checks `Table.admissible` (no SI prefix skipped) and `Table.si` (SI letters) with
  their soundness, and the prefix printed for an engineering exponent within or beyond the table (`prefix_clamp`).
-/
import Mathlib.Tactic.Linarith
import CC.Model.FmtBase
import CC.Spec.Fmt
import CC.Gen.FmtTables

namespace CC.Fmt

theorem listMax_spec {l : List ℤ} (h : l ≠ []) : listMax l ∈ l ∧ ∀ x ∈ l, x ≤ listMax l := by
  cases l with
  | nil => exact absurd rfl h
  | cons a t => exact List.max?_eq_some_iff.mp List.max?_cons'

theorem listMin_spec {l : List ℤ} (h : l ≠ []) : listMin l ∈ l ∧ ∀ x ∈ l, listMin l ≤ x := by
  cases l with
  | nil => exact absurd rfl h
  | cons a t => exact List.min?_eq_some_iff.mp List.min?_cons'

theorem Table.has_iff (T : Table) (k : ℤ) : T.has k = true ↔ k ∈ T.keys := by
  simp [Table.has]

theorem Table.get_cases (T : Table) (k : ℤ) : (k, T.get k) ∈ T ∨ (k ∉ T.keys ∧ T.get k = []) := by
  unfold Table.get
  cases h : T.lookup k with
  | some s =>
    obtain ⟨l₁, l₂, rfl, _⟩ := List.lookup_eq_some_iff.mp h
    exact Or.inl (by simp)
  | none =>
    refine Or.inr ⟨fun hk => ?_, rfl⟩
    obtain ⟨p, hp, rfl⟩ := List.mem_map.mp hk
    simpa using List.lookup_eq_none_iff.mp h p hp

theorem Table.get_mem (T : Table) (k : ℤ) (h : k ∈ T.keys) : (k, T.get k) ∈ T :=
  (Table.get_cases T k).resolve_right fun h' => h'.1 h

/-- the keys between the smallest and the largest key that are multiples of three (other than
0) are all present: no SI prefix is skipped -/
def Table.admissible (T : Table) : Bool :=
  !T.isEmpty && (List.range ((T.maxKey - T.minKey).toNat + 1)).all fun i =>
    let k := T.minKey + (i : ℤ)
    k % 3 != 0 || k == 0 || T.has k

def Table.Admissible (T : Table) : Prop :=
  T ≠ [] ∧ ∀ k : ℤ, k % 3 = 0 → T.minKey ≤ k → k ≤ T.maxKey → k ≠ 0 → T.has k = true

theorem Table.admissible_sound {T : Table} (h : T.admissible = true) : T.Admissible := by
  simp only [Table.admissible, Bool.and_eq_true, Bool.not_eq_true', List.all_eq_true, List.mem_range,
    Bool.or_eq_true, bne_iff_ne, ne_eq, beq_iff_eq] at h
  obtain ⟨hne, hall⟩ := h
  refine ⟨by intro h0; subst h0; simp at hne, ?_⟩
  intro k h3 hlo hhi h0
  have := hall (k - T.minKey).toNat (by omega)
  have hk : T.minKey + ((k - T.minKey).toNat : ℤ) = k := by omega
  simp only [hk] at this
  rcases this with (h | h) | h
  · exact absurd h3 h
  · exact absurd h h0
  · exact h

/-- every prefix attached to a multiple of three is the SI letter for that power of ten -/
def Table.si (T : Table) : Bool :=
  T.all fun (k, s) => k % 3 != 0 || (match s with | [c] => siExp c == some k | _ => false)

theorem Table.si_sound {T : Table} (h : T.si = true) {k : ℤ} {s : List Char} (hm : (k, s) ∈ T) (h3 : k % 3 = 0) :
    ∃ c, s = [c] ∧ siExp c = some k := by
  simp only [Table.si, List.all_eq_true] at h
  have := h (k, s) hm
  simp only [Bool.or_eq_true, bne_iff_ne, ne_eq] at this
  rcases this with h | h
  · exact absurd h3 h
  · match s, h with
    | [c], h => exact ⟨c, rfl, by simpa using h⟩

end CC.Fmt

namespace CC
open CC.Fmt CC.Gen.Fmt

/-- the prefix printed for an engineering exponent `e3` is the table's prefix for a key `k` that is `e3` itself or
an end of the table (`maxKey` / `minKey`), or no prefix is printed and `k = 0`; the explicit exponent makes up the
difference.  (The proof takes `k = e3` when the table has `e3`, the end beyond which `e3` lies otherwise; the
statement keeps only the disjunction.) -/
theorem prefix_clamp (T : Table) (hT : T.Admissible) (e3 : ℤ) (h3 : e3 % 3 = 0) :
    ∃ k : ℤ, (k = T.maxKey ∨ k = T.minKey ∨ k = e3)
      ∧ ((k = 0 ∧ sf_exp_prefix true T e3 = []) ∨ (k, sf_exp_prefix true T e3) ∈ T)
      ∧ sf_rebase_exp true T e3 + k = e3 := by
  obtain ⟨hne, hadm⟩ := hT
  have hkeys : T.keys ≠ [] := by
    cases T with
    | nil => exact absurd rfl hne
    | cons a t => simp [Table.keys]
  obtain ⟨hmaxmem, hmax⟩ : T.maxKey ∈ T.keys ∧ ∀ x ∈ T.keys, x ≤ T.maxKey := listMax_spec hkeys
  obtain ⟨hminmem, hmin⟩ : T.minKey ∈ T.keys ∧ ∀ x ∈ T.keys, T.minKey ≤ x := listMin_spec hkeys
  have hhas : T.has e3 = true → T.minKey ≤ e3 ∧ e3 ≤ T.maxKey := fun h =>
    ⟨hmin e3 ((Table.has_iff T e3).mp h), hmax e3 ((Table.has_iff T e3).mp h)⟩
  unfold sf_exp_prefix sf_rebase_exp
  simp only [Bool.not_true, Bool.false_eq_true, ↓reduceIte, decide_eq_true_eq]
  by_cases hgt : e3 > T.maxKey
  · have hnot : ¬ T.has e3 = true := fun h => absurd (hhas h).2 (not_le.mpr hgt)
    exact ⟨T.maxKey, Or.inl rfl, Or.inr (by rw [if_pos hgt]; exact Table.get_mem T _ hmaxmem), by simp [hnot, hgt]⟩
  by_cases hlt : e3 < T.minKey
  · have hnot : ¬ T.has e3 = true := fun h => absurd (hhas h).1 (not_le.mpr hlt)
    exact ⟨T.minKey, Or.inr (Or.inl rfl), Or.inr (by rw [if_neg hgt, if_pos hlt]; exact Table.get_mem T _ hminmem),
      by simp [hnot, hgt, hlt]⟩
  by_cases hh : T.has e3 = true
  · exact ⟨e3, Or.inr (Or.inr rfl),
      Or.inr (by rw [if_neg hgt, if_neg hlt, if_pos hh]; exact Table.get_mem T _ ((Table.has_iff T e3).mp hh)),
      by simp [hh]⟩
  · -- an admissible table lacks no multiple of three within its range but 0
    have h0 : e3 = 0 := by
      by_contra hne0
      exact hh (hadm e3 h3 (by omega) (by omega) hne0)
    subst h0
    exact ⟨0, Or.inr (Or.inr rfl), Or.inl ⟨rfl, by simp [hgt, hlt, hh]⟩, by simp [hgt, hlt, hh]⟩

end CC
