/-
  CC.Proofs.FmtRender — the reader `parseBack` on the text assembled by `ScientificFloat.__str__`: the mantissa text of
  the model is brought to one form (`mantText` of the digits `fixedK`: `mantissaText_eq`), and the stages of the reader
  are run on that form one by one (`parseBack_render`).
-/
import Mathlib.Tactic.IntervalCases
import CC.Proofs.FmtDigits
import CC.Proofs.FmtTable
import CC.Model.Fmt
import CC.Spec.Fmt

namespace CC.Fmt

theorem natDigitsAux_eq : ∀ (n f : ℕ) (acc : List Char), n < f → natDigitsAux f n acc = natDigits n ++ acc := by
  intro n
  induction n using Nat.strong_induction_on with
  | _ n ih =>
    intro f acc hf
    obtain ⟨f', rfl⟩ : ∃ f', f = f' + 1 := ⟨f - 1, by omega⟩
    by_cases h10 : n < 10
    · simp [natDigits, natDigitsAux, h10]
    · have hq : n / 10 < n := by omega
      simp only [natDigits, natDigitsAux, h10, ↓reduceIte]
      rw [ih (n / 10) hq f' _ (by omega), ih (n / 10) hq n _ hq]
      simp

theorem natDigits_lt10 {n : ℕ} (h : n < 10) : natDigits n = [digitChar n] := by
  simp [natDigits, natDigitsAux, h]

theorem natDigits_ge10 {n : ℕ} (h : 10 ≤ n) : natDigits n = natDigits (n / 10) ++ [digitChar (n % 10)] := by
  rw [natDigits, natDigitsAux, if_neg (by omega), natDigitsAux_eq (n / 10) n _ (by omega)]

theorem digitChar_spec {d : ℕ} (h : d < 10) : isDigit (digitChar d) = true ∧ digitVal (digitChar d) = d := by
  interval_cases d <;> decide

def digVal (ds : List Char) (acc : ℕ) : ℕ := ds.foldl (fun a c => a * 10 + digitVal c) acc

theorem digVal_append (a b : List Char) (acc : ℕ) : digVal (a ++ b) acc = digVal b (digVal a acc) := by
  simp [digVal, List.foldl_append]

theorem natDigits_spec (n : ℕ) :
    (∀ c ∈ natDigits n, isDigit c = true) ∧ (∀ acc, digVal (natDigits n) acc = acc * 10 ^ (natDigits n).length + n)
    ∧ 1 ≤ (natDigits n).length := by
  induction n using Nat.strong_induction_on with
  | _ n ih =>
    by_cases h10 : n < 10
    · rw [natDigits_lt10 h10]
      obtain ⟨a, b⟩ := digitChar_spec h10
      refine ⟨by simpa using a, ?_, by simp⟩
      intro acc; simp [digVal, b]
    · have hge : 10 ≤ n := by omega
      obtain ⟨a, b, c⟩ := ih (n / 10) (by omega)
      obtain ⟨a', b'⟩ := digitChar_spec (Nat.mod_lt n (by norm_num : 0 < 10))
      rw [natDigits_ge10 hge]
      refine ⟨?_, ?_, by simp⟩
      · intro ch hch
        rw [List.mem_append] at hch
        rcases hch with h | h
        · exact a ch h
        · simp at h; rw [h]; exact a'
      · intro acc
        rw [digVal_append, b acc]
        simp only [digVal, List.foldl_cons, List.foldl_nil, b', List.length_append, List.length_cons,
          List.length_nil, zero_add, pow_succ, ← mul_assoc]
        omega

theorem natDigits_length_le : ∀ (k n : ℕ), 1 ≤ k → n < 10 ^ k → (natDigits n).length ≤ k := by
  intro k
  induction k with
  | zero => intro n h; omega
  | succ k ih =>
    intro n _ hn
    by_cases h10 : n < 10
    · rw [natDigits_lt10 h10]; simp
    · have hge : 10 ≤ n := by omega
      rw [natDigits_ge10 hge]
      simp only [List.length_append, List.length_cons, List.length_nil, zero_add]
      have hk : 1 ≤ k := by
        by_contra h0
        have : k = 0 := by omega
        subst this; simp at hn; omega
      have : n / 10 < 10 ^ k := by rw [pow_succ] at hn; omega
      have := ih (n / 10) hk this
      omega

/-- a text that does not continue a number -/
def NoNum (s : List Char) : Prop :=
  match s with
  | [] => True
  | c :: _ => isDigit c = false ∧ c ≠ '.' ∧ c ≠ 'e'

theorem takeNat_digits : ∀ (ds : List Char), (∀ c ∈ ds, isDigit c = true) → ∀ (rest : List Char) (acc k : ℕ),
    takeNat (ds ++ rest) acc k = takeNat rest (digVal ds acc) (k + ds.length) := by
  intro ds
  induction ds with
  | nil => intro _ rest acc k; simp [digVal]
  | cons d t ih =>
    intro h rest acc k
    have hd : isDigit d = true := h d (by simp)
    have ht : ∀ c ∈ t, isDigit c = true := fun c hc => h c (by simp [hc])
    simp only [List.cons_append, takeNat, hd, ↓reduceIte]
    rw [ih ht]
    simp only [digVal, List.foldl_cons, List.length_cons]
    congr 1; omega

theorem takeNat_stop {rest : List Char} (h : ∀ c t, rest = c :: t → isDigit c = false) (acc k : ℕ) :
    takeNat rest acc k = (acc, k, rest) := by
  cases rest with
  | nil => rfl
  | cons c t => simp [takeNat, h c t rfl]

theorem takeNat_natDigits (n : ℕ) {rest : List Char} (h : ∀ c t, rest = c :: t → isDigit c = false) (acc k : ℕ) :
    takeNat (natDigits n ++ rest) acc k = (acc * 10 ^ (natDigits n).length + n, k + (natDigits n).length, rest) := by
  obtain ⟨a, b, _⟩ := natDigits_spec n
  rw [takeNat_digits _ a, takeNat_stop h, b]

theorem digVal_zeros (z acc : ℕ) : digVal (List.replicate z '0') acc = acc * 10 ^ z := by
  induction z generalizing acc with
  | zero => simp [digVal]
  | succ z ih =>
    rw [List.replicate_succ]
    simp only [digVal, List.foldl_cons] at ih ⊢
    rw [ih]
    have : digitVal '0' = 0 := by decide
    rw [this, pow_succ]; ring

theorem takeNat_zeroPad {w n : ℕ} (hw : 1 ≤ w) (hn : n < 10 ^ w) {rest : List Char}
    (h : ∀ c t, rest = c :: t → isDigit c = false) :
    takeNat (zeroPad w n ++ rest) 0 0 = (n, w, rest) := by
  obtain ⟨a, b, c⟩ := natDigits_spec n
  have hlen := natDigits_length_le w n hw hn
  unfold zeroPad
  simp only [List.append_assoc]
  have hz : ∀ ch ∈ List.replicate (w - (natDigits n).length) '0', isDigit ch = true := by
    intro ch hch; rw [List.mem_replicate] at hch; rw [hch.2]; decide
  rw [takeNat_digits _ hz, takeNat_digits _ a, takeNat_stop h, digVal_zeros, b]
  simp only [zero_mul, zero_add, List.length_replicate]
  congr 2; omega

/-- a text that does not continue a mantissa -/
def NoDigDot (s : List Char) : Prop :=
  match s with
  | [] => True
  | c :: _ => isDigit c = false ∧ c ≠ '.'

theorem NoNum.noDigDot {s : List Char} (h : NoNum s) : NoDigDot s := by
  cases s with
  | nil => trivial
  | cons c t => exact ⟨h.1, h.2.1⟩

theorem NoDigDot.not_digit {rest : List Char} (h : NoDigDot rest) : ∀ c t, rest = c :: t → isDigit c = false := by
  intro c t e; subst e; exact h.1

theorem natDigits_cons (n : ℕ) : ∃ c cs, natDigits n = c :: cs ∧ c ≠ '-' ∧ c ≠ '∞' := by
  obtain ⟨a, _, l⟩ := natDigits_spec n
  cases hd : natDigits n with
  | nil => rw [hd] at l; simp at l
  | cons c cs =>
    have hc : isDigit c = true := a c (by rw [hd]; simp)
    exact ⟨c, cs, rfl, by rintro rfl; revert hc; decide, by rintro rfl; revert hc; decide⟩

theorem parseUnsigned_render (ip F post : ℕ) (hF : F < 10 ^ post) {rest : List Char} (hrest : NoDigDot rest) :
    parseUnsigned (natDigits ip ++ ((if post = 0 then [] else '.' :: zeroPad post F) ++ rest))
      = some (ip, if post = 0 then 0 else F, post, rest) := by
  obtain ⟨_, _, hlen⟩ := natDigits_spec ip
  have hl : (natDigits ip).length ≠ 0 := by omega
  by_cases hp : post = 0
  · subst hp
    simp only [↓reduceIte, List.nil_append]
    unfold parseUnsigned
    rw [takeNat_natDigits ip hrest.not_digit 0 0]
    simp only [zero_mul, zero_add, hl, ↓reduceIte]
    cases rest with
    | nil => rfl
    | cons r rs =>
      have hr : r ≠ '.' := hrest.2
      split
      · rename_i t heq; simp at heq; exact absurd heq.1 hr
      · rfl
  · simp only [hp, ↓reduceIte]
    have hdot : ∀ ch t, ('.' :: zeroPad post F ++ rest) = ch :: t → isDigit ch = false := by
      intro ch t e; simp at e; rw [← e.1]; decide
    unfold parseUnsigned
    rw [takeNat_natDigits ip hdot 0 0]
    simp only [zero_mul, zero_add, hl, ↓reduceIte, List.cons_append]
    rw [takeNat_zeroPad (by omega) hF hrest.not_digit]
    simp [hp]

def mantText (neg : Bool) (ip post F : ℕ) : List Char :=
  (if neg then ['-'] else []) ++ natDigits ip ++ (if post = 0 then [] else '.' :: zeroPad post F)

theorem parseMant_render (neg : Bool) (ip F post : ℕ) (hF : F < 10 ^ post) {rest : List Char} (hrest : NoDigDot rest) :
    parseMant (mantText neg ip post F ++ rest)
      = some (neg, ip, if post = 0 then 0 else F, post, rest) := by
  have hU := parseUnsigned_render ip F post hF hrest
  unfold mantText
  cases neg with
  | true =>
    simp only [↓reduceIte, List.cons_append, List.nil_append, List.append_assoc]
    unfold parseMant
    simp only [hU, Option.map_some]
  | false =>
    obtain ⟨c, cs, hc, hne, _⟩ := natDigits_cons ip
    simp only [Bool.false_eq_true, ↓reduceIte, List.nil_append, List.append_assoc]
    unfold parseMant
    split
    · rename_i t heq; rw [hc] at heq; simp at heq; exact absurd heq.1 hne
    · simp only [hU, Option.map_some]

/-! The fixed notation `f'{x:.nf}'` and the mantissa text of `ScientificFloat.__str__` both print the digits `fixedK x n`
of `|x|` rounded to `n` decimals as `mantText`; `parseMant_render` reads them back and `mantText_value` says what they
denote. -/

/-- the natural number whose digits `f'{x:.nf}'` prints (after the sign): `|x|·10^n` rounded half-even -/
def fixedK (x : ℚ) (n : ℕ) : ℕ := (rhe (qabs x * ((10 ^ n : ℕ) : ℚ))).toNat

theorem fixedFmt_eq (x : ℚ) (n : ℕ) :
    fixedFmt x n = mantText (decide (x < 0)) (fixedK x n / 10 ^ n) n (fixedK x n % 10 ^ n) := rfl

theorem fixedK_cast (x : ℚ) (n : ℕ) :
    ((fixedK x n : ℕ) : ℚ) = ((rhe (qabs x * ((10 ^ n : ℕ) : ℚ)) : ℤ) : ℚ) := by
  have h0 : 0 ≤ qabs x * ((10 ^ n : ℕ) : ℚ) := by
    rw [qabs_eq_abs]; exact mul_nonneg (abs_nonneg x) (by positivity)
  have h := rhe_nonneg h0
  unfold fixedK
  have : (((rhe (qabs x * ((10 ^ n : ℕ) : ℚ))).toNat : ℕ) : ℤ) = rhe (qabs x * ((10 ^ n : ℕ) : ℚ)) :=
    Int.toNat_of_nonneg h
  exact_mod_cast congrArg (fun z : ℤ => (z : ℚ)) this

theorem fixedK_zero (n : ℕ) : fixedK 0 n = 0 := by
  simp [fixedK, qabs, rhe_zero]

theorem rhe_mul_eq_fixedK (x : ℚ) (n : ℕ) :
    ((rhe (x * pow10 n) : ℤ) : ℚ) = (if x < 0 then -1 else 1) * (fixedK x n : ℚ) := by
  rw [fixedK_cast, qabs_eq_abs, pow10_natCast']
  by_cases hx : x < 0
  · rw [if_pos hx, abs_of_neg hx, neg_mul x, rhe_neg]; push_cast; ring
  · rw [if_neg hx, abs_of_nonneg (not_lt.mp hx), one_mul]

theorem roundTo_eq_fixedK (x : ℚ) (n : ℕ) :
    roundTo x n = (if x < 0 then -1 else 1) * ((fixedK x n : ℚ) / ((10 ^ n : ℕ) : ℚ)) := by
  rw [roundTo, rhe_mul_eq_fixedK, pow10_natCast', mul_div_assoc]

theorem mantText_value (K n : ℕ) :
    ((K / 10 ^ n : ℕ) : ℚ) + ((if n = 0 then 0 else K % 10 ^ n : ℕ) : ℚ) / ((10 ^ n : ℕ) : ℚ)
      = (K : ℚ) / ((10 ^ n : ℕ) : ℚ) := by
  have hP : ((10 ^ n : ℕ) : ℚ) ≠ 0 := by positivity
  have hK : (K : ℚ) = ((10 ^ n : ℕ) : ℚ) * ((K / 10 ^ n : ℕ) : ℚ) + ((K % 10 ^ n : ℕ) : ℚ) := by
    rw [← Nat.cast_mul, ← Nat.cast_add, Nat.div_add_mod]
  by_cases hn : n = 0
  · subst hn; simp
  · rw [if_neg hn, eq_div_iff hP, add_mul, div_mul_cancel₀ _ hP]; linarith

theorem floor_natCast_div (K n : ℕ) : ⌊(K : ℚ) / ((10 ^ n : ℕ) : ℚ)⌋ = ((K / 10 ^ n : ℕ) : ℤ) := by
  rw [← Int.cast_natCast (R := ℚ) K, Rat.floor_intCast_div_natCast]; rfl

theorem frac_natCast_div (K n : ℕ) : frac ((K : ℚ) / ((10 ^ n : ℕ) : ℚ)) * pow10 n = (((K % 10 ^ n : ℕ) : ℤ) : ℚ) := by
  have hP : ((10 ^ n : ℕ) : ℚ) ≠ 0 := by positivity
  have : (K : ℚ) = ((10 ^ n : ℕ) : ℚ) * ((K / 10 ^ n : ℕ) : ℚ) + ((K % 10 ^ n : ℕ) : ℚ) := by
    rw [← Nat.cast_mul, ← Nat.cast_add, Nat.div_add_mod]
  rw [frac, floor_eq, floor_natCast_div, pow10_natCast', sub_mul, div_mul_cancel₀ _ hP, Int.cast_natCast,
    Int.cast_natCast]
  linarith

theorem trunc_neg_natCast_div (K n : ℕ) : trunc (-((K : ℚ) / ((10 ^ n : ℕ) : ℚ))) = -((K / 10 ^ n : ℕ) : ℤ) := by
  have hq0 : (0 : ℚ) ≤ (K : ℚ) / ((10 ^ n : ℕ) : ℚ) := by positivity
  unfold trunc
  split_ifs with h
  · rw [neg_neg, floor_eq, floor_natCast_div]
  · -- `int(-0.0)`: the quotient is zero
    have h0 : (K : ℚ) / ((10 ^ n : ℕ) : ℚ) = 0 := le_antisymm (by linarith) hq0
    have := floor_natCast_div K n
    rw [h0, Int.floor_zero] at this
    rw [h0, neg_zero, floor_eq, Int.floor_zero, ← this, neg_zero]

/-- `f'{-ip:d}'`: no sign for `-0` -/
theorem intStr_neg_natCast (ip : ℕ) : intStr (-(ip : ℤ)) = (if ip ≠ 0 then ['-'] else []) ++ natDigits ip := by
  unfold intStr
  by_cases h : ip = 0
  · subst h; rfl
  · rw [if_pos (by omega), if_pos h, Int.natAbs_neg, Int.natAbs_natCast]; rfl

/-- the signed decimal `±K / 10^n` as `mantissaText` prints it: truncated integer part, `n` decimals; the sign is
shown only with a non-zero integer part -/
theorem scaled_text (s : Bool) (K n : ℕ) :
    intStr (trunc ((if s then -1 else 1) * ((K : ℚ) / ((10 ^ n : ℕ) : ℚ))))
      ++ (if n = 0 then [] else '.' :: zeroPad n
            (rhe (frac (qabs ((if s then -1 else 1) * ((K : ℚ) / ((10 ^ n : ℕ) : ℚ)))) * pow10 n)).toNat)
      = mantText (s && decide (K / 10 ^ n ≠ 0)) (K / 10 ^ n) n (K % 10 ^ n) := by
  have hq0 : (0 : ℚ) ≤ (K : ℚ) / ((10 ^ n : ℕ) : ℚ) := by positivity
  unfold mantText
  cases s
  · rw [if_neg Bool.false_ne_true, one_mul, qabs_eq_abs, abs_of_nonneg hq0, frac_natCast_div, rhe_intCast,
      Int.toNat_natCast, trunc, if_neg (not_lt.mpr hq0), floor_eq, floor_natCast_div, intStr,
      if_neg (Int.natCast_nonneg _).not_gt, Int.natAbs_natCast]
    rfl
  · rw [if_pos rfl, neg_one_mul, qabs_eq_abs, abs_neg, abs_of_nonneg hq0, frac_natCast_div, rhe_intCast,
      Int.toNat_natCast, trunc_neg_natCast_div, intStr_neg_natCast]
    by_cases h : K / 10 ^ n = 0 <;> simp [h]

/-- the number of decimals `ScientificFloat.__str__` shows for the scaled mantissa `m3`:
`max(precision - len(pre), 0)` -/
def postOf (m3 : ℚ) (p : ℕ) : ℕ := p - (if |m3| < 1 then 0 else numDigits ⌊|m3|⌋.toNat)

theorem postOf_of_one_le {m3 : ℚ} (h : 1 ≤ |m3|) (p : ℕ) : postOf m3 p = p - numDigits ⌊|m3|⌋.toNat := by
  rw [postOf, if_neg (not_lt.mpr h)]

/-- **the mantissa text, for every scaled mantissa**: the fixed notation of `m3` with `postOf m3 p` decimals (the digits
`fixedK`, as in `fixedFmt_eq`), except that the sign is shown only with a non-zero integer part — so a negative value
whose integer part prints as `0` loses its sign (`C18_real_counterexample`) -/
theorem mantissaText_eq (m3 : ℚ) (p : ℕ) :
    mantissaText m3 p = mantText (decide (m3 < 0) && decide (fixedK m3 (postOf m3 p) / 10 ^ postOf m3 p ≠ 0))
      (fixedK m3 (postOf m3 p) / 10 ^ postOf m3 p) (postOf m3 p) (fixedK m3 (postOf m3 p) % 10 ^ postOf m3 p) := by
  have hr : roundTo m3 (postOf m3 p) = (if decide (m3 < 0) then -1 else 1)
      * ((fixedK m3 (postOf m3 p) : ℚ) / ((10 ^ postOf m3 p : ℕ) : ℚ)) := by
    rw [roundTo_eq_fixedK]; simp
  rw [← scaled_text, ← hr]
  simp only [mantissaText, postOf, qabs_eq_abs, floor_eq]

theorem parseExp_none {tl : List Char} (h : NoNum tl) : parseExp tl = (0, tl) := by
  cases tl with
  | nil => rfl
  | cons c t =>
    have hc : c ≠ 'e' := h.2.2
    unfold parseExp
    split
    · rename_i heq; simp at heq; exact absurd heq.1 hc
    · rename_i heq; simp at heq; exact absurd heq.1 hc
    · rfl

theorem parseExp_render (r : ℤ) {tl : List Char} (h : NoNum tl) :
    parseExp ('e' :: intStr r ++ tl) = (r, tl) := by
  obtain ⟨_, _, hlen⟩ := natDigits_spec r.natAbs
  have hl : (natDigits r.natAbs).length ≠ 0 := by omega
  unfold intStr
  by_cases hneg : r < 0
  · simp only [hneg, ↓reduceIte, List.cons_append]
    unfold parseExp
    simp only [takeNat_natDigits r.natAbs h.noDigDot.not_digit 0 0, zero_mul, zero_add, hl, ↓reduceIte]
    congr 1; omega
  · simp only [hneg, ↓reduceIte]
    obtain ⟨c, cs, hc, hne, _⟩ := natDigits_cons r.natAbs
    have htake := takeNat_natDigits r.natAbs h.noDigDot.not_digit 0 0
    unfold parseExp
    split
    · rename_i t heq
      rw [hc] at heq; simp at heq; exact absurd heq.1 hne
    · rename_i t hnot heq
      have : t = natDigits r.natAbs ++ tl := by simp at heq; exact heq.symm
      subst this
      simp only [htake, zero_mul, zero_add, hl, ↓reduceIte]
      congr 1; omega
    · rename_i h1 h2; exact absurd rfl (h2 _)

theorem parseTail_unit (unit : List Char) : parseTail unit unit = some 0 := by simp [parseTail]

theorem parseTail_prefix (unit : List Char) (c : Char) : parseTail unit (c :: unit) = siExp c := by
  have : c :: unit ≠ unit := by
    intro h; have := congrArg List.length h; simp at this
  simp [parseTail, this]

theorem mem_letters_of_siExp {c : Char} {k : ℤ} (h : siExp c = some k) :
    c ∈ ['p', 'n', 'u', 'μ', 'm', 'k', 'M', 'G', 'T'] := by
  by_contra hc
  simp only [List.mem_cons, List.not_mem_nil, or_false, not_or] at hc
  simp [siExp, hc] at h

theorem siExp_noNum {c : Char} {k : ℤ} (h : siExp c = some k) (unit : List Char) : NoNum (c :: unit) :=
  (by decide : ∀ c ∈ ['p', 'n', 'u', 'μ', 'm', 'k', 'M', 'G', 'T'], isDigit c = false ∧ c ≠ '.' ∧ c ≠ 'e')
    c (mem_letters_of_siExp h)

theorem parseBack_render (unit : List Char) (hunit : NoNum unit) (neg : Bool) (ip F post : ℕ) (hF : F < 10 ^ post)
    (r : ℤ) (pfx : List Char) (k : ℤ) (hpfx : (pfx = [] ∧ k = 0) ∨ ∃ c, pfx = [c] ∧ siExp c = some k) :
    parseBack unit (mantText neg ip post F ++ ((if r = 0 then [] else 'e' :: intStr r) ++ (pfx ++ unit)))
      = some (.num { neg := neg, intPart := ip, fracNum := if post = 0 then 0 else F, fracLen := post,
                     expE := r, pfxKey := k }) := by
  have htl : NoNum (pfx ++ unit) := by
    rcases hpfx with ⟨h, _⟩ | ⟨c, h, hc⟩
    · rw [h]; exact hunit
    · rw [h]; exact siExp_noNum hc unit
  have hrest : NoDigDot ((if r = 0 then [] else 'e' :: intStr r) ++ (pfx ++ unit)) := by
    by_cases hr : r = 0
    · simp only [hr, ↓reduceIte, List.nil_append]; exact htl.noDigDot
    · simp only [hr, ↓reduceIte, List.cons_append]; exact ⟨by decide, by decide⟩
  have hM := parseMant_render neg ip F post hF hrest
  obtain ⟨c, cs, hc, n1, n4⟩ := natDigits_cons ip
  have hE : parseExp ((if r = 0 then [] else 'e' :: intStr r) ++ (pfx ++ unit)) = (r, pfx ++ unit) := by
    by_cases hr : r = 0
    · simp only [hr, ↓reduceIte, List.nil_append]; exact parseExp_none htl
    · simp only [hr, ↓reduceIte]; exact parseExp_render r htl
  have hT : parseTail unit (pfx ++ unit) = some k := by
    rcases hpfx with ⟨h, hk⟩ | ⟨c, h, hc⟩
    · rw [h, hk]; exact parseTail_unit unit
    · rw [h]; simp only [List.cons_append, List.nil_append]; rw [parseTail_prefix, hc]
  unfold parseBack
  rw [if_neg, if_neg, hM]
  · simp only [hE, hT]
  -- the text starts with a digit, or with `-` and a digit: it is neither `∞` nor `-∞`
  all_goals
    unfold mantText
    rw [hc]
    cases neg <;> simp [n1, n4]

theorem realFailures_num (v : ℚ) (p : ℕ) (m : ℤ) (q : Parsed) :
    realFailures v p m (some (.num q)) = [] ↔
      (¬ Beyond v m ∧ q.exp % 3 = 0 ∧ (1 ≤ q.mant ∧ q.mant ≤ 1000) ∧ AccurateTol 0 v p q.value
        ∧ (q.value = 0 ∨ q.neg = decide (v < 0))) := by
  unfold realFailures
  simp only [List.append_eq_nil_iff, ite_eq_right_iff, ite_eq_left_iff, reduceCtorEq, imp_false, not_not, and_assoc]

theorem realFailures_inf (v : ℚ) (p : ℕ) (m : ℤ) (n : Bool) :
    realFailures v p m (some (.inf n)) = [] ↔ (BeyondRounded v p m ∧ n = decide (v < 0)) := by
  unfold realFailures BeyondRounded
  simp only [List.append_eq_nil_iff, ite_eq_left_iff, reduceCtorEq, imp_false, not_not, zero_mul, add_zero]

end CC.Fmt

namespace CC
open CC.Fmt CC.Gen.Fmt

theorem sc_real_sign_eq (re : ℚ) (compact : Bool) :
    sc_real_sign re compact = if 0 ≤ re then [] else if compact then ['-'] else ['-', ' '] := by
  unfold sc_real_sign
  have hs : strip ['-', ' '] = ['-'] := by decide
  have hn : strip [] = [] := by decide
  by_cases h : 0 ≤ re <;> cases compact <;> simp [h, hs, hn]

theorem sc_imag_sign_eq (im : ℚ) (compact : Bool) :
    sc_imag_sign im compact =
      if 0 ≤ im then (if compact then ['+'] else [' ', '+', ' ']) else (if compact then ['-'] else [' ', '-', ' ']) := by
  unfold sc_imag_sign
  have hp : strip [' ', '+', ' '] = ['+'] := by decide
  have hm : strip [' ', '-', ' '] = ['-'] := by decide
  by_cases h : 0 ≤ im <;> cases compact <;> simp [h, hp, hm]

theorem exp_extension_eq (u : Bool) (T : Table) (e3 : ℤ) :
    sf_exp_extension u T e3 = if sf_rebase_exp u T e3 = 0 then [] else 'e' :: intStr (sf_rebase_exp u T e3) := by
  unfold sf_exp_extension
  by_cases h : sf_rebase_exp u T e3 = 0 <;> simp [h]

theorem str_of_not_inf (c : SFCfg) (v : ℚ) (h : (c.value3 v).isInf = false) :
    c.str v = mantissaText (c.value3 v).mantissa3 c.precision
      ++ (sf_exp_extension c.usePrefix c.table (c.value3 v).exponent3
          ++ (sf_exp_prefix c.usePrefix c.table (c.value3 v).exponent3 ++ c.unit)) := by
  unfold SFCfg.str
  simp only [h, Bool.false_eq_true, ↓reduceIte, List.append_assoc]

theorem parseBack_inf_pos (u : List Char) : parseBack u ['∞'] = some (.inf false) := by
  unfold parseBack; simp

theorem parseBack_inf_neg (u : List Char) : parseBack u ['-', '∞'] = some (.inf true) := by
  unfold parseBack; simp

theorem Parsed.value_eq {q : Parsed} {x : ℚ} (hm : q.mant = |x|) (hs : q.neg = true ↔ x < 0) :
    q.value = x * pow10 q.exp := by
  unfold Parsed.value
  by_cases hx : x < 0
  · rw [hs.mpr hx, if_pos rfl, hm, abs_of_neg hx, neg_one_mul, neg_neg]
  · rw [Bool.eq_false_iff.mpr (mt hs.mp hx), if_neg Bool.false_ne_true, hm, abs_of_nonneg (not_lt.mp hx), one_mul]

end CC
