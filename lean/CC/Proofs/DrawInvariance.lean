/-
  CC.Proofs.DrawInvariance — the `Joined` lemmas of CC/Proofs/DrawSpec.lean lifted to the *translated circuit*
  of the drawing model (CC/Model/Draw.lean).  The parser's naming is determined by "is a parser node" and
  "joined by wires" up to a renaming `ρ` injective on the names used (`labelOf_transport`), a translator only
  copies the terminal names it is given (`translateSym_transport`), and `Circuit.__post_init__` commutes with a
  renaming (`mkCircuit_rename`).  Hence one relation between drawings, `Rewired g syms syms'` (apart from the
  wires the same symbols in the same order, terminals moved by `g`; wires arbitrary as long as `g` respects
  "joined"), gives the same circuit up to `ρ`, errors included (`circuitTranslator_rewired`); an injective
  coordinate map (`MappedBy.rewired`) and a wire split through an unused point (`SplitAt.rewired`) are instances.
  A permutation of the symbol list gives a circuit with the permuted components (`circuitTranslator_perm`).
  Both drawings may be read with *different* set iteration orders `ord`, `ord'` (the Python sets of the second
  drawing hash different floats); `Rewired id syms syms` is the case of one drawing read twice.
-/
import CC.Proofs.DrawTables
import CC.Proofs.DrawSpec
import CC.Proofs.ExceptLemmas
import Mathlib.Data.List.Perm.Basic
import Mathlib.Data.List.Forall2
import Mathlib.Algebra.Field.Rat
import CC.Proofs.DrawParser
import CC.Proofs.DrawBasics
namespace CC.Draw

def renameComp (ρ : String → String) (c : Component) : Component := { c with nodes := c.nodes.map ρ }

/-- the reference node of the empty circuit is the placeholder `""`, not a node name: it is kept -/
def renameCircuit (ρ : String → String) (c : Circuit) : Circuit :=
  { components := c.components.map (renameComp ρ),
    groundNode := if c.components = [] then c.groundNode else ρ c.groundNode }

theorem renameCircuit_groundNode (ρ : String → String) {c : Circuit} (h : c.components ≠ []) :
    (renameCircuit ρ c).groundNode = ρ c.groundNode := if_neg h

/-- `Except.map` spelled out -/
def emap {α β : Type} (f : α → β) : Except Err α → Except Err β
  | .ok a => .ok (f a)
  | .error e => .error e

@[simp] theorem emap_ok {α β : Type} (f : α → β) (a : α) : emap f (.ok a : Except Err α) = .ok (f a) := rfl
@[simp] theorem emap_error {α β : Type} (f : α → β) (e : Err) : emap f (.error e : Except Err α) = .error e := rfl

/-- no node name is used on two different electrical nodes (`CC.C13_DrawingWF`) -/
def NamesOK (syms : List Sym) : Prop :=
  ∀ ps ∈ nodeSymsOf syms, ∀ ps' ∈ nodeSymsOf syms, ps.2 = ps'.2 → Joined (wiresOf syms) ps.1 ps'.1

def termPts (syms : List Sym) : List Pt := syms.flatMap fun s => [s.n1, s.n2]

theorem mem_termPts {syms : List Sym} {p : Pt} : p ∈ termPts syms ↔ ∃ s ∈ syms, p = s.n1 ∨ p = s.n2 := by
  unfold termPts
  simp [List.mem_flatMap]

theorem allNodes_sub_termPts {syms : List Sym} {p : Pt} (h : p ∈ allNodes syms) : p ∈ termPts syms :=
  let ⟨s, hs, _, hp⟩ := mem_allNodes_iff.mp h
  mem_termPts.mpr ⟨s, hs, hp⟩

theorem labelOf_spec {ord : SetOrd Pt} (hord : ord.Valid) (syms : List Sym) (hwf : NamesOK syms) :
    ∃ lab : Pt → String,
      (∀ p ∈ allNodes syms, labelOf ord syms p = .ok (lab p)) ∧
      (∀ p, p ∉ allNodes syms → labelOf ord syms p = .error Err.keyError) ∧
      Realises (wiresOf syms) (allNodes syms) lab :=
  getNodeIndex_spec (wiresOf syms) hord (nodup_allNodes syms) ⟨nodeSyms_on_terminal syms, hwf⟩

theorem exists_renaming {P Q : Type} (T : List P) (lab : P → String) (lab' : Q → String) (g : P → Q)
    (h : ∀ p ∈ T, ∀ q ∈ T, (lab p = lab q ↔ lab' (g p) = lab' (g q))) :
    ∃ ρ : String → String, (∀ p ∈ T, lab' (g p) = ρ (lab p)) ∧
      (∀ a ∈ T.map lab, ∀ b ∈ T.map lab, ρ a = ρ b → a = b) := by
  classical
  let ρ : String → String := fun a =>
    match T.find? (fun p => decide (lab p = a)) with
    | some p => lab' (g p)
    | none => a
  have hρ : ∀ p ∈ T, ρ (lab p) = lab' (g p) := by
    intro p hp
    simp only [ρ]
    split
    · rename_i q hf
      exact (h q (List.mem_of_find?_eq_some hf) p hp).mp (by simpa using List.find?_some hf)
    · rename_i hf
      have := List.find?_eq_none.mp hf p hp
      simp at this
  refine ⟨ρ, fun p hp => (hρ p hp).symm, ?_⟩
  intro a ha b hb hab
  obtain ⟨p, hp, rfl⟩ := List.mem_map.mp ha
  obtain ⟨q, hq, rfl⟩ := List.mem_map.mp hb
  rw [hρ p hp, hρ q hq] at hab
  exact (h p hp q hq).mpr hab

/-- **transport of the naming.**  `g` sends the points `T` of the first drawing to points of the
second one such that parser nodes correspond to parser nodes and "joined" corresponds to
"joined".  Then the second naming is the first one followed by a renaming `ρ`, injective on the
names of the first drawing (on points outside the parser nodes both lookups raise `KeyError`). -/
theorem labelOf_transport {ord ord' : SetOrd Pt} (hord : ord.Valid) (hord' : ord'.Valid)
    (syms syms' : List Sym) (hwf : NamesOK syms) (hwf' : NamesOK syms') (g : Pt → Pt)
    (hmem : ∀ p ∈ termPts syms, (g p ∈ allNodes syms' ↔ p ∈ allNodes syms))
    (hj : ∀ p ∈ allNodes syms, ∀ q ∈ allNodes syms,
      (Joined (wiresOf syms') (g p) (g q) ↔ Joined (wiresOf syms) p q)) :
    ∃ (ρ : String → String) (lab : Pt → String),
      (∀ p ∈ allNodes syms, labelOf ord syms p = .ok (lab p)) ∧
      (∀ a ∈ (allNodes syms).map lab, ∀ b ∈ (allNodes syms).map lab, ρ a = ρ b → a = b) ∧
      (∀ p ∈ termPts syms, labelOf ord' syms' (g p) = emap ρ (labelOf ord syms p)) := by
  obtain ⟨lab, h1, h2, h3⟩ := labelOf_spec hord syms hwf
  obtain ⟨lab', h1', h2', h3'⟩ := labelOf_spec hord' syms' hwf'
  have hmem' : ∀ p ∈ allNodes syms, g p ∈ allNodes syms' := fun p hp => (hmem p (allNodes_sub_termPts hp)).mpr hp
  obtain ⟨ρ, hρ, hinj⟩ := exists_renaming (allNodes syms) lab lab' g (by
    intro p hp q hq
    rw [h3 p hp q hq, h3' (g p) (hmem' p hp) (g q) (hmem' q hq)]
    exact (hj p hp q hq).symm)
  refine ⟨ρ, lab, h1, hinj, ?_⟩
  intro p hp
  by_cases hpa : p ∈ allNodes syms
  · rw [h1 p hpa, h1' (g p) (hmem' p hpa), emap_ok, hρ p hpa]
  · rw [h2 p hpa, h2' (g p) (fun h => hpa ((hmem p hp).mp h))]
    rfl

/-- the two symbols agree on everything the translators read besides the terminals -/
def SameShell (s s' : Sym) : Prop :=
  s'.cls = s.cls ∧ s'.name = s.name ∧ s'.rev = s.rev ∧ s'.nodeId = s.nodeId ∧ s'.attrs = s.attrs

theorem SameShell.refl (s : Sym) : SameShell s s := ⟨rfl, rfl, rfl, rfl, rfl⟩

theorem getAttr_shell {s s' : Sym} (h : s'.attrs = s.attrs) (a : String) : s'.getAttr a = s.getAttr a := by
  unfold Sym.getAttr; rw [h]

theorem evalV_shell (π : Rat) {s s' : Sym} (ha : s'.attrs = s.attrs) (hr : s'.rev = s.rev) :
    ∀ e : VExpr, evalV π s' e = evalV π s e
  | .attr a => by simp only [evalV, getAttr_shell ha]
  | .re e => by simp only [evalV, evalV_shell π ha hr e]
  | .neg e => by simp only [evalV, evalV_shell π ha hr e]
  | .ifNotRev t f => by simp only [evalV, hr, evalV_shell π ha hr t, evalV_shell π ha hr f]
  | .degConv a flag => by simp only [evalV, getAttr_shell ha]
  | .lit r => rfl
  | .inf => rfl
  | .str t => rfl

theorem nodeTuple_map (ρ : String → String) (spec : NodeSpec) (rev : Bool) (nodes : List String) :
    nodeTuple spec rev (nodes.map ρ) = emap (List.map ρ) (nodeTuple spec rev nodes) := by
  cases spec <;> cases nodes with
  | nil => rfl
  | cons a t =>
    cases t with
    | nil => rfl
    | cons b u => cases rev <;> rfl

theorem nodeTuple_ok {spec : NodeSpec} {rev : Bool} {nodes ns : List String}
    (h : nodeTuple spec rev nodes = .ok ns) : ns ≠ [] ∧ ∀ n ∈ ns, n ∈ nodes := by
  cases spec with
  | pair =>
    rcases nodes with _ | ⟨a, _ | ⟨b, u⟩⟩
    · cases h
    · cases h
    · cases h; simp
  | pairSwapIfRev =>
    rcases nodes with _ | ⟨a, _ | ⟨b, u⟩⟩
    · cases h
    · cases h
    · cases rev <;> cases h <;> simp
  | single =>
    rcases nodes with _ | ⟨a, t⟩
    · cases h
    · cases h; simp

theorem applyCtor_map (ρ : String → String) (c : CtorSpec) (id : String) (nodes : List String)
    (args : List (String × Val)) :
    applyCtor c id (nodes.map ρ) args = emap (renameComp ρ) (applyCtor c id nodes args) := by
  unfold applyCtor
  cases ctorValue c args <;> rfl

theorem applyCtor_ok {c : CtorSpec} {id : String} {nodes : List String} {args : List (String × Val)}
    {k : Component} (h : applyCtor c id nodes args = .ok k) :
    ∃ v, ctorValue c args = .ok v ∧ k = { type := c.kind, id := id, nodes := nodes, value := v } := by
  unfold applyCtor at h
  cases hv : ctorValue c args with
  | error e => rw [hv] at h; cases h
  | ok v => rw [hv] at h; cases h; exact ⟨v, rfl, rfl⟩

theorem runCase_transport (π : Rat) (ρ : String → String) {s s' : Sym} (hs : SameShell s s')
    (nodes : List String) (c : TrCase) :
    runCase π s' (nodes.map ρ) c = emap (Option.map (renameComp ρ)) (runCase π s nodes c) := by
  obtain ⟨_, hn, hr, _, ha⟩ := hs
  unfold runCase
  cases c.ctor with
  | none => rfl
  | some cn =>
    simp only [hr, hn, nodeTuple_map, evalV_shell π ha hr]
    cases nodeTuple c.nodes s.rev nodes with
    | error e => rfl
    | ok ns =>
      rw [emap_ok, ok_bind, ok_bind]
      cases c.args.mapM fun (kv : String × VExpr) => do pure (kv.1, ← evalV π s kv.2) with
      | error e => rfl
      | ok args =>
        rw [ok_bind, ok_bind]
        cases Gen.ctors.find? (·.name = cn) with
        | none => rfl
        | some spec =>
          simp only [applyCtor_map]
          cases applyCtor spec s.name ns args <;> rfl

theorem runCase_some {π : Rat} {s : Sym} {nodes : List String} {c : TrCase} {k : Component}
    (h : runCase π s nodes c = .ok (some k)) :
    ∃ cn spec args v, c.ctor = some cn ∧ Gen.ctors.find? (·.name = cn) = some spec ∧
      nodeTuple c.nodes s.rev nodes = .ok k.nodes ∧
      c.args.mapM (fun (kv : String × VExpr) => do pure (kv.1, ← evalV π s kv.2)) = .ok args ∧
      ctorValue spec args = .ok v ∧ k = { type := spec.kind, id := s.name, nodes := k.nodes, value := v } := by
  unfold runCase at h
  split at h
  · cases h
  next cn hc =>
    obtain ⟨ns, hn, h⟩ := bind_eq_ok.mp h
    obtain ⟨args, ha, h⟩ := bind_eq_ok.mp h
    split at h
    · cases h
    next spec hf =>
      obtain ⟨k', hk, h⟩ := map_eq_ok.mp h
      obtain ⟨v, hv, rfl⟩ := applyCtor_ok hk
      cases h
      exact ⟨cn, spec, args, v, hc, hf, hn, ha, hv, rfl⟩

theorem runCases_transport (π : Rat) (ρ : String → String) {s s' : Sym} (hs : SameShell s s')
    (nodes : List String) : ∀ cases : List TrCase,
    runCases π s' (nodes.map ρ) cases = emap (Option.map (renameComp ρ)) (runCases π s nodes cases)
  | [] => rfl
  | c :: cs => by
    unfold runCases
    cases c.guard with
    | none => exact runCase_transport π ρ hs nodes c
    | some am =>
      obtain ⟨a, m⟩ := am
      simp only [getAttr_shell hs.2.2.2.2, bind, Except.bind]
      cases s.getAttr a with
      | error e => rfl
      | ok v =>
        simp only
        by_cases hv : v = .str m
        · simp only [hv, if_true]; exact runCase_transport π ρ hs nodes c
        · simp only [hv, if_false]; exact runCases_transport π ρ hs nodes cs

theorem runCases_some {π : Rat} {s : Sym} {nodes : List String} {k : Component} :
    ∀ {cases : List TrCase}, runCases π s nodes cases = .ok (some k) →
      ∃ c ∈ cases, runCase π s nodes c = .ok (some k)
  | [], h => by cases h
  | c :: cs, h => by
    unfold runCases at h
    split at h
    · exact ⟨c, List.mem_cons_self, h⟩
    · obtain ⟨v, _, h⟩ := bind_eq_ok.mp h
      split at h
      · exact ⟨c, List.mem_cons_self, h⟩
      · obtain ⟨c', hc', h'⟩ := runCases_some h
        exact ⟨c', List.mem_cons_of_mem _ hc', h'⟩

theorem compOfSym_transport (π : Rat) (ρ : String → String) {s s' : Sym} (hs : SameShell s s')
    (nodes : List String) :
    compOfSym π s' (nodes.map ρ) = emap (Option.map (renameComp ρ)) (compOfSym π s nodes) := by
  unfold compOfSym
  rw [hs.1]
  cases Gen.translatorMap.lookup s.cls with
  | none => rfl
  | some f =>
    simp only
    cases Gen.translators.lookup f with
    | none => rfl
    | some cases => exact runCases_transport π ρ hs nodes cases

theorem compOfSym_some {π : Rat} {s : Sym} {nodes : List String} {k : Component}
    (h : compOfSym π s nodes = .ok (some k)) :
    ∃ f cases c, Gen.translatorMap.lookup s.cls = some f ∧ Gen.translators.lookup f = some cases ∧ c ∈ cases ∧
      runCase π s nodes c = .ok (some k) := by
  unfold compOfSym at h
  split at h
  · cases h
  next f h1 =>
    split at h
    · cases h
    next cases h2 =>
      obtain ⟨c, hc, hk⟩ := runCases_some h
      exact ⟨f, cases, c, h1, h2, hc, hk⟩

theorem compOfSym_nodes {π : Rat} {s : Sym} {nodes : List String} {k : Component}
    (h : compOfSym π s nodes = .ok (some k)) : k.nodes ≠ [] ∧ ∀ n ∈ k.nodes, n ∈ nodes := by
  obtain ⟨_, _, _, _, _, _, hc⟩ := compOfSym_some h
  obtain ⟨_, _, _, _, _, _, hn, _⟩ := runCase_some hc
  exact nodeTuple_ok hn

theorem remapKE_emap {α β : Type} (f : α → β) (x : Except Err α) : remapKE (emap f x) = emap f (remapKE x) := by
  cases x with
  | ok a => rfl
  | error e => cases e <;> rfl

theorem translateSym_transport (π : Rat) (L L' : Pt → Except Err String) (ρ : String → String)
    {s s' : Sym} (hs : SameShell s s') (h1 : L' s'.n1 = emap ρ (L s.n1)) (h2 : L' s'.n2 = emap ρ (L s.n2)) :
    translateSym π L' s' = emap (Option.map (renameComp ρ)) (translateSym π L s) := by
  unfold translateSym
  rw [hs.1, mapM_pair, mapM_pair, h1, h2]
  cases Gen.translatorMap.lookup s.cls with
  | none => rfl
  | some f =>
    simp only
    rw [← remapKE_emap]
    congr 1
    cases L s.n1 with
    | error e => rfl
    | ok la =>
      cases L s.n2 with
      | error e => rfl
      | ok lb =>
        simp only [emap_ok, bind, Except.bind, pure, Except.pure]
        exact compOfSym_transport π ρ hs [la, lb]

theorem remapKE_ok' {α : Type} {x : Except Err α} {c : α} (h : remapKE x = .ok c) : x = .ok c := by
  unfold remapKE at h
  split at h
  · cases h
  · exact h

theorem translateSym_inv {π : Rat} {L : Pt → Except Err String} {s : Sym} {x : Option Component}
    (h : translateSym π L s = .ok x) :
    ∃ la lb, L s.n1 = .ok la ∧ L s.n2 = .ok lb ∧ compOfSym π s [la, lb] = .ok x := by
  unfold translateSym at h
  split at h
  · cases h
  · obtain ⟨nodes, hn, h⟩ := bind_eq_ok.mp (remapKE_ok' h)
    rw [mapM_pair] at hn
    obtain ⟨la, h1, hn⟩ := bind_eq_ok.mp hn
    obtain ⟨lb, h2, hn⟩ := bind_eq_ok.mp hn
    cases hn
    exact ⟨la, lb, h1, h2, h⟩

theorem translateSym_nodes {π : Rat} {L : Pt → Except Err String} {s : Sym} {k : Component}
    (h : translateSym π L s = .ok (some k)) : k.nodes ≠ [] ∧ ∀ n ∈ k.nodes, L s.n1 = .ok n ∨ L s.n2 = .ok n := by
  obtain ⟨la, lb, h1, h2, hc⟩ := translateSym_inv h
  obtain ⟨hne, hsub⟩ := compOfSym_nodes hc
  refine ⟨hne, fun n hn => ?_⟩
  rcases List.mem_pair.mp (hsub n hn) with rfl | rfl
  · exact Or.inl h1
  · exact Or.inr h2

def compsOf (π : Rat) (L : Pt → Except Err String) (syms : List Sym) : Except Err (List Component) :=
  emap (fun cs => cs.filterMap id) (syms.mapM (translateSym π L))

theorem compsOf_cons (π : Rat) (L : Pt → Except Err String) (s : Sym) (syms : List Sym) :
    compsOf π L (s :: syms) = translateSym π L s >>= fun x => emap (x.toList ++ ·) (compsOf π L syms) := by
  unfold compsOf
  rw [List.mapM_cons]
  cases translateSym π L s with
  | error e => rfl
  | ok x => rw [ok_bind, ok_bind]; cases syms.mapM (translateSym π L) <;> cases x <;> rfl

theorem compsOf_eq_ok {π : Rat} {L : Pt → Except Err String} {syms : List Sym} {cs : List Component} :
    compsOf π L syms = .ok cs ↔
      ∃ r, List.Forall₂ (fun s x => translateSym π L s = .ok x) syms r ∧ r.filterMap id = cs := by
  unfold compsOf
  cases hr : syms.mapM (translateSym π L) with
  | error e => exact ⟨fun h => (nomatch h), fun ⟨r, h, _⟩ => by rw [mapM_eq_ok.mpr h] at hr; cases hr⟩
  | ok r =>
    refine ⟨fun h => ⟨r, mapM_eq_ok.mp hr, Except.ok.inj h⟩, fun ⟨r', h, e⟩ => ?_⟩
    rw [mapM_eq_ok.mpr h] at hr
    cases hr; rw [← e]; rfl

theorem mem_compsOf {π : Rat} {L : Pt → Except Err String} {syms : List Sym} {cs : List Component}
    (h : compsOf π L syms = .ok cs) {c : Component} (hc : c ∈ cs) :
    ∃ s ∈ syms, translateSym π L s = .ok (some c) := by
  obtain ⟨r, hr, rfl⟩ := compsOf_eq_ok.mp h
  obtain ⟨o, ho, rfl⟩ := List.mem_filterMap.mp hc
  exact forall₂_exists_mem hr.flip _ ho

theorem compsOf_nodes {π : Rat} {L : Pt → Except Err String} {syms : List Sym} {cs : List Component}
    (h : compsOf π L syms = .ok cs) {c : Component} (hc : c ∈ cs) :
    c.nodes ≠ [] ∧ ∀ n ∈ c.nodes, ∃ p, L p = .ok n := by
  obtain ⟨s, _, hs⟩ := mem_compsOf h hc
  obtain ⟨hne, hsub⟩ := translateSym_nodes hs
  exact ⟨hne, fun n hn => (hsub n hn).elim (fun h => ⟨_, h⟩) fun h => ⟨_, h⟩⟩

theorem compsOf_filter (π : Rat) (L : Pt → Except Err String) (p : Sym → Bool) (syms : List Sym)
    (h : ∀ s ∈ syms, p s = false → translateSym π L s = .ok none) :
    compsOf π L (syms.filter p) = compsOf π L syms := by
  induction syms with
  | nil => rfl
  | cons s l ih =>
    have ih := ih fun b hb => h b (List.mem_cons_of_mem _ hb)
    rw [List.filter_cons, compsOf_cons]
    cases hp : p s with
    | true => rw [if_pos rfl, compsOf_cons, ih]
    | false =>
      rw [if_neg (by simp), h s List.mem_cons_self hp, ok_bind, ih]
      cases compsOf π L l <;> rfl

theorem compsOf_perm {π : Rat} {L : Pt → Except Err String} {syms syms' : List Sym} (hp : syms.Perm syms')
    {cs : List Component} (h : compsOf π L syms = .ok cs) : ∃ cs', compsOf π L syms' = .ok cs' ∧ cs.Perm cs' := by
  obtain ⟨r, hr, rfl⟩ := compsOf_eq_ok.mp h
  obtain ⟨r', hr', hrp⟩ := List.perm_comp_forall₂ hp.symm hr
  exact ⟨r'.filterMap id, compsOf_eq_ok.mpr ⟨r', hr', rfl⟩, hrp.symm.filterMap id⟩

theorem circuitTranslator_eq_compsOf (π : Rat) (ord : SetOrd Pt) (syms : List Sym) :
    circuitTranslator π ord syms = compsOf π (labelOf ord syms) syms >>= mkCircuit := by
  show (syms.mapM (translateSym π (labelOf ord syms)) >>= fun cs => mkCircuit (cs.filterMap id)) = _
  unfold compsOf
  cases syms.mapM (translateSym π (labelOf ord syms)) <;> rfl

theorem circuitTranslator_inv {π : Rat} {ord : SetOrd Pt} {syms : List Sym} {C : Circuit}
    (h : circuitTranslator π ord syms = .ok C) :
    ∃ cs, compsOf π (labelOf ord syms) syms = .ok cs ∧ mkCircuit cs = .ok C :=
  bind_eq_ok.mp (circuitTranslator_eq_compsOf π ord syms ▸ h)

def groundsOf (cs : List Component) : List String := (cs.filter (·.type = "ground")).map fun c => c.nodes.headD ""

/-- the reference node `Circuit.__post_init__` chooses: the node of the ground component, else the first
terminal of the first component -/
def refNode (cs : List Component) : String := (groundsOf cs ++ cs.map fun c => c.nodes.headD "").headD ""

theorem refNode_of_ground {cs : List Component} {g : String} {t : List String} (h : groundsOf cs = g :: t) :
    refNode cs = g := by
  unfold refNode; rw [h]; rfl

theorem refNode_of_no_ground {cs : List Component} (h : groundsOf cs = []) :
    refNode cs = (cs.map fun c => c.nodes.headD "").headD "" := by
  unfold refNode; rw [h]; rfl

theorem mkCircuit_eq (cs : List Component) :
    mkCircuit cs = if 2 ≤ (groundsOf cs).length then .error Err.multipleGrounds
      else if (toSet (cs.map (·.id))).length ≠ cs.length then .error Err.ambiguousIds
      else .ok ⟨cs, refNode cs⟩ := by
  cases cs with
  | nil => rfl
  | cons c0 rest =>
    unfold mkCircuit refNode groundsOf
    dsimp only
    split
    · next h => rw [h]; rfl
    · next h =>
      rcases hg : List.map (fun c : Component => c.nodes.headD "")
          (List.filter (fun x => decide (x.type = "ground")) (c0 :: rest)) with _ | ⟨g, _ | ⟨g', t⟩⟩
      · rfl
      · rfl
      · exact absurd hg (h _ _ _)

theorem mkCircuit_ok_iff {cs : List Component} {C : Circuit} :
    mkCircuit cs = .ok C ↔ (groundsOf cs).length ≤ 1 ∧ (toSet (cs.map (·.id))).length = cs.length ∧
      C = ⟨cs, refNode cs⟩ := by
  rw [mkCircuit_eq]
  split_ifs with h1 h2
  · exact ⟨fun h => (nomatch h), fun h => by omega⟩
  · exact ⟨fun h => (nomatch h), fun h => absurd h.2.1 h2⟩
  · exact ⟨fun h => ⟨by omega, not_not.mp h2, (Except.ok.inj h).symm⟩, fun h => h.2.2 ▸ rfl⟩

theorem headD_map (ρ : String → String) {l : List String} (h : l ≠ []) : (l.map ρ).headD "" = ρ (l.headD "") := by
  cases l with
  | nil => exact absurd rfl h
  | cons a t => rfl

theorem groundsOf_map (ρ : String → String) (cs : List Component) (h : ∀ c ∈ cs, c.nodes ≠ []) :
    groundsOf (cs.map (renameComp ρ)) = (groundsOf cs).map ρ := by
  unfold groundsOf
  induction cs with
  | nil => rfl
  | cons c cs ih =>
    have ih := ih (fun c' hc' => h c' (List.mem_cons_of_mem _ hc'))
    have hc := h c List.mem_cons_self
    simp only [List.map_cons, List.filter_cons]
    have : (renameComp ρ c).type = c.type := rfl
    rw [this]
    by_cases hg : c.type = "ground"
    · simp only [hg, decide_true, if_true, List.map_cons, ih]
      congr 1
      exact headD_map ρ hc
    · simp only [hg, decide_false, Bool.false_eq_true, if_false, ih]

theorem ids_map (ρ : String → String) (cs : List Component) :
    (cs.map (renameComp ρ)).map (·.id) = cs.map (·.id) := by
  simp [List.map_map, Function.comp_def, renameComp]

theorem refNode_map (ρ : String → String) {cs : List Component} (h : ∀ c ∈ cs, c.nodes ≠ []) (hne : cs ≠ []) :
    refNode (cs.map (renameComp ρ)) = ρ (refNode cs) := by
  unfold refNode
  rw [groundsOf_map ρ cs h]
  cases hg : groundsOf cs with
  | cons g t => rfl
  | nil =>
    cases cs with
    | nil => exact absurd rfl hne
    | cons c0 rest => exact headD_map ρ (h c0 List.mem_cons_self)

/-- `h` is needed: the first node of a component without terminals is the placeholder `""`, which `ρ` need not
fix -/
theorem mkCircuit_rename (ρ : String → String) (cs : List Component) (h : ∀ c ∈ cs, c.nodes ≠ []) :
    mkCircuit (cs.map (renameComp ρ)) = emap (renameCircuit ρ) (mkCircuit cs) := by
  rw [mkCircuit_eq, mkCircuit_eq, groundsOf_map ρ cs h, ids_map, List.length_map, List.length_map]
  split_ifs
  · rfl
  · rfl
  · by_cases hne : cs = []
    · subst hne; rfl
    · rw [refNode_map ρ h hne, emap_ok, renameCircuit, if_neg hne]

theorem mem_wiresOf_iff {syms : List Sym} {w : Pt × Pt} :
    w ∈ wiresOf syms ↔ ∃ s ∈ syms, s.isLine = true ∧ w = (s.n1, s.n2) := by
  unfold wiresOf
  simp only [List.mem_map, List.mem_filter]
  constructor
  · rintro ⟨s, ⟨hs, hl⟩, rfl⟩; exact ⟨s, hs, hl, rfl⟩
  · rintro ⟨s, hs, hl, rfl⟩; exact ⟨s, ⟨hs, hl⟩, rfl⟩

theorem mem_nodeSymsOf_iff {syms : List Sym} {ps : Pt × String} :
    ps ∈ nodeSymsOf syms ↔ ∃ s ∈ syms, s.isNode = true ∧ ps = (s.n1, s.nodeId) := by
  unfold nodeSymsOf
  simp only [List.mem_map, List.mem_filter]
  constructor
  · rintro ⟨s, ⟨hs, hl⟩, rfl⟩; exact ⟨s, hs, hl, rfl⟩
  · rintro ⟨s, hs, hl, rfl⟩; exact ⟨s, ⟨hs, hl⟩, rfl⟩

theorem SameShell.isLine {s s' : Sym} (h : SameShell s s') : s'.isLine = s.isLine := by
  unfold Sym.isLine; rw [h.1]
theorem SameShell.hasName {s s' : Sym} (h : SameShell s s') : s'.hasName = s.hasName := by
  unfold Sym.hasName; rw [h.1]
theorem SameShell.isNode {s s' : Sym} (h : SameShell s s') : s'.isNode = s.isNode := by
  unfold Sym.isNode; rw [h.1]

theorem isLine_of_cls {s : Sym} (h : s.cls = "Line") : s.isLine = true := by
  unfold Sym.isLine; simp [h]

theorem not_isNode_of_line {s : Sym} (h : s.cls = "Line") : s.isNode = false := by
  unfold Sym.isNode; rw [h]; decide +kernel

theorem wiresOf_append (l₁ l₂ : List Sym) : wiresOf (l₁ ++ l₂) = wiresOf l₁ ++ wiresOf l₂ := by
  unfold wiresOf; rw [List.filter_append, List.map_append]

theorem wiresOf_cons_line {s : Sym} (h : s.cls = "Line") (l : List Sym) :
    wiresOf (s :: l) = (s.n1, s.n2) :: wiresOf l := by
  unfold wiresOf
  rw [List.filter_cons, isLine_of_cls h]
  rfl

theorem translateSym_line (π : Rat) (L : Pt → Except Err String) {s : Sym} (h : s.cls = "Line") {a b : String}
    (h1 : L s.n1 = .ok a) (h2 : L s.n2 = .ok b) : translateSym π L s = .ok none := by
  have hl : Gen.translatorMap.lookup s.cls = some "none_translator" := by rw [h]; decide +kernel
  unfold translateSym
  rw [mapM_pair, h1, h2, hl]
  show remapKE (compOfSym π s [a, b]) = _
  rw [compOfSym_none hl]
  rfl

def MovedBy (g : Pt → Pt) (s s' : Sym) : Prop := SameShell s s' ∧ s'.n1 = g s.n1 ∧ s'.n2 = g s.n2

def MappedBy (g : Pt → Pt) (syms syms' : List Sym) : Prop := List.Forall₂ (MovedBy g) syms syms'

def InjOnTerms (g : Pt → Pt) (syms : List Sym) : Prop :=
  ∀ x ∈ termPts syms, ∀ y ∈ termPts syms, g x = g y → x = y

theorem MappedBy.refl (syms : List Sym) : MappedBy id syms syms :=
  List.forall₂_same.mpr fun s _ => ⟨SameShell.refl s, rfl, rfl⟩

theorem MappedBy.wiresOf {g : Pt → Pt} {syms syms' : List Sym} (h : MappedBy g syms syms') :
    wiresOf syms' = mapWires g (wiresOf syms) := by
  unfold CC.Draw.wiresOf mapWires
  rw [List.map_map]
  exact forall₂_filter_map_eq h fun s s' hm => ⟨hm.1.isLine, by rw [Function.comp_apply, hm.2.1, hm.2.2]⟩

theorem MappedBy.nodeSymsOf {g : Pt → Pt} {syms syms' : List Sym} (h : MappedBy g syms syms') :
    nodeSymsOf syms' = (nodeSymsOf syms).map fun ps => (g ps.1, ps.2) := by
  unfold CC.Draw.nodeSymsOf
  rw [List.map_map]
  exact forall₂_filter_map_eq h fun s s' hm => ⟨hm.1.isNode, by rw [Function.comp_apply, hm.2.1, hm.1.2.2.2.1]⟩

theorem MappedBy.mem_allNodes {g : Pt → Pt} {syms syms' : List Sym} (h : MappedBy g syms syms') {q : Pt} :
    q ∈ allNodes syms' ↔ ∃ p ∈ allNodes syms, q = g p := by
  constructor
  · intro hq
    obtain ⟨s', hs', hk, hq⟩ := mem_allNodes_iff.mp hq
    obtain ⟨s, hs, hm⟩ := forall₂_exists_mem (List.Forall₂.flip (R := flip (MovedBy g)) h) s' hs'
    rw [hm.1.hasName, hm.1.isLine] at hk
    rcases hq with rfl | rfl
    · exact ⟨s.n1, mem_allNodes_iff.mpr ⟨s, hs, hk, Or.inl rfl⟩, hm.2.1⟩
    · exact ⟨s.n2, mem_allNodes_iff.mpr ⟨s, hs, hk, Or.inr rfl⟩, hm.2.2⟩
  · rintro ⟨p, hp, rfl⟩
    obtain ⟨s, hs, hk, hp⟩ := mem_allNodes_iff.mp hp
    obtain ⟨s', hs', hm⟩ := forall₂_exists_mem h s hs
    rw [← hm.1.hasName, ← hm.1.isLine] at hk
    rcases hp with rfl | rfl
    · exact mem_allNodes_iff.mpr ⟨s', hs', hk, Or.inl hm.2.1.symm⟩
    · exact mem_allNodes_iff.mpr ⟨s', hs', hk, Or.inr hm.2.2.symm⟩

def parts (syms : List Sym) : List Sym := syms.filter fun s => !s.isLine

theorem mem_parts {syms : List Sym} {s : Sym} : s ∈ parts syms ↔ s ∈ syms ∧ s.isLine = false := by
  simp [parts, List.mem_filter]

theorem termPts_parts {syms : List Sym} {p : Pt} (hp : p ∈ termPts (parts syms)) : p ∈ termPts syms := by
  obtain ⟨s, hs, hp⟩ := mem_termPts.mp hp
  exact mem_termPts.mpr ⟨s, (mem_parts.mp hs).1, hp⟩

theorem nodeSymsOf_parts (syms : List Sym) : nodeSymsOf (parts syms) = nodeSymsOf syms := by
  unfold nodeSymsOf parts
  rw [List.filter_filter]
  congr 1
  apply List.filter_congr
  intro s _
  cases hl : s.isLine with
  | false => simp
  | true => simp [not_isNode_of_line (by simpa [Sym.isLine] using hl)]

theorem MappedBy.parts {g : Pt → Pt} {syms syms' : List Sym} (h : MappedBy g syms syms') :
    MappedBy g (parts syms) (parts syms') :=
  List.rel_filter (fun s s' hm => by show (!s.isLine) = true ↔ (!s'.isLine) = true; rw [hm.1.isLine]) h

theorem translateSym_wire (π : Rat) {L : Pt → Except Err String} {lab : Pt → String} {syms : List Sym}
    (hL : ∀ p ∈ allNodes syms, L p = .ok (lab p)) :
    ∀ s ∈ syms, (!s.isLine) = false → translateSym π L s = .ok none := by
  intro s hs hl
  have hl : s.isLine = true := by simpa using hl
  obtain ⟨h1, h2⟩ := mem_allNodes_of_line hs hl
  exact translateSym_line π L (by simpa [Sym.isLine] using hl) (hL _ h1) (hL _ h2)

/-- the wires contribute no component (and no error, their ends being parser nodes) -/
theorem compsOf_parts (π : Rat) {L : Pt → Except Err String} {lab : Pt → String} {syms : List Sym}
    (hL : ∀ p ∈ allNodes syms, L p = .ok (lab p)) : compsOf π L (parts syms) = compsOf π L syms :=
  compsOf_filter π L _ syms (translateSym_wire π hL)

theorem compsOf_mapped (π : Rat) (L L' : Pt → Except Err String) (ρ : String → String) (g : Pt → Pt)
    {syms syms' : List Sym} (h : MappedBy g syms syms')
    (hL : ∀ p ∈ termPts syms, L' (g p) = emap ρ (L p)) :
    compsOf π L' syms' = emap (List.map (renameComp ρ)) (compsOf π L syms) := by
  induction h with
  | nil => rfl
  | @cons s s' l l' hm _ ih =>
    have hL' : ∀ p ∈ s.n1 :: s.n2 :: termPts l, L' (g p) = emap ρ (L p) := hL
    rw [List.forall_mem_cons, List.forall_mem_cons] at hL'
    obtain ⟨h1, h2, h3⟩ := hL'
    have ht := translateSym_transport π L L' ρ hm.1 (by rw [hm.2.1]; exact h1) (by rw [hm.2.2]; exact h2)
    rw [compsOf_cons, compsOf_cons, ht, ih h3]
    cases translateSym π L s with
    | error e => rfl
    | ok x =>
      rw [emap_ok, ok_bind, ok_bind]
      cases compsOf π L l with
      | error e => rfl
      | ok cs =>
        rw [emap_ok, emap_ok, emap_ok, emap_ok, List.map_append]
        cases x <;> rfl

/-- `syms'` depicts the network of `syms` through the point map `g`: apart from the wires it is `syms` symbol by
symbol with the terminals moved by `g`, and on the terminals of `syms` the map `g` respects "is a parser node" and
"joined by wires".  Nothing else is asked of the wires of the two drawings. -/
structure Rewired (g : Pt → Pt) (syms syms' : List Sym) : Prop where
  parts : MappedBy g (parts syms) (parts syms')
  mem : ∀ p ∈ termPts syms, (g p ∈ allNodes syms' ↔ p ∈ allNodes syms)
  joined : ∀ p ∈ allNodes syms, ∀ q ∈ allNodes syms,
    (Joined (wiresOf syms') (g p) (g q) ↔ Joined (wiresOf syms) p q)

theorem Rewired.namesOK {g : Pt → Pt} {syms syms' : List Sym} (h : Rewired g syms syms') (hwf : NamesOK syms) :
    NamesOK syms' := by
  intro ps hps qs hqs hid
  rw [← nodeSymsOf_parts, h.parts.nodeSymsOf, nodeSymsOf_parts] at hps hqs
  obtain ⟨ps0, hps0, rfl⟩ := List.mem_map.mp hps
  obtain ⟨qs0, hqs0, rfl⟩ := List.mem_map.mp hqs
  exact (h.joined _ (nodeSyms_on_terminal syms ps0 hps0) _ (nodeSyms_on_terminal syms qs0 hqs0)).mpr
    (hwf ps0 hps0 qs0 hqs0 hid)

/-- **related drawings translate to the same circuit up to a renaming of nodes**: same error, or the same
components in the same order with the node names sent through `ρ`; the wires only join -/
theorem circuitTranslator_rewired (π : Rat) {ord ord' : SetOrd Pt} (hord : ord.Valid) (hord' : ord'.Valid)
    (g : Pt → Pt) {syms syms' : List Sym} (h : Rewired g syms syms') (hwf : NamesOK syms) :
    ∃ (ρ : String → String) (lab : Pt → String),
      (∀ p ∈ allNodes syms, labelOf ord syms p = .ok (lab p)) ∧
      (∀ a ∈ (allNodes syms).map lab, ∀ b ∈ (allNodes syms).map lab, ρ a = ρ b → a = b) ∧
      (∀ p ∈ termPts syms, labelOf ord' syms' (g p) = emap ρ (labelOf ord syms p)) ∧
      circuitTranslator π ord' syms' = emap (renameCircuit ρ) (circuitTranslator π ord syms) := by
  have hwf' := h.namesOK hwf
  obtain ⟨ρ, lab, h1, h2, h3⟩ := labelOf_transport hord hord' syms syms' hwf hwf' g h.mem h.joined
  obtain ⟨lab', h1', _, _⟩ := labelOf_spec hord' syms' hwf'
  refine ⟨ρ, lab, h1, h2, h3, ?_⟩
  rw [circuitTranslator_eq_compsOf, circuitTranslator_eq_compsOf, ← compsOf_parts π h1', ← compsOf_parts π h1,
    compsOf_mapped π _ _ ρ g h.parts fun p hp => h3 p (termPts_parts hp)]
  cases hcs : compsOf π (labelOf ord syms) (parts syms) with
  | error e => rfl
  | ok cs => exact mkCircuit_rename ρ cs fun c hc => (compsOf_nodes hcs hc).1

theorem MappedBy.rewired {g : Pt → Pt} {syms syms' : List Sym} (hm : MappedBy g syms syms')
    (hinj : InjOnTerms g syms) : Rewired g syms syms' where
  parts := hm.parts
  mem p hp := by
    rw [hm.mem_allNodes]
    constructor
    · rintro ⟨p0, hp0, he⟩
      rw [hinj p hp p0 (allNodes_sub_termPts hp0) he]; exact hp0
    · intro h; exact ⟨p, h, rfl⟩
  joined p hp q hq := by
    rw [hm.wiresOf]
    exact joined_map_iff (D := fun x => x ∈ allNodes syms)
      (fun x y hx hy => hinj x (allNodes_sub_termPts hx) y (allNodes_sub_termPts hy))
      (wires_sub_allNodes syms) hp hq

/-- the wire `l` and the two wires `l₁ : l.n1 — c`, `l₂ : c — l.n2` that replace it -/
structure SplitAt (c : Pt) (pre post : List Sym) (l l₁ l₂ : Sym) : Prop where
  line : l.cls = "Line"
  line₁ : l₁.cls = "Line"
  line₂ : l₂.cls = "Line"
  a₁ : l₁.n1 = l.n1
  c₁ : l₁.n2 = c
  c₂ : l₂.n1 = c
  b₂ : l₂.n2 = l.n2

theorem SplitAt.rewired {c : Pt} {pre post : List Sym} {l l₁ l₂ : Sym} (hs : SplitAt c pre post l l₁ l₂)
    (hfresh : c ∉ termPts (pre ++ l :: post)) : Rewired id (pre ++ l :: post) (pre ++ l₁ :: l₂ :: post) := by
  have hW : wiresOf (pre ++ l :: post) = wiresOf pre ++ (l.n1, l.n2) :: wiresOf post := by
    rw [wiresOf_append, wiresOf_cons_line hs.line]
  have hW' : wiresOf (pre ++ l₁ :: l₂ :: post) = wiresOf pre ++ (l.n1, c) :: (c, l.n2) :: wiresOf post := by
    rw [wiresOf_append, wiresOf_cons_line hs.line₁, wiresOf_cons_line hs.line₂, hs.a₁, hs.c₁, hs.c₂, hs.b₂]
  have hne : ∀ p ∈ termPts (pre ++ l :: post), p ≠ c := fun p hp h => hfresh (h ▸ hp)
  refine ⟨?_, fun p hp => ?_, fun p hp q hq => ?_⟩
  · have : parts (pre ++ l₁ :: l₂ :: post) = parts (pre ++ l :: post) := by
      simp [parts, List.filter_append, isLine_of_cls hs.line, isLine_of_cls hs.line₁,
        isLine_of_cls hs.line₂]
    rw [this]
    exact MappedBy.refl _
  · -- the parser nodes of the split drawing are those of the original and `c`
    have hA : ∀ p, p ∈ allNodes (pre ++ l₁ :: l₂ :: post) ↔ p ∈ allNodes (pre ++ l :: post) ∨ p = c := by
      intro p
      simp only [mem_allNodes_iff, List.mem_append, List.mem_cons]
      constructor
      · rintro ⟨s, (hs' | rfl | rfl | hs'), hk, hp⟩
        · exact Or.inl ⟨s, Or.inl hs', hk, hp⟩
        · rcases hp with rfl | rfl
          · exact Or.inl ⟨l, Or.inr (Or.inl rfl), Or.inr (isLine_of_cls hs.line), Or.inl hs.a₁⟩
          · exact Or.inr hs.c₁
        · rcases hp with rfl | rfl
          · exact Or.inr hs.c₂
          · exact Or.inl ⟨l, Or.inr (Or.inl rfl), Or.inr (isLine_of_cls hs.line), Or.inr hs.b₂⟩
        · exact Or.inl ⟨s, Or.inr (Or.inr hs'), hk, hp⟩
      · rintro (⟨s, (hs' | rfl | hs'), hk, hp⟩ | rfl)
        · exact ⟨s, Or.inl hs', hk, hp⟩
        · rcases hp with rfl | rfl
          · exact ⟨l₁, Or.inr (Or.inl rfl), Or.inr (isLine_of_cls hs.line₁), Or.inl hs.a₁.symm⟩
          · exact ⟨l₂, Or.inr (Or.inr (Or.inl rfl)), Or.inr (isLine_of_cls hs.line₂), Or.inr hs.b₂.symm⟩
        · exact ⟨s, Or.inr (Or.inr (Or.inr hs')), hk, hp⟩
        · exact ⟨l₁, Or.inr (Or.inl rfl), Or.inr (isLine_of_cls hs.line₁), Or.inr hs.c₁.symm⟩
    rw [id, hA]
    exact ⟨fun h => h.resolve_right (hne p hp), Or.inl⟩
  · have hF : FreshPt c (wiresOf (pre ++ l :: post)) := by
      intro w hw
      have := wires_sub_allNodes _ w hw
      exact ⟨fun h => hfresh (allNodes_sub_termPts (h ▸ this.1)), fun h => hfresh (allNodes_sub_termPts (h ▸ this.2))⟩
    rw [id, id, hW']
    rw [hW] at hF ⊢
    exact joined_split_iff hF (hne p (allNodes_sub_termPts hp)) (hne q (allNodes_sub_termPts hq))

theorem toSet_length_perm {l l' : List String} (h : l.Perm l') : (toSet l).length = (toSet l').length :=
  List.Perm.length_eq ((List.perm_ext_iff_of_nodup (nodup_toSet l) (nodup_toSet l')).mpr fun a => by
    rw [mem_toSet, mem_toSet]; exact h.mem_iff)

theorem groundsOf_perm {cs cs' : List Component} (h : cs.Perm cs') : (groundsOf cs).Perm (groundsOf cs') :=
  (h.filter _).map _

/-- `Circuit.__post_init__` on a permuted component list: accepted iff the original is; same
components in the new order; the same reference node **when there is a ground component**
(otherwise the reference node is the first terminal of the first component, which depends on
the order) -/
theorem mkCircuit_perm {cs cs' : List Component} {C : Circuit} (h : cs.Perm cs') (hC : mkCircuit cs = .ok C) :
    ∃ C', mkCircuit cs' = .ok C' ∧ C'.components = cs' ∧ C.components = cs ∧
      ((∃ k ∈ cs, k.type = "ground") → C'.groundNode = C.groundNode) := by
  obtain ⟨hlen, hid, rfl⟩ := mkCircuit_ok_iff.mp hC
  have hgp := groundsOf_perm h
  refine ⟨_, mkCircuit_ok_iff.mpr ⟨hgp.length_eq ▸ hlen, ?_, rfl⟩, rfl, rfl, ?_⟩
  · rw [← toSet_length_perm (h.map _), hid]; exact h.length_eq
  · rintro ⟨k, hk, hkt⟩
    have hmem : k.nodes.headD "" ∈ groundsOf cs :=
      List.mem_map.mpr ⟨k, List.mem_filter.mpr ⟨hk, by simp [hkt]⟩, rfl⟩
    rcases hgs : groundsOf cs with _ | ⟨g, _ | ⟨g', t⟩⟩
    · rw [hgs] at hmem; cases hmem
    · rw [hgs] at hgp
      exact (refNode_of_ground (List.perm_singleton.mp hgp.symm)).trans (refNode_of_ground hgs).symm
    · rw [hgs] at hlen; simp at hlen

theorem joined_wires_perm {syms syms' : List Sym} (hp : syms.Perm syms') (p q : Pt) :
    Joined (wiresOf syms') p q ↔ Joined (wiresOf syms) p q := (joined_perm ((hp.filter _).map _)).symm

theorem namesOK_perm {syms syms' : List Sym} (hp : syms.Perm syms') (hwf : NamesOK syms) : NamesOK syms' := by
  intro ps hps qs hqs hid
  have hN : (nodeSymsOf syms).Perm (nodeSymsOf syms') := (hp.filter _).map _
  exact (joined_wires_perm hp _ _).mpr (hwf ps (hN.mem_iff.mpr hps) qs (hN.mem_iff.mpr hqs) hid)

/-- **a reordered drawing translates, if the original does, to the permuted components up to a renaming of
nodes**; the reference node is kept when there is a ground component (`mkCircuit_perm`) -/
theorem circuitTranslator_perm (π : Rat) {ord ord' : SetOrd Pt} (hord : ord.Valid) (hord' : ord'.Valid)
    {syms syms' : List Sym} (hp : syms.Perm syms') (hwf : NamesOK syms) :
    ∃ (ρ : String → String) (lab : Pt → String),
      (∀ p ∈ allNodes syms, labelOf ord syms p = .ok (lab p)) ∧
      (∀ a ∈ (allNodes syms).map lab, ∀ b ∈ (allNodes syms).map lab, ρ a = ρ b → a = b) ∧
      (∀ p ∈ termPts syms, labelOf ord' syms' p = emap ρ (labelOf ord syms p)) ∧
      (∀ C, circuitTranslator π ord syms = .ok C →
        ∃ C', circuitTranslator π ord' syms' = .ok C' ∧
          C'.components.Perm (C.components.map (renameComp ρ)) ∧
          ((∃ k ∈ C.components, k.type = "ground") → C'.groundNode = ρ C.groundNode)) := by
  have hwf' := namesOK_perm hp hwf
  have hparts : (parts syms).Perm (parts syms') := hp.filter _
  obtain ⟨ρ, lab, h1, h2, h3⟩ := labelOf_transport hord hord' syms syms' hwf hwf' id
    (fun p _ => by simp only [id, mem_allNodes_iff, hp.mem_iff]) (fun p _ q _ => joined_wires_perm hp p q)
  obtain ⟨lab', h1', _, _⟩ := labelOf_spec hord' syms' hwf'
  refine ⟨ρ, lab, h1, h2, h3, ?_⟩
  intro C hC
  rw [circuitTranslator_eq_compsOf] at hC ⊢
  cases hcs : compsOf π (labelOf ord syms) syms with
  | error e => rw [hcs] at hC; cases hC
  | ok cs =>
    rw [hcs] at hC
    replace hC : mkCircuit cs = .ok C := hC
    -- the components of `syms'` under its own naming: reorder the parts, then rename
    rw [← compsOf_parts π h1] at hcs
    obtain ⟨cs', hcs', hperm⟩ := compsOf_perm hparts hcs
    have := compsOf_mapped π (labelOf ord syms) (labelOf ord' syms') ρ id (MappedBy.refl (parts syms')) fun p hp => h3 p (by
      obtain ⟨s, hs, hp⟩ := mem_termPts.mp hp
      exact mem_termPts.mpr ⟨s, (mem_parts.mp (hparts.mem_iff.mpr hs)).1, hp⟩)
    rw [compsOf_parts π h1', hcs', emap_ok] at this
    rw [this]
    show ∃ C', mkCircuit (cs'.map (renameComp ρ)) = .ok C' ∧ _
    have hren := mkCircuit_rename ρ cs fun c hc => (compsOf_nodes hcs hc).1
    rw [hC, emap_ok] at hren
    obtain ⟨C', hC', hc', hc, hg⟩ := mkCircuit_perm (hperm.map (renameComp ρ)) hren
    refine ⟨C', hC', ?_, ?_⟩
    · rw [hc']
      have : (renameCircuit ρ C).components = C.components.map (renameComp ρ) := rfl
      rw [← this, hc]
      exact (hperm.map _).symm
    · rintro ⟨k, hk, hkt⟩
      have hCc : C.components ≠ [] := fun h => by rw [h] at hk; cases hk
      have hk' : renameComp ρ k ∈ cs.map (renameComp ρ) := by
        rw [← hc]; exact List.mem_map.mpr ⟨k, hk, rfl⟩
      rw [hg ⟨renameComp ρ k, hk', hkt⟩, renameCircuit_groundNode ρ hCc]

theorem mkCircuit_ok {cs : List Component} {C : Circuit} (h : mkCircuit cs = .ok C) :
    C.components = cs ∧ (cs ≠ [] → ∃ c ∈ cs, C.groundNode = c.nodes.headD "") := by
  obtain ⟨_, _, rfl⟩ := mkCircuit_ok_iff.mp h
  refine ⟨rfl, fun hne => ?_⟩
  rcases hgs : groundsOf cs with _ | ⟨g, t⟩
  · rw [refNode_of_no_ground hgs]
    cases cs with
    | nil => exact absurd rfl hne
    | cons c0 rest => exact ⟨c0, List.mem_cons_self, rfl⟩
  · rw [refNode_of_ground hgs]
    have : g ∈ groundsOf cs := hgs ▸ List.mem_cons_self
    obtain ⟨c, hc', rfl⟩ := List.mem_map.mp this
    exact ⟨c, (List.mem_filter.mp hc').1, rfl⟩

/-- every name the translated circuit mentions is the name of a parser node: the set on which the renamings `ρ`
of `circuitTranslator_rewired` and `circuitTranslator_perm` are injective -/
theorem circuit_names_sub (π : Rat) {ord : SetOrd Pt} (hord : ord.Valid) (syms : List Sym) (hwf : NamesOK syms)
    (lab : Pt → String) (hlab : ∀ p ∈ allNodes syms, labelOf ord syms p = .ok (lab p))
    {C : Circuit} (hC : circuitTranslator π ord syms = .ok C) :
    (∀ c ∈ C.components, ∀ n ∈ c.nodes, n ∈ (allNodes syms).map lab) ∧
      (C.components ≠ [] → C.groundNode ∈ (allNodes syms).map lab) := by
  obtain ⟨lab0, k1, k2, _⟩ := labelOf_spec hord syms hwf
  have hL : ∀ p n, labelOf ord syms p = .ok n → n ∈ (allNodes syms).map lab := by
    intro p n hp
    by_cases hpa : p ∈ allNodes syms
    · rw [hlab p hpa] at hp
      cases hp
      exact List.mem_map.mpr ⟨p, hpa, rfl⟩
    · rw [k2 p hpa] at hp; cases hp
  obtain ⟨cs, hcs, hC⟩ := circuitTranslator_inv hC
  obtain ⟨hc, hg⟩ := mkCircuit_ok hC
  rw [hc]
  refine ⟨fun c hc' n hn => ?_, fun hne => ?_⟩
  · obtain ⟨p, hp⟩ := (compsOf_nodes hcs hc').2 n hn
    exact hL p n hp
  · obtain ⟨c, hc', hgn⟩ := hg hne
    obtain ⟨hcn, hsub⟩ := compsOf_nodes hcs hc'
    obtain ⟨p, hp⟩ := hsub (c.nodes.headD "") (by
      cases hn : c.nodes with
      | nil => exact absurd hn hcn
      | cons a t => simp)
    exact hgn ▸ hL p _ hp

theorem Pt.ext' {p q : Pt} (hx : p.x = q.x) (hy : p.y = q.y) : p = q := by
  cases p; cases q; simp only [Pt.mk.injEq]; exact ⟨hx, hy⟩

def Pt.shift (a b : Rat) (p : Pt) : Pt := ⟨p.x + a, p.y + b⟩
def Pt.quarter (p : Pt) : Pt := ⟨-p.y, p.x⟩
def Pt.scale (k : Rat) (p : Pt) : Pt := ⟨k * p.x, k * p.y⟩

theorem Pt.shift_injective (a b : Rat) : Function.Injective (Pt.shift a b) := by
  intro p q h
  unfold Pt.shift at h
  simp only [Pt.mk.injEq] at h
  exact Pt.ext' (add_right_cancel h.1) (add_right_cancel h.2)

theorem Pt.quarter_injective : Function.Injective Pt.quarter := by
  intro p q h
  unfold Pt.quarter at h
  simp only [Pt.mk.injEq] at h
  exact Pt.ext' h.2 (neg_injective h.1)

theorem Pt.scale_injective {k : Rat} (hk : k ≠ 0) : Function.Injective (Pt.scale k) := by
  intro p q h
  unfold Pt.scale at h
  simp only [Pt.mk.injEq] at h
  exact Pt.ext' (mul_left_cancel₀ hk h.1) (mul_left_cancel₀ hk h.2)

theorem injOnTerms_of_injective {g : Pt → Pt} (h : Function.Injective g) (syms : List Sym) : InjOnTerms g syms :=
  fun _ _ _ _ e => h e

def moveRaw (t : Pt → Pt) (s : Sym) : Sym := { s with start := t s.start, stop := t s.stop }

/-- the link between a transformation `t` of the raw anchors and a map `g` of the rounded
terminals: *rounding after `t` is `g` after rounding*, on the anchors of the drawing.  This is
the fact about float geometry that the theorems assume (it holds with `g = t` whenever `t` maps
the rounding grid to itself exactly, e.g. for the identity). -/
def RoundCommutes (t g : Pt → Pt) (syms : List Sym) : Prop :=
  ∀ s ∈ syms, roundPt (t s.start) = g (roundPt s.start) ∧ roundPt (t s.stop) = g (roundPt s.stop)

theorem mappedBy_moveRaw {t g : Pt → Pt} {syms : List Sym} (h : RoundCommutes t g syms) :
    MappedBy g syms (syms.map (moveRaw t)) := by
  unfold MappedBy
  induction syms with
  | nil => exact .nil
  | cons s l ih =>
    refine .cons ⟨⟨rfl, rfl, rfl, rfl, rfl⟩, (h s List.mem_cons_self).1, (h s List.mem_cons_self).2⟩
      (ih (fun s' hs' => h s' (List.mem_cons_of_mem _ hs')))

/-- the network a translated circuit stands for, under a reading `elem` of one component as an
electrical record (type string, element).  The reading is applied to the component *with its
node list erased*, so it cannot depend on node names; components without exactly two terminals
(the ground symbol's) and components the reading rejects contribute no branch.  `elem` is a
parameter: the theorems hold for every such reading (the library's own is the table
`Circuit.transformers.transformers`). -/
def netOf {K : Type} (elem : Component → Option (String × Elem K)) (C : Circuit) : Net String K :=
  { branches := C.components.filterMap fun c =>
      match c.nodes, elem { c with nodes := [] } with
      | [a, b], some te => some { n1 := a, n2 := b, id := c.id, ty := te.1, e := te.2 }
      | _, _ => none,
    zero := C.groundNode }

end CC.Draw
