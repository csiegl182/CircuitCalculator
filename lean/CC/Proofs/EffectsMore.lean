/-
  Two tools for C20.  The generated effect summary (CC/Gen/Effects.lean) is read by *group* of functions: one Boolean
  check per group (`groupCheck`), with its quantified reading `GroupPure`.  A read-only machine is given by a `Sig`: per
  function name the parameter names and the (pure) model function on the values bound to them; its step looks the
  arguments up in the pool, applies the model function and hands the pool back.  Such a machine is sound w.r.t. *any*
  effect summary by construction (a Lean function cannot write); what an instance adds is the explicit dispatch from real
  function names to model functions, and the link between those names and the generated table.  No Mathlib.
-/
import CC.Model.Effects
namespace CC.Load
open CC.Gen.Effects

/-- `s` starts with `p` (the qualified names of the table start with the module path) -/
def pfx (p s : String) : Bool := p.isPrefixOf s

/-- `pfx` read on the UTF-8 bytes: the encoding of `p` is an initial segment of the encoding of `s`.
The checks of CC/Properties/C20More.lean are evaluated in this form. -/
def bytePfx (p s : String) : Bool := p.toByteArray.data.toList.isPrefixOf s.toByteArray.data.toList

theorem pfx_eq_bytePfx (p s : String) : pfx p s = bytePfx p s := by
  have hchars : pfx p s = true ↔ p.toList <+: s.toList := String.startsWith_string_iff
  have hbytes : bytePfx p s = true ↔ p.toByteArray.data.toList <+: s.toByteArray.data.toList :=
    List.isPrefixOf_iff_prefix
  rw [Bool.eq_iff_iff, hchars, hbytes]
  constructor
  · rintro ⟨t, ht⟩
    refine ⟨t.utf8Encode.data.toList, ?_⟩
    rw [← String.utf8Encode_toList (b := s), ← ht, List.utf8Encode_append, String.utf8Encode_toList]
    simp
  · -- a byte prefix that is itself an encoding ends on a character boundary
    rintro ⟨r, hr⟩
    apply List.isPrefix_of_utf8Encode_append_eq_utf8Encode ⟨r.toArray⟩
    rw [String.utf8Encode_toList, String.utf8Encode_toList]
    apply ByteArray.ext
    apply Array.toList_inj.1
    simpa using hr

/-- One pass over the rows: every selected row has an empty write set, and the names occur, in
this order, among the selected rows. -/
def scanGroup (sel : String → Bool) : List String → List (String × List String) → Bool
  | names, [] => names.isEmpty
  | names, r :: rs =>
    if sel r.1 then
      r.2.isEmpty &&
        (match names with
         | [] => scanGroup sel [] rs
         | f :: fs => if r.1 == f then scanGroup sel fs rs else scanGroup sel (f :: fs) rs)
    else scanGroup sel names rs

theorem scanGroup_spec (sel : String → Bool) : ∀ (rows : List (String × List String)) (names : List String),
    scanGroup sel names rows = true →
      (∀ r ∈ rows, sel r.1 = true → r.2 = []) ∧ (∀ f ∈ names, ∃ r ∈ rows, r.1 = f ∧ sel r.1 = true)
  | [], names, h => by
    simp only [scanGroup, List.isEmpty_iff] at h
    subst h; simp
  | r :: rs, names, h => by
    unfold scanGroup at h
    -- the scan goes on over `rs` with `names` or, if `r` carries the first name, with the rest of them
    obtain ⟨names', hrs, hr, hn⟩ : ∃ names', scanGroup sel names' rs = true ∧ (sel r.1 = true → r.2 = []) ∧
        ∀ f ∈ names, f ∈ names' ∨ (r.1 = f ∧ sel r.1 = true) := by
      by_cases hs : sel r.1 = true
      · rw [if_pos hs, Bool.and_eq_true] at h
        have he : r.2 = [] := by simpa using h.1
        cases names with
        | nil => exact ⟨[], h.2, fun _ => he, nofun⟩
        | cons f fs =>
          by_cases hrf : r.1 = f
          · refine ⟨fs, by simpa [hrf] using h.2, fun _ => he, fun g hg => ?_⟩
            rcases List.mem_cons.1 hg with rfl | hg
            · exact Or.inr ⟨hrf, hs⟩
            · exact Or.inl hg
          · exact ⟨f :: fs, by simpa [hrf] using h.2, fun _ => he, fun g hg => Or.inl hg⟩
      · rw [if_neg hs] at h
        exact ⟨names, h, fun h' => absurd h' hs, fun g hg => Or.inl hg⟩
    obtain ⟨a, b⟩ := scanGroup_spec sel rs names' hrs
    refine ⟨fun r' hr' hs' => ?_, fun f hf => ?_⟩
    · rcases List.mem_cons.1 hr' with rfl | hr'
      · exact hr hs'
      · exact a r' hr' hs'
    · rcases hn f hf with hf' | ⟨rfl, hs⟩
      · obtain ⟨r', hr', e⟩ := b f hf'
        exact ⟨r', List.mem_cons_of_mem _ hr', e⟩
      · exact ⟨r, List.mem_cons_self .., rfl, hs⟩

/-- No row name has to be told apart from a listed name: a row that is skipped may or may not be selected. -/
theorem scanGroup_of_sublist (sel : String → Bool) : ∀ (rows : List (String × List String)) (names : List String),
    (∀ r ∈ rows, r.2 = []) → (∀ f ∈ names, sel f = true) → names.Sublist (rows.map (·.1)) →
    scanGroup sel names rows = true
  | [], names, _, _, hsub => by
    rw [List.map_nil, List.sublist_nil] at hsub
    subst hsub; rfl
  | r :: rs, names, hrows, hsel, hsub => by
    have hr : r.2.isEmpty = true := by rw [hrows r (List.mem_cons_self ..)]; rfl
    have ih := fun ns hs hb =>
      scanGroup_of_sublist sel rs ns (fun r' h => hrows r' (List.mem_cons_of_mem _ h)) hs hb
    unfold scanGroup
    rw [hr, Bool.true_and]
    cases names with
    | nil => simp [ih [] (by simp) (List.nil_sublist _)]
    | cons f fs =>
      have hfs : ∀ g ∈ fs, sel g = true := fun g hg => hsel g (List.mem_cons_of_mem _ hg)
      rw [List.map_cons] at hsub
      by_cases hrf : r.1 = f
      · subst hrf
        have := ih fs hfs (by
          cases hsub with
          | cons _ h => exact (List.sublist_cons_self _ fs).trans h
          | cons_cons _ h => exact h)
        simp [hsel r.1 (List.mem_cons_self ..), this]
      · have := ih (f :: fs) hsel (by
          cases hsub with
          | cons _ h => exact h
          | cons_cons _ h => exact absurd rfl hrf)
        simp [hrf, this]

/-- What is evaluated on the generated table for one group of functions (`sel` on the qualified name); the listed
names are there so that the statement is not about an empty selection. -/
def groupCheck (sel : String → Bool) (rows : List (String × List String)) (names : List String) : Bool :=
  scanGroup sel names rows
    && globalWrites.all (fun x => !sel x.1)
    && unknownCalls.all (fun x => !sel x.1)
    && unknownDecorators.all (fun x => !sel x.1)

/-- the quantified reading of `groupCheck` -/
structure GroupPure (sel : String → Bool) (rows : List (String × List String)) (names : List String) : Prop where
  /-- every row of the group: nothing reachable from any parameter (including `self`) is written -/
  rows_pure : ∀ r ∈ rows, sel r.1 = true → r.2 = []
  /-- the listed functions are rows of the group (with an empty write set) -/
  listed : ∀ f ∈ names, sel f = true ∧ (f, []) ∈ rows
  /-- no function of the group writes a module-level object -/
  no_global : ∀ x ∈ globalWrites, sel x.1 = false
  /-- no function of the group hands an aliased argument to an unclassified callee -/
  no_unknown_callee : ∀ x ∈ unknownCalls, sel x.1 = false
  /-- no function of the group is wrapped by a decorator that may keep state -/
  no_unknown_decorator : ∀ x ∈ unknownDecorators, sel x.1 = false

theorem groupCheck_spec {sel : String → Bool} {rows : List (String × List String)} {names : List String}
    (h : groupCheck sel rows names = true) : GroupPure sel rows names := by
  simp only [groupCheck, Bool.and_eq_true] at h
  obtain ⟨⟨⟨h1, h3⟩, h4⟩, h5⟩ := h
  obtain ⟨hp, hn⟩ := scanGroup_spec sel rows names h1
  refine ⟨hp, ?_, ?_, ?_, ?_⟩
  · intro f hf
    obtain ⟨r, hr1, e, hr2⟩ := hn f hf
    have hws := hp r hr1 hr2
    subst e
    refine ⟨hr2, ?_⟩
    have : r = (r.1, []) := by rw [← hws]
    rw [← this]; exact hr1
  · intro x hx; simpa using List.all_eq_true.1 h3 x hx
  · intro x hx; simpa using List.all_eq_true.1 h4 x hx
  · intro x hx; simpa using List.all_eq_true.1 h5 x hx

theorem writeRoots_none_of_absent (sel : String → Bool) (h : (effects.all fun r => !sel r.1) = true)
    (fn : String) (hf : sel fn = true) : writeRoots fn = none := by
  unfold writeRoots
  rw [Option.map_eq_none_iff, List.find?_eq_none]
  intro r hr heq
  have h1 := List.all_eq_true.1 h r hr
  have : r.1 = fn := by simpa using heq
  rw [this, hf] at h1
  simp at h1

theorem Machine.runAll_of_fixed {V O : Type} (M : Machine V O) (ops : List Op) (h : List V)
    (hp : ∀ op ∈ ops, (M.run op h).2 = h) :
    (M.runAll ops h).2 = h ∧ (M.runAll ops h).1 = ops.map fun op => (M.run op h).1 := by
  induction ops with
  | nil => exact ⟨rfl, rfl⟩
  | cons op r ih =>
    have h2 := ih fun q hq => hp q (List.mem_cons_of_mem _ hq)
    simp only [Machine.runAll, hp op (List.mem_cons_self ..), h2.1, h2.2, List.map_cons, and_self]

/-- the value bound to parameter `p` of an operation: the cell its binding names -/
def Op.arg? {V : Type} (op : Op) (p : String) (h : List V) : Option V :=
  (op.args.find? fun a => a.1 == p).bind fun a => h[a.2]?

/-- the values bound to the listed parameters, in that order (`none`: one is not bound, or
bound to a cell that does not exist) -/
def Op.argVals {V : Type} (op : Op) (params : List String) (h : List V) : Option (List V) :=
  params.mapM fun p => op.arg? p h

/-- A signature: per qualified function name its parameter names, and the model function on
the values bound to them (`flag` is the boolean option of the call). -/
structure Sig (V O : Type) where
  params : List (String × List String)
  sem : String → Bool → List V → O
  /-- answer for an operation that is not a call of one of the functions with all its
  parameters bound -/
  bad : O

def Sig.paramsOf {V O : Type} (S : Sig V O) (fn : String) : Option (List String) :=
  (S.params.find? fun q => q.1 == fn).map (·.2)

/-- the result of one call as a function of the pool: look the arguments up, apply the model -/
def Sig.eval {V O : Type} (S : Sig V O) (op : Op) (h : List V) : O :=
  match S.paramsOf op.fn with
  | none => S.bad
  | some ps =>
    match op.argVals ps h with
    | none => S.bad
    | some vs => S.sem op.fn op.flag vs

/-- the machine of a signature: every step returns the pool as it received it -/
def Sig.machine {V O : Type} (S : Sig V O) : Machine V O :=
  { run := fun op h => (S.eval op h, h) }

/-- By construction: the step function hands the pool back, so it respects every effect
summary.  (This is a statement about the *model*: its operations are Lean functions.) -/
theorem Sig.machine_sound {V O : Type} (S : Sig V O) : S.machine.Sound :=
  fun _ _ => ⟨rfl, fun _ _ => rfl⟩

theorem Sig.machine_histories {V O : Type} (S : Sig V O) (ops : List Op) (h : List V) :
    (S.machine.runAll ops h).2 = h ∧ (S.machine.runAll ops h).1 = ops.map fun op => S.eval op h :=
  S.machine.runAll_of_fixed ops h fun _ _ => rfl

theorem Op.argVals_nil {V : Type} (op : Op) (h : List V) : op.argVals [] h = some [] := rfl

theorem Op.argVals_cons {V : Type} {op : Op} {h : List V} {p : String} {ps : List String} {a : V} {vs : List V}
    (hp : op.arg? p h = some a) (hps : op.argVals ps h = some vs) : op.argVals (p :: ps) h = some (a :: vs) := by
  unfold Op.argVals at hps ⊢
  rw [List.mapM_cons, hp, hps]
  rfl

theorem Sig.eval_of {V O : Type} (S : Sig V O) (op : Op) (h : List V) {fn : String} {ps : List String} {vs : List V}
    (hf : op.fn = fn) (hp : S.paramsOf fn = some ps) (ha : op.argVals ps h = some vs) :
    S.eval op h = S.sem fn op.flag vs := by
  subst hf
  simp only [Sig.eval, hp, ha]

theorem Op.argVals_congr {V : Type} (op op' : Op) (h h' : List V)
    (ha : ∀ p, op.arg? p h = op'.arg? p h') (ps : List String) :
    op.argVals ps h = op'.argVals ps h' := by
  unfold Op.argVals
  rw [funext ha]

theorem Sig.eval_congr_sem {V O : Type} (S : Sig V O) (op op' : Op) (h h' : List V) (hf : op.fn = op'.fn)
    (hfl : ∀ vs, S.sem op.fn op.flag vs = S.sem op.fn op'.flag vs) (ha : ∀ p, op.arg? p h = op'.arg? p h') :
    S.eval op h = S.eval op' h' := by
  unfold Sig.eval
  rw [← hf]
  cases S.paramsOf op.fn with
  | none => rfl
  | some ps =>
    simp only [Op.argVals_congr op op' h h' ha ps]
    cases op'.argVals ps h' with
    | none => rfl
    | some vs => exact hfl vs

end CC.Load
