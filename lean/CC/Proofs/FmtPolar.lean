/-
  CC.Proofs.FmtPolar — the fixed-notation text `f'{x:.nf}'` (`fixedFmt`) read back by `parseFixed`; the characters a
  `ScientificFloat` text can contain, so that a composite reader may split on one that is foreign to it (`not_mem_str`);
  `parsePolar` on a rendered polar text.
-/
import CC.Proofs.FmtArith
import CC.Proofs.FmtRender

namespace CC.Fmt
open CC.Gen.Fmt

theorem parseFixed_fixedFmt (x : ℚ) (n : ℕ) : parseFixed (fixedFmt x n) = some (roundTo x n) := by
  have h := parseMant_render (decide (x < 0)) (fixedK x n / 10 ^ n) (fixedK x n % 10 ^ n) n
    (Nat.mod_lt _ (by positivity)) (rest := []) trivial
  rw [List.append_nil] at h
  rw [fixedFmt_eq, parseFixed, h, roundTo_eq_fixedK]
  simp only [decide_eq_true_eq, mantText_value]

theorem roundTo_near (x : ℚ) (n : ℕ) : |roundTo x n - x| ≤ 1 / (2 * ((10 ^ n : ℕ) : ℚ)) := by
  rw [roundTo, pow10_natCast']; exact abs_rhe_mul_div_sub_le x (by positivity)

theorem roundTo_sign (x : ℚ) (n : ℕ) : (0 ≤ x → 0 ≤ roundTo x n) ∧ (x < 0 → roundTo x n ≤ 0) := by
  have hP := pow10_pos n
  unfold roundTo
  constructor
  · intro h
    have := rhe_nonneg (mul_nonneg h hP.le)
    exact div_nonneg (by exact_mod_cast this) hP.le
  · intro h
    have := rhe_le_of_le (k := 0) (by push_cast; exact mul_nonpos_of_nonpos_of_nonneg h.le hP.le : x * pow10 n ≤ ((0 : ℤ) : ℚ))
    exact div_nonpos_of_nonpos_of_nonneg (by exact_mod_cast this) hP.le

/-- the characters of a mantissa or an exponent -/
def NumCh (c : Char) : Prop := isDigit c = true ∨ c = '-' ∨ c = '.'
instance (c : Char) : Decidable (NumCh c) := by unfold NumCh; infer_instance

theorem natDigits_numCh (n : ℕ) : ∀ c ∈ natDigits n, NumCh c :=
  fun c hc => Or.inl ((natDigits_spec n).1 c hc)

theorem zeroPad_numCh (w n : ℕ) : ∀ c ∈ zeroPad w n, NumCh c := by
  intro c hc
  unfold zeroPad at hc
  rw [List.mem_append] at hc
  rcases hc with h | h
  · rw [List.mem_replicate] at h; rw [h.2]; exact Or.inl (by decide)
  · exact natDigits_numCh n c h

theorem intStr_numCh (i : ℤ) : ∀ c ∈ intStr i, NumCh c := by
  intro c hc
  unfold intStr at hc
  split at hc
  · rcases List.mem_cons.mp hc with h | h
    · exact Or.inr (Or.inl h)
    · exact natDigits_numCh _ c h
  · exact natDigits_numCh _ c hc

theorem mantText_numCh (neg : Bool) (ip post F : ℕ) : ∀ c ∈ mantText neg ip post F, NumCh c := by
  intro c hc
  simp only [mantText, List.mem_append] at hc
  rcases hc with (h | h) | h
  · cases neg
    · cases h
    · exact Or.inr (Or.inl (List.mem_singleton.mp h))
  · exact natDigits_numCh _ c h
  · split_ifs at h
    · cases h
    · exact (List.mem_cons.mp h).elim (fun h => Or.inr (Or.inr h)) (zeroPad_numCh _ _ c)

theorem fixedFmt_numCh (x : ℚ) (n : ℕ) : ∀ c ∈ fixedFmt x n, NumCh c := by
  rw [fixedFmt_eq]; exact mantText_numCh _ _ _ _

theorem mantissaText_numCh (m3 : ℚ) (p : ℕ) : ∀ c ∈ mantissaText m3 p, NumCh c := by
  rw [mantissaText_eq]; exact mantText_numCh _ _ _ _

theorem Table.get_chars (T : Table) (k : ℤ) (c : Char) (h : c ∈ T.get k) : ∃ p ∈ T, c ∈ p.2 :=
  (Table.get_cases T k).elim (fun hm => ⟨_, hm, h⟩) fun h' => by rw [h'.2] at h; cases h

theorem sf_exp_prefix_eq (u : Bool) (T : Table) (e : ℤ) :
    sf_exp_prefix u T e = [] ∨ ∃ k, sf_exp_prefix u T e = T.get k := by
  unfold sf_exp_prefix
  split_ifs
  exacts [Or.inl rfl, Or.inr ⟨_, rfl⟩, Or.inr ⟨_, rfl⟩, Or.inr ⟨_, rfl⟩, Or.inl rfl]

def Foreign (ch : Char) (c : SFCfg) : Prop :=
  ¬ NumCh ch ∧ ch ≠ 'e' ∧ ch ≠ '∞' ∧ ch ∉ c.unit ∧ ∀ p ∈ c.table, ch ∉ p.2
instance (ch : Char) (c : SFCfg) : Decidable (Foreign ch c) := by unfold Foreign; infer_instance

theorem not_mem_str {ch : Char} {c : SFCfg} (h : Foreign ch c) (v : ℚ) : ch ∉ c.str v := by
  obtain ⟨hnum, he, hinf, hunit, htab⟩ := h
  have hminus : ch ≠ '-' := fun e => hnum (Or.inr (Or.inl e))
  intro hmem
  unfold SFCfg.str at hmem
  simp only at hmem
  split at hmem
  · split at hmem
    · simp [sf_str_inf_pos] at hmem; exact hinf hmem
    · simp [sf_str_inf_neg] at hmem
      rcases hmem with h | h
      · exact hminus h
      · exact hinf h
  · simp only [List.mem_append] at hmem
    rcases hmem with ((h | h) | h) | h
    · exact hnum (mantissaText_numCh _ _ ch h)
    · unfold sf_exp_extension at h
      split at h
      · simp at h
      · rcases List.mem_append.mp h with h | h
        · simp at h; exact he h
        · exact hnum (intStr_numCh _ ch h)
    · rcases sf_exp_prefix_eq c.usePrefix c.table (c.value3 v).exponent3 with h0 | ⟨k, hk⟩
      · rw [h0] at h; simp at h
      · rw [hk] at h
        obtain ⟨p, hp, hc⟩ := Table.get_chars _ _ _ h
        exact htab p hp hc
    · exact hunit h

theorem splitOn1_append (c : Char) : ∀ (l r : List Char), c ∉ l → splitOn1 c (l ++ c :: r) = some (l, r) := by
  intro l
  induction l with
  | nil => intro r _; simp [splitOn1]
  | cons d t ih =>
    intro r h
    have hd : d ≠ c := fun e => h (by simp [e])
    have ht : c ∉ t := fun e => h (by simp [e])
    simp only [List.cons_append, splitOn1, hd, ↓reduceIte, ih r ht, Option.map_some]

theorem splitOn1_none (c : Char) : ∀ (l : List Char), c ∉ l → splitOn1 c l = none := by
  intro l
  induction l with
  | nil => intro _; rfl
  | cons d t ih =>
    intro h
    have hd : d ≠ c := fun e => h (by simp [e])
    have ht : c ∉ t := fun e => h (by simp [e])
    simp only [splitOn1, hd, ↓reduceIte, ih ht, Option.map_none]

theorem parsePolar_angle (unit l : List Char) (t : Text) (hl : '∠' ∉ l) (hp : parseBack unit l = some t)
    (x : ℚ) (n : ℕ) (deg : Bool) :
    parsePolar unit (l ++ ['∠'] ++ fixedFmt x n ++ (if deg then ['°'] else []))
      = some (t, some (roundTo x n), deg) := by
  unfold parsePolar
  rw [List.append_assoc, List.append_assoc, List.singleton_append, splitOn1_append _ _ _ hl]
  cases deg
  · simp only [hp, Bool.false_eq_true, ↓reduceIte, List.append_nil]
    split
    · -- a fixed-notation text does not end in `°`
      rename_i rr heq
      have : '°' ∈ (fixedFmt x n).reverse := by rw [heq]; simp
      exact absurd (fixedFmt_numCh x n _ (List.mem_reverse.mp this)) (by decide)
    · simp only [parseFixed_fixedFmt, Option.map_some]
  · simp only [hp, ↓reduceIte, List.reverse_append, List.reverse_cons, List.reverse_nil, List.nil_append,
      List.singleton_append, List.reverse_reverse, parseFixed_fixedFmt, Option.map_some]

theorem parsePolar_bare (unit l : List Char) (t : Text) (hl : '∠' ∉ l) (hp : parseBack unit l = some t) :
    parsePolar unit l = some (t, none, false) := by
  unfold parsePolar
  rw [splitOn1_none _ _ hl]
  simp only [hp, Option.map_some]

end CC.Fmt
