/-
  CC.Proofs.Solvable — the matrix of a well-posed network has a trivial kernel
  (non-singularity in kernel form): the source-free network has the same matrix and a zero
  right-hand side, and its only solution is zero.  Conversely a trivial kernel makes an accepted
  network well-posed (`wellPosed_of_trivial_kernel`).
-/
import CC.Proofs.Complete
import CC.Proofs.MapElems
set_option linter.unusedSectionVars false

namespace CC
variable {L K : Type} [DecidableEq L] [LabelOrd L] [Field K] [DecidableEq K]

@[simp] theorem zs_isIdealVS (e : Elem K) : e.zeroSources.isIdealVS = e.isIdealVS := by
  cases e <;> rfl
@[simp] theorem zs_Yfin (e : Elem K) : e.zeroSources.Yfin = e.Yfin := by cases e <;> rfl
@[simp] theorem zs_Ival (e : Elem K) : e.zeroSources.Ival = 0 := by
  cases e with
  | norton Z V => by_cases h : Z = 0 <;> simp [Elem.zeroSources, Elem.Ival, h]
  | thevenin Y I => rfl
@[simp] theorem zs_Vval (e : Elem K) : e.zeroSources.Vval = 0 := by
  cases e with
  | norton Z V => rfl
  | thevenin Y I => by_cases h : Y = 0 <;> simp [Elem.zeroSources, Elem.Vval, h]

/-! The source-free network is `N.mapElems fun b => b.e.zeroSources` (by definition), and removing the source values
keeps the structure: labels, index maps and matrix are those of `N` (CC/Proofs/MapElems.lean). -/

theorem zeroSources_keeps (N : Net L K) : KeepsStructure N fun b => b.e.zeroSources :=
  fun b _ => ⟨zs_isIdealVS b.e, zs_Yfin b.e⟩

theorem zs_nodeLabels (N : Net L K) : N.zeroSources.nodeLabels = N.nodeLabels := mapElems_nodeLabels N _

theorem zs_nodes (N : Net L K) : N.zeroSources.nodes = N.nodes := mapElems_nodes N _

theorem zs_ids (N : Net L K) : N.zeroSources.ids = N.ids := mapElems_ids N _

theorem zs_vsIds (N : Net L K) : N.zeroSources.vsIds = N.vsIds := mapElems_vsIds N _ (zeroSources_keeps N)

theorem zs_mnaA (N : Net L K) : N.zeroSources.mnaA = N.mnaA := mapElems_mnaA N _ (zeroSources_keeps N)

theorem zs_cs_nil (N : Net L K) : N.zeroSources.cs = [] := by
  unfold Net.cs
  rw [List.filter_eq_nil_iff]
  intro b hb
  obtain ⟨c, _, rfl⟩ := List.mem_map.mp hb
  simp [Elem.isCS]

theorem zs_rhsNode (N : Net L K) (n : L) : N.zeroSources.rhsNode n = 0 := by
  unfold Net.rhsNode Net.csSorted Net.csIds
  rw [zs_cs_nil]; simp [Net.byIds, sortL]

theorem zs_pack (N : Net L K) (s : Sol L K) : N.zeroSources.pack s = N.pack s := by
  unfold Net.pack
  rw [zs_nodes, show N.zeroSources.vsSorted = _ from mapElems_vsSorted N _ (zeroSources_keeps N), List.map_map]
  rfl

theorem zs_mnaB (N : Net L K) : N.zeroSources.mnaB = N.mnaB.map fun _ => (0 : K) := by
  unfold Net.mnaB
  rw [zs_nodes, show N.zeroSources.vsSorted = _ from mapElems_vsSorted N _ (zeroSources_keeps N)]
  simp only [zs_rhsNode, List.map_map, List.map_append]
  congr 1
  apply List.map_congr_left
  intro b _
  simp

theorem wellPosed_congr {N M : Net L K} (h : N.zeroSources = M.zeroSources) (hw : WellPosed N) : WellPosed M :=
  fun R hR => (zs_agreeOn M).mp (h ▸ (zs_agreeOn N).mpr (hw R (h ▸ hR)))

theorem pack_zeroRep (N : Net L K) : N.pack (Report.zeroRep : Report L K).toSol
    = List.replicate (N.pack (Report.zeroRep : Report L K).toSol).length 0 := by
  refine List.eq_replicate_iff.mpr ⟨rfl, fun a ha => ?_⟩
  rcases List.mem_append.mp ha with h | h <;> obtain ⟨_, _, rfl⟩ := List.mem_map.mp h <;> rfl

theorem solvable_all (N : Net L K) (hids : N.ids.Nodup) (hzm : N.zero ∈ N.nodeLabels)
    (hw : WellPosed N) (x : List K)
    (hx : x.length = N.nodes.length + N.vsIds.length)
    (h : matVec N.mnaA x = N.mnaB.map fun _ => (0 : K)) :
    x = List.replicate x.length (0 : K) := by
  have hids' : N.zeroSources.ids.Nodup := zs_ids N ▸ hids
  have hzm' : N.zeroSources.zero ∈ N.zeroSources.nodeLabels := zs_nodeLabels N ▸ hzm
  have hx' : x.length = N.zeroSources.nodes.length + N.zeroSources.vsIds.length := by
    rw [zs_nodes, zs_vsIds]; exact hx
  -- a kernel vector reads as a solution of the source-free circuit, which is zero
  have hR := (mna_iff_circuitEqs N.zeroSources hids' hzm' x hx').mp (by rw [zs_mnaA, zs_mnaB]; exact h)
  have := pack_congr N.zeroSources hids' hzm' ((zs_agreeOn N).mpr (hw _ hR))
  rw [pack_reportOf _ hids' x hx'] at this
  rw [this, pack_zeroRep, List.length_replicate]

/-- **C01 (non-singularity, kernel form).**  For a well-posed valid network the matrix the
code builds has a trivial kernel: the only vector it maps to zero is the zero vector.  The
matrix is square, so in exact arithmetic the system always has its (unique) solution and
the code never takes the singular-matrix fallback branch. -/
theorem C01_solvable (N : Net L K) (wf : N.WF) (hw : WellPosed N) (x : List K)
    (hx : x.length = N.nodes.length + N.vsIds.length)
    (h : matVec N.mnaA x = N.mnaB.map fun _ => (0 : K)) :
    x = List.replicate x.length (0 : K) :=
  solvable_all N wf.ids_nodup wf.zero_mem hw x hx h

/-- the matrix is square: `nodes + voltage sources` rows, each of that length -/
theorem C01_square (N : Net L K) :
    N.mnaA.length = N.nodes.length + N.vsSorted.length ∧
    ∀ r ∈ N.mnaA, r.length = N.nodes.length + N.vsSorted.length := by
  constructor
  · simp [Net.mnaA]
  · intro r hr
    simp only [Net.mnaA, List.mem_append, List.mem_map] at hr
    rcases hr with ⟨i, _, rfl⟩ | ⟨b, _, rfl⟩ <;> simp

/-- converse of `solvable_all`: a network `Network.__post_init__` accepts whose matrix has a trivial kernel is
well-posed.  A solution of the source-free circuit packs to a kernel vector (`complete_rows_all`), hence to the
zero vector, as the zero solution does, and reading the vector gives the solution back (`reportOf_pack`). -/
theorem wellPosed_of_trivial_kernel (N : Net L K) (hids : N.ids.Nodup) (hzm : N.zero ∈ N.nodeLabels)
    (hker : ∀ x : List K, x.length = N.mnaA.length →
      matVec N.mnaA x = List.replicate N.mnaA.length (0 : K) → x = List.replicate N.mnaA.length (0 : K)) :
    WellPosed N := by
  intro R hR
  have hids' : N.zeroSources.ids.Nodup := zs_ids N ▸ hids
  have hzm' : N.zeroSources.zero ∈ N.zeroSources.nodeLabels := zs_nodeLabels N ▸ hzm
  have hrows := complete_rows_all N.zeroSources R hids' hzm' hR
  have hlen : N.mnaA.length = N.nodes.length + N.vsIds.length := by
    rw [(C01_square N).1, vsSorted_length N hids]
  have hlenB : N.mnaB.length = N.mnaA.length := by
    simp only [Net.mnaA, Net.mnaB, List.length_append, List.length_map]
  rw [zs_mnaA, zs_mnaB, List.map_const', hlenB] at hrows
  have hp := hker _ (by rw [pack_length _ hids', zs_nodes, zs_vsIds, hlen]) hrows
  -- the packed solution is the zero vector, which the zero solution packs to as well: read both back
  have h0 : N.zeroSources.pack R.toSol = N.zeroSources.pack (Report.zeroRep : Report L K).toSol := by
    rw [hp, pack_zeroRep, pack_length _ hids', zs_nodes, zs_vsIds, hlen]
  have h1 := reportOf_pack N.zeroSources hids' hzm' R hR
  have h2 := reportOf_pack N.zeroSources hids' hzm' _
    ((circuitEqsAll_iff N.zeroSources _).mp (circuitEqsAll_zero N.branches N.zero))
  rw [h0] at h1
  exact (zs_agreeOn N).mp ⟨fun n hn => (h1.1 n hn).symm.trans (h2.1 n hn),
    fun b hb => ⟨((h1.2 b hb).1).symm.trans (h2.2 b hb).1, ((h1.2 b hb).2).symm.trans (h2.2 b hb).2⟩⟩

end CC
