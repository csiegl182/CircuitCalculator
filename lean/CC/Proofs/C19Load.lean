/-
  The network loader on faulty entries.  A table row that succeeds calls its element factory on keywords in which every
  key the row does not touch is found as in the entry (`applyLoader_ok`); hence a loaded branch carries the entry's `N1`,
  `N2` and `id`, and an entry that lacks a required keyword of its factory raises.  No Mathlib.
-/
import CC.Proofs.LoadCircuit
namespace CC.Load
open CC.Gen.Load

theorem entryToBranchObj_missing (T : Trig) (o : Obj) (k : String) (hk : k ∈ ["N1", "N2", "id", "type"])
    (h : Obj.find o k = none) : (entryToBranchObj T o).1 = .error .keyError := by
  rw [entryToBranchObj_fields]
  simp only [List.mem_cons, List.mem_nil_iff, or_false] at hk
  -- the nested match stops at the missing key, or at an earlier key that is missing too
  rcases hk with rfl | rfl | rfl | rfl
  · rw [h]
  · rw [h]; cases Obj.find o "N1" <;> rfl
  · rw [h]; cases Obj.find o "N1" <;> cases Obj.find o "N2" <;> rfl
  · rw [h]; cases Obj.find o "N1" <;> cases Obj.find o "N2" <;> cases Obj.find o "id" <;> rfl

theorem entryToBranchObj_nil (T : Trig) : (entryToBranchObj T []).1 = .error .keyError :=
  entryToBranchObj_missing T [] "N1" (by simp) rfl

theorem pyDict_arr_cons (a : J) (r : List J) : ∃ x, pyDict (.arr (a :: r)) = .error x := by
  cases a with
  | arr l | obj o | str s => exact ⟨_, (apply_ite Except.error _ _ _).symm⟩
  | _ => exact ⟨_, rfl⟩

theorem entryToBranch_ok_obj (T : Trig) (e : J) (b : LBranch) (h : (entryToBranch T e).1 = .ok b) :
    ∃ o, e = .obj o := by
  have hc : entryCopied = true := rfl
  unfold entryToBranch at h
  simp only [hc, if_true] at h
  cases e with
  | obj o => exact ⟨o, rfl⟩
  | null | bool _ | num _ | cx _ => simp [pyDict] at h
  | str s =>
    by_cases hs : s.isEmpty
    · simp [pyDict, hs, entryToBranchObj_nil] at h
    · simp [pyDict, hs] at h
  | arr l =>
    cases l with
    | nil => simp [pyDict, entryToBranchObj_nil] at h
    | cons a r =>
      obtain ⟨x, hx⟩ := pyDict_arr_cons a r
      rw [hx] at h
      cases h

theorem loadEntries_fst (T : Trig) (es : List J) :
    (loadEntries T es).1 = es.mapM fun e => (entryToBranch T e).1 := by
  induction es with
  | nil => rfl
  | cons e r ih =>
    rw [List.mapM_cons, ← ih, loadEntries]
    rcases entryToBranch T e with ⟨_ | b, e'⟩
    · rfl
    · rcases loadEntries T r with ⟨_ | bs, r'⟩ <;> rfl

/-- the value an entry has under a key (`None` when it is no dictionary or lacks the key) -/
def entryKey (e : J) (k : String) : Option J :=
  match e with
  | .obj o => Obj.find o k
  | _ => none

theorem evalCxArgs_cons_ok {T : Trig} {p k : String} {how : KeyRead} {r : List (String × String × KeyRead)}
    {kw ex kw1 : Obj} (h : evalCxArgs T ((p, k, how) :: r) kw = .ok (ex, kw1)) :
    ∃ v kw' c ex', Obj.read kw k how = some (v, kw') ∧ (toComplex T v false).1 = .ok c ∧
      evalCxArgs T r kw' = .ok (ex', kw1) ∧ ex = (p, J.cx c) :: ex' := by
  rw [evalCxArgs] at h
  cases hr : Obj.read kw k how with
  | none => rw [hr] at h; cases h
  | some vk =>
    obtain ⟨v, kw'⟩ := vk
    rw [hr] at h
    simp only [] at h
    cases hc : (toComplex T v false).1 with
    | error x => rw [hc] at h; cases h
    | ok c =>
      rw [hc] at h
      simp only [] at h
      cases hrest : evalCxArgs T r kw' with
      | error x => rw [hrest] at h; cases h
      | ok pr =>
        obtain ⟨ex', kw''⟩ := pr
        rw [hrest] at h
        simp only [Except.ok.injEq, Prod.mk.injEq] at h
        obtain ⟨rfl, rfl⟩ := h
        exact ⟨v, kw', c, ex', rfl, hc, hrest, rfl⟩

theorem translateToComplex_cons_ok {T : Trig} {k : String} {r : List String} {kw kw2 : Obj}
    (h : translateToComplex T (k :: r) kw = .ok kw2) :
    ∃ v c, Obj.find kw k = some v ∧ (toComplex T v false).1 = .ok c ∧
      translateToComplex T r (Obj.put kw k (.cx c)) = .ok kw2 := by
  rw [translateToComplex] at h
  cases hf : Obj.find kw k with
  | none => rw [hf] at h; cases h
  | some v =>
    rw [hf] at h
    simp only [] at h
    cases hc : (toComplex T v false).1 with
    | error x => rw [hc] at h; cases h
    | ok c => rw [hc] at h; exact ⟨v, c, rfl, hc, h⟩

/-- The second alternative of `hq`: an absent key is none the row reads (a key that is read is present) and, the row
reading every parameter under its own name, none of its parameters either. -/
theorem evalCxArgs_frame (T : Trig) (q : String) (args : List (String × String × KeyRead)) (kw ex kw1 : Obj)
    (h : evalCxArgs T args kw = .ok (ex, kw1))
    (hq : (∀ a ∈ args, a.1 ≠ q ∧ a.2.1 ≠ q) ∨ (Obj.find kw q = none ∧ ∀ a ∈ args, a.1 = a.2.1)) :
    Obj.find kw1 q = Obj.find kw q ∧ Obj.find ex q = none := by
  induction args generalizing kw ex kw1 with
  | nil => simp [evalCxArgs] at h; obtain ⟨rfl, rfl⟩ := h; exact ⟨rfl, rfl⟩
  | cons a r ih =>
    obtain ⟨p, k, how⟩ := a
    obtain ⟨v, kw', c, ex', hr, _, hrest, rfl⟩ := evalCxArgs_cons_ok h
    obtain ⟨hfk, hne, hnone⟩ := Obj.read_some hr
    have hpk : p ≠ q ∧ k ≠ q := by
      rcases hq with hq | ⟨hq, hpk⟩
      · exact hq (p, k, how) (List.mem_cons_self ..)
      · have hkq : k ≠ q := by intro e; rw [e, hq] at hfk; cases hfk
        have hp : p = k := hpk (p, k, how) (List.mem_cons_self ..)
        exact ⟨hp ▸ hkq, hkq⟩
    have hfq := hne q (Ne.symm hpk.2)
    obtain ⟨i1, i2⟩ := ih kw' ex' kw1 hrest (hq.imp (fun hq a ha => hq a (List.mem_cons_of_mem _ ha))
      (fun hq => ⟨hfq ▸ hq.1, fun a ha => hq.2 a (List.mem_cons_of_mem _ ha)⟩))
    exact ⟨i1.trans hfq, by simp [Obj.find, hpk.1, i2]⟩

theorem translateToComplex_frame (T : Trig) (q : String) (keys : List String) (kw kw2 : Obj)
    (h : translateToComplex T keys kw = .ok kw2) (hq : q ∉ keys ∨ Obj.find kw q = none) :
    Obj.find kw2 q = Obj.find kw q := by
  induction keys generalizing kw with
  | nil => simp [translateToComplex] at h; rw [h]
  | cons k r ih =>
    obtain ⟨v, c, hf, _, h⟩ := translateToComplex_cons_ok h
    have hne : q ≠ k := by
      rcases hq with hq | hq
      · exact fun e => hq (e ▸ List.mem_cons_self ..)
      · intro e; rw [← e, hq] at hf; cases hf
    have hput := Obj.find_put_ne kw k q (.cx c) hne
    rw [ih _ h (hq.imp (fun hq hm => hq (List.mem_cons_of_mem _ hm)) (fun hq => hput ▸ hq)), hput]

theorem callElemFactory_eq (f : ElemFactory) (n1 n2 : J) (kw : Obj) :
    callElemFactory f n1 n2 kw =
      if !dupKeys kw && keysKnown f.params kw && f.params.all (fun p => p.2.isSome || Obj.has kw p.1) then
        .ok { n1 := n1, n2 := n2, name := (Obj.find (boundOf f.params kw) "name").getD .null, ty := f.ty,
              norton := f.norton, a := f.a.eval (boundOf f.params kw), b := f.b.eval (boundOf f.params kw) }
      else .error .typeError := by
  simp only [callElemFactory, bindArgs_eq]
  by_cases h : (!dupKeys kw && keysKnown f.params kw && f.params.all fun p => p.2.isSome || Obj.has kw p.1) = true
  · rw [if_pos h, if_pos h]
  · rw [if_neg h, if_neg h]

theorem callElemFactory_ok (f : ElemFactory) (n1 n2 : J) (kw : Obj) (b : LBranch)
    (h : callElemFactory f n1 n2 kw = .ok b) :
    b.n1 = n1 ∧ b.n2 = n2 ∧ b.name = (Obj.find (boundOf f.params kw) "name").getD .null := by
  rw [callElemFactory_eq] at h
  split at h <;> cases h
  exact ⟨rfl, rfl, rfl⟩

/-- The keys `q` the row does not touch: none of its explicit parameters, read keys or translated keys; or absent from
the entry, when the row reads every parameter under its own name (`evalCxArgs_frame`). -/
theorem applyLoader_ok (T : Trig) (L : NetLoader) (n1 n2 : J) (kw : Obj) (b : LBranch)
    (h : applyLoader T L n1 n2 kw = .ok b) :
    ∃ f args, elementFactories.find? (fun f => f.name == L.factory) = some f ∧
      callElemFactory f n1 n2 args = .ok b ∧
      ∀ q, ((∀ a ∈ L.cxArgs, a.1 ≠ q ∧ a.2.1 ≠ q) ∧ q ∉ L.translateKeys) ∨
          (Obj.find kw q = none ∧ ∀ a ∈ L.cxArgs, a.1 = a.2.1) → Obj.find args q = Obj.find kw q := by
  unfold applyLoader at h
  cases hf : elementFactories.find? (fun f => f.name == L.factory) with
  | none => rw [hf] at h; cases h
  | some f =>
    rw [hf] at h
    simp only [] at h
    cases he : evalCxArgs T L.cxArgs kw with
    | error x => rw [he] at h; cases h
    | ok p =>
      obtain ⟨ex, kw1⟩ := p
      rw [he] at h
      simp only [] at h
      cases ht : translateToComplex T L.translateKeys kw1 with
      | error x => rw [ht] at h; cases h
      | ok kw2 =>
        rw [ht] at h
        refine ⟨f, ex ++ kw2, rfl, h, fun q hq => ?_⟩
        obtain ⟨i1, i2⟩ := evalCxArgs_frame T q L.cxArgs kw ex kw1 he (hq.imp And.left id)
        rw [Obj.find_append _ _ _ i2, translateToComplex_frame T q _ kw1 kw2 ht (hq.imp And.right fun hq => i1 ▸ hq.1), i1]

theorem entryToBranch_ok (T : Trig) (e : J) (b : LBranch) (h : (entryToBranch T e).1 = .ok b) :
    ∃ o n1 n2 id kind L, e = .obj o ∧ Obj.find o "N1" = some n1 ∧ Obj.find o "N2" = some n2 ∧
      Obj.find o "id" = some id ∧ Obj.find o "type" = some (.str kind) ∧
      networkBranchTranslators.find? (fun L => L.kind == kind) = some L ∧
      applyLoader T L n1 n2 (stripped o id) = .ok b := by
  obtain ⟨o, rfl⟩ := entryToBranch_ok_obj T e b h
  rw [entryToBranch_obj] at h
  have miss : ∀ k ∈ ["N1", "N2", "id", "type"], ∃ v, Obj.find o k = some v := by
    intro k hk
    cases hv : Obj.find o k with
    | some v => exact ⟨v, rfl⟩
    | none => rw [entryToBranchObj_missing T o k hk hv] at h; cases h
  obtain ⟨n1, h1⟩ := miss "N1" (by simp)
  obtain ⟨n2, h2⟩ := miss "N2" (by simp)
  obtain ⟨id, h3⟩ := miss "id" (by simp)
  obtain ⟨ty, h4⟩ := miss "type" (by simp)
  rw [entryToBranchObj_eq T o n1 n2 id ty h1 h2 h3 h4] at h
  obtain ⟨kind, L, rfl, hL, ha⟩ := dispatch_ok h
  exact ⟨o, n1, n2, id, kind, L, rfl, h1, h2, h3, h4, hL, ha⟩

theorem entryToBranch_nodes (T : Trig) (e : J) (b : LBranch) (h : (entryToBranch T e).1 = .ok b) :
    (some b.n1, some b.n2) = (entryKey e "N1", entryKey e "N2") := by
  obtain ⟨o, n1, n2, id, kind, L, rfl, h1, h2, _, _, _, ha⟩ := entryToBranch_ok T e b h
  obtain ⟨f, args, _, hc, _⟩ := applyLoader_ok T L n1 n2 _ b ha
  obtain ⟨e1, e2, _⟩ := callElemFactory_ok f n1 n2 _ b hc
  simp [entryKey, h1, h2, e1, e2]

theorem stripped_name (o : Obj) (id : J) : Obj.find (stripped o id) "name" = some id := by
  unfold stripped
  rw [Obj.find_del_ne _ _ _ (by decide +kernel), Obj.find_put_self]

theorem find_boundOf_written (ps : List (String × Option Int)) (kw : Obj) (q : String) (v : J)
    (hq : ps.any (fun p => p.1 == q) = true) (hv : Obj.find kw q = some v) :
    Obj.find (boundOf ps kw) q = some v := by
  obtain ⟨p, _, h⟩ := find_boundOf_param hq kw
  rw [h, hv]; rfl

theorem table_name_facts :
    (∀ L ∈ networkBranchTranslators, (∀ a ∈ L.cxArgs, a.1 ≠ "name" ∧ a.2.1 ≠ "name") ∧ "name" ∉ L.translateKeys) ∧
    (∀ f ∈ elementFactories, f.params.any (fun p => p.1 == "name") = true) := by decide +kernel

theorem entryToBranch_name (T : Trig) (e : J) (b : LBranch) (h : (entryToBranch T e).1 = .ok b) :
    some b.name = entryKey e "id" := by
  obtain ⟨o, n1, n2, id, kind, L, rfl, _, _, h3, _, hL, ha⟩ := entryToBranch_ok T e b h
  obtain ⟨f, args, hf, hc, hframe⟩ := applyLoader_ok T L n1 n2 _ b ha
  obtain ⟨_, _, hname⟩ := callElemFactory_ok f n1 n2 _ b hc
  obtain ⟨hLt, hft⟩ := table_name_facts
  have hfind : Obj.find args "name" = some id := by
    rw [hframe "name" (Or.inl (hLt L (List.mem_of_find?_eq_some hL))), stripped_name]
  have := find_boundOf_written f.params _ "name" id (hft f (List.mem_of_find?_eq_some hf)) hfind
  simp [entryKey, h3, hname, this]

theorem loadNetwork_arr (T : Trig) (es : List J) :
    (loadNetwork T (.arr es)).1 =
      match (loadEntries T es).1 with
      | .error x => .error (mapLoadErr x)
      | .ok bs => match checkLoaded bs with
        | .error x => .error (mapLoadErr x)
        | .ok bs => .ok bs := by
  simp only [loadNetwork, loadSeq]
  rcases h : loadEntries T es with ⟨r, es'⟩
  cases r <;> rfl

/-- `load_network` re-raises a `KeyError` as `FileExistsError` and passes every other exception on (the generated
`loadCaught` / `loadRaised`) -/
theorem mapLoadErr_eq (e : Err) : mapLoadErr e = if e = .keyError then .fileExists else e := by
  have h1 : errOfName loadCaught = .keyError := by decide +kernel
  have h2 : errOfName loadRaised = .fileExists := by decide +kernel
  rw [mapLoadErr, h1, h2]

theorem table_cx_facts : ∀ L ∈ networkBranchTranslators, ∀ a ∈ L.cxArgs, a.1 = a.2.1 := by decide +kernel

theorem entryToBranch_missing_value (T : Trig) (o : Obj) (id : J) (kind : String) (L : NetLoader) (f : ElemFactory)
    (p : String)
    (h3 : Obj.find o "id" = some id) (h4 : Obj.find o "type" = some (.str kind))
    (hL : networkBranchTranslators.find? (fun L => L.kind == kind) = some L)
    (hf : elementFactories.find? (fun f => f.name == L.factory) = some f)
    (hp : (p, none) ∈ f.params) (hpn : p ≠ "name") (hmiss : Obj.find o p = none) :
    ∃ x, (entryToBranch T (.obj o)).1 = .error x := by
  cases hres : (entryToBranch T (.obj o)).1 with
  | error x => exact ⟨x, rfl⟩
  | ok b =>
    exfalso
    obtain ⟨o', n1', n2', id', kind', L', ho, _, _, h3', h4', hL', ha⟩ := entryToBranch_ok T _ b hres
    cases ho
    rw [h3] at h3'; cases h3'
    rw [h4] at h4'; cases h4'
    rw [hL] at hL'; cases hL'
    obtain ⟨f', args, hf', hc, hframe⟩ := applyLoader_ok T L n1' n2' _ b ha
    rw [hf] at hf'; cases hf'
    have hs : Obj.find (stripped o id) p = none := by
      unfold stripped
      apply Obj.find_del_none
      rw [Obj.find_put_ne _ _ _ _ hpn]
      exact Obj.find_del_none (Obj.find_del_none (Obj.find_del_none hmiss))
    have hargs : Obj.find args p = none :=
      (hframe p (Or.inr ⟨hs, table_cx_facts L (List.mem_of_find?_eq_some hL)⟩)).trans hs
    simp [callElemFactory_eq, required_unwritten hp hargs] at hc

end CC.Load
