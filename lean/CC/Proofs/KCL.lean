/-
  CC.Proofs.KCL — the central identity: for every network (self-loop branches included: they
  are skipped on the diagonal and have direction 0), over every field, the row of node `n` in
  the code's matrix equation *is* Kirchhoff's current law at
  `n`:      Σ_b dir(b,n)·J_b  =  (row n of A)·x − b_n .
  No hypothesis on self-loops is needed: `kcl_identity` carries `b.n1 ≠ b.n2` in its signature without
  using it, `kcl_identity_all` is the same without it.
-/
import CC.Proofs.NetBasics
import CC.Proofs.ListSum
set_option linter.unusedSectionVars false

namespace CC
variable {L K : Type} [DecidableEq L] [LabelOrd L] [Field K] [DecidableEq K]

/-- a solution vector, label-indexed -/
structure Sol (L K : Type) where
  phi : L → K
  ivs : String → K

def Net.pot (N : Net L K) (s : Sol L K) (n : L) : K := if n = N.zero then 0 else s.phi n

/-- physical first→second current of a branch, as the matrix equation sees it -/
def Net.J (N : Net L K) (s : Sol L K) (b : Branch L K) : K :=
  if b.e.isIdealVS then s.ivs b.id
  else b.e.Yfin * (N.pot s b.n1 - N.pot s b.n2) + b.e.Ival

/-- left-hand side of the row of node `n` -/
def Net.rowNode (N : Net L K) (s : Sol L K) (n : L) : K :=
  (N.nodes.map fun m => N.Yentry n m * s.phi m).sum
    + (N.vsSorted.map fun b => b.dir n * s.ivs b.id).sum

/-- left-hand side of the row of voltage source `b` -/
def Net.rowVS (N : Net L K) (s : Sol L K) (b : Branch L K) : K :=
  (N.nodes.map fun m => b.dir m * s.phi m).sum

/-- the admittance stamp of a branch is the outer product of its direction vector with itself,
self-loops included (their direction vector is zero) -/
theorem Yentry_eq (N : Net L K) (n m : L) :
    N.Yentry n m = (N.nonVS.map fun b => b.dir n * b.dir m * b.e.Yfin).sum := by
  unfold Net.Yentry Branch.dir
  by_cases hnm : n = m
  · subst hnm
    rw [if_pos rfl, sum_filter_eq_sum_ite]
    refine congrArg List.sum (List.map_congr_left fun b _ => ?_)
    simp only [decide_eq_true_eq]
    by_cases h1 : b.n1 = n <;> by_cases h2 : b.n2 = n
    · rw [if_neg fun h => h.2 (h1.trans h2.symm), if_pos h1, if_pos h2, sub_self, zero_mul, zero_mul]
    · rw [if_pos ⟨Or.inl h1, fun h => h2 (h.symm.trans h1)⟩, if_pos h1, if_neg h2, sub_zero, one_mul, one_mul]
    · rw [if_pos ⟨Or.inr h2, fun h => h1 (h.trans h2)⟩, if_neg h1, if_pos h2, zero_sub, neg_mul_neg, one_mul,
        one_mul]
    · rw [if_neg fun h => h.1.elim h1 h2, if_neg h1, if_neg h2, sub_self, zero_mul, zero_mul]
  · rw [if_neg hnm, sum_filter_eq_sum_ite, neg_sum_map]
    refine congrArg List.sum (List.map_congr_left fun b _ => ?_)
    simp only [decide_eq_true_eq]
    by_cases h1 : b.n1 = n
    · have h1m : ¬ b.n1 = m := fun h => hnm (h1.symm.trans h)
      by_cases h2 : b.n2 = m
      · have h2n : ¬ b.n2 = n := fun h => hnm (h.symm.trans h2)
        rw [if_pos (Or.inl ⟨h1, h2⟩), if_pos h1, if_neg h2n, if_neg h1m, if_pos h2, sub_zero, zero_sub, one_mul,
          neg_one_mul]
      · rw [if_neg (by rintro (⟨_, h⟩ | ⟨h, _⟩); exacts [h2 h, h1m h]), if_neg h1m, if_neg h2, sub_self,
          mul_zero, zero_mul, neg_zero]
    · by_cases h2 : b.n2 = n
      · have h2m : ¬ b.n2 = m := fun h => hnm (h2.symm.trans h)
        by_cases h1' : b.n1 = m
        · rw [if_pos (Or.inr ⟨h1', h2⟩), if_neg h1, if_pos h2, if_pos h1', if_neg h2m, zero_sub, sub_zero,
            mul_one, neg_one_mul]
        · rw [if_neg (by rintro (⟨h, _⟩ | ⟨h, _⟩); exacts [h1 h, h1' h]), if_neg h1', if_neg h2m, sub_self,
            mul_zero, zero_mul, neg_zero]
      · rw [if_neg (by rintro (⟨h, _⟩ | ⟨_, h⟩); exacts [h1 h, h2 h]), if_neg h1, if_neg h2, sub_self, zero_mul,
          zero_mul, neg_zero]

theorem Yentry_symm (N : Net L K) (i j : L) : N.Yentry i j = N.Yentry j i := by
  by_cases h : i = j
  · rw [h]
  · unfold Net.Yentry
    rw [if_neg h, if_neg (Ne.symm h)]
    simp only [or_comm]

theorem dir_self_loop (b : Branch L K) (n : L) (h : b.n1 = b.n2) : b.dir n = 0 := by
  unfold Branch.dir; rw [h]; exact sub_self _

/-- away from self-loops the direction is the three-way case split the code used before the repair -/
theorem dir_of_ne (b : Branch L K) (n : L) (h : b.n1 ≠ b.n2) :
    b.dir n = if b.n1 = n then 1 else if b.n2 = n then -1 else 0 := by
  unfold Branch.dir
  by_cases h1 : b.n1 = n
  · have h2 : b.n2 ≠ n := fun h' => h (h1.trans h'.symm)
    rw [if_pos h1, if_neg h2, if_pos h1, sub_zero]
  · by_cases h2 : b.n2 = n
    · rw [if_neg h1, if_pos h2, if_neg h1, if_pos h2, zero_sub]
    · rw [if_neg h1, if_neg h2, if_neg h1, if_neg h2, sub_zero]

theorem sum_nodes_indicator (N : Net L K) (s : Sol L K) {a : L} (ha : a ∈ N.nodeLabels) :
    (N.nodes.map fun m => (if a = m then (1 : K) else 0) * s.phi m).sum = N.pot s a := by
  rw [sum_indicator_mul (nodes_nodup N), Net.pot]
  by_cases hz : a = N.zero
  · rw [if_pos hz, if_neg fun h => ne_zero_of_mem_nodes h hz]
  · rw [if_neg hz, if_pos ((mem_nodes_iff N a).mpr ⟨ha, hz⟩)]

theorem rowVS_eq_all (N : Net L K) (s : Sol L K) (b : Branch L K) (hb : b ∈ N.branches) :
    N.rowVS s b = N.pot s b.n1 - N.pot s b.n2 := by
  unfold Net.rowVS Branch.dir
  simp only [sub_mul]
  rw [sum_map_sub', sum_nodes_indicator N s (n1_mem_labels N hb), sum_nodes_indicator N s (n2_mem_labels N hb)]

theorem row_admittance (N : Net L K) (s : Sol L K) (n : L) :
    (N.nodes.map fun m => N.Yentry n m * s.phi m).sum
      = (N.nonVS.map fun b => b.dir n * (b.e.Yfin * (N.pot s b.n1 - N.pot s b.n2))).sum := by
  simp only [Yentry_eq, ← List.sum_map_mul_right]
  rw [sum_map_comm]
  refine congrArg List.sum (List.map_congr_left fun b hb => ?_)
  have e : ∀ m, b.dir n * b.dir m * b.e.Yfin * s.phi m = b.dir n * b.e.Yfin * (b.dir m * s.phi m) := fun m => by ring
  simp only [e]
  rw [List.sum_map_mul_left, ← rowVS_eq_all N s b (List.mem_filter.mp hb).1, Net.rowVS, mul_assoc]

theorem Q_eq_neg_dir_all (N : Net L K) (b : Branch L K) (n : L) (hn : n ≠ N.zero) :
    N.Qentry b n = - b.dir n := by
  unfold Net.Qentry Branch.dir
  have e1 : (b.n1 = n ∧ b.n1 ≠ N.zero) ↔ b.n1 = n := ⟨fun h => h.1, fun h => ⟨h, h ▸ hn⟩⟩
  have e2 : (b.n2 = n ∧ b.n2 ≠ N.zero) ↔ b.n2 = n := ⟨fun h => h.1, fun h => ⟨h, h ▸ hn⟩⟩
  simp only [e1, e2, neg_sub]

theorem sum_branches_split (N : Net L K) (f : Branch L K → K) :
    (N.branches.map f).sum = (N.nonVS.map f).sum + (N.vs.map f).sum := by
  rw [sum_split_filter N.branches (fun b => !b.e.isIdealVS)]
  congr 3
  exact List.filter_congr fun b _ => Bool.not_not _

theorem kcl_identity_all (N : Net L K) (s : Sol L K) (hids : N.ids.Nodup)
    (n : L) (hn : n ∈ N.nodes) :
    (N.branches.map fun b => b.dir n * N.J s b).sum = N.rowNode s n - N.rhsNode n := by
  have hnz : n ≠ N.zero := ne_zero_of_mem_nodes hn
  -- right-hand side: only current sources have `Ival ≠ 0`, and no ideal voltage source is one
  have hR : N.rhsNode n = - (N.nonVS.map fun b => b.dir n * b.e.Ival).sum := by
    have h1 : ∀ b : Branch L K,
        (if b.e.isCS = true then N.Qentry b n * b.e.Ival else 0) = - (b.dir n * b.e.Ival) := by
      intro b
      by_cases h0 : b.e.Ival = 0
      · simp [Elem.isCS, h0]
      · simp [Elem.isCS, h0, Q_eq_neg_dir_all N b n hnz]
    have h2 : (N.vs.map fun b => b.dir n * b.e.Ival).sum = 0 :=
      sum_map_eq_zero _ _ fun b hb => by rw [Ival_of_VS (List.mem_filter.mp hb).2, mul_zero]
    rw [Net.rhsNode, sum_map_perm (csSorted_perm N hids), Net.cs, sum_filter_eq_sum_ite]
    simp only [h1]
    rw [← neg_sum_map, sum_branches_split, h2, add_zero]
  -- left-hand side, split into ideal voltage sources and the rest
  have hA : (N.nonVS.map fun b => b.dir n * N.J s b).sum
      = (N.nonVS.map fun b => b.dir n * (b.e.Yfin * (N.pot s b.n1 - N.pot s b.n2))).sum
        + (N.nonVS.map fun b => b.dir n * b.e.Ival).sum := by
    rw [← List.sum_map_add]
    refine congrArg List.sum (List.map_congr_left fun b hb => ?_)
    have : ¬ b.e.isIdealVS = true := by simpa using (List.mem_filter.mp hb).2
    rw [Net.J, if_neg this, mul_add]
  have hB : (N.vs.map fun b => b.dir n * N.J s b).sum
      = (N.vsSorted.map fun b => b.dir n * s.ivs b.id).sum := by
    rw [sum_map_perm (vsSorted_perm N hids)]
    exact congrArg List.sum (List.map_congr_left fun b hb => by rw [Net.J, if_pos (List.mem_filter.mp hb).2])
  rw [sum_branches_split, hA, hB, hR, Net.rowNode, row_admittance]; ring

theorem kcl_identity (N : Net L K) (s : Sol L K) (hids : N.ids.Nodup)
    (hsl : ∀ b ∈ N.branches, b.n1 ≠ b.n2) (n : L) (hn : n ∈ N.nodes) :
    (N.branches.map fun b => b.dir n * N.J s b).sum = N.rowNode s n - N.rhsNode n :=
  kcl_identity_all N s hids n hn

end CC
