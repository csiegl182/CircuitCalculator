/-
  CC.Proofs.NetBasics — structural facts about the network model: label lists are
  duplicate-free and complete and depend only on the terminals, `network[id]` finds the branch,
  the alphabetically sorted source lists are permutations of the filtered branch lists, positions
  in an index list (`idxOf?`).
-/
import CC.Model.MNA
import CC.Proofs.ListLemmas
import CC.Spec.Circuit
import Mathlib.Algebra.Field.Defs
import Mathlib.Data.List.Perm.Basic
import Mathlib.Data.List.Nodup
import Mathlib.Data.List.Dedup
import Mathlib.Data.List.Sort
set_option linter.unusedSectionVars false

namespace CC
variable {L K : Type} [DecidableEq L] [LabelOrd L] [Field K] [DecidableEq K]

/-- `dedupL` is Mathlib's `List.dedup` (both keep the last occurrence) -/
theorem dedupL_eq_dedup {α : Type} [DecidableEq α] (l : List α) : dedupL l = l.dedup := by
  induction l with
  | nil => rfl
  | cons b l ih =>
    unfold dedupL
    by_cases h : b ∈ l
    · rw [if_pos h, ih, List.dedup_cons_of_mem h]
    · rw [if_neg h, ih, List.dedup_cons_of_notMem h]

theorem mem_dedupL {α : Type} [DecidableEq α] {a : α} {l : List α} : a ∈ dedupL l ↔ a ∈ l := by
  rw [dedupL_eq_dedup]; exact List.mem_dedup

theorem nodup_dedupL {α : Type} [DecidableEq α] (l : List α) : (dedupL l).Nodup := by
  rw [dedupL_eq_dedup]; exact List.nodup_dedup l

theorem dedupL_eq_self {α : Type} [DecidableEq α] {l : List α} (h : l.Nodup) : dedupL l = l := by
  rw [dedupL_eq_dedup]; exact List.dedup_eq_self.mpr h

/-- `len(set(ids)) == len(ids)` exactly when the ids are pairwise distinct -/
theorem dedupL_length_eq_iff {α : Type} [DecidableEq α] (l : List α) :
    (dedupL l).length = l.length ↔ l.Nodup := by
  rw [dedupL_eq_dedup]
  exact ⟨fun h => List.dedup_eq_self.mp ((List.dedup_sublist l).eq_of_length h),
    fun h => by rw [List.dedup_eq_self.mpr h]⟩

theorem sortL_perm {α : Type} [LabelOrd α] (l : List α) : (sortL l).Perm l :=
  List.mergeSort_perm l _

theorem mem_sortL {α : Type} [LabelOrd α] {a : α} {l : List α} : a ∈ sortL l ↔ a ∈ l :=
  (sortL_perm l).mem_iff

theorem nodup_sortL {α : Type} [LabelOrd α] {l : List α} : (sortL l).Nodup ↔ l.Nodup :=
  (sortL_perm l).nodup_iff

/-- As far as values go the sort is insertion sort, which the kernel evaluates; `List.mergeSort` is defined by
well-founded recursion and does not reduce.  (Two sorted permutations agree when the order is antisymmetric.) -/
theorem sortL_string (l : List String) : sortL l = l.insertionSort (· ≤ ·) :=
  List.mergeSort_eq_insertionSort (· ≤ ·) l

theorem sortL_nat (l : List Nat) : sortL l = l.insertionSort (· ≤ ·) :=
  List.mergeSort_eq_insertionSort (· ≤ ·) l

theorem Ival_of_VS {e : Elem K} (h : e.isIdealVS = true) : e.Ival = 0 := by
  cases e with
  | norton Z V => exact if_pos (of_decide_eq_true h)
  | thevenin Y I => exact absurd h Bool.false_ne_true

theorem not_cs_of_idealVS (e : Elem K) (h : e.isIdealVS = true) : e.isCS = false := by
  rw [Elem.isCS, Ival_of_VS h]; exact decide_eq_false fun h0 => h0 rfl

/-- what `Network.__post_init__` accepts, plus: no branch connects a node to itself.  The C01 theorems do not
need the third field (CC/Properties/C01SelfLoop.lean states them with `N.check = ok`); the statements of
C01–C06, C09–C12, C16 carry it. -/
structure Net.WF (N : Net L K) : Prop where
  ids_nodup : N.ids.Nodup
  zero_mem : N.zero ∈ N.nodeLabels
  no_self_loop : ∀ b ∈ N.branches, b.n1 ≠ b.n2

theorem Net.check_ok_iff (N : Net L K) :
    N.check = .ok () ↔ N.zero ∈ N.nodeLabels ∧ N.ids.Nodup := by
  unfold Net.check
  by_cases h1 : N.zero ∈ N.nodeLabels
  · simp only [h1, not_true_eq_false, if_false, true_and]
    have : N.branches.length = N.ids.length := by simp [Net.ids]
    by_cases h2 : (dedupL N.ids).length = N.branches.length
    · simp only [h2, ne_eq, not_true_eq_false, if_false, true_iff]
      exact (dedupL_length_eq_iff _).mp (this ▸ h2)
    · simp only [ne_eq, h2, not_false_eq_true, if_true, reduceCtorEq, false_iff]
      intro h; exact h2 (this ▸ (dedupL_length_eq_iff _).mpr h)
  · simp [h1]

theorem mem_nodeLabels (N : Net L K) (m : L) :
    m ∈ N.nodeLabels ↔ (N.branches = [] ∧ m = N.zero) ∨ (∃ b ∈ N.branches, b.n1 = m ∨ b.n2 = m) := by
  unfold Net.nodeLabels
  cases hb : N.branches with
  | nil => simp
  | cons b bs =>
    simp only [List.isEmpty_cons, Bool.false_eq_true, if_false, mem_sortL, mem_dedupL,
      List.mem_append, List.mem_map, reduceCtorEq, false_and, false_or]
    constructor
    · rintro (⟨c, hc, rfl⟩ | ⟨c, hc, rfl⟩)
      · exact ⟨c, hc, Or.inl rfl⟩
      · exact ⟨c, hc, Or.inr rfl⟩
    · rintro ⟨c, hc, (rfl | rfl)⟩
      · exact Or.inl ⟨c, hc, rfl⟩
      · exact Or.inr ⟨c, hc, rfl⟩

/-- `Net.WF` without the sort: the reference node is an end of some branch -/
theorem wf_iff (N : Net L K) : N.WF ↔ N.ids.Nodup ∧
    (N.branches = [] ∨ ∃ b ∈ N.branches, b.n1 = N.zero ∨ b.n2 = N.zero) ∧ ∀ b ∈ N.branches, b.n1 ≠ b.n2 := by
  refine ⟨fun h => ⟨h.ids_nodup, ?_, h.no_self_loop⟩, fun h => ⟨h.1, (mem_nodeLabels N _).mpr ?_, h.2.2⟩⟩
  · exact ((mem_nodeLabels N _).mp h.zero_mem).imp And.left id
  · exact h.2.1.imp (⟨·, rfl⟩) id

instance (N : Net L K) : Decidable N.WF := decidable_of_iff _ (wf_iff N).symm

theorem nodeLabels_nodup (N : Net L K) : N.nodeLabels.Nodup := by
  unfold Net.nodeLabels
  split
  · simp
  · exact nodup_sortL.mpr (nodup_dedupL _)

theorem nodeLabels_map (N : Net L K) (f : Branch L K → Branch L K)
    (h1 : ∀ b ∈ N.branches, (f b).n1 = b.n1) (h2 : ∀ b ∈ N.branches, (f b).n2 = b.n2) :
    (⟨N.branches.map f, N.zero⟩ : Net L K).nodeLabels = N.nodeLabels := by
  have e1 : (N.branches.map f).map (·.n1) = N.branches.map (·.n1) := by
    rw [List.map_map]; exact List.map_congr_left h1
  have e2 : (N.branches.map f).map (·.n2) = N.branches.map (·.n2) := by
    rw [List.map_map]; exact List.map_congr_left h2
  show (if (N.branches.map f).isEmpty then [N.zero]
    else sortL (dedupL ((N.branches.map f).map (·.n1) ++ (N.branches.map f).map (·.n2)))) = _
  rw [e1, e2, List.isEmpty_map]; rfl

theorem ids_map (N : Net L K) (f : Branch L K → Branch L K) (h : ∀ b ∈ N.branches, (f b).id = b.id) :
    (⟨N.branches.map f, N.zero⟩ : Net L K).ids = N.ids := by
  rw [Net.ids, List.map_map]; exact List.map_congr_left h

theorem Net.WF.of_map {N : Net L K} (wf : N.WF) (f : Branch L K → Branch L K)
    (hf : ∀ b ∈ N.branches, (f b).n1 = b.n1 ∧ (f b).n2 = b.n2 ∧ (f b).id = b.id) :
    (⟨N.branches.map f, N.zero⟩ : Net L K).WF := by
  refine ⟨?_, ?_, ?_⟩
  · rw [ids_map N f fun b hb => (hf b hb).2.2]; exact wf.ids_nodup
  · rw [nodeLabels_map N f (fun b hb => (hf b hb).1) (fun b hb => (hf b hb).2.1)]
    exact wf.zero_mem
  · intro c hc
    obtain ⟨b, hb, rfl⟩ := List.mem_map.mp hc
    rw [(hf b hb).1, (hf b hb).2.1]
    exact wf.no_self_loop b hb

theorem n1_mem_labels (N : Net L K) {b : Branch L K} (hb : b ∈ N.branches) : b.n1 ∈ N.nodeLabels :=
  (mem_nodeLabels N _).mpr (Or.inr ⟨b, hb, Or.inl rfl⟩)

theorem n2_mem_labels (N : Net L K) {b : Branch L K} (hb : b ∈ N.branches) : b.n2 ∈ N.nodeLabels :=
  (mem_nodeLabels N _).mpr (Or.inr ⟨b, hb, Or.inr rfl⟩)

theorem mem_nodes_iff (N : Net L K) (m : L) :
    m ∈ N.nodes ↔ m ∈ N.nodeLabels ∧ m ≠ N.zero := by
  simp [Net.nodes]

theorem ne_zero_of_mem_nodes {N : Net L K} {n : L} (h : n ∈ N.nodes) : n ≠ N.zero :=
  ((mem_nodes_iff N n).mp h).2

theorem zero_not_mem_nodes (N : Net L K) : N.zero ∉ N.nodes := fun h => ne_zero_of_mem_nodes h rfl

theorem nodes_nodup (N : Net L K) : N.nodes.Nodup :=
  (nodeLabels_nodup N).filter _

omit [LabelOrd L] in
theorem mem_allLabels (N : Net L K) (m : L) :
    m ∈ N.allLabels ↔ m = N.zero ∨ ∃ b ∈ N.branches, b.n1 = m ∨ b.n2 = m := by
  unfold Net.allLabels
  simp only [List.mem_cons, List.mem_append, List.mem_map]
  refine or_congr_right ⟨?_, ?_⟩
  · rintro (⟨c, hc, rfl⟩ | ⟨c, hc, rfl⟩)
    exacts [⟨c, hc, Or.inl rfl⟩, ⟨c, hc, Or.inr rfl⟩]
  · rintro ⟨c, hc, (rfl | rfl)⟩
    exacts [Or.inl ⟨c, hc, rfl⟩, Or.inr ⟨c, hc, rfl⟩]

omit [LabelOrd L] in
theorem zero_mem_allLabels (N : Net L K) : N.zero ∈ N.allLabels := List.mem_cons_self

/-- the labels the Spec quantifies over are exactly the code's `node_labels` -/
theorem mem_allLabels_iff (N : Net L K) (hz : N.zero ∈ N.nodeLabels) (m : L) :
    m ∈ N.allLabels ↔ m ∈ N.nodeLabels := by
  rw [mem_allLabels, mem_nodeLabels]
  constructor
  · rintro (rfl | h)
    exacts [(mem_nodeLabels N _).mp hz, Or.inr h]
  · rintro (⟨_, rfl⟩ | h)
    exacts [Or.inl rfl, Or.inr h]

omit [LabelOrd L] in
theorem find?_reverse_of_nodup {l : List (Branch L K)} (h : (l.map (·.id)).Nodup)
    {b : Branch L K} (hb : b ∈ l) : l.reverse.find? (·.id = b.id) = some b := by
  obtain ⟨i, hi⟩ := List.getElem?_of_mem (List.mem_reverse.mpr hb)
  refine find?_of_pairwise (α := Branch L K) (R := fun x y => x.id ≠ y.id) (p := fun x => decide (x.id = b.id))
    (decide_eq_true rfl) (fun c hc => decide_eq_false hc) ?_ hi
  rw [List.pairwise_reverse]
  exact (List.pairwise_map.mp h).imp Ne.symm

/-- branch lookup by identifier in a plain list (last one wins, as `network[id]`) -/
def findId (bs : List (Branch L K)) (id : String) : Option (Branch L K) :=
  bs.reverse.find? (·.id = id)

omit [LabelOrd L] in
theorem findId_of_mem {bs : List (Branch L K)} (h : (bs.map (·.id)).Nodup) {b : Branch L K}
    (hb : b ∈ bs) : findId bs b.id = some b :=
  find?_reverse_of_nodup h hb

theorem get?_of_mem (N : Net L K) (h : N.ids.Nodup) {b : Branch L K} (hb : b ∈ N.branches) :
    N.get? b.id = some b :=
  find?_reverse_of_nodup h hb

theorem get?_some_mem (N : Net L K) {id : String} {b : Branch L K} (h : N.get? id = some b) :
    b ∈ N.branches ∧ b.id = id := by
  unfold Net.get? at h
  have h1 := List.mem_of_find?_eq_some h
  have h2 := List.find?_some h
  exact ⟨List.mem_reverse.mp h1, by simpa using h2⟩

theorem get?_none (N : Net L K) (id : String) (h : id ∉ N.ids) : N.get? id = none :=
  Option.eq_none_iff_forall_ne_some.2 fun _ hb =>
    h ((get?_some_mem N hb).2 ▸ List.mem_map_of_mem (get?_some_mem N hb).1)

omit [DecidableEq L] [LabelOrd L] [Field K] [DecidableEq K] in
theorem mem_sorted_filter_ids (N : Net L K) (p : Branch L K → Bool) (id : String) :
    id ∈ sortL ((N.branches.filter p).map (·.id)) ↔ ∃ b ∈ N.branches, p b = true ∧ b.id = id := by
  simp only [mem_sortL, List.mem_map, List.mem_filter, and_assoc]

omit [DecidableEq L] [LabelOrd L] [Field K] [DecidableEq K] in
theorem sorted_filter_ids_subset (N : Net L K) (p : Branch L K → Bool) {id : String}
    (h : id ∈ sortL ((N.branches.filter p).map (·.id))) : id ∈ N.ids :=
  let ⟨_, hb, _, e⟩ := (mem_sorted_filter_ids N p id).mp h
  e ▸ List.mem_map_of_mem hb

theorem filter_ids_nodup (N : Net L K) (h : N.ids.Nodup) (p : Branch L K → Bool) :
    ((N.branches.filter p).map (·.id)).Nodup :=
  List.Nodup.sublist ((List.filter_sublist).map _) h

theorem vsIds_nodup (N : Net L K) (h : N.ids.Nodup) : N.vsIds.Nodup :=
  nodup_sortL.mpr (filter_ids_nodup N h _)

theorem csIds_nodup (N : Net L K) (h : N.ids.Nodup) : N.csIds.Nodup :=
  nodup_sortL.mpr (filter_ids_nodup N h _)

theorem csIds_not_vsIds (N : Net L K) (h : N.ids.Nodup) {id : String} (hc : id ∈ N.csIds) : id ∉ N.vsIds := by
  intro hv
  obtain ⟨b, hbm, h1, rfl⟩ := (mem_sorted_filter_ids N _ _).mp hc
  obtain ⟨b', hbm', h2, he⟩ := (mem_sorted_filter_ids N _ _).mp hv
  cases List.inj_on_of_nodup_map h hbm' hbm he
  rw [not_cs_of_idealVS _ h2] at h1
  cases h1

theorem byIds_map_id (N : Net L K) (h : N.ids.Nodup) (l : List (Branch L K))
    (hl : ∀ b ∈ l, b ∈ N.branches) : N.byIds (l.map (·.id)) = l := by
  rw [Net.byIds, List.filterMap_map]
  exact (List.filterMap_congr fun b hb => get?_of_mem N h (hl b hb)).trans List.filterMap_some

theorem byIds_ids (N : Net L K) (h : N.ids.Nodup) (ids : List String) (hall : ∀ id ∈ ids, id ∈ N.ids) :
    (N.byIds ids).map (·.id) = ids := by
  rw [Net.byIds, List.map_filterMap]
  refine (List.filterMap_congr fun id hid => ?_).trans List.filterMap_some
  obtain ⟨b, hb, rfl⟩ := List.mem_map.mp (hall id hid)
  rw [get?_of_mem N h hb]; rfl

theorem byIds_sort_perm (N : Net L K) (h : N.ids.Nodup) (l : List (Branch L K))
    (hl : ∀ b ∈ l, b ∈ N.branches) : (N.byIds (sortL (l.map (·.id)))).Perm l :=
  ((sortL_perm _).filterMap _).trans (.of_eq (byIds_map_id N h l hl))

theorem vsSorted_perm (N : Net L K) (h : N.ids.Nodup) : N.vsSorted.Perm N.vs :=
  byIds_sort_perm N h N.vs (fun _ hb => (List.mem_filter.mp hb).1)

theorem csSorted_perm (N : Net L K) (h : N.ids.Nodup) : N.csSorted.Perm N.cs :=
  byIds_sort_perm N h N.cs (fun _ hb => (List.mem_filter.mp hb).1)

theorem mem_vsSorted (N : Net L K) (h : N.ids.Nodup) {b : Branch L K} :
    b ∈ N.vsSorted ↔ b ∈ N.branches ∧ b.e.isIdealVS = true :=
  (vsSorted_perm N h).mem_iff.trans List.mem_filter

theorem mem_csSorted (N : Net L K) (h : N.ids.Nodup) {b : Branch L K} :
    b ∈ N.csSorted ↔ b ∈ N.branches ∧ b.e.isCS = true :=
  (csSorted_perm N h).mem_iff.trans List.mem_filter

theorem vsSorted_ids (N : Net L K) (h : N.ids.Nodup) : N.vsSorted.map (·.id) = N.vsIds :=
  byIds_ids N h _ fun _ => sorted_filter_ids_subset N _

theorem csSorted_ids (N : Net L K) (h : N.ids.Nodup) : N.csSorted.map (·.id) = N.csIds :=
  byIds_ids N h _ fun _ => sorted_filter_ids_subset N _

theorem vsSorted_length (N : Net L K) (h : N.ids.Nodup) : N.vsSorted.length = N.vsIds.length := by
  rw [← vsSorted_ids N h, List.length_map]

theorem idxOf?_cons_ne {α : Type} [DecidableEq α] {a b : α} (l : List α) (h : b ≠ a) :
    idxOf? a (b :: l) = (idxOf? a l).map (· + 1) := by
  simp [idxOf?, h]

theorem idxOf?_eq {α : Type} [DecidableEq α] (a : α) (l : List α) :
    idxOf? a l = if a ∈ l then some (l.idxOf a) else none := by
  induction l with
  | nil => rfl
  | cons b l ih =>
    by_cases hb : b = a
    · simp [idxOf?, hb]
    · have hab : a ≠ b := fun e => hb e.symm
      rw [idxOf?, if_neg hb, ih, List.idxOf_cons_ne _ hb]
      by_cases h : a ∈ l <;> simp [h, hab]

theorem idxOf?_some {α : Type} [DecidableEq α] {a : α} {l : List α} {k : Nat} (h : idxOf? a l = some k) :
    a ∈ l ∧ k < l.length ∧ l[k]? = some a := by
  rw [idxOf?_eq] at h
  split at h
  · next hm => cases h; exact ⟨hm, List.idxOf_lt_length_iff.mpr hm, List.getElem?_idxOf hm⟩
  · cases h

theorem mem_of_idx {α : Type} [DecidableEq α] {a : α} {l : List α} {k : Nat} (h : idxOf? a l = some k) : a ∈ l :=
  (idxOf?_some h).1

theorem idxOf?_lt_length {α : Type} [DecidableEq α] {a : α} {l : List α} {k : Nat}
    (h : idxOf? a l = some k) : k < l.length :=
  (idxOf?_some h).2.1

theorem idxOf?_of_mem {α : Type} [DecidableEq α] {a : α} {l : List α} (h : a ∈ l) :
    ∃ k, idxOf? a l = some k ∧ k < l.length ∧ l[k]? = some a :=
  ⟨l.idxOf a, by rw [idxOf?_eq, if_pos h], List.idxOf_lt_length_iff.mpr h, List.getElem?_idxOf h⟩

theorem idxOf?_getElem {α : Type} [DecidableEq α] (l : List α) (hl : l.Nodup) (k : Nat) (hk : k < l.length) :
    idxOf? l[k] l = some k := by
  rw [idxOf?_eq, if_pos (List.getElem_mem hk), hl.idxOf_getElem k hk]

theorem idxOf?_none_of_not_mem {α : Type} [DecidableEq α] {a : α} {l : List α} (h : a ∉ l) :
    idxOf? a l = none := by rw [idxOf?_eq, if_neg h]

theorem not_mem_of_idx_none {α : Type} [DecidableEq α] {a : α} {l : List α} (h : idxOf? a l = none) : a ∉ l := by
  intro hm; rw [idxOf?_eq, if_pos hm] at h; cases h

theorem idxOf?_isSome_of_mem {α : Type} [DecidableEq α] {a : α} {l : List α} (h : a ∈ l) :
    (idxOf? a l).isSome := by
  rw [idxOf?_eq, if_pos h]; rfl

theorem filterMap_idx_map_length {α : Type} [DecidableEq α] (l src : List α) (h : ∀ a ∈ l, a ∈ src) (f : Nat → Nat) :
    (l.filterMap fun a => (idxOf? a src).map f).length = l.length :=
  List.filterMap_length_eq_length.mpr fun a ha => by rw [Option.isSome_map]; exact idxOf?_isSome_of_mem (h a ha)

theorem filterMap_idx_length {α : Type} [DecidableEq α] (l src : List α) (h : ∀ a ∈ l, a ∈ src) :
    (l.filterMap fun a => idxOf? a src).length = l.length :=
  List.filterMap_length_eq_length.mpr fun a ha => idxOf?_isSome_of_mem (h a ha)

theorem idxOf?_append_left {α : Type} [DecidableEq α] {a : α} {l1 : List α} (l2 : List α) (h : a ∈ l1) :
    idxOf? a (l1 ++ l2) = idxOf? a l1 := by
  rw [idxOf?_eq, idxOf?_eq, if_pos h, if_pos (List.mem_append_left _ h), List.idxOf_append, if_pos h]

theorem idxOf?_append_right {α : Type} [DecidableEq α] {a : α} {l1 : List α} (l2 : List α) (h : a ∉ l1) :
    idxOf? a (l1 ++ l2) = (idxOf? a l2).map (l1.length + ·) := by
  simp only [idxOf?_eq, List.mem_append, h, false_or, List.idxOf_append, if_false]
  split <;> simp [Nat.add_comm]

theorem getElem?_idx_of_key {α β : Type} [DecidableEq β] (f : α → β) (l : List α) (hl : (l.map f).Nodup)
    {a : α} (ha : a ∈ l) : l[(idxOf? (f a) (l.map f)).getD 0]? = some a := by
  induction l with
  | nil => cases ha
  | cons b l ih =>
    have hnd : f b ∉ l.map f ∧ (l.map f).Nodup := List.nodup_cons.mp (by rw [List.map_cons] at hl; exact hl)
    rcases List.mem_cons.mp ha with rfl | ha'
    · simp only [List.map_cons, idxOf?, ↓reduceIte, Option.getD_some, List.getElem?_cons_zero]
    · have hne : ¬ f b = f a := fun e => hnd.1 (e ▸ List.mem_map_of_mem ha')
      obtain ⟨k, hk, _, _⟩ := idxOf?_of_mem (List.mem_map_of_mem (f := f) ha')
      have := ih hnd.2 ha'
      rw [hk] at this
      simp only [List.map_cons, idxOf?, hne, ↓reduceIte, hk, Option.map_some, Option.getD_some,
        List.getElem?_cons_succ]
      simpa using this

end CC
