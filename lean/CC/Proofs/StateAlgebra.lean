/-
  The matrix algebra behind C10 / C11 / C12, over Mathlib's `Matrix` and an arbitrary field.

  `n` indexes the unknowns of the nodal system (node potentials, then currents of ideal
  voltage sources and inductors), `p` the states, `q` the inputs.  `ssT … ssD` are the formulas of
  `Network/NodalAnalysis/state_space_model.py:48-54`.  Its two `np.linalg.inv` calls enter only as
  the hypotheses `Ã·Ainv = 1` (`inv_A_tilde`) and `(DQᵀ·Ainv·DQ)·S = 1` (`sorted_A_tilde`),
  `invLambda` as `Λ·Λ⁻¹ = 1`; besides these only the symmetry of `Ã` is used for C10 / C12.  The C11 lemmas
  (`lyapunov_form`, `lyapunov`, `eig_re_nonpos`) add `Wᵀ = W`, `W·Λ⁻¹ = J`, `Jn·DQ = −DQ·J`, the non-negative
  signed form `0 ≤ yᵀ(Jn Ã)y` and, for the eigenvalues, positive definiteness of `W`.
-/
import Mathlib.LinearAlgebra.Matrix.NonsingularInverse
import Mathlib.Algebra.Order.Field.Basic
import Mathlib.Algebra.Order.BigOperators.Ring.Finset
import Mathlib.Tactic.Ring
import Mathlib.Tactic.LinearCombination
import Mathlib.Tactic.Linarith

set_option linter.unusedSectionVars false

namespace CC.StateAlg
open Matrix

variable {K : Type} [Field K]
variable {n p q : Type} [Fintype n] [Fintype p] [Fintype q] [DecidableEq n] [DecidableEq p] [DecidableEq q]

/-- `transformed_inv_A_tilde` -/
def ssT (DQ : Matrix n p K) (Ainv : Matrix n n K) : Matrix p n K := DQᵀ * Ainv
/-- `A = invLambda @ sorted_A_tilde` -/
def ssA (Li S : Matrix p p K) : Matrix p p K := Li * S
/-- `C = transformed_inv_A_tilde.T @ sorted_A_tilde` -/
def ssC (DQ : Matrix n p K) (Ainv : Matrix n n K) (S : Matrix p p K) : Matrix n p K := (ssT DQ Ainv)ᵀ * S
/-- `B = (-invLambda @ C.T) @ QS` -/
def ssB (DQ : Matrix n p K) (QS : Matrix n q K) (Ainv : Matrix n n K) (Li S : Matrix p p K) : Matrix p q K :=
  (-(Li * (ssC DQ Ainv S)ᵀ)) * QS
/-- `D = (inv_A_tilde - transformed_inv_A_tilde.T @ C.T) @ QS` -/
def ssD (DQ : Matrix n p K) (QS : Matrix n q K) (Ainv : Matrix n n K) (S : Matrix p p K) : Matrix n q K :=
  (Ainv - (ssT DQ Ainv)ᵀ * (ssC DQ Ainv S)ᵀ) * QS

section core
variable {At Ainv : Matrix n n K} {DQ : Matrix n p K} {QS : Matrix n q K} {L Li S : Matrix p p K}

section closed
variable (hA : At * Ainv = 1) (hs : Atᵀ = At)
include hA hs

theorem Ainv_symm : Ainvᵀ = Ainv := by
  have h1 : Ainvᵀ * At = 1 := by
    have := congrArg Matrix.transpose hA
    rwa [transpose_mul, hs, transpose_one] at this
  calc Ainvᵀ = Ainvᵀ * (At * Ainv) := by rw [hA, Matrix.mul_one]
    _ = (Ainvᵀ * At) * Ainv := (Matrix.mul_assoc _ _ _).symm
    _ = Ainv := by rw [h1, Matrix.one_mul]

theorem M_symm : (DQᵀ * Ainv * DQ)ᵀ = DQᵀ * Ainv * DQ := by
  rw [transpose_mul, transpose_mul, transpose_transpose, Ainv_symm hA hs, Matrix.mul_assoc]

theorem ssTt_eq : (ssT DQ Ainv)ᵀ = Ainv * DQ := by
  rw [ssT, transpose_mul, transpose_transpose, Ainv_symm hA hs]

theorem ssC_eq : ssC DQ Ainv S = Ainv * (DQ * S) := by
  rw [ssC, ssTt_eq hA hs, Matrix.mul_assoc]

theorem At_C : At * ssC DQ Ainv S = DQ * S := by
  rw [ssC_eq hA hs, ← Matrix.mul_assoc, hA, Matrix.one_mul]

variable (hS : (DQᵀ * Ainv * DQ) * S = 1)
include hS

theorem S_symm : Sᵀ = S :=
  Ainv_symm hS (M_symm hA hs)

theorem ssCt_eq : (ssC DQ Ainv S)ᵀ = S * ssT DQ Ainv := by
  rw [ssC, transpose_mul, transpose_transpose, S_symm hA hs hS]

theorem ssD_eq : ssD DQ QS Ainv S = (Ainv - ssC DQ Ainv S * ssT DQ Ainv) * QS := by
  rw [ssD, ssCt_eq hA hs hS, ← Matrix.mul_assoc, ← ssC]

theorem DQt_C : DQᵀ * ssC DQ Ainv S = 1 := by
  rw [ssC_eq hA hs, ← Matrix.mul_assoc, ← Matrix.mul_assoc, hS]

theorem DQt_D : DQᵀ * ssD DQ QS Ainv S = 0 := by
  rw [ssD_eq hA hs hS, ← Matrix.mul_assoc, Matrix.mul_sub, ← Matrix.mul_assoc, DQt_C hA hs hS, Matrix.one_mul,
    ← ssT, sub_self, Matrix.zero_mul]

variable (hL : L * Li = 1)
include hL

theorem L_ssB : L * ssB DQ QS Ainv Li S = -(S * ssT DQ Ainv * QS) := by
  rw [ssB, ssCt_eq hA hs hS, ← Matrix.mul_assoc, Matrix.mul_neg, ← Matrix.mul_assoc, hL, Matrix.one_mul,
    Matrix.neg_mul]

theorem At_D : At * ssD DQ QS Ainv S = QS + DQ * (L * ssB DQ QS Ainv Li S) := by
  rw [ssD_eq hA hs hS, L_ssB hA hs hS hL, ← Matrix.mul_assoc, Matrix.mul_sub, hA, ← Matrix.mul_assoc, At_C hA hs,
    Matrix.sub_mul, Matrix.one_mul, Matrix.mul_neg, ← sub_eq_add_neg, Matrix.mul_assoc, Matrix.mul_assoc,
    Matrix.mul_assoc]

end closed

/-- **The per-sample system.**  For every state `x` and input `u` (no differential equation is
assumed): the output vector `y = C x + D u` satisfies the nodal equations with the reactive
elements replaced by sources of strength `Λ ẋ`, `ẋ := A x + B u`, and the state is read back
from `y` by `DQᵀ`. -/
theorem sample_system (hA : At * Ainv = 1) (hs : Atᵀ = At) (hS : (DQᵀ * Ainv * DQ) * S = 1)
    (hL : L * Li = 1) (x : p → K) (u : q → K) :
    At *ᵥ (ssC DQ Ainv S *ᵥ x + ssD DQ QS Ainv S *ᵥ u)
        = QS *ᵥ u + DQ *ᵥ (L *ᵥ (ssA Li S *ᵥ x + ssB DQ QS Ainv Li S *ᵥ u))
    ∧ DQᵀ *ᵥ (ssC DQ Ainv S *ᵥ x + ssD DQ QS Ainv S *ᵥ u) = x := by
  constructor
  · have hLA : L *ᵥ ssA Li S *ᵥ x = S *ᵥ x := by
      rw [mulVec_mulVec, ssA, ← Matrix.mul_assoc, hL, Matrix.one_mul]
    rw [mulVec_add, mulVec_mulVec, mulVec_mulVec, At_C hA hs, At_D hA hs hS hL, add_mulVec,
      mulVec_add, mulVec_add, ← mulVec_mulVec, ← mulVec_mulVec, ← mulVec_mulVec, hLA]
    abel
  · rw [mulVec_add, mulVec_mulVec, mulVec_mulVec, DQt_C hA hs hS, DQt_D hA hs hS, one_mulVec,
      zero_mulVec, add_zero]

theorem augmented_iff_sample (y r : n → K) (s : K) :
    (At - s • (DQ * L * DQᵀ)) *ᵥ y = r ↔ At *ᵥ y = r + DQ *ᵥ (L *ᵥ (s • (DQᵀ *ᵥ y))) := by
  rw [sub_mulVec, smul_mulVec, ← mulVec_mulVec, ← mulVec_mulVec, mulVec_smul, mulVec_smul, sub_eq_iff_eq_add]

theorem dc_of_sample {y : n → K} {xdot : p → K} {r : n → K} (hA : At * Ainv = 1)
    (h1 : At *ᵥ y = r + DQ *ᵥ (L *ᵥ xdot)) (hx : xdot = 0) : y = Ainv *ᵥ r := by
  rw [hx, mulVec_zero, mulVec_zero, add_zero] at h1
  rw [← h1, mulVec_mulVec, mul_eq_one_comm.mp hA, one_mulVec]

/-- **C10, realisation.**  If `s·x = A x + B u` (i.e. `x = (s − A)⁻¹ B u`) then `y = C x + D u`
solves the augmented nodal system at complex frequency `s`, and `x = DQᵀ y`. -/
theorem realisation (hA : At * Ainv = 1) (hs : Atᵀ = At) (hS : (DQᵀ * Ainv * DQ) * S = 1)
    (hL : L * Li = 1) (s : K) (x : p → K) (u : q → K)
    (hx : s • x = ssA Li S *ᵥ x + ssB DQ QS Ainv Li S *ᵥ u) :
    (At - s • (DQ * L * DQᵀ)) *ᵥ (ssC DQ Ainv S *ᵥ x + ssD DQ QS Ainv S *ᵥ u) = QS *ᵥ u
    ∧ DQᵀ *ᵥ (ssC DQ Ainv S *ᵥ x + ssD DQ QS Ainv S *ᵥ u) = x := by
  obtain ⟨h1, h2⟩ := sample_system (QS := QS) hA hs hS hL x u
  exact ⟨(augmented_iff_sample _ _ s).mpr (by rw [h2, hx]; exact h1), h2⟩

/-- **C10, DC gain / C12, settling.**  When `A x + B u = 0` the outputs are the DC solution
`Ãinv·(QS u)` of the nodal system. -/
theorem dc_gain (hA : At * Ainv = 1) (hs : Atᵀ = At) (hS : (DQᵀ * Ainv * DQ) * S = 1)
    (hL : L * Li = 1) (x : p → K) (u : q → K)
    (hx : ssA Li S *ᵥ x + ssB DQ QS Ainv Li S *ᵥ u = 0) :
    ssC DQ Ainv S *ᵥ x + ssD DQ QS Ainv S *ᵥ u = Ainv *ᵥ (QS *ᵥ u) :=
  dc_of_sample hA (sample_system (QS := QS) hA hs hS hL x u).1 hx

end core

section passivity
variable {At Ainv Jn : Matrix n n K} {DQ : Matrix n p K} {Li S W J : Matrix p p K}

theorem lyap_split (A P : Matrix p p K) (x : p → K) :
    x ⬝ᵥ (P * A + Aᵀ * P) *ᵥ x = (A *ᵥ x) ⬝ᵥ P *ᵥ x + x ⬝ᵥ P *ᵥ (A *ᵥ x) := by
  rw [add_mulVec, dotProduct_add, ← mulVec_mulVec, ← mulVec_mulVec, dotProduct_mulVec x Aᵀ,
    vecMul_transpose, add_comm]

theorem dot_mulVec_comm (hW : Wᵀ = W) (x y : p → K) : x ⬝ᵥ W *ᵥ y = y ⬝ᵥ W *ᵥ x := by
  rw [dotProduct_mulVec, ← mulVec_transpose, hW, dotProduct_comm]

theorem lyap_symm (A : Matrix p p K) (hW : Wᵀ = W) (x : p → K) :
    x ⬝ᵥ (W * A + Aᵀ * W) *ᵥ x = 2 * (x ⬝ᵥ W *ᵥ (A *ᵥ x)) := by
  rw [lyap_split, dot_mulVec_comm hW, two_mul]

/-- `ha`, `hb`: the eigenpair `λ = α + jβ`, `v = a + jb` of `A` in real form; the `β` terms cancel as `W` is symmetric -/
theorem eigenpair_rate (A : Matrix p p K) (hW : Wᵀ = W) (α β : K) (a b : p → K)
    (ha : A *ᵥ a = α • a - β • b) (hb : A *ᵥ b = β • a + α • b) :
    a ⬝ᵥ W *ᵥ (A *ᵥ a) + b ⬝ᵥ W *ᵥ (A *ᵥ b) = α * (a ⬝ᵥ W *ᵥ a + b ⬝ᵥ W *ᵥ b) := by
  simp only [ha, hb, mulVec_sub, mulVec_add, mulVec_smul, dotProduct_sub, dotProduct_add, dotProduct_smul, smul_eq_mul,
    dot_mulVec_comm hW b a]
  ring

theorem dot_diagonal_mulVec (w x : p → K) : x ⬝ᵥ diagonal w *ᵥ x = ∑ k, w k * x k ^ 2 :=
  Finset.sum_congr rfl fun k _ => by rw [mulVec_diagonal, pow_two, mul_left_comm]

/-- `xᵀ(W A + Aᵀ W)x = −2·yᵀ(Jn Ã)y` with `y = C x`: the Lyapunov form is minus twice the form
of the signed nodal matrix, which for a circuit is the power dissipated in the resistors.
`Jn` is the signature (+1 on node rows, −1 on voltage-source rows), `J = W Λ⁻¹` the signature
(−1 on capacitor states, +1 on inductor states); `Jn·DQ = −DQ·J` says that capacitor columns of
`DQ` live in node rows and inductor columns in voltage-source rows. -/
theorem lyapunov_form (hA : At * Ainv = 1) (hs : Atᵀ = At) (hS : (DQᵀ * Ainv * DQ) * S = 1)
    (hW : Wᵀ = W) (hWJ : W * Li = J) (hJn : Jn * DQ = -(DQ * J)) (x : p → K) :
    x ⬝ᵥ (W * ssA Li S + (ssA Li S)ᵀ * W) *ᵥ x
      = -2 * ((ssC DQ Ainv S *ᵥ x) ⬝ᵥ (Jn * At) *ᵥ (ssC DQ Ainv S *ᵥ x)) := by
  -- both sides are `2·xᵀ J (S x)`: on the left `W·A = J·S`, on the right `Ã y = DQ (S x)` and `DQᵀ y = x`
  have hAy : At *ᵥ (ssC DQ Ainv S *ᵥ x) = DQ *ᵥ (S *ᵥ x) := by
    rw [mulVec_mulVec, At_C hA hs, ← mulVec_mulVec]
  have hDy : DQᵀ *ᵥ (ssC DQ Ainv S *ᵥ x) = x := by
    rw [mulVec_mulVec, DQt_C hA hs hS, one_mulVec]
  have hl : W *ᵥ (ssA Li S *ᵥ x) = J *ᵥ (S *ᵥ x) := by
    rw [ssA, ← mulVec_mulVec, mulVec_mulVec _ W, hWJ]
  rw [lyap_symm _ hW, hl, ← mulVec_mulVec _ Jn, hAy, mulVec_mulVec _ Jn, hJn, neg_mulVec, dotProduct_neg,
    ← mulVec_mulVec _ DQ, dotProduct_mulVec _ DQ, ← mulVec_transpose, hDy, mul_neg, neg_mul, neg_neg]

end passivity

section ordered
variable {F : Type} [Field F] [LinearOrder F] [IsStrictOrderedRing F]
variable {At Ainv Jn : Matrix n n F} {DQ : Matrix n p F} {Li S W J : Matrix p p F}

/-- **C11, Lyapunov inequality**: `xᵀ(W A + Aᵀ W)x ≤ 0` whenever the signed nodal form is
non-negative (the resistive network dissipates). -/
theorem lyapunov (hA : At * Ainv = 1) (hs : Atᵀ = At) (hS : (DQᵀ * Ainv * DQ) * S = 1)
    (hW : Wᵀ = W) (hWJ : W * Li = J) (hJn : Jn * DQ = -(DQ * J))
    (hpass : ∀ y : n → F, 0 ≤ y ⬝ᵥ (Jn * At) *ᵥ y) (x : p → F) :
    x ⬝ᵥ (W * ssA Li S + (ssA Li S)ᵀ * W) *ᵥ x ≤ 0 := by
  rw [lyapunov_form hA hs hS hW hWJ hJn x, neg_mul]
  exact neg_nonpos.mpr (mul_nonneg zero_le_two (hpass _))

theorem quad_diag_pos (w : p → F) (hw : ∀ i, 0 < w i) {a : p → F} (ha : a ≠ 0) :
    0 < a ⬝ᵥ diagonal w *ᵥ a := by
  obtain ⟨i, hi⟩ := Function.ne_iff.mp ha
  rw [dot_diagonal_mulVec]
  exact Finset.sum_pos' (fun k _ => mul_nonneg (hw k).le (sq_nonneg _))
    ⟨i, Finset.mem_univ i, mul_pos (hw i) (sq_pos_iff.mpr hi)⟩

/-- **C11, eigenvalues**: a (complex) eigenpair `λ = α + jβ`, `v = a + jb` of `A`, written in real
form, has `α ≤ 0` when the Lyapunov inequality holds for a symmetric positive definite `W`. -/
theorem eig_re_nonpos (A : Matrix p p F) (hW : Wᵀ = W) (hpd : ∀ x : p → F, x ≠ 0 → 0 < x ⬝ᵥ W *ᵥ x)
    (hlyap : ∀ x : p → F, x ⬝ᵥ (W * A + Aᵀ * W) *ᵥ x ≤ 0)
    (α β : F) (a b : p → F) (hab : a ≠ 0 ∨ b ≠ 0)
    (ha : A *ᵥ a = α • a - β • b) (hb : A *ᵥ b = β • a + α • b) : α ≤ 0 := by
  have hnn : ∀ x : p → F, 0 ≤ x ⬝ᵥ W *ᵥ x := fun x => by
    rcases eq_or_ne x 0 with rfl | hx
    · rw [zero_dotProduct]
    · exact (hpd x hx).le
  have hpos : 0 < a ⬝ᵥ W *ᵥ a + b ⬝ᵥ W *ᵥ b :=
    hab.elim (fun h => add_pos_of_pos_of_nonneg (hpd a h) (hnn b))
      (fun h => add_pos_of_nonneg_of_pos (hnn a) (hpd b h))
  have hrate : ∀ x : p → F, x ⬝ᵥ W *ᵥ (A *ᵥ x) ≤ 0 := fun x =>
    nonpos_of_mul_nonpos_right (lyap_symm A hW x ▸ hlyap x) two_pos
  exact nonpos_of_mul_nonpos_left (eigenpair_rate A hW α β a b ha hb ▸ add_nonpos (hrate a) (hrate b)) hpos

end ordered

end CC.StateAlg
