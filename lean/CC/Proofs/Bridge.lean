/-
  CC.Proofs.Bridge — from the list-shaped matrix equation `matVec mnaA x = mnaB` that the
  code builds (and the driver evaluates) to the label-indexed row equations.  At the end the single entries of the
  matrix by position (`get_mnaA`: `Y` for two node indices, the source direction for a node and a voltage-source
  index, 0 otherwise) and its symmetry (`get_mnaA_symm`), for the proofs that take the matrix apart by blocks.
-/
import CC.Proofs.KCL
import CC.Model.StateSpace

namespace CC
variable {L K : Type} [DecidableEq L] [LabelOrd L] [Field K] [DecidableEq K]

omit [DecidableEq K] in
theorem map_getD_idx {α : Type} [DecidableEq α] (l : List α) (hl : l.Nodup) (x : List K) (off : Nat)
    (hx : off + l.length ≤ x.length) :
    l.map (fun a => x.getD (off + (idxOf? a l).getD 0) 0) = (x.drop off).take l.length := by
  apply List.ext_getElem
  · simp; omega
  · intro k h1 h2
    simp only [List.length_map] at h1
    simp only [List.getElem_map, idxOf?_getElem l hl k h1, Option.getD_some, List.getElem_take, List.getElem_drop]
    rw [List.getD_eq_getElem?_getD, List.getElem?_eq_getElem (by omega), Option.getD_some]

/-- the label-indexed reading of a solution vector -/
def Net.solOf (N : Net L K) (x : List K) : Sol L K where
  phi := fun n => x.getD ((idxOf? n N.nodes).getD 0) 0
  ivs := fun id => x.getD (N.nodes.length + (idxOf? id N.vsIds).getD 0) 0

theorem pack_solOf (N : Net L K) (h : N.ids.Nodup) (x : List K)
    (hx : x.length = N.nodes.length + N.vsIds.length) :
    x = N.nodes.map (N.solOf x).phi ++ N.vsSorted.map (fun b => (N.solOf x).ivs b.id) := by
  have h1 := map_getD_idx N.nodes (nodes_nodup N) x 0 (by omega)
  have h2 := map_getD_idx N.vsIds (vsIds_nodup N h) x N.nodes.length (by omega)
  rw [List.take_of_length_le (by simp; omega)] at h2
  simp only [Nat.zero_add, List.drop_zero] at h1
  have e : N.vsSorted.map (fun b => (N.solOf x).ivs b.id) = N.vsIds.map (N.solOf x).ivs := by
    rw [← vsSorted_ids N h, List.map_map]; rfl
  rw [e]
  exact (List.take_append_drop _ x).symm.trans (congrArg₂ _ h1.symm h2.symm)

/-- packing of a label-indexed solution into the code's vector layout -/
def Net.pack (N : Net L K) (s : Sol L K) : List K :=
  N.nodes.map s.phi ++ N.vsSorted.map (fun b => s.ivs b.id)

theorem pack_length (N : Net L K) (h : N.ids.Nodup) (s : Sol L K) :
    (N.pack s).length = N.nodes.length + N.vsIds.length := by
  simp [Net.pack, vsSorted_length N h]

theorem matVec_pack_rows (N : Net L K) (s : Sol L K) :
    matVec N.mnaA (N.pack s) = N.nodes.map (N.rowNode s) ++ N.vsSorted.map (N.rowVS s) := by
  have hrowN : ∀ i, dotL ((N.nodes.map fun j => N.Yentry i j) ++ (N.vsSorted.map fun b => b.dir i)) (N.pack s)
      = N.rowNode s i := by
    intro i
    unfold Net.pack
    rw [dotL_append _ _ _ _ (by simp), dotL_map_map, dotL_map_map]
    rfl
  have hrowV : ∀ b : Branch L K, dotL ((N.nodes.map fun j => b.dir j) ++ (N.vsSorted.map fun _ => (0 : K))) (N.pack s)
      = N.rowVS s b := by
    intro b
    unfold Net.pack
    rw [dotL_append _ _ _ _ (by simp), dotL_map_map, dotL_zeros]
    simp [Net.rowVS]
  unfold matVec Net.mnaA
  rw [List.map_append, List.map_map, List.map_map]
  congr 1
  · exact List.map_congr_left fun n _ => hrowN n
  · exact List.map_congr_left fun b _ => hrowV b

theorem matVec_pack_iff (N : Net L K) (s : Sol L K) :
    matVec N.mnaA (N.pack s) = N.mnaB ↔
      (∀ n ∈ N.nodes, N.rowNode s n = N.rhsNode n) ∧
      (∀ b ∈ N.vsSorted, N.rowVS s b = b.e.Vval) := by
  rw [matVec_pack_rows, Net.mnaB]
  constructor
  · intro heq
    obtain ⟨e1, e2⟩ := List.append_inj heq (by simp)
    exact ⟨List.map_inj_left.mp e1, List.map_inj_left.mp e2⟩
  · rintro ⟨r1, r2⟩
    rw [List.map_congr_left r1, List.map_congr_left r2]

/-- **Bridge.**  The list-shaped matrix equation holds iff every node row and every
voltage-source row holds for the label-indexed reading of the vector. -/
theorem matVec_iff_rows (N : Net L K) (h : N.ids.Nodup) (x : List K)
    (hx : x.length = N.nodes.length + N.vsIds.length) :
    matVec N.mnaA x = N.mnaB ↔
      (∀ n ∈ N.nodes, N.rowNode (N.solOf x) n = N.rhsNode n) ∧
      (∀ b ∈ N.vsSorted, N.rowVS (N.solOf x) b = b.e.Vval) := by
  have hp : x = N.pack (N.solOf x) := pack_solOf N h x hx
  conv_lhs => rw [hp]
  exact matVec_pack_iff N (N.solOf x)

omit [DecidableEq K] in
theorem Mx.get_map_append {α : Type} (f : α → List K) (l : List α) (T : List (List K)) (i j : Nat) :
    Mx.get (l.map f ++ T) i j = match l[i]? with | some a => (f a).getD j 0 | none => Mx.get T (i - l.length) j := by
  unfold Mx.get; rw [getD_map_append]; cases l[i]? <;> rfl

theorem get_mnaA (N : Net L K) (i j : Nat) :
    Mx.get N.mnaA i j =
      match N.nodes[i]?, N.nodes[j]? with
      | some ni, some nj => N.Yentry ni nj
      | some ni, none => (match N.vsSorted[j - N.nodes.length]? with | some b => b.dir ni | none => 0)
      | none, some nj => (match N.vsSorted[i - N.nodes.length]? with | some b => b.dir nj | none => 0)
      | none, none => 0 := by
  unfold Net.mnaA
  rw [Mx.get_map_append]
  cases N.nodes[i]? with
  | some ni =>
    simp only [getD_map_append, getD_map]
    cases N.nodes[j]? with
    | some nj => rfl
    | none => cases N.vsSorted[j - N.nodes.length]? <;> rfl
  | none =>
    simp only [Mx.get, getD_map]
    cases N.vsSorted[i - N.nodes.length]? with
    | none => cases N.nodes[j]? <;> rfl
    | some b =>
      simp only [getD_map_append, getD_map]
      cases N.nodes[j]? with
      | some nj => rfl
      | none => cases N.vsSorted[j - N.nodes.length]? <;> rfl

theorem get_mnaA_symm (N : Net L K) (i j : Nat) : Mx.get N.mnaA i j = Mx.get N.mnaA j i := by
  rw [get_mnaA, get_mnaA]
  cases hi : N.nodes[i]? <;> cases hj : N.nodes[j]? <;> simp [Yentry_symm]

end CC
