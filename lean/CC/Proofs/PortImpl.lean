/-
  The system `open_circuit_impedance` solves on the re-referenced network `P` is `P`'s own MNA matrix against a unit
  vector; by soundness and completeness with injected currents (`sound_inj`, `complete_inj`, applied to the source-free
  network, which has the same matrix) its solutions are the operating points of the source-free branch list with the unit
  current fed in at the port node (`impl_rel`, `rel_impl`) — no probe network is assembled.
-/
import CC.Proofs.PortLemmas
import CC.Proofs.Solvable
import CC.Proofs.ExceptLemmas
import CC.Model.Port
set_option linter.unusedSectionVars false

namespace CC
variable {L K : Type} [DecidableEq L] [LabelOrd L] [Field K] [DecidableEq K]

theorem sortL_nil {α : Type} [LabelOrd α] : sortL ([] : List α) = [] := by simp [sortL]

theorem idxOf?_inj {α : Type} [DecidableEq α] {l : List α} {a b : α} {k : Nat}
    (ha : idxOf? a l = some k) (hb : idxOf? b l = some k) : a = b :=
  Option.some.inj ((idxOf?_some ha).2.2.symm.trans (idxOf?_some hb).2.2)

/-- the code's port, possibly swapped and on the second port node as reference, against the Spec's -/
theorem probe_swapped (N : Net L K) (pid : String) (hp : pid ∉ N.ids) {n1 n2 a g : L}
    (hag : (a = n1 ∧ g = n2) ∨ (a = n2 ∧ g = n1)) (z : K) :
    (∃ R : Report L K, CircuitEqs (probeNet N pid n1 n2 1) R ∧ R.pot n1 - R.pot n2 = z) ↔
      ∃ S : Report L K, CircuitEqs (probeNet { N with zero := g } pid a g 1) S ∧ S.pot a - S.pot g = z := by
  rw [probe_rel N pid hp, probe_rel { N with zero := g } pid hp]
  rcases hag with ⟨rfl, rfl⟩ | ⟨rfl, rfl⟩
  · exact ⟨fun h => h.reref _, fun h => h.reref _⟩
  · exact ⟨fun h => h.flip.reref _, fun h => h.flip.reref _⟩

theorem unitVec_split (nodes : List L) (hn : nodes.Nodup) {β : Type} (vs : List β) (i : Nat)
    (hi : i < nodes.length) :
    (unitVec (nodes.length + vs.length) i : List K)
      = (nodes.map fun n => if idxOf? n nodes = some i then (1 : K) else 0) ++ vs.map fun _ => (0 : K) := by
  apply List.ext_getElem
  · simp [unitVec]
  · intro k h1 h2
    simp only [unitVec, List.getElem_map, List.getElem_range]
    by_cases hk : k < nodes.length
    · rw [List.getElem_append_left (by simpa using hk)]
      simp only [List.getElem_map]
      rw [idxOf?_getElem nodes hn k hk]
      by_cases e : k = i <;> simp [e]
    · rw [List.getElem_append_right (by simpa using hk)]
      have : k ≠ i := by omega
      simp [this]

theorem sum_injAB_nodes (N : Net L K) {a : L} (ha : a ∈ N.nodes) :
    injAB a N.zero (1 : K) N.zero + (N.nodes.map (injAB a N.zero (1 : K))).sum = 0 := by
  have hz := zero_not_mem_nodes N
  have haz : a ≠ N.zero := ne_zero_of_mem_nodes ha
  have e : ∀ n, injAB a N.zero (1 : K) n = (if n = a then 1 else 0) - (if n = N.zero then 1 else 0) := fun n => by
    simp only [injAB, eq_comm]
  rw [List.map_congr_left fun n _ => e n, e, sum_map_sub', sum_single (nodes_nodup N), sum_single (nodes_nodup N),
    if_pos ha, if_neg hz, if_neg haz.symm, if_pos rfl]
  ring

theorem unit_row_injAB {P : Net L K} {a : L} {i : Nat} (hai : idxOf? a P.nodes = some i) {n : L} (hn : n ∈ P.nodes) :
    (if idxOf? n P.nodes = some i then (1 : K) else 0) = injAB a P.zero 1 n := by
  have hnz : P.zero ≠ n := (ne_zero_of_mem_nodes hn).symm
  by_cases e : a = n
  · subst e; simp only [injAB, hai, if_true, if_neg hnz, sub_zero]
  · have : idxOf? n P.nodes ≠ some i := fun h => e (idxOf?_inj hai h)
    simp only [injAB, this, e, hnz, if_false, sub_zero]

theorem vsSorted_zs_Vval {P : Net L K} (hids : P.zeroSources.ids.Nodup) {b : Branch L K}
    (hb : b ∈ P.zeroSources.vsSorted) : b.e.Vval = 0 := by
  obtain ⟨c, _, rfl⟩ := List.mem_map.mp ((mem_vsSorted _ hids).mp hb).1
  exact zs_Vval c.e

theorem impl_rel (P : Net L K) (a : L) (hids : P.ids.Nodup) (hz : P.zero ∈ P.nodeLabels) (i : Nat)
    (hai : idxOf? a P.nodes = some i) (x : List K) (hx : x.length = P.nodes.length + P.vsIds.length)
    (hsol : matVec P.mnaA x = unitVec (P.nodes.length + P.vsIds.length) i) :
    PortRel (zs P.branches) P.zero a P.zero (x.getD i 0) 1 := by
  have ha := (idxOf?_some hai).1
  obtain ⟨haL, haz⟩ := (mem_nodes_iff P a).mp ha
  have hidsN : P.zeroSources.ids.Nodup := (zs_ids P).symm ▸ hids
  have hxN : x.length = P.zeroSources.nodes.length + P.zeroSources.vsIds.length := by rw [zs_nodes, zs_vsIds]; exact hx
  have hrows := matVec_pack_rows P.zeroSources (P.zeroSources.solOf x)
  rw [show P.zeroSources.pack (P.zeroSources.solOf x) = x from (pack_solOf _ hidsN x hxN).symm, zs_mnaA, hsol,
    ← zs_vsIds, ← vsSorted_length _ hidsN, zs_nodes,
    unitVec_split P.nodes (nodes_nodup P) _ i (idxOf?_some hai).2.1] at hrows
  obtain ⟨r1, r2⟩ := List.append_inj hrows (by simp)
  refine ⟨P.zeroSources.reportOf x, sound_inj _ x hidsN _ (fun n hn => ?_)
    (fun b hb => ?_) (by rw [zs_nodes]; exact sum_injAB_nodes P ha) (fun n hn => ?_), ?_⟩
  · rw [zs_nodes] at hn
    rw [← List.map_inj_left.mp r1 n hn, zs_rhsNode, zero_add, unit_row_injAB hai hn]
  · rw [← List.map_inj_left.mp r2 b hb, vsSorted_zs_Vval hidsN hb]
  · rw [zs_nodeLabels] at hn
    simp only [injAB, show a ≠ n from fun e => hn (e ▸ haL), show P.zero ≠ n from fun e => hn (e ▸ hz), if_false,
      sub_zero]
  · show P.zeroSources.pot _ a - P.zeroSources.pot _ P.zero = _
    simp only [Net.pot, show P.zeroSources.zero = P.zero from rfl, haz, if_false, if_true, sub_zero, Net.solOf, zs_nodes,
      hai, Option.getD_some]

theorem rel_impl (P : Net L K) (a : L) (hids : P.ids.Nodup) (i : Nat) (hai : idxOf? a P.nodes = some i)
    (R : Report L K) (hR : EqsInj (zs P.branches) P.zero R (injAB a P.zero 1)) :
    matVec P.mnaA (P.pack R.toSol) = unitVec (P.nodes.length + P.vsSorted.length) i := by
  have hidsN : P.zeroSources.ids.Nodup := (zs_ids P).symm ▸ hids
  obtain ⟨rowsN, rowsV⟩ := complete_inj P.zeroSources R hidsN _ hR
  have hvs : P.vsSorted.length = P.zeroSources.vsSorted.length := by
    rw [vsSorted_length _ hidsN, vsSorted_length _ hids, zs_vsIds]
  rw [zs_nodes] at rowsN
  rw [← zs_mnaA, ← zs_pack, matVec_pack_rows, zs_nodes, hvs,
    unitVec_split P.nodes (nodes_nodup P) P.zeroSources.vsSorted i (idxOf?_some hai).2.1]
  congr 1
  · exact List.map_congr_left fun n hn => by rw [rowsN n hn, zs_rhsNode, zero_add, unit_row_injAB hai hn]
  · exact List.map_congr_left fun b hb => by rw [rowsV b hb, vsSorted_zs_Vval hidsN hb]

theorem solveOK_none : SolveOK (fun (_ : List (List K)) (_ : List K) => (none : Option (List K))) :=
  fun _ _ _ h => nomatch h

theorem solveOK_entry {A0 : List (List K)} {b0 x0 : List K} {rest : List (List K) → List K → Option (List K)}
    (hlen : x0.length = b0.length) (hsol : matVec A0 x0 = b0) (hrest : SolveOK rest) :
    SolveOK (fun A b => if A = A0 ∧ b = b0 then some x0 else rest A b) := by
  intro A b x h
  beta_reduce at h
  split at h
  · next hc => obtain ⟨rfl, rfl⟩ := hc; cases h; exact ⟨hlen, hsol⟩
  · exact hrest A b x h

theorem mnaA_length (N : Net L K) : N.mnaA.length = N.nodes.length + N.vsSorted.length :=
  (C01_square N).1

theorem mnaA_row_length (N : Net L K) : ∀ r ∈ N.mnaA, r.length = N.nodes.length + N.vsSorted.length :=
  (C01_square N).2

theorem keepMask_length (n : Nat) (A : List (List K)) : (keepMask n A).length = n := by
  simp [keepMask]

theorem portSys_ok {P : Net L K} {a : L} {r : PortPre L K} (h : P.portSys a = .ok r) :
    ∃ keep A i, idxOf? a P.nodes = some i ∧ keep = keepMask P.mnaA.length P.mnaA ∧ A = subMatrix keep P.mnaA ∧
      countBefore keep i < A.length ∧
      r = .sys P keep A (unitVec A.length (countBefore keep i)) (countBefore keep i) := by
  unfold Net.portSys at h
  cases hi : idxOf? a P.nodes with
  | none => rw [hi] at h; cases h
  | some i =>
    simp only [hi] at h
    split at h
    · next hlt => exact ⟨_, _, i, rfl, rfl, rfl, hlt, (Except.ok.inj h).symm⟩
    · cases h

theorem portPre_unfold {N : Net L K} {n1 n2 : L} (h12 : n1 ≠ n2)
    (hany : ¬ (N.branchesBetween n1 n2).any (·.e.isIdealVS) = true) :
    N.portPre n1 n2 =
      match N.isolated (if n1 = N.zero then n2 else n1) (if n1 = N.zero then n1 else n2) with
      | .error e => .error e
      | .ok true => .ok .infinite
      | .ok false =>
        match N.isolated (if n1 = N.zero then n1 else n2) (if n1 = N.zero then n2 else n1) with
        | .error e => .error e
        | .ok true => .ok .infinite
        | .ok false =>
          match N.switchGround (if n1 = N.zero then n1 else n2) with
          | .error e => .error e
          | .ok N' => N'.portSys (if n1 = N.zero then n2 else n1) := by
  unfold Net.portPre
  simp only [h12, if_false, hany, Bool.false_eq_true]
  rfl

theorem switchGround_ok {N N' : Net L K} {g : L} (h : N.switchGround g = .ok N') :
    N' = { N with zero := g } ∧ N'.check = .ok () := by
  obtain ⟨⟨⟩, hc, h⟩ := bind_eq_ok.mp h
  cases h
  exact ⟨rfl, hc⟩

/-! The hypotheses of the lemmas down to `portPre_eval_nat` are shaped so that on a concrete network each is closed by
evaluation once `nodes` and `mnaA` of the re-referenced network are known. -/

/-- the kernel does not evaluate `List.mergeSort`: the caller supplies the sorted list `l'`, and on a concrete network
both hypotheses are decidable -/
theorem nodeLabels_nat_eq (bs : List (Branch Nat K)) (g : Nat) {l' : List Nat} (hne : bs ≠ [])
    (hp : (dedupL (bs.map (·.n1) ++ bs.map (·.n2))).Perm l') (hs : l'.Pairwise (· ≤ ·)) :
    (⟨bs, g⟩ : Net Nat K).nodeLabels = l' := by
  have hsorted : ∀ l : List Nat, (sortL l).Pairwise (· ≤ ·) := fun l => by
    have := List.pairwise_mergeSort (le := fun a b : Nat => decide (a ≤ b))
      (fun a b c h1 h2 => by simp only [decide_eq_true_eq] at *; omega)
      (fun a b => by simp only [Bool.or_eq_true, decide_eq_true_eq]; omega) l
    simpa [sortL, LabelOrd.le] using this
  rw [Net.nodeLabels, if_neg (by simpa using hne)]
  exact ((sortL_perm _).trans hp).eq_of_pairwise (fun a b _ _ h1 h2 => Nat.le_antisymm h1 h2) (hsorted _) hs

theorem check_of_labels {N : Net L K} {l : List L} (hl : N.nodeLabels = l) (hz : N.zero ∈ l)
    (hids : N.ids.Nodup) : N.check = .ok () :=
  (Net.check_ok_iff N).mpr ⟨hl ▸ hz, hids⟩

theorem nodes_of_labels {N : Net L K} {l : List L} (hl : N.nodeLabels = l) :
    N.nodes = l.filter (· ≠ N.zero) := by
  rw [Net.nodes, hl]

theorem switchGround_of_check {N : Net L K} {g : L} (hc : ({ N with zero := g } : Net L K).check = .ok ()) :
    N.switchGround g = .ok { N with zero := g } := by
  simp only [Net.switchGround, hc, bind, Except.bind, pure, Except.pure]

theorem isolated_eq {N : Net L K} {a g : L} {i : Nat} {ns : List L} {M : List (List K)} {b : Bool}
    (hc : ({ N with zero := g } : Net L K).check = .ok ())
    (hn : ({ N with zero := g } : Net L K).nodes = ns) (hm : ({ N with zero := g } : Net L K).mnaA = M)
    (hi : idxOf? a ns = some i) (hb : colZero M i = b) : N.isolated a g = .ok b := by
  subst hn hm hb
  simp only [Net.isolated, switchGround_of_check hc, hi]

theorem isolated_ok_check {N : Net L K} {a g : L} {b : Bool} (h : N.isolated a g = .ok b) :
    ({ N with zero := g } : Net L K).check = .ok () := by
  unfold Net.isolated at h
  cases hs : N.switchGround g with
  | error e => rw [hs] at h; cases h
  | ok Ng => obtain ⟨rfl, hc⟩ := switchGround_ok hs; exact hc

theorem portSys_eq {P : Net L K} {a : L} {i : Nat} {ns : List L} {M A : List (List K)} {keep : List Bool}
    (hn : P.nodes = ns) (hm : P.mnaA = M) (hi : idxOf? a ns = some i)
    (hk : keepMask M.length M = keep) (hA : subMatrix keep M = A) (hlt : countBefore keep i < A.length) :
    P.portSys a = .ok (.sys P keep A (unitVec A.length (countBefore keep i)) (countBefore keep i)) := by
  subst hn hm hk hA
  simp only [Net.portSys, hi, if_pos hlt]

theorem portPre_eq {N : Net L K} {n1 n2 a g : L} (h12 : n1 ≠ n2)
    (hany : ¬ (N.branchesBetween n1 n2).any (·.e.isIdealVS) = true)
    (ha : a = if n1 = N.zero then n2 else n1) (hg : g = if n1 = N.zero then n1 else n2)
    (h1 : N.isolated a g = .ok false) (h2 : N.isolated g a = .ok false) :
    N.portPre n1 n2 = ({ N with zero := g } : Net L K).portSys a := by
  subst ha hg
  rw [portPre_unfold h12 hany, h1, h2, switchGround_of_check (isolated_ok_check h1)]

theorem portPre_eq_infinite {N : Net L K} {n1 n2 a g : L} (h12 : n1 ≠ n2)
    (hany : ¬ (N.branchesBetween n1 n2).any (·.e.isIdealVS) = true)
    (ha : a = if n1 = N.zero then n2 else n1) (hg : g = if n1 = N.zero then n1 else n2)
    (h : N.isolated a g = .ok true ∨ (N.isolated a g = .ok false ∧ N.isolated g a = .ok true)) :
    N.portPre n1 n2 = .ok .infinite := by
  subst ha hg
  rw [portPre_unfold h12 hany]
  rcases h with h | ⟨h1, h2⟩
  · rw [h]
  · rw [h1, h2]

theorem swap_cases (n1 n2 z : L) :
    ((if n1 = z then n2 else n1) = n1 ∧ (if n1 = z then n1 else n2) = n2) ∨
      ((if n1 = z then n2 else n1) = n2 ∧ (if n1 = z then n1 else n2) = n1) := by
  by_cases h : n1 = z
  · exact Or.inr ⟨if_pos h, if_pos h⟩
  · exact Or.inl ⟨if_neg h, if_neg h⟩

/-- `mnaA` with the list of unknown nodes as an argument (`mnaA` itself reads it through `sortL`, which the kernel
does not evaluate) -/
def Net.mnaAOn (N : Net L K) (ns : List L) : List (List K) :=
  (ns.map fun i => (ns.map fun j => N.Yentry i j) ++ (N.vsSorted.map fun b => b.dir i))
  ++ (N.vsSorted.map fun b => (ns.map fun j => b.dir j) ++ (N.vsSorted.map fun _ => (0 : K)))

theorem portPre_eval_nat (N : Net Nat K) {n1 n2 a g i j : Nat} {l : List Nat} {keep : List Bool}
    {A : List (List K)} (hne : N.branches ≠ [])
    (hp : (dedupL (N.branches.map (·.n1) ++ N.branches.map (·.n2))).Perm l) (hs : l.Pairwise (· ≤ ·))
    (hids : N.ids.Nodup) (h12 : n1 ≠ n2) (hany : ¬ (N.branchesBetween n1 n2).any (·.e.isIdealVS) = true)
    (ha : a = if n1 = N.zero then n2 else n1) (hg : g = if n1 = N.zero then n1 else n2)
    (hal : a ∈ l) (hgl : g ∈ l)
    (hi : idxOf? a (l.filter (· ≠ g)) = some i) (hj : idxOf? g (l.filter (· ≠ a)) = some j)
    (hzi : colZero ((⟨N.branches, g⟩ : Net Nat K).mnaAOn (l.filter (· ≠ g))) i = false)
    (hzj : colZero ((⟨N.branches, a⟩ : Net Nat K).mnaAOn (l.filter (· ≠ a))) j = false)
    (hk : keepMask ((⟨N.branches, g⟩ : Net Nat K).mnaAOn (l.filter (· ≠ g))).length
      ((⟨N.branches, g⟩ : Net Nat K).mnaAOn (l.filter (· ≠ g))) = keep)
    (hA : subMatrix keep ((⟨N.branches, g⟩ : Net Nat K).mnaAOn (l.filter (· ≠ g))) = A)
    (hlt : countBefore keep i < A.length) :
    N.portPre n1 n2
      = .ok (.sys ⟨N.branches, g⟩ keep A (unitVec A.length (countBefore keep i)) (countBefore keep i)) := by
  have hl := fun z => nodeLabels_nat_eq (K := K) N.branches z hne hp hs
  have hn := fun z => nodes_of_labels (hl z)
  have hm : ∀ z, (⟨N.branches, z⟩ : Net Nat K).mnaA = (⟨N.branches, z⟩ : Net Nat K).mnaAOn (l.filter (· ≠ z)) :=
    fun z => by rw [← hn z]; rfl
  exact (portPre_eq h12 hany ha hg
      (isolated_eq (check_of_labels (hl g) hgl hids) (hn g) (hm g) hi hzi)
      (isolated_eq (check_of_labels (hl a) hal hids) (hn a) (hm a) hj hzj)).trans
    (portSys_eq (hn g) (hm g) hi hk hA hlt)

theorem portPre_ok {N : Net L K} {n1 n2 : L} {r : PortPre L K} (h : N.portPre n1 n2 = .ok r) :
    (N.portIsEarly n1 n2 = true ∧ r = .early) ∨
    (n1 ≠ n2 ∧ N.portIsEarly n1 n2 = false ∧
      ((N.isolated (if n1 = N.zero then n2 else n1) (if n1 = N.zero then n1 else n2) = .ok true ∧ r = .infinite) ∨
       (N.isolated (if n1 = N.zero then n1 else n2) (if n1 = N.zero then n2 else n1) = .ok true ∧ r = .infinite) ∨
       (N.isolated (if n1 = N.zero then n2 else n1) (if n1 = N.zero then n1 else n2) = .ok false ∧
        ({ N with zero := if n1 = N.zero then n1 else n2 } : Net L K).portSys (if n1 = N.zero then n2 else n1)
          = .ok r))) := by
  by_cases h12 : n1 = n2
  · left
    rw [Net.portPre, if_pos h12] at h
    exact ⟨by simp [Net.portIsEarly, h12], (Except.ok.inj h).symm⟩
  by_cases hany : (N.branchesBetween n1 n2).any (·.e.isIdealVS) = true
  · left
    rw [Net.portPre, if_neg h12, if_pos hany] at h
    exact ⟨by simp [Net.portIsEarly, hany], (Except.ok.inj h).symm⟩
  right
  refine ⟨h12, by simp [Net.portIsEarly, h12, hany], ?_⟩
  rw [portPre_unfold h12 hany] at h
  cases h1 : N.isolated (if n1 = N.zero then n2 else n1) (if n1 = N.zero then n1 else n2) with
  | error e => rw [h1] at h; cases h
  | ok b1 =>
    rw [h1] at h
    cases b1 with
    | true => exact Or.inl ⟨rfl, (Except.ok.inj h).symm⟩
    | false =>
      cases h2 : N.isolated (if n1 = N.zero then n1 else n2) (if n1 = N.zero then n2 else n1) with
      | error e => rw [h2] at h; cases h
      | ok b2 =>
        rw [h2] at h
        cases b2 with
        | true => exact Or.inr (Or.inl ⟨rfl, (Except.ok.inj h).symm⟩)
        | false =>
          rw [switchGround_of_check (isolated_ok_check h1)] at h
          exact Or.inr (Or.inr ⟨rfl, h⟩)

theorem isolated_ok {N : Net L K} {a g : L} {b : Bool} (h : N.isolated a g = .ok b) :
    ∃ i, idxOf? a ({ N with zero := g } : Net L K).nodes = some i ∧
      colZero ({ N with zero := g } : Net L K).mnaA i = b := by
  simp only [Net.isolated, switchGround_of_check (isolated_ok_check h)] at h
  cases hi : idxOf? a ({ N with zero := g } : Net L K).nodes with
  | none => rw [hi] at h; cases h
  | some i => rw [hi] at h; exact ⟨i, rfl, Except.ok.inj h⟩

theorem portPre_sys {N : Net L K} {n1 n2 : L} {N' : Net L K} {keep : List Bool} {A : List (List K)}
    {e : List K} {i1 : Nat} (h : N.portPre n1 n2 = .ok (.sys N' keep A e i1)) :
    n1 ≠ n2 ∧ N' = { N with zero := if n1 = N.zero then n1 else n2 } ∧ N'.check = .ok () ∧
      ∃ i, idxOf? (if n1 = N.zero then n2 else n1) N'.nodes = some i ∧ colZero N'.mnaA i = false ∧
        keep = keepMask N'.mnaA.length N'.mnaA ∧ A = subMatrix keep N'.mnaA ∧ i1 = countBefore keep i ∧
        e = unitVec A.length i1 ∧ i1 < A.length := by
  rcases portPre_ok h with ⟨_, hr⟩ | ⟨h12, _, ⟨_, hr⟩ | ⟨_, hr⟩ | ⟨h1, hs⟩⟩
  · cases hr
  · cases hr
  · cases hr
  · obtain ⟨_, _, i, hi, hk, hA, hlt, hr⟩ := portSys_ok hs
    cases hr
    obtain ⟨i', hi', hcol⟩ := isolated_ok h1
    cases hi.symm.trans hi'
    exact ⟨h12, rfl, isolated_ok_check h1, i, hi, hcol, hk, hA, rfl, rfl, hlt⟩

theorem portPre_early {N : Net L K} {n1 n2 : L} (h : N.portPre n1 n2 = .ok .early) :
    N.portIsEarly n1 n2 = true := by
  rcases portPre_ok h with ⟨he, _⟩ | ⟨_, _, ⟨_, hr⟩ | ⟨_, hr⟩ | ⟨_, hs⟩⟩
  · exact he
  · cases hr
  · cases hr
  · obtain ⟨_, _, _, _, _, _, _, hr⟩ := portSys_ok hs; cases hr

theorem portPre_infinite {N : Net L K} {n1 n2 : L} (h : N.portPre n1 n2 = .ok .infinite) :
    n1 ≠ n2 ∧ ∃ a g : L, ((a = n1 ∧ g = n2) ∨ (a = n2 ∧ g = n1)) ∧ N.isolated a g = .ok true := by
  rcases portPre_ok h with ⟨_, hr⟩ | ⟨h12, _, ⟨h1, _⟩ | ⟨h2, _⟩ | ⟨_, hs⟩⟩
  · cases hr
  · exact ⟨h12, _, _, swap_cases n1 n2 N.zero, h1⟩
  · exact ⟨h12, _, _, (swap_cases n1 n2 N.zero).symm.imp And.symm And.symm, h2⟩
  · obtain ⟨_, _, _, _, _, _, _, hr⟩ := portSys_ok hs; cases hr

theorem openCircuitImpedance_ok {N : Net L K} {solve : List (List K) → List K → Option (List K)}
    {n1 n2 : L} {z : K} (h : N.openCircuitImpedance solve n1 n2 = .ok z) :
    (N.portPre n1 n2 = .ok .early ∧ z = 0) ∨
      ∃ N' keep A e i1 x, N.portPre n1 n2 = .ok (.sys N' keep A e i1) ∧ solve A e = some x ∧
        x[i1]? = some z := by
  unfold Net.openCircuitImpedance at h
  cases hpre : N.portPre n1 n2 with
  | error e => rw [hpre] at h; cases h
  | ok pre =>
    rw [hpre] at h
    cases pre with
    | early => exact Or.inl ⟨rfl, (Except.ok.inj h).symm⟩
    | infinite => cases h
    | sys N' keep A e i1 =>
      simp only at h
      cases hs : solve A e with
      | none => rw [hs] at h; cases h
      | some x =>
        rw [hs] at h
        simp only at h
        cases hxi : x[i1]? with
        | none => rw [hxi] at h; cases h
        | some w => rw [hxi] at h; exact Or.inr ⟨_, _, _, _, _, x, rfl, hs, by rw [hxi, Except.ok.inj h]⟩

/-- `colZero P.mnaA i = false`: `isolated` has answered `False`, so the unknown of the port node `a` is not pruned -/
theorem openCircuitImpedance_sys {N : Net L K} {solve : List (List K) → List K → Option (List K)}
    {n1 n2 : L} {z : K} (hne : N.portIsEarly n1 n2 = false) (h : N.openCircuitImpedance solve n1 n2 = .ok z) :
    ∃ (a g : L) (i : Nat) (x : List K), ((a = n1 ∧ g = n2) ∨ (a = n2 ∧ g = n1)) ∧
      let P : Net L K := { N with zero := g }
      let keep := keepMask P.mnaA.length P.mnaA
      let A := subMatrix keep P.mnaA
      P.check = .ok () ∧ idxOf? a P.nodes = some i ∧ colZero P.mnaA i = false ∧
      N.portPre n1 n2 = .ok (.sys P keep A (unitVec A.length (countBefore keep i)) (countBefore keep i)) ∧
      solve A (unitVec A.length (countBefore keep i)) = some x ∧ x[countBefore keep i]? = some z := by
  rcases openCircuitImpedance_ok h with ⟨hpre, _⟩ | ⟨N', keep, A, e, i1, x, hpre, hs, hxi⟩
  · rw [portPre_early hpre] at hne; cases hne
  obtain ⟨_, rfl, hcheck, i, hidx, hcol, rfl, rfl, rfl, rfl, _⟩ := portPre_sys hpre
  exact ⟨_, _, i, x, swap_cases n1 n2 N.zero, hcheck, hidx, hcol, hpre, hs, hxi⟩

theorem mnaA_col_zero (N : Net L K) {k : Nat} {a : L} (hget : N.nodes[k]? = some a)
    (hcol : ∀ r ∈ N.mnaA, r.getD k 0 = 0) :
    (∀ m ∈ N.nodes, N.Yentry m a = 0) ∧ ∀ b ∈ N.vsSorted, b.dir a = 0 := by
  have key : ∀ (f : L → K) (t : List K), (N.nodes.map f ++ t).getD k 0 = f a := fun f t => by
    rw [getD_map_append, hget]
  exact ⟨fun m hm => by simpa only [key] using hcol _ (List.mem_append_left _ (List.mem_map.mpr ⟨m, hm, rfl⟩)),
    fun b hb => by simpa only [key] using hcol _ (List.mem_append_right _ (List.mem_map.mpr ⟨b, hb, rfl⟩))⟩

theorem rowNode_zero_of_colZero (P : Net L K) (a : L) (i : Nat)
    (hi : idxOf? a P.nodes = some i) (hc : colZero P.mnaA i = true) (s : Sol L K) :
    P.rowNode s a = 0 := by
  obtain ⟨hY, hB⟩ := mnaA_col_zero P (idxOf?_some hi).2.2
    (fun r hr => of_decide_eq_true (List.all_eq_true.mp hc r hr))
  unfold Net.rowNode
  rw [List.sum_eq_zero, List.sum_eq_zero, add_zero]
  · intro y hy
    obtain ⟨b, hb, rfl⟩ := List.mem_map.mp hy
    rw [hB b hb, zero_mul]
  · intro y hy
    obtain ⟨m, hm, rfl⟩ := List.mem_map.mp hy
    rw [Yentry_symm, hY m hm, zero_mul]

theorem isolated_no_solution (N : Net L K) (pid : String) (hids : N.ids.Nodup) (a g : L)
    (h : N.isolated a g = .ok true) (R : Report L K) :
    ¬ CircuitEqs (probeNet { N with zero := g } pid a g 1) R := by
  intro hR
  obtain ⟨i, hi, hcol⟩ := isolated_ok h
  set P : Net L K := { N with zero := g }
  have hidsN : P.zeroSources.ids.Nodup := (zs_ids P).symm ▸ hids
  have ha := (idxOf?_some hi).1
  -- the row of `a` of the unit-injection system reads `0 = 1`
  have := (complete_inj P.zeroSources R hidsN _ (probe_eqsInj hR)).1 a (by rw [zs_nodes]; exact ha)
  rw [rowNode_zero_of_colZero P.zeroSources a i (by rw [zs_nodes]; exact hi) (by rw [zs_mnaA]; exact hcol),
    zs_rhsNode, zero_add] at this
  have hga : g ≠ a := (ne_zero_of_mem_nodes ha).symm
  simp [injAB, hga] at this

end CC
