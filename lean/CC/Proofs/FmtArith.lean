/-
  CC.Proofs.FmtArith — arithmetic facts about the primitives of the formatting model
  (`pow10`, `qabs`) in Mathlib's vocabulary, and rounding (`CC.Proofs.Rhe`) at a decimal scale.
-/
import Mathlib.Data.Rat.Floor
import Mathlib.Algebra.Order.Floor.Ring
import Mathlib.Tactic.Linarith
import Mathlib.Tactic.Ring
import Mathlib.Tactic.FieldSimp
import Mathlib.Tactic.NormNum
import Mathlib.Tactic.Positivity
import CC.Model.FmtBase
import CC.Proofs.Rhe

namespace CC.Fmt

theorem floor_eq (x : ℚ) : x.floor = ⌊x⌋ := rfl

theorem pow10_eq_zpow (e : ℤ) : pow10 e = (10 : ℚ) ^ e := by
  unfold pow10
  split
  · rename_i h
    obtain ⟨n, rfl⟩ := Int.eq_ofNat_of_zero_le h
    simp
  · rename_i h
    have h' : e < 0 := by omega
    obtain ⟨n, hn⟩ := Int.exists_eq_neg_ofNat (le_of_lt h')
    subst hn
    simp

theorem pow10_pos (e : ℤ) : 0 < pow10 e := by
  rw [pow10_eq_zpow]; exact zpow_pos (by norm_num) e

theorem pow10_add (a b : ℤ) : pow10 (a + b) = pow10 a * pow10 b := by
  simp only [pow10_eq_zpow]; exact zpow_add₀ (by norm_num) a b

theorem pow10_sub (a b : ℤ) : pow10 (a - b) = pow10 a / pow10 b := by
  simp only [pow10_eq_zpow]; exact zpow_sub₀ (by norm_num) a b

theorem pow10_zero : pow10 0 = 1 := by simp [pow10_eq_zpow]

theorem pow10_natCast (n : ℕ) : pow10 (n : ℤ) = (10 : ℚ) ^ n := by simp [pow10_eq_zpow]

theorem pow10_le_pow10 {a b : ℤ} (h : a ≤ b) : pow10 a ≤ pow10 b := by
  simp only [pow10_eq_zpow]; exact zpow_le_zpow_right₀ (by norm_num) h

theorem pow10_lt_pow10 {a b : ℤ} (h : a < b) : pow10 a < pow10 b := by
  simp only [pow10_eq_zpow]; exact zpow_lt_zpow_right₀ (by norm_num) h

theorem lt_of_pow10_lt {a b : ℤ} (h : pow10 a < pow10 b) : a < b :=
  lt_of_not_ge fun hba => absurd (pow10_le_pow10 hba) (not_le.mpr h)

theorem qabs_pos {x : ℚ} (h : x ≠ 0) : 0 < qabs x := by rw [qabs_eq_abs]; exact abs_pos.mpr h

theorem qabs_qabs (v : ℚ) : qabs (qabs v) = qabs v := by rw [qabs_eq_abs, qabs_eq_abs, abs_abs]

theorem sign_mul_qabs (v : ℚ) : (if decide (v < 0) then -1 else 1) * qabs v = v := by
  rw [qabs_eq_abs]
  by_cases h : v < 0
  · rw [decide_eq_true h, if_pos rfl, abs_of_neg h]; ring
  · rw [decide_eq_false h, if_neg Bool.false_ne_true, abs_of_nonneg (not_lt.mp h), one_mul]

theorem pow10_neg (e : ℤ) : pow10 (-e) = (pow10 e)⁻¹ := by
  simp only [pow10_eq_zpow]; exact zpow_neg _ _

theorem pow10_succ (a : ℤ) : pow10 (a + 1) = 10 * pow10 a := by
  rw [pow10_add, mul_comm]; simp [pow10_eq_zpow]

theorem pow10_pred (a : ℤ) : pow10 (a - 1) = pow10 a / 10 := by
  rw [pow10_sub]; simp [pow10_eq_zpow]

theorem pow10_natCast' (n : ℕ) : pow10 (n : ℤ) = ((10 ^ n : ℕ) : ℚ) := by
  rw [pow10_natCast]; push_cast; rfl

theorem pow10_one : pow10 1 = 10 := by simp [pow10_eq_zpow]

theorem pow10_two : pow10 2 = 100 := by norm_num [pow10_eq_zpow]

theorem pow10_natCast_int (n : ℕ) : pow10 (n : ℤ) = (((10 ^ n : ℕ) : ℤ) : ℚ) := by
  rw [pow10_natCast]; push_cast; rfl

theorem pow10_one_le {a : ℤ} (h : 0 ≤ a) : 1 ≤ pow10 a := by
  have := pow10_le_pow10 h; rwa [pow10_zero] at this

theorem pow10_le_one {a : ℤ} (h : a ≤ 0) : pow10 a ≤ 1 := by
  have := pow10_le_pow10 h; rwa [pow10_zero] at this

theorem le_mul_pow10 {a : ℚ} {m s k : ℤ} (h : pow10 m ≤ a) (hk : m + s = k) : pow10 k ≤ a * pow10 s := by
  rw [← hk, pow10_add]; exact mul_le_mul_of_nonneg_right h (pow10_pos s).le

theorem mul_pow10_lt {a : ℚ} {m s k : ℤ} (h : a < pow10 m) (hk : m + s = k) : a * pow10 s < pow10 k := by
  rw [← hk, pow10_add]; exact mul_lt_mul_of_pos_right h (pow10_pos s)

theorem mul_pow10_le {a : ℚ} {m s k : ℤ} (h : a ≤ pow10 m) (hk : m + s = k) : a * pow10 s ≤ pow10 k := by
  rw [← hk, pow10_add]; exact mul_le_mul_of_nonneg_right h (pow10_pos s).le

theorem le_rhe_of_near_pow10 {a : ℚ} {m s : ℤ} {n : ℕ} (h : pow10 m - pow10 (-s) / 2 < a) (hn : m + s = n) :
    ((10 ^ n : ℕ) : ℤ) ≤ rhe (a * pow10 s) := by
  apply le_rhe_of_sub_half_lt
  have hs := pow10_pos s
  have := mul_lt_mul_of_pos_right h hs
  rw [sub_mul, ← pow10_add, hn, div_mul_eq_mul_div, ← pow10_add, neg_add_cancel, pow10_zero, pow10_natCast_int] at this
  exact this

theorem rhe_mul_pow10_le {a : ℚ} {m s : ℤ} {n : ℕ} (h : a < pow10 m) (hn : m + s = n) :
    rhe (a * pow10 s) ≤ ((10 ^ n : ℕ) : ℤ) :=
  rhe_le_of_le (by rw [← pow10_natCast_int]; exact (mul_pow10_lt h hn).le)

theorem rhe_mul_pow10_bounds {a : ℚ} {d s : ℤ} {n : ℕ} (h1 : pow10 d ≤ a) (h2 : a < pow10 (d + 1)) (hn : d + s = n) :
    ((10 ^ n : ℕ) : ℤ) ≤ rhe (a * pow10 s) ∧ rhe (a * pow10 s) ≤ ((10 ^ (n + 1) : ℕ) : ℤ) :=
  ⟨le_rhe_of_le (by rw [← pow10_natCast_int]; exact le_mul_pow10 h1 hn), rhe_mul_pow10_le h2 (by push_cast; omega)⟩

/-- within half a unit of the last digit kept below `10^m`, the digits round up to the power of ten -/
theorem rhe_eq_pow10_of_near {a : ℚ} {m s : ℤ} {n : ℕ} (h1 : pow10 m - pow10 (-s) / 2 < a) (h2 : a < pow10 m)
    (hn : m + s = n) : rhe (a * pow10 s) = ((10 ^ n : ℕ) : ℤ) :=
  le_antisymm (rhe_mul_pow10_le h2 hn) (le_rhe_of_near_pow10 h1 hn)

theorem sub_half_le_of_rhe_eq {a : ℚ} {s k m : ℤ} (h : ((rhe (a * pow10 s) : ℤ) : ℚ) = pow10 k) (hm : m + s = k) :
    pow10 m - pow10 (-s) / 2 ≤ a := by
  have h1 := (abs_le.mp (rhe_spec (a * pow10 s))).2
  rw [h, ← hm, pow10_add] at h1
  have hs := pow10_pos s
  have : (pow10 m - a) * pow10 s ≤ 1 / 2 := by linarith
  rw [← le_div_iff₀ hs] at this
  rw [pow10_neg]
  calc pow10 m - (pow10 s)⁻¹ / 2 = pow10 m - 1 / 2 / pow10 s := by ring
    _ ≤ a := by linarith

end CC.Fmt
