/-
  CC.Proofs.DrawInterp — the interpretive drawing model shape by shape.  Classes that differ only in names (the passive
  elements; the DC, complex, AC and rect / tri / saw sources) share one statement of what `construct` builds, for ANY keyword
  list that carries their values (`built_<shape>`, from `construct_reads`), and one of the component their translator returns
  (`comp_<shape>`), both over the names as variables.  That the generated tables have every class of a shape as the shape
  says (what it reads, its translator's call, its loader entry) is one evaluation by the kernel per shape (`<shape>_cert`).
-/
import CC.Proofs.DrawBasics
import CC.Model.DrawIO
import CC.Spec.DrawSymbols
import CC.Proofs.DrawTables
import CC.Proofs.DrawConstruct
import CC.Proofs.DrawIO
import CC.Proofs.GQField
import CC.Proofs.ExceptLemmas
import CC.Proofs.ListLemmas
namespace CC
open CC.Draw CC.Draw.SymSpec

theorem ctorValue_ok {c : CtorSpec} {args env value : List (String × Val)}
    (hk : args.any (fun kv => (c.params.lookup kv.1).isNone) = false)
    (he : c.params.mapM (fun (pd : String × Option Rat) =>
        (match args.lookup pd.1, pd.2 with
        | some v, _ => pure (pd.1, v)
        | none, some d => pure (pd.1, Val.num ⟨d, 0⟩)
        | none, none => throw Err.typeError : Except Err (String × Val))) = .ok env)
    (hg : ∀ g ∈ c.guards, ∃ v, env.lookup g = some v ∧ valNeg v = .ok false)
    (hle : ∀ g ∈ c.guardsLE, ∃ v, env.lookup g = some v ∧ valNonPos v = .ok false)
    (hw : ∀ p ∈ c.wavetypeChecks, ∃ t, env.lookup p = some (.str t) ∧ t ∈ Gen.knownWavetypes)
    (hv : c.values.mapM (fun (kv : String × CExpr) => do pure (kv.1, ← evalC env kv.2)) = .ok value) :
    ctorValue c args = .ok value := by
  unfold ctorValue
  simp only [hk, Bool.false_eq_true, ↓reduceIte]
  generalize hE : (List.mapM _ c.params : Except Err (List (String × Val))) = E
  rw [hE.symm.trans he, ok_bind]
  rw [forIn_yield, ok_bind, forIn_yield, ok_bind, forIn_yield, ok_bind, hv]
  · intro p hp; obtain ⟨t, e1, e2⟩ := hw p hp; simp only [e1, e2, ↓reduceIte]; rfl
  · intro g hm; obtain ⟨v, e1, e2⟩ := hle g hm; simp only [e1, e2, ok_bind, Bool.false_eq_true, ↓reduceIte]; rfl
  · intro g hm; obtain ⟨v, e1, e2⟩ := hg g hm; simp only [e1, e2, ok_bind, Bool.false_eq_true, ↓reduceIte]; rfl

theorem valNeg_num {z : GQ} (h : NonNeg z) : valNeg (.num z) = .ok false := by
  simp [valNeg, h.1, not_lt.mpr h.2, pure, Except.pure]

theorem valNeg_zero : valNeg (.num 0) = .ok false := valNeg_num ⟨rfl, le_refl _⟩

theorem valNonPos_num {z : GQ} (h : Pos z) : valNonPos (.num z) = .ok false := by
  simp [valNonPos, h.1, not_le.mpr h.2, pure, Except.pure]

section
variable {π : Rat} {s : Sym}

theorem evalV_attr {a : String} {v : Val} (h : s.attrs.lookup a = some v) : evalV π s (.attr a) = .ok v := by
  simp only [evalV, Sym.getAttr, h]; rfl

/-- `e if not reverse else -e` on a numeric attribute -/
theorem evalV_signed_attr {a : String} {z : GQ} (h : s.attrs.lookup a = some (.num z)) :
    evalV π s (.ifNotRev (.attr a) (.neg (.attr a))) = .ok (.num (if s.rev then -z else z)) := by
  cases hr : s.rev <;> simp [evalV, Sym.getAttr, h, hr, bind, Except.bind, pure, Except.pure]

theorem evalV_signedRe_attr {a : String} {z : GQ} (h : s.attrs.lookup a = some (.num z)) :
    evalV π s (.ifNotRev (.re (.attr a)) (.neg (.re (.attr a)))) =
      .ok (.num (if s.rev then -⟨z.re, 0⟩ else ⟨z.re, 0⟩)) := by
  cases hr : s.rev <;> simp [evalV, Sym.getAttr, h, hr, bind, Except.bind, pure, Except.pure]

/-- `a*pi/180 if flag else a` -/
theorem evalV_degConv {a flag : String} {z : GQ} {d : Bool} (hf : s.attrs.lookup flag = some (.bool d))
    (h : s.attrs.lookup a = some (.num z)) :
    evalV π s (.degConv a flag) = .ok (.num (if d then z * ⟨π, 0⟩ / 180 else z)) := by
  cases d <;> simp [evalV, Sym.getAttr, h, hf, truthy, bind, Except.bind, pure, Except.pure]

theorem evalArgs_nil : ([] : List (String × VExpr)).mapM (fun kv => do pure (kv.1, ← evalV π s kv.2)) = .ok [] := rfl

theorem evalArgs_cons {k : String} {e : VExpr} {v : Val} {rest : List (String × VExpr)} {vs : List (String × Val)}
    (h : evalV π s e = .ok v) (hr : rest.mapM (fun kv => do pure (kv.1, ← evalV π s kv.2)) = .ok vs) :
    ((k, e) :: rest).mapM (fun kv => do pure (kv.1, ← evalV π s kv.2)) = .ok ((k, v) :: vs) := by
  rw [List.mapM_cons, hr, h]; rfl

/-- the single unguarded constructor call by which a class is translated, with the constructor's signature -/
def ctorCase (cls : String) : Option (TrCase × CtorSpec) :=
  match Gen.translatorMap.lookup cls with
  | none => none
  | some f =>
    match Gen.translators.lookup f with
    | some [tc] =>
      match tc.guard, tc.ctor with
      | none, some cn => (Gen.ctors.find? (·.name = cn)).map (tc, ·)
      | _, _ => none
    | _ => none

theorem runCase_ctor {nodes ns : List String} {tc : TrCase} {cn : String} {spec : CtorSpec}
    {args value : List (String × Val)} (hc : tc.ctor = some cn) (hs : Gen.ctors.find? (·.name = cn) = some spec)
    (hn : nodeTuple tc.nodes s.rev nodes = .ok ns)
    (ha : tc.args.mapM (fun kv => do pure (kv.1, ← evalV π s kv.2)) = .ok args)
    (hv : ctorValue spec args = .ok value) :
    runCase π s nodes tc = .ok (some ⟨spec.kind, s.name, ns, value⟩) := by
  simp only [runCase, hc, hn, ha, hs, applyCtor, hv, ok_bind]
  rfl

theorem compOfSym_ctor {nodes ns : List String} {tc : TrCase} {spec : CtorSpec}
    {args value : List (String × Val)} (h : ctorCase s.cls = some (tc, spec))
    (hn : nodeTuple tc.nodes s.rev nodes = .ok ns)
    (ha : tc.args.mapM (fun kv => do pure (kv.1, ← evalV π s kv.2)) = .ok args)
    (hv : ctorValue spec args = .ok value) :
    compOfSym π s nodes = .ok (some ⟨spec.kind, s.name, ns, value⟩) := by
  unfold ctorCase at h
  unfold compOfSym
  split at h
  · cases h
  · rename_i f hm
    rw [hm]
    split at h
    · rename_i tc' ht
      simp only [ht]
      split at h
      · rename_i cn hg hc
        cases hs : Gen.ctors.find? (·.name = cn) with
        | none => rw [hs] at h; cases h
        | some spec' =>
          rw [hs] at h; cases h
          simp only [runCases, hg]
          exact runCase_ctor hc hs hn ha hv
      · cases h
    · cases h

/-- a translator of two calls, the first one under `if element.a == element.a.M:` -/
theorem compOfSym_guarded {nodes : List String} {f a m st : String} {tc1 tc2 : TrCase}
    (hm : Gen.translatorMap.lookup s.cls = some f) (ht : Gen.translators.lookup f = some [tc1, tc2])
    (hg1 : tc1.guard = some (a, m)) (hg2 : tc2.guard = none) (hst : s.attrs.lookup a = some (.str st)) :
    compOfSym π s nodes = runCase π s nodes (if st = m then tc1 else tc2) := by
  unfold compOfSym
  simp only [hm, ht, runCases, hg1, hg2, Sym.getAttr, hst]
  by_cases h : st = m <;> simp [h]

end

theorem forallMem_nil {p : String → Prop} : ∀ g ∈ ([] : List String), p g := fun _ h => nomatch h

theorem forallMem_cons {p : String → Prop} {a : String} {l : List String} (h : p a) (ht : ∀ g ∈ l, p g) :
    ∀ g ∈ a :: l, p g := List.forall_mem_cons.2 ⟨h, ht⟩

/-- the class negates the amplitude of a reversed source and the translator negates it back -/
theorem GQ.ite_neg_ite_neg (b : Bool) (z : GQ) :
    (if b then -(if b then -z else z) else (if b then -z else z)) = z := savedVal_eq neg_neg b z

theorem GQ.ite_neg_re (b : Bool) (z : GQ) :
    (if b then -(⟨(if b then -z else z).re, 0⟩ : GQ) else ⟨(if b then -z else z).re, 0⟩) = ⟨z.re, 0⟩ := by
  cases b
  · rfl
  · cases z; simp [GQ.neg_def]

theorem GQ.ite_neg_mk_re (b : Bool) (z : GQ) :
    (if b then -(⟨z.re, 0⟩ : GQ) else ⟨z.re, 0⟩) = ⟨(if b then -z else z).re, 0⟩ := by
  cases b
  · rfl
  · cases z; simp [GQ.neg_def]

/-! ### the translator tables are keyed

No two classes, translators or constructors of the generated tables share a name, so a row is found under its key whatever
stands before it: a look-up is a position (`rfl`), not a walk through string comparisons.

The callers write the position as a numeral (`ctorCase_at 18 18 14`, `translator_at 25`: below, in CC/Proofs/DrawRT.lean and
throughout CC/Properties/C13Symbols.lean), and the `rfl` behind it compares that row of the regenerated table with the class of
the statement.  A row inserted into or taken out of `circuit_translator_map`, the translators or the component constructors
of the package moves the rows after it: those proofs then fail at this `rfl` although their statements still hold, and are
mended by counting the rows of CC/Gen/DrawTables.lean again.  The certificates of the shape tables (`plain_cert` …
`periodic_cert`) find their rows by key and do not depend on positions. -/

theorem clsKeys_distinct : Gen.translatorMap.Pairwise (fun a b : String × String => a.1 ≠ b.1) := by decide +kernel
theorem translatorKeys_distinct : Gen.translators.Pairwise (fun a b : String × List TrCase => a.1 ≠ b.1) := by decide +kernel
theorem ctorNames_distinct : Gen.ctors.Pairwise (fun a b : CtorSpec => a.name ≠ b.name) := by decide +kernel

theorem translator_at (i : Nat) {cls f : String} (h : Gen.translatorMap[i]? = some (cls, f)) :
    Gen.translatorMap.lookup cls = some f := lookup_of_pairwise clsKeys_distinct h

theorem cases_at (j : Nat) {f : String} {cs : List TrCase} (h : Gen.translators[j]? = some (f, cs)) :
    Gen.translators.lookup f = some cs := lookup_of_pairwise translatorKeys_distinct h

theorem ctor_at (k : Nat) {cn : String} {spec : CtorSpec} (h : Gen.ctors[k]? = some spec) (hn : spec.name = cn := by rfl) :
    Gen.ctors.find? (·.name = cn) = some spec :=
  find?_of_pairwise (R := fun a b : CtorSpec => a.name ≠ b.name) (by simp [hn]) (fun b hb => by simpa [hn] using hb)
    ctorNames_distinct h

theorem ctorCase_at (i j k : Nat) {cls f cn : String} {tc : TrCase} {spec : CtorSpec}
    (h1 : Gen.translatorMap[i]? = some (cls, f)) (h2 : Gen.translators[j]? = some (f, [tc]))
    (h3 : Gen.ctors[k]? = some spec) (hg : tc.guard = none := by rfl) (hc : tc.ctor = some cn := by rfl)
    (hn : spec.name = cn := by rfl) : ctorCase cls = some (tc, spec) := by
  simp only [ctorCase, translator_at i h1, cases_at j h2, hg, hc, ctor_at k h3 hn, Option.map_some]

/-- a class with one parameter `p` that it stores and shows unchanged (the passive elements) -/
def plainReads (p : String) : Reads := { required := [p, "name"], attrs := [(p, .kw p none)] }

/-- a DC or complex source: the amplitude `p` is negated under `reverse`; `req` are its required parameters in the class's order -/
def signedReads (p : String) (req : List String) : Reads :=
  { required := req, signed := [.kw p none], attrs := [(p, .neg (.kw p none))] }

/-- an AC (`shifted`) or rect / tri / saw source: the phase of a sine (`sin`) is shifted by `90` (`deg`) or `π/2` where the class
is `shifted`, else `sin` is read by nothing; the flags default to `False` -/
def waveReads (p : String) (shifted : Bool) : Reads :=
  { required := [p, "w", "phi", "name"], signed := [.kw p none],
    shift := if shifted then some (.kw "sin" (some (.bool false)), .kw "phi" none) else none,
    attrs := [(p, .neg (.kw p none)), ("w", .kw "w" none),
      ("phi", if shifted then .shift (.kw "phi" none) (.kw "sin" (some (.bool false))) (.kw "deg" (some (.bool false))) 90 true
        else .kw "phi" none),
      ("deg", .kw "deg" (some (.bool false)))] }

attribute [draw_eval] plainReads signedReads waveReads

theorem reads_Impedance : readsOf "Impedance" ["Z"] = some (plainReads "Z") := by decide +kernel

section
variable (π : Rat) {cls p : String} {kw : List (String × Val)} {name : String} {rev : Bool}

theorem built_plain (hr : readsOf cls [p] = some (plainReads p)) {z : GQ}
    (hp : kw.lookup p = some (.num z)) (hname : kw.lookup "name" = some (.str name))
    (hrev : kw.lookup "reverse" = some (.bool rev)) :
    ∃ o, construct π cls kw = .ok o ∧ o.name = name ∧ o.rev = rev ∧ o.nodeId = "" ∧ o.attrs.lookup p = some (.num z) := by
  obtain ⟨o, ho, hn, hv, hnode, ha⟩ := construct_reads (π := π) hr kw (by simp only [draw_eval, hp, hname])
    (by simp only [draw_eval]) (by simp only [draw_eval])
  refine ⟨o, ho, ?_, ?_, ?_, ?_⟩
  · rw [hn]; simp only [draw_eval, hname]
  · rw [hv]; simp only [draw_eval, hrev]
  · rw [hnode]; simp only [draw_eval]
  · rw [ha p List.mem_cons_self]; simp only [draw_eval, hp]

theorem built_signed {req : List String} (hr : readsOf cls [p] = some (signedReads p req))
    (hreq : ∀ q ∈ req, q = p ∨ q = "name") {z : GQ} (hp : kw.lookup p = some (.num z))
    (hname : kw.lookup "name" = some (.str name)) (hrev : kw.lookup "reverse" = some (.bool rev)) :
    ∃ o, construct π cls kw = .ok o ∧ o.name = name ∧ o.rev = rev ∧ o.nodeId = "" ∧
      o.attrs.lookup p = some (.num (if rev then -z else z)) := by
  obtain ⟨o, ho, hn, hv, hnode, ha⟩ := construct_reads (π := π) hr kw
    (fun q hq => by rcases hreq q hq with rfl | rfl <;> simp only [hp, hname, Option.isSome_some])
    (by simp only [draw_eval, hp]) (by simp only [draw_eval])
  refine ⟨o, ho, ?_, ?_, ?_, ?_⟩
  · rw [hn]; simp only [draw_eval, hname]
  · rw [hv]; simp only [draw_eval, hrev]
  · rw [hnode]; simp only [draw_eval]
  · rw [ha p List.mem_cons_self]
    simp only [draw_eval, hrev]
    exact Src.eval_neg _ _ _ (by simp only [draw_eval, hp])

variable {z w phi : GQ} {sin deg : Bool}

/-- `sin` is the keyword (default `False`) where the class is `shifted`, else `False` -/
theorem built_wave (shifted : Bool) (hp : p = "V" ∨ p = "I")
    (hr : readsOf cls [p, "w", "phi", "deg"] = some (waveReads p shifted))
    (hz : kw.lookup p = some (.num z)) (hw : kw.lookup "w" = some (.num w)) (hphi : kw.lookup "phi" = some (.num phi))
    (hsin : (if shifted then (kw.lookup "sin").or (some (.bool false)) else some (.bool false)) = some (.bool sin))
    (hdeg : (kw.lookup "deg").or (some (.bool false)) = some (.bool deg))
    (hname : kw.lookup "name" = some (.str name)) (hrev : kw.lookup "reverse" = some (.bool rev)) :
    ∃ o, construct π cls kw = .ok o ∧ o.name = name ∧ o.rev = rev ∧ o.nodeId = "" ∧
      o.attrs.lookup p = some (.num (if rev then -z else z)) ∧ o.attrs.lookup "w" = some (.num w) ∧
      o.attrs.lookup "phi" = some (.num (if sin then phi - ⟨if deg then 90 else π / 2, 0⟩ else phi)) ∧
      o.attrs.lookup "deg" = some (.bool deg) := by
  have hne : "w" ≠ p ∧ "phi" ≠ p ∧ "deg" ≠ p := by rcases hp with rfl | rfl <;> decide
  cases shifted <;> simp only [Bool.false_eq_true, if_false, if_true] at hsin
  all_goals
    obtain ⟨o, ho, hn, hv, hnode, ha⟩ := construct_reads (π := π) hr kw (by simp only [draw_eval, hz, hw, hphi, hname])
      (by simp only [draw_eval, hz]) (by simp only [draw_eval, hphi, Bool.false_eq_true, if_false, if_true])
    refine ⟨o, ho, ?_, ?_, ?_, ?_, ?_, ?_, ?_⟩
    · rw [hn]; simp only [draw_eval, hname]
    · rw [hv]; simp only [draw_eval, hrev]
    · rw [hnode]; simp only [draw_eval]
    · rw [ha p List.mem_cons_self]
      simp only [draw_eval, hrev]
      exact Src.eval_neg _ _ _ (by simp only [draw_eval, hz])
    · rw [ha "w" (by simp)]; simp only [draw_eval, hne.1, hw]
    · rw [ha "phi" (by simp)]
      simp only [draw_eval, hne.2.1, hphi, hsin, hdeg, Bool.false_eq_true, if_false, if_true]
      cases sin <;> cases deg <;> first | rfl | cases hsin
    · rw [ha "deg" (by simp)]; simp only [draw_eval, hne.2.2, hdeg]

end

/-- `Line` answers `''` for its name -/
theorem built_Line (π : Rat) {kw : List (String × Val)} {rev : Bool}
    (hrev : kw.lookup "reverse" = some (.bool rev)) :
    ∃ o, construct π "Line" kw = .ok o ∧ o.name = "" ∧ o.rev = rev ∧ o.nodeId = "" := by
  have hr : readsOf "Line" [] = some
      { required := [], revParam := .kw "reverse" none, name := .lit (.str "") } := by decide +kernel
  obtain ⟨o, ho, hn, hv, hnode, ha⟩ := construct_reads (π := π) hr kw (by simp only [draw_eval])
    (by simp only [draw_eval]) (by simp only [draw_eval])
  refine ⟨o, ho, ?_, ?_, ?_⟩
  · rw [hn]; simp only [draw_eval]
  · rw [hv]; simp only [draw_eval, hrev]
  · rw [hnode]; simp only [draw_eval]

/-- a passive element with the one value `p`, checked `< 0` -/
def plainCase (kind p : String) : TrCase × CtorSpec :=
  (⟨none, some kind, .pairSwapIfRev, [(p, .attr p)]⟩, ⟨kind, kind, [(p, none)], [p], [], [], [(p, .param p)]⟩)

/-- a DC source: real part of the amplitude `p`, negated back under `reverse`; no inner resistance `q` -/
def dcCase (kind p q : String) : TrCase × CtorSpec :=
  (⟨none, some kind, .pairSwapIfRev, [(p, .ifNotRev (.re (.attr p)) (.neg (.re (.attr p))))]⟩,
   ⟨kind, kind, [(p, none), (q, some 0)], [q], [], [],
    [(p, .param p), (q, .param q), ("w", .lit 0), ("phi", .lit 0)]⟩)

/-- a complex source: amplitude `p` split into `re`, `im`; the inner impedance `zp` (absent) into `q₁`, `q₂` -/
def complexCase (kind p zp re im q₁ q₂ : String) : TrCase × CtorSpec :=
  (⟨none, some kind, .pairSwapIfRev, [(p, .ifNotRev (.attr p) (.neg (.attr p)))]⟩,
   ⟨kind, kind, [(p, none), (zp, some 0)], [], [], [], [(re, .re p), (im, .im p), (q₁, .re zp), (q₂, .im zp)]⟩)

/-- an AC source: amplitude `p`, frequency (checked `< 0`), phase converted from degrees under `deg` -/
def acCase (kind p q : String) : TrCase × CtorSpec :=
  (⟨none, some kind, .pairSwapIfRev,
     [(p, .ifNotRev (.attr p) (.neg (.attr p))), ("w", .attr "w"), ("phi", .degConv "phi" "deg")]⟩,
   ⟨kind, kind, [(p, none), (q, some 0), ("w", some 0), ("phi", some 0)], [q, "w"], [], [],
    [(p, .param p), (q, .param q), ("w", .param "w"), ("phi", .param "phi")]⟩)

/-- a rect / tri / saw source: as an AC source, with the wave type `wt` and a frequency checked `<= 0` -/
def periodicCase (kind p q wt : String) (phiDefault : Option Rat) : TrCase × CtorSpec :=
  (⟨none, some kind, .pairSwapIfRev,
     [("wavetype", .str wt), (p, .ifNotRev (.attr p) (.neg (.attr p))), ("w", .attr "w"), ("phi", .degConv "phi" "deg")]⟩,
   ⟨kind, kind, [("wavetype", none), (p, none), ("w", none), ("phi", phiDefault), (q, some 0)], [q], ["w"], ["wavetype"],
    [("wavetype", .param "wavetype"), (p, .param p), ("w", .param "w"), ("phi", .param "phi"), (q, .param q)]⟩)

/-- the passive elements: class, component kind, name of the value -/
def plainClasses : List (String × String × String) :=
  [("Resistor", "resistor", "R"), ("Conductance", "conductance", "G"), ("Capacitor", "capacitor", "C"),
   ("Inductance", "inductance", "L")]

theorem plain_cert : ∀ t ∈ plainClasses, match t with
    | (cls, kind, p) => readsOf cls [p] = some (plainReads p) ∧ ctorCase cls = some (plainCase kind p) ∧
      loaderOf cls = some (cls, none) ∧ "phi" ≠ p ∧ "name" ≠ p ∧ "reverse" ≠ p ∧ p ≠ "sin" ∧ p ≠ "deg" := by decide +kernel

/-- the DC sources: class, kind, amplitude, inner resistance / conductance, required parameters in the class's order -/
def dcClasses : List (String × String × String × String × List String) :=
  [("VoltageSource", "dc_voltage_source", "V", "R", ["name", "V"]), ("CurrentSource", "dc_current_source", "I", "G", ["I", "name"])]

theorem dc_cert : ∀ t ∈ dcClasses, match t with
    | (cls, kind, p, q, req) => readsOf cls [p] = some (signedReads p req) ∧ ctorCase cls = some (dcCase kind p q) ∧
      loaderOf cls = some (cls, none) ∧ (∀ k ∈ req, k = p ∨ k = "name") ∧
      (p = "V" ∧ q = "R" ∨ p = "I" ∧ q = "G") := by decide +kernel

/-- the complex sources: class, kind, amplitude, inner impedance, the parts of both, required parameters -/
def complexClasses : List (String × String × String × String × String × String × String × String × List String) :=
  [("ComplexVoltageSource", "complex_voltage_source", "V", "Z", "V_real", "V_imag", "R", "X", ["name", "V"]),
   ("ComplexCurrentSource", "complex_current_source", "I", "Y", "I_real", "I_imag", "G", "B", ["I", "name"])]

theorem complex_cert : ∀ t ∈ complexClasses, match t with
    | (cls, kind, p, zp, re, im, q₁, q₂, req) => readsOf cls [p] = some (signedReads p req) ∧
      ctorCase cls = some (complexCase kind p zp re im q₁ q₂) ∧ loaderOf cls = some (cls, some (re, im, p)) ∧
      (∀ k ∈ req, k = p ∨ k = "name") ∧
      (p = "V" ∧ zp = "Z" ∧ re = "V_real" ∧ im = "V_imag" ∧ q₁ = "R" ∧ q₂ = "X" ∨
        p = "I" ∧ zp = "Y" ∧ re = "I_real" ∧ im = "I_imag" ∧ q₁ = "G" ∧ q₂ = "B") := by decide +kernel

/-- the AC sources: class, kind, amplitude, inner resistance / conductance -/
def acClasses : List (String × String × String × String) :=
  [("ACVoltageSource", "ac_voltage_source", "V", "R"), ("ACCurrentSource", "ac_current_source", "I", "G")]

theorem ac_cert : ∀ t ∈ acClasses, match t with
    | (cls, kind, p, q) => readsOf cls [p, "w", "phi", "deg"] = some (waveReads p true) ∧ ctorCase cls = some (acCase kind p q) ∧
      loaderOf cls = some (cls, none) ∧ (p = "V" ∧ q = "R" ∨ p = "I" ∧ q = "G") := by decide +kernel

/-- the rect / tri / saw sources: class, kind, amplitude, inner resistance / conductance, wave type, default of `phi`.
Only the rectangular ones have a loader entry. -/
def periodicClasses : List (String × String × String × String × String × Option Rat) :=
  [("RectVoltageSource", "periodic_voltage_source", "V", "R", "rect", some 0),
   ("TriangleVoltageSource", "periodic_voltage_source", "V", "R", "tri", some 0),
   ("SawtoothVoltageSource", "periodic_voltage_source", "V", "R", "saw", some 0),
   ("RectCurrentSource", "periodic_current_source", "I", "G", "rect", none),
   ("TriangleCurrentSource", "periodic_current_source", "I", "G", "tri", none),
   ("SawtoothCurrentSource", "periodic_current_source", "I", "G", "saw", none)]

theorem periodic_cert : ∀ t ∈ periodicClasses, match t with
    | (cls, kind, p, q, wt, d) => readsOf cls [p, "w", "phi", "deg"] = some (waveReads p false) ∧
      ctorCase cls = some (periodicCase kind p q wt d) ∧ wt ∈ Gen.knownWavetypes ∧
      (p = "V" ∧ q = "R" ∨ p = "I" ∧ q = "G") ∧ (wt = "rect" → loaderOf cls = some (cls, none)) := by decide +kernel

section
variable {π : Rat} {s : Sym} {la lb kind p q : String}

theorem comp_plain {z : GQ} (h : ctorCase s.cls = some (plainCase kind p)) (hz : s.attrs.lookup p = some (.num z))
    (hn : NonNeg z) :
    compOfSym π s [la, lb] = .ok (some ⟨kind, s.name, if s.rev then [lb, la] else [la, lb], [(p, .num z)]⟩) := by
  refine compOfSym_ctor h (nodeTuple_swap ..) (evalArgs_cons (evalV_attr hz) evalArgs_nil) ?_
  refine ctorValue_ok (env := [(p, .num z)]) ?_ ?_
    (forallMem_cons ⟨_, List.lookup_cons_self, valNeg_num hn⟩ forallMem_nil) forallMem_nil forallMem_nil ?_
  · simp
  · simp [pure, Except.pure]; rfl
  · simp [evalC, pure, Except.pure]; rfl

theorem comp_dc {z : GQ} (hpq : p = "V" ∧ q = "R" ∨ p = "I" ∧ q = "G")
    (h : ctorCase s.cls = some (dcCase kind p q))
    (hz : s.attrs.lookup p = some (.num z)) :
    compOfSym π s [la, lb] = .ok (some ⟨kind, s.name, if s.rev then [lb, la] else [la, lb],
      [(p, .num (if s.rev then -⟨z.re, 0⟩ else ⟨z.re, 0⟩)), (q, .num 0), ("w", .num 0), ("phi", .num 0)]⟩) := by
  rcases hpq with ⟨rfl, rfl⟩ | ⟨rfl, rfl⟩
  all_goals
    apply (compOfSym_ctor h ?hn ?ha ?hv).trans ?fin
    case hn => exact nodeTuple_swap ..
    case ha => exact evalArgs_cons (evalV_signedRe_attr hz) evalArgs_nil
    case hv =>
      exact ctorValue_ok rfl rfl (forallMem_cons ⟨_, rfl, valNeg_zero⟩ forallMem_nil) forallMem_nil forallMem_nil rfl
    case fin => rfl

theorem comp_complex {zp re im q₁ q₂ : String} {z : GQ}
    (hkeys : p = "V" ∧ zp = "Z" ∧ re = "V_real" ∧ im = "V_imag" ∧ q₁ = "R" ∧ q₂ = "X" ∨
      p = "I" ∧ zp = "Y" ∧ re = "I_real" ∧ im = "I_imag" ∧ q₁ = "G" ∧ q₂ = "B")
    (h : ctorCase s.cls = some (complexCase kind p zp re im q₁ q₂)) (hz : s.attrs.lookup p = some (.num z)) :
    compOfSym π s [la, lb] = .ok (some ⟨kind, s.name, if s.rev then [lb, la] else [la, lb],
      [(re, .num ⟨(if s.rev then -z else z).re, 0⟩), (im, .num ⟨(if s.rev then -z else z).im, 0⟩), (q₁, .num 0),
        (q₂, .num 0)]⟩) := by
  rcases hkeys with ⟨rfl, rfl, rfl, rfl, rfl, rfl⟩ | ⟨rfl, rfl, rfl, rfl, rfl, rfl⟩
  all_goals
    apply (compOfSym_ctor h ?hn ?ha ?hv).trans ?fin
    case hn => exact nodeTuple_swap ..
    case ha => exact evalArgs_cons (evalV_signed_attr hz) evalArgs_nil
    case hv => exact ctorValue_ok rfl rfl forallMem_nil forallMem_nil forallMem_nil rfl
    case fin => rfl

variable {v w phi : GQ} {deg : Bool}

theorem comp_ac (hpq : p = "V" ∧ q = "R" ∨ p = "I" ∧ q = "G")
    (h : ctorCase s.cls = some (acCase kind p q))
    (hv : s.attrs.lookup p = some (.num v)) (hw : s.attrs.lookup "w" = some (.num w))
    (hp : s.attrs.lookup "phi" = some (.num phi)) (hd : s.attrs.lookup "deg" = some (.bool deg)) (hn : NonNeg w) :
    compOfSym π s [la, lb] = .ok (some ⟨kind, s.name, if s.rev then [lb, la] else [la, lb],
      [(p, .num (if s.rev then -v else v)), (q, .num 0), ("w", .num w),
        ("phi", .num (if deg then phi * ⟨π, 0⟩ / 180 else phi))]⟩) := by
  rcases hpq with ⟨rfl, rfl⟩ | ⟨rfl, rfl⟩
  all_goals
    apply (compOfSym_ctor h ?hn ?ha ?hv).trans ?fin
    case hn => exact nodeTuple_swap ..
    case ha =>
      exact evalArgs_cons (evalV_signed_attr hv) (evalArgs_cons (evalV_attr hw)
        (evalArgs_cons (evalV_degConv hd hp) evalArgs_nil))
    case hv =>
      exact ctorValue_ok rfl rfl (forallMem_cons ⟨_, rfl, valNeg_zero⟩ (forallMem_cons ⟨_, rfl, valNeg_num hn⟩
        forallMem_nil)) forallMem_nil forallMem_nil rfl
    case fin => rfl

theorem comp_periodic {wt : String} {phiDefault : Option Rat} (hpq : p = "V" ∧ q = "R" ∨ p = "I" ∧ q = "G")
    (hwt : wt ∈ Gen.knownWavetypes) (h : ctorCase s.cls = some (periodicCase kind p q wt phiDefault))
    (hv : s.attrs.lookup p = some (.num v)) (hw : s.attrs.lookup "w" = some (.num w))
    (hp : s.attrs.lookup "phi" = some (.num phi)) (hd : s.attrs.lookup "deg" = some (.bool deg)) (hn : Pos w) :
    compOfSym π s [la, lb] = .ok (some ⟨kind, s.name, if s.rev then [lb, la] else [la, lb],
      [("wavetype", .str wt), (p, .num (if s.rev then -v else v)), ("w", .num w),
        ("phi", .num (if deg then phi * ⟨π, 0⟩ / 180 else phi)), (q, .num 0)]⟩) := by
  rcases hpq with ⟨rfl, rfl⟩ | ⟨rfl, rfl⟩
  all_goals
    apply (compOfSym_ctor h ?hn ?ha ?hv).trans ?fin
    case hn => exact nodeTuple_swap ..
    case ha =>
      exact evalArgs_cons rfl (evalArgs_cons (evalV_signed_attr hv) (evalArgs_cons (evalV_attr hw)
        (evalArgs_cons (evalV_degConv hd hp) evalArgs_nil)))
    case hv =>
      exact ctorValue_ok rfl rfl (forallMem_cons ⟨_, rfl, valNeg_zero⟩ forallMem_nil)
        (forallMem_cons ⟨_, rfl, valNonPos_num hn⟩ forallMem_nil)
        (forallMem_cons ⟨_, rfl, hwt⟩ forallMem_nil) rfl
    case fin => rfl

theorem comp_impedance {z : GQ} (hc : s.cls = "Impedance") (hz : s.attrs.lookup "Z" = some (.num z)) :
    compOfSym π s [la, lb] = .ok (some ⟨"impedance", s.name, if s.rev then [lb, la] else [la, lb],
      [("R", .num ⟨z.re, 0⟩), ("X", .num ⟨z.im, 0⟩)]⟩) := by
  apply (compOfSym_ctor ?h ?hn ?ha ?hv).trans ?fin
  case h => rw [hc]; exact ctorCase_at 1 1 1 rfl rfl rfl
  case hn => exact nodeTuple_swap ..
  case ha => exact evalArgs_cons (evalV_attr hz) evalArgs_nil
  case hv => exact ctorValue_ok rfl rfl forallMem_nil forallMem_nil forallMem_nil rfl
  case fin => rfl

theorem comp_ground (hc : s.cls = "Ground") :
    compOfSym π s [la, lb] = .ok (some ⟨"ground", s.name, [la],
      []⟩) := by
  apply (compOfSym_ctor ?h ?hn ?ha ?hv).trans ?fin
  case h => rw [hc]; exact ctorCase_at 18 18 14 rfl rfl rfl
  case hn => rfl
  case ha => exact evalArgs_nil
  case hv => exact ctorValue_ok rfl rfl forallMem_nil forallMem_nil forallMem_nil rfl
  case fin => rfl

end

/-- `Ground(...)`: name (also the node id) and reversal flag default to `'0'` and `False`; the component sits on the start
terminal -/
theorem built_Ground (π : Rat) {kw : List (String × Val)} {name : String} {rev : Bool}
    (hname : (kw.lookup "name").or (some (.str "0")) = some (.str name))
    (hrev : (kw.lookup "reverse").getD (.bool false) = .bool rev) (a b : Pt) :
    ∃ o, construct π "Ground" kw = .ok o ∧ o.name = name ∧ o.rev = rev ∧ o.nodeId = name ∧
      ∀ la lb, compOfSym π ⟨"Ground", o.name, o.rev, o.nodeId, o.attrs, a, b⟩ [la, lb] = .ok (some ⟨"ground", name, [la], []⟩) := by
  have hr : readsOf "Ground" [] = some
      { required := [], revParam := .kw "reverse" none, nameKw := .kw "name" (some (.str "0")), nodeId := .kw "name" (some (.str "0")) } := by decide +kernel
  obtain ⟨o, ho, hn, hv, hnode, ha⟩ := construct_reads (π := π) hr kw (by simp only [draw_eval])
    (by simp only [draw_eval]) (by simp only [draw_eval])
  have hn' : o.name = name := by rw [hn]; simp only [draw_eval, hname]
  refine ⟨o, ho, hn', ?_, ?_, fun la lb => (comp_ground rfl).trans (by rw [hn'])⟩
  · rw [hv]; simp only [draw_eval, hrev]
  · rw [hnode]; simp only [draw_eval, hname]

end CC
